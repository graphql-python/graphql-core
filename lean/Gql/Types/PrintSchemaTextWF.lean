import Gql.Types.PrintSchemaText
import Gql.Text.Lexer
import Gql.Text.BlockRepr
import Gql.Spec.Lex
import Gql.Generated.ParserTables
/-!
# `textWFb` — the decidable domain of the text round trip of `print_schema` (C17)

A `Bool` predicate on schema *content* that says when the text `print_schema` prints can be read
back by the lexer and the parser.  It is checked by the driver (`textwf <schema>`) on every schema
the harness generates that `validate_schema` accepts, and `Gql/Proofs/SchemaTextDecidable.lean` proves
that it implies the hypothesis `TextWF` of the text theorems.

What it asks, item by item (and why the implementation guarantees it for a valid schema):
* every name (types, fields, arguments, enum values, directives, interfaces, union members, roots,
  the names inside type references and default values) is lexically a `Name` — `assert_name`;
* every printed string (descriptions, deprecation reasons, specifiedBy URLs, string defaults) is a
  sequence of Unicode scalar values — a Python `str` may hold lone surrogates, the lexer rejects
  them: assumption of the check;
* a description that `print_description` prints in block form (`is_printable_as_block_string`) is
  block-representable (`blockRepresentable` of C08: always true, checked here instead of proved);
* default values are proper const literals: `lcons … vnil` / `fcons … vnil` chains, number texts in
  the `IntValue` / `FloatValue` grammar (`numOk`: the specification's number grammar of
  `Gql/Spec/Lex.lean` consumes the whole text), enum literals that are names other than
  `true` / `false` / `null`, block strings block-representable — they come from the parser or from
  `value_to_literal`;
* type references are parser-shaped (no `T!!`) — `GraphQLNonNull` refuses a non-null argument;
* enum values are not `true` / `false` / `null` — `assert_enum_value_name`;
* directive locations are in the parser's table and there is at least one — `DirectiveLocation`;
* a deprecated directive definition needs `dd`
  (`experimental_directives_on_directive_definitions`).
-/
namespace Gql.Types.PrintSchema
open Gql Gql.Generated
open Gql.Syntax (S)

/-- Lexically a `Name` (the lexer's own character classes). -/
def nameOk : List Nat → Bool
  | [] => false
  | c :: r => Gql.Text.isNameStart c && r.all Gql.Text.isNameContinue

/-- Unicode scalar values only. -/
def scalarStr (s : Str) : Bool := s.all Gql.Text.isScalar

/-- The whole text is one `IntValue` (`fl = false`) / `FloatValue` (`fl = true`) production of the
specification's number grammar. -/
def numOk (fl : Bool) (s : Str) : Bool := (Gql.Spec.Lex.numberCandidates s).contains (fl, s.length)

def notKeyword (n : Str) : Bool := n != S "true" && n != S "false" && n != S "null"

/-- A description: scalar values; block-representable where the block form is chosen. -/
def descOk : Option Str → Bool
  | none => true
  | some v => scalarStr v && (!isPrintableAsBlockString v || Gql.Text.blockRepresentable v)

/-- A string printed through `print_string` (deprecation reason, specifiedBy URL). -/
def strOk : Option Str → Bool
  | none => true
  | some v => scalarStr v

mutual
  def valueOk : Value → Bool
    | .int s => numOk false s
    | .float s => numOk true s
    | .str s b => scalarStr s && (!b || Gql.Text.blockRepresentable s)
    | .bool _ => true
    | .null => true
    | .enum n => nameOk n && notKeyword n
    | .list items => itemsOk items
    | .obj fields => fieldsOk fields
    | .vnil => false
    | .lcons _ _ => false
    | .fcons _ _ _ => false
  def itemsOk : Value → Bool
    | .lcons v rest => valueOk v && itemsOk rest
    | .vnil => true
    | _ => false
  def fieldsOk : Value → Bool
    | .fcons n v rest => nameOk n && valueOk v && fieldsOk rest
    | .vnil => true
    | _ => false
end

/-- Names valid, no non-null directly inside a non-null. -/
def typeOk : TypeRef → Bool
  | .named n => nameOk n
  | .list t => typeOk t
  | .nonNull t => (match t with | .nonNull _ => false | _ => true) && typeOk t

def defaultOk : Option Value → Bool
  | none => true
  | some v => valueOk v

def argOk (a : Arg) : Bool :=
  descOk a.desc && nameOk a.name && typeOk a.type && defaultOk a.default && strOk a.depr

def fieldOk (f : Field) : Bool :=
  descOk f.desc && nameOk f.name && f.args.all argOk && typeOk f.type && strOk f.depr

def enumValOk (v : EnumVal) : Bool :=
  descOk v.desc && nameOk v.name && notKeyword v.name && strOk v.depr

def typeDefOk : TypeDef → Bool
  | .scalar n d u => descOk d && nameOk n && strOk u
  | .object n d is fs => descOk d && nameOk n && is.all nameOk && fs.all fieldOk
  | .interface n d is fs => descOk d && nameOk n && is.all nameOk && fs.all fieldOk
  | .union n d ms => descOk d && nameOk n && ms.all nameOk
  | .enum n d vs => descOk d && nameOk n && vs.all enumValOk
  | .input n d _ fs => descOk d && nameOk n && fs.all argOk

def locationOk (l : Str) : Bool := (ParserTables.directiveLocations.map S).contains l

def directiveOk (dd : Bool) (d : Directive) : Bool :=
  descOk d.desc && nameOk d.name && d.args.all argOk && strOk d.depr && (d.depr.isNone || dd) &&
    !d.locations.isEmpty && d.locations.all locationOk

def rootNameOk : Option Str → Bool
  | none => true
  | some n => nameOk n

def schemaBlockOk (s : Schema) : Bool :=
  descOk s.desc && rootNameOk s.query && rootNameOk s.mutation && rootNameOk s.subscription

/-- The decidable hypothesis of the text theorems.  `fa` (`experimental_fragment_arguments`) plays
no role: a printed schema has no fragments; it is kept so that the signature is that of `TextWF`. -/
def textWFb (_fa dd : Bool) (s : Schema) : Bool :=
  schemaBlockOk s && s.directives.all (directiveOk dd) && s.types.all typeDefOk

end Gql.Types.PrintSchema
