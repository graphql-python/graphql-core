import Gql.Types.SchemaAst
/-!
# Root stability of an extension document over a base document (C19-1)

`build_ast_schema` picks the roots by the names `Query` / `Mutation` / `Subscription` *after*
`extend_schema_args` ran over the whole document; `extend_schema` never does.  `rootsStable A B`
is the decidable condition, on the two definition lists alone, under which "pick by name, then
extend with `B`" and "extend with `B`, then pick by name" agree (proved in
`Gql/Proofs/SchemaExtAutopick`).  Model-side definitions only (used by the driver as well).
-/
namespace Gql.Types
open Gql Gql.Generated

/-- The document part `p` defines a (non-reserved) type called `c`. -/
def definesType (p : Parts) (c : Str) : Bool := ((newTypeDefs p).map (fun dn => dn.2.name)).contains c

/-- The roots the schema extensions of `p` set, on an otherwise empty schema
(`operation_types.update(get_operation_types(schema_extensions))`). -/
def extRoots (p : Parts) : Schema := p.schemaExts.foldl applyOps Schema.empty

/-- One root, conventional name `c`: `inA` / `inB` — the base / the extension document defines a
type called `c`; `x` — the root the extension document's schema extensions set.  The order
"pick by name, then extend" agrees with "extend, then pick by name". -/
def rootStableFor (inA inB : Bool) (x : Option Str) (c : Str) : Bool :=
  match x with
  | none => !inB || inA
  | some n => n == c || (!inA && !inB)

/-- `rootStableFor` for the three roots; `inA` says which type names the base defines. -/
def rootsStableParts (inA : Str → Bool) (pb : Parts) : Bool :=
  rootStableFor (inA SchemaConsts.queryName) (definesType pb SchemaConsts.queryName)
    (extRoots pb).query SchemaConsts.queryName &&
  rootStableFor (inA SchemaConsts.mutationName) (definesType pb SchemaConsts.mutationName)
    (extRoots pb).mutation SchemaConsts.mutationName &&
  rootStableFor (inA SchemaConsts.subscriptionName) (definesType pb SchemaConsts.subscriptionName)
    (extRoots pb).subscription SchemaConsts.subscriptionName

/-- **Root stability** of an extension document `B` over a base document `A` (decidable, on the
documents alone): `A` has a schema definition, or for each of `Query` / `Mutation` /
`Subscription`: if `B`'s schema extensions do not set that root, `B` defines a type of that name
only if `A` does; if they set it to `n`, then `n` is that name or neither document defines a type
of that name. -/
def rootsStable (A B : List Def) : Bool :=
  (collect A).schemaDef.isSome || rootsStableParts (definesType (collect A)) (collect B)

end Gql.Types
