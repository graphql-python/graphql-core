import Gql.Proofs.ValueLex
/-!
Executable documents as a typed sub-grammar (stage 1: operations — shorthand or with keyword, name
and directives —, fragment definitions, fields with alias / arguments / directives / nested
selection sets, fragment spreads, inline fragments; no variable definitions, descriptions or
fragment arguments).  Empty lists stand for Python `None` (the parser never builds an empty
tuple in these positions).
-/
namespace Gql.Text
open Gql.Syntax

abbrev Args := List (List Nat × Val)

structure Dir where
  name : List Nat
  args : Args

inductive Sel where
  /-- `alias = []`: no alias; `ss = []`: no selection set -/
  | field (alias name : List Nat) (args : Args) (dirs : List Dir) (ss : List Sel)
  | spread (name : List Nat) (dirs : List Dir)
  /-- `tc = []`: no type condition -/
  | inline (tc : List Nat) (dirs : List Dir) (ss : List Sel)

inductive Def where
  /-- `opType` is `query` / `mutation` / `subscription`; `name = []`: anonymous -/
  | op (opType name : List Nat) (dirs : List Dir) (ss : List Sel)
  | frag (name tc : List Nat) (dirs : List Dir) (ss : List Sel)

def optL (xs : List Ast) : Ast := if xs.isEmpty then .none else .list xs
def optName (n : List Nat) : Ast := if n.isEmpty then .none else Val.nameNode n
def namedType (n : List Nat) : Ast := .node "NamedTypeNode" [("name", Val.nameNode n)]

namespace Exec

def argsAst : Args → List Ast
  | [] => []
  | (n, v) :: r => .node "ArgumentNode" [("name", Val.nameNode n), ("value", v.toAst)] :: argsAst r

def dirAst (d : Dir) : Ast :=
  .node "DirectiveNode" [("name", Val.nameNode d.name), ("arguments", optL (argsAst d.args))]

def dirsAst (ds : List Dir) : Ast := optL (ds.map dirAst)

mutual
  def selAst : Sel → Ast
    | .field al n args ds ss =>
      .node "FieldNode" [("directives", dirsAst ds), ("name", Val.nameNode n), ("alias", optName al),
        ("arguments", optL (argsAst args)),
        ("selection_set", match ss with
          | [] => .none
          | s :: r => .node "SelectionSetNode" [("selections", .list (selsAst (s :: r)))])]
    | .spread n ds =>
      .node "FragmentSpreadNode" [("directives", dirsAst ds), ("name", Val.nameNode n), ("arguments", .none)]
    | .inline tc ds ss =>
      .node "InlineFragmentNode" [("directives", dirsAst ds),
        ("selection_set", .node "SelectionSetNode" [("selections", .list (selsAst ss))]),
        ("type_condition", if tc.isEmpty then .none else namedType tc)]
  def selsAst : List Sel → List Ast
    | [] => []
    | s :: r => selAst s :: selsAst r
end

def ssAst (ss : List Sel) : Ast := .node "SelectionSetNode" [("selections", .list (selsAst ss))]

/-- `fragArgs` = the parser's `experimental_fragment_arguments`: without it a fragment definition has
`variable_definitions=()`, with it (and no variable definitions written) `None`. -/
def defAst (fragArgs : Bool) : Def → Ast
  | .op ot n ds ss =>
    .node "OperationDefinitionNode" [("selection_set", ssAst ss), ("description", .none), ("name", optName n),
      ("variable_definitions", .none), ("directives", dirsAst ds), ("operation", .str ot)]
  | .frag n tc ds ss =>
    .node "FragmentDefinitionNode" [("selection_set", ssAst ss), ("description", .none),
      ("name", Val.nameNode n), ("variable_definitions", if fragArgs then .none else .list []),
      ("directives", dirsAst ds),
      ("type_condition", namedType tc)]

def docAst (fragArgs : Bool) (defs : List Def) : Ast :=
  .node "DocumentNode" [("definitions", .list (defs.map (defAst fragArgs)))]

def printDir (w : Widths) (d : Dir) : List Nat :=
  64 :: d.name ++ wrap [40] (join (Val.printFields w d.args) [44, 32]) [41]

def printDirs (w : Widths) (ds : List Dir) : List Nat := join (ds.map (printDir w)) [32]

mutual
  def printSel (w : Widths) : Sel → List Nat
    | .field al n args ds ss =>
      let pre := join [wrap [] al (S ": "), n]
      join [wrappedLineAndArgs w pre (Val.printFields w args), wrap [32] (printDirs w ds),
        wrap [32] (match ss with
          | [] => []
          | s :: r => block (printSels w (s :: r)))]
    | .spread n ds => wrappedLineAndArgs w (S "..." ++ n) [] ++ wrap [32] (printDirs w ds)
    | .inline tc ds ss =>
      join [S "...", wrap (S "on ") tc, printDirs w ds, block (printSels w ss)] [32]
  def printSels (w : Widths) : List Sel → List (List Nat)
    | [] => []
    | s :: r => printSel w s :: printSels w r
end

def printDef (w : Widths) : Def → List Nat
  | .op ot n ds ss =>
    let pre := join [ot, join [n, []], printDirs w ds] [32]
    (if pre = S "query" then [] else pre ++ [32]) ++ block (printSels w ss)
  | .frag n tc ds ss =>
    S "fragment " ++ n ++ S " on " ++ tc ++ [32] ++ wrap [] (printDirs w ds) [32] ++ block (printSels w ss)

def printDoc (w : Widths) (defs : List Def) : List Nat :=
  join (documentDefs none (defs.map (printDef w))) [10, 10]

def argsKvs (args : Args) : List KV :=
  match args with
  | [] => []
  | _ :: _ => (.parenL, none) :: Val.kvsFields args ++ [(.parenR, none)]

def dirKvs (d : Dir) : List KV := (.at, none) :: (.name, some d.name) :: argsKvs d.args

def dirsKvs : List Dir → List KV
  | [] => []
  | d :: r => dirKvs d ++ dirsKvs r

mutual
  def selKvs : Sel → List KV
    | .field al n args ds ss =>
      (if al.isEmpty then [] else [(.name, some al), (.colon, none)]) ++ [(.name, some n)] ++ argsKvs args
        ++ dirsKvs ds ++ (match ss with
          | [] => []
          | s :: r => (.braceL, none) :: selsKvs (s :: r) ++ [(.braceR, none)])
    | .spread n ds => (.spread, none) :: (.name, some n) :: dirsKvs ds
    | .inline tc ds ss =>
      (.spread, none) :: (if tc.isEmpty then [] else [(.name, some (S "on")), (.name, some tc)]) ++ dirsKvs ds
        ++ (.braceL, none) :: selsKvs ss ++ [(.braceR, none)]
  def selsKvs : List Sel → List KV
    | [] => []
    | s :: r => selKvs s ++ selsKvs r
end

def ssKvs (ss : List Sel) : List KV := (.braceL, none) :: selsKvs ss ++ [(.braceR, none)]

/-- `c` = the directive / argument stands in a constant position (`parse_const_directives`). -/
def argsWfC (c : Bool) (args : Args) : Prop := Val.wfFields c args

def dirWfC (c : Bool) (d : Dir) : Prop := validName d.name = true ∧ argsWfC c d.args

def dirsWfC (c : Bool) : List Dir → Prop
  | [] => True
  | d :: r => dirWfC c d ∧ dirsWfC c r

abbrev argsWf (args : Args) : Prop := argsWfC false args
abbrev dirWf (d : Dir) : Prop := dirWfC false d
abbrev dirsWf (ds : List Dir) : Prop := dirsWfC false ds

mutual
  def selWf : Sel → Prop
    | .field al n args ds ss =>
      (al = [] ∨ validName al = true) ∧ validName n = true ∧ argsWf args ∧ dirsWf ds ∧ selsWf ss
    | .spread n ds => validName n = true ∧ n ≠ S "on" ∧ dirsWf ds
    | .inline tc ds ss => (tc = [] ∨ validName tc = true) ∧ dirsWf ds ∧ ss ≠ [] ∧ selsWf ss
  def selsWf : List Sel → Prop
    | [] => True
    | s :: r => selWf s ∧ selsWf r
end

end Exec
end Gql.Text

namespace Gql.Text
namespace Exec
open Gql.Syntax

def isOpType (ot : List Nat) : Prop := ot = S "query" ∨ ot = S "mutation" ∨ ot = S "subscription"

/-- The operation prints in the shorthand form `{ … }`. -/
def isShorthand (ot n : List Nat) (ds : List Dir) : Prop := ot = S "query" ∧ n = [] ∧ ds = []

instance (ot n : List Nat) (ds : List Dir) : Decidable (isShorthand ot n ds) := by
  unfold isShorthand
  have : Decidable (ds = []) := by cases ds <;> simp <;> infer_instance
  infer_instance

def defKvs : Def → List KV
  | .op ot n ds ss =>
    if isShorthand ot n ds then ssKvs ss
    else (.name, some ot) :: (if n.isEmpty then [] else [(.name, some n)]) ++ dirsKvs ds ++ ssKvs ss
  | .frag n tc ds ss =>
    (.name, some (S "fragment")) :: (.name, some n) :: (.name, some (S "on")) :: (.name, some tc) ::
      dirsKvs ds ++ ssKvs ss

def defsKvs : List Def → List KV
  | [] => []
  | d :: r => defKvs d ++ defsKvs r

def defWf : Def → Prop
  | .op ot n ds ss => isOpType ot ∧ (n = [] ∨ validName n = true) ∧ dirsWf ds ∧ ss ≠ [] ∧ selsWf ss
  | .frag n tc ds ss => validName n = true ∧ n ≠ S "on" ∧ validName tc = true ∧ dirsWf ds ∧ ss ≠ [] ∧ selsWf ss

def defsWf : List Def → Prop
  | [] => True
  | d :: r => defWf d ∧ defsWf r

end Exec
end Gql.Text

namespace Gql.Text
open Gql.Syntax

theorem join_nil_sep (xs : List (List Nat)) : join xs [] = xs.flatten := by
  unfold join
  induction xs with
  | nil => simp [joinWith]
  | cons a r ih =>
    by_cases ha : a = []
    · subst ha; simpa using ih
    · have : (a :: r).filter (fun s => !s.isEmpty) = a :: r.filter (fun s => !s.isEmpty) := by
        cases a <;> simp_all
      rw [this]
      cases hf : r.filter (fun s => !s.isEmpty) with
      | nil => rw [hf] at ih; simp [joinWith] at ih ⊢; exact ih
      | cons b r' => rw [hf] at ih; simp [joinWith] at ih ⊢; exact ih

/-- `join` with a single blank: every non-empty later part is preceded by one blank. -/
def spaced : List (List Nat) → List Nat
  | [] => []
  | b :: r => wrap [32] b ++ spaced r

theorem join_space (a : List Nat) (rest : List (List Nat)) (ha : a ≠ []) :
    join (a :: rest) [32] = a ++ spaced rest := by
  induction rest generalizing a with
  | nil => cases a <;> simp_all [join, joinWith, spaced]
  | cons b r ih =>
    by_cases hb : b = []
    · subst hb
      have := ih a ha
      have e : join (a :: [] :: r) [32] = join (a :: r) [32] := by
        unfold join
        congr 1
      rw [e, this]; simp [spaced, wrap]
    · have := ih b hb
      have e : join (a :: b :: r) [32] = a ++ [32] ++ join (b :: r) [32] := by
        cases a with
        | nil => exact absurd rfl ha
        | cons a0 a1 =>
          cases b with
          | nil => exact absurd rfl hb
          | cons b0 b1 => simp [join, joinWith]
      rw [e, this]
      cases b with
      | nil => exact absurd rfl hb
      | cons b0 b1 => simp [spaced, wrap]

/-- The tokens of an optional selection set. -/
def ssKvsOpt (ss : List Sel) : List KV :=
  match ss with
  | [] => []
  | s :: r => Exec.ssKvs (s :: r)

theorem selKvs_field (al n : List Nat) (args : Args) (ds : List Dir) (ss : List Sel) :
    Exec.selKvs (.field al n args ds ss) =
      ((if al.isEmpty then [] else [(.name, some al), (.colon, none)]) ++ [(.name, some n)] ++ Exec.argsKvs args)
        ++ Exec.dirsKvs ds ++ ssKvsOpt ss := by
  cases ss <;> simp [Exec.selKvs, Exec.ssKvs, ssKvsOpt]

end Gql.Text

namespace Gql.Syntax
open Gql Gql.Text

theorem selKvs_inline (tc : List Nat) (ds : List Dir) (ss : List Sel) :
    Exec.selKvs (.inline tc ds ss) =
      (.spread, none) :: ((if tc.isEmpty then [] else [(.name, some (S "on")), (.name, some tc)]) ++
        (Exec.dirsKvs ds ++ Exec.ssKvs ss)) := by
  simp [Exec.selKvs, Exec.ssKvs]

theorem selsKvs_eq (ss : List Sel) : Exec.selsKvs ss = ss.flatMap Exec.selKvs := by
  induction ss with
  | nil => rfl
  | cons s r ih => rw [Exec.selsKvs, ih, List.flatMap_cons]

theorem selsAst_eq (ss : List Sel) : Exec.selsAst ss = ss.map Exec.selAst := by
  induction ss with
  | nil => rfl
  | cons s r ih => rw [Exec.selsAst, ih, List.map_cons]

theorem dirsKvs_eq (ds : List Dir) : Exec.dirsKvs ds = ds.flatMap Exec.dirKvs := by
  induction ds with
  | nil => rfl
  | cons d r ih => rw [Exec.dirsKvs, ih, List.flatMap_cons]

def argAst (a : List Nat × Val) : Ast := .node "ArgumentNode" [("name", Val.nameNode a.1), ("value", a.2.toAst)]

theorem argsAst_eq (args : Args) : Exec.argsAst args = args.map argAst := by
  induction args with
  | nil => rfl
  | cons a r ih => obtain ⟨n, v⟩ := a; simp [Exec.argsAst, ih, argAst]

theorem selAst_field (al nm : List Nat) (args : Args) (ds : List Dir) (ss : List Sel) :
    Exec.selAst (.field al nm args ds ss) =
      .node "FieldNode" [("directives", Exec.dirsAst ds), ("name", Val.nameNode nm), ("alias", optName al),
        ("arguments", optL (Exec.argsAst args)),
        ("selection_set", if ss = [] then Ast.none else Exec.ssAst ss)] := by
  cases ss with
  | nil => rw [Exec.selAst.eq_1]; rfl
  | cons s r => rw [Exec.selAst.eq_2]; rfl

theorem selAst_inline (tc : List Nat) (ds : List Dir) (ss : List Sel) :
    Exec.selAst (.inline tc ds ss) =
      .node "InlineFragmentNode" [("directives", Exec.dirsAst ds), ("selection_set", Exec.ssAst ss),
        ("type_condition", if tc.isEmpty then .none else namedType tc)] := by
  rw [Exec.selAst.eq_4]; rfl

end Gql.Syntax
