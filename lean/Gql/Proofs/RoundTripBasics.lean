import Gql.Proofs.RoundTripLeaf
/-!
Unfolding lemmas for `valueToLiteral` and the shape of the literals it produces (C15).
-/
namespace Gql.Values
open Gql

/-- per-field function of the object case of `valueToLiteral` -/
def fieldToLiteral (c : PyConv) (tm : TypeMap) (kvs : List (List Nat × PyVal)) (f : Field) :
    Option (Option (List Nat × Lit)) :=
  match _h : dictGetDefined kvs f.name with
  | some fv => (match valueToLiteral c tm fv f.type with
    | some node => some (some (f.name, node))
    | none => none)
  | none => if f.isRequired then none else some none

section unfold
variable (c : PyConv) (tm : TypeMap)

theorem valueToLiteral_nonNull {v : PyVal} {t' : InType} (hn : ¬ v.isNullish = true) :
    valueToLiteral c tm v (.nonNull t') = valueToLiteral c tm v t' := by
  rw [valueToLiteral]; simp [hn]

theorem valueToLiteral_nullish {v : PyVal} (t : InType) (hv : v.isNullish = true) :
    valueToLiteral c tm v t = if t.isNonNull then none else some .null := by
  cases t <;> rw [valueToLiteral] <;> simp [hv, InType.isNonNull]

theorem valueToLiteral_list_iter {v : PyVal} {t' : InType} {xs : List PyVal}
    (hn : ¬ v.isNullish = true) (hit : v.iterItems = some xs) :
    valueToLiteral c tm v (.list t') =
      (match seqLits (xs.map fun x => valueToLiteral c tm x t') with
       | some ls => some (.list ls)
       | none => none) := by
  rw [valueToLiteral, ← attach_map_pat xs fun x => valueToLiteral c tm x t']
  simp only [hn, Bool.false_eq_true, ↓reduceIte]
  split
  · rename_i xs' h'; rw [hit] at h'; cases h'; rfl
  · rename_i h'; rw [hit] at h'; cases h'

theorem valueToLiteral_list_single {v : PyVal} {t' : InType}
    (hn : ¬ v.isNullish = true) (hit : v.iterItems = none) :
    valueToLiteral c tm v (.list t') = valueToLiteral c tm v t' := by
  rw [valueToLiteral]; simp only [hn, Bool.false_eq_true, ↓reduceIte]
  split
  · rename_i xs' h'; rw [hit] at h'; cases h'
  · rfl

theorem valueToLiteral_obj {v : PyVal} {n : List Nat} {fields : List Field} {oneOf : Bool}
    {kvs : List (List Nat × PyVal)}
    (hn : ¬ v.isNullish = true) (hf : tm.find n = some (.inputObject fields oneOf)) (hd : v.asMapping = some kvs) :
    valueToLiteral c tm v (.named n) =
      if hasUnknownDefined kvs fields then none
      else match seqLitFields (fields.map (fieldToLiteral c tm kvs)) with
        | some fs => some (.obj fs)
        | none => none := by
  rw [valueToLiteral]; simp only [hn, Bool.false_eq_true, ↓reduceIte, hf]
  split
  · rename_i kvs' h'; rw [hd] at h'; cases h'; rfl
  · rename_i h'; rw [hd] at h'; cases h'

theorem valueToLiteral_notobj {v : PyVal} {n : List Nat} {fields : List Field} {oneOf : Bool}
    (hn : ¬ v.isNullish = true) (hf : tm.find n = some (.inputObject fields oneOf)) (hd : v.asMapping = none) :
    valueToLiteral c tm v (.named n) = none := by
  rw [valueToLiteral]; simp only [hn, Bool.false_eq_true, ↓reduceIte, hf]
  split
  · rename_i kvs' h'; rw [hd] at h'; cases h'
  · rfl

theorem valueToLiteral_leaf {v : PyVal} {n : List Nat} {d : NamedDef} {lf : Leaf}
    (hn : ¬ v.isNullish = true) (hf : tm.find n = some d) (hl : d.asLeaf = some lf) :
    valueToLiteral c tm v (.named n) = leafToLiteral c lf v := by
  rw [valueToLiteral]; cases d <;> cases hl <;> simp only [hn, hf, Bool.false_eq_true, ↓reduceIte]

theorem asMapping_of_asDict {v : PyVal} {kvs : List (List Nat × PyVal)} (h : v.asDict = some kvs) :
    v.asMapping = some kvs := by
  cases v <;> simp [PyVal.asDict] at h; subst h; rfl

theorem valueToLiteral_shape (v : PyVal) (hn : ¬ v.isNullish = true) (t : InType) (l : Lit)
    (h : valueToLiteral c tm v t = some l) :
    l.asVar = none ∧ l.isNull = false ∧ (v.iterItems = none → l.asList = none) := by
  induction t generalizing l with
  | nonNull t' ih =>
    rw [valueToLiteral_nonNull c tm hn] at h; exact ih l h
  | list t' ih =>
    cases hit : v.iterItems with
    | some xs =>
      rw [valueToLiteral_list_iter c tm hn hit] at h
      split at h
      · simp only [Option.some.injEq] at h; subst h
        exact ⟨rfl, rfl, fun hc => by cases hc⟩
      · simp at h
    | none =>
      rw [valueToLiteral_list_single c tm hn hit] at h
      obtain ⟨h1, h2, h3⟩ := ih l h
      exact ⟨h1, h2, fun _ => h3 hit⟩
  | named n =>
    cases hf : tm.find n with
    | none => rw [valueToLiteral] at h; simp [hn, hf] at h
    | some d =>
      cases d with
      | scalar s | enum e =>
        rw [valueToLiteral_leaf c tm hn hf rfl] at h
        obtain ⟨h1, h2, h3, _⟩ := Lit.scalarKind_shape (leafToLiteral_kind c _ v l h)
        exact ⟨h1, h2, fun _ => h3⟩
      | inputObject fields oneOf =>
        cases hd : v.asMapping with
        | none => rw [valueToLiteral_notobj c tm hn hf hd] at h; simp at h
        | some kvs =>
          rw [valueToLiteral_obj c tm hn hf hd] at h
          split at h
          · simp at h
          · split at h
            · simp only [Option.some.injEq] at h; subst h
              exact ⟨rfl, rfl, fun _ => rfl⟩
            · simp at h

end unfold

theorem seqLits_some {rs : List (Option Lit)} {ls : List Lit} (h : seqLits rs = some ls) :
    rs = ls.map some := by
  induction rs generalizing ls with
  | nil => simp [seqLits] at h; subst h; rfl
  | cons r rs ih =>
    cases r with
    | none => simp [seqLits] at h
    | some l =>
      simp only [seqLits] at h
      split at h
      · rename_i ls' hls'
        simp only [Option.some.injEq] at h; subst h
        simp [ih hls']
      · simp at h

theorem seqLits_of_all {rs : List (Option Lit)} {ls : List Lit} (h : rs = ls.map some) :
    seqLits rs = some ls := by
  subst h
  induction ls with
  | nil => rfl
  | cons l ls ih => simp [seqLits, ih]

def litEntryOf : Option (Option (List Nat × Lit)) → Option (List Nat × Lit)
  | some (some kv) => some kv
  | _ => none

theorem seqLitFields_some {rs : List (Option (Option (List Nat × Lit)))} {fs : List (List Nat × Lit)}
    (h : seqLitFields rs = some fs) : fs = rs.filterMap litEntryOf ∧ ∀ r ∈ rs, r ≠ none := by
  induction rs generalizing fs with
  | nil => simp [seqLitFields] at h; subst h; simp
  | cons r rs ih =>
    rcases r with _ | _ | kv
    · simp [seqLitFields] at h
    · obtain ⟨h1, h2⟩ := ih (fs := fs) h
      exact ⟨h1, List.forall_mem_cons.2 ⟨nofun, h2⟩⟩
    · simp only [seqLitFields] at h
      split at h
      · rename_i ls hls
        cases h
        obtain ⟨h1, h2⟩ := ih hls
        exact ⟨congrArg (kv :: ·) h1, List.forall_mem_cons.2 ⟨nofun, h2⟩⟩
      · simp at h

theorem seqLitFields_of_all {rs : List (Option (Option (List Nat × Lit)))} (h : ∀ r ∈ rs, r ≠ none) :
    seqLitFields rs = some (rs.filterMap litEntryOf) := by
  induction rs with
  | nil => rfl
  | cons r rs ih =>
    have ih' := ih (fun r' hr' => h r' (by simp [hr']))
    cases r with
    | none => exact absurd rfl (h none (by simp))
    | some o =>
      cases o with
      | none => simp [seqLitFields, ih', List.filterMap_cons, litEntryOf]
      | some kv => simp [seqLitFields, ih', List.filterMap_cons, litEntryOf]

end Gql.Values
