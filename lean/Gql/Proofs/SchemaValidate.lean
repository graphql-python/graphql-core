import Gql.Types.SchemaValidate
import Gql.Spec.TypeSystem
/-!
Lemmas for C20 (`Gql/Props/C20.lean`).
`validate_schema` (repaired code) never raises.  For the literal validator `vLit` the cases are:
`null`, a list literal at a list type (`expected_eq_peel`), an object literal at an input object
type, and everything else, which is a leaf (`LeafAt`, `vLit_leaf`); the comparison with the
specification in `SchemaDefaults` splits the same way.
-/
namespace Gql.Types
open Gql

def IsOk {α : Type} (x : Out Unit α) : Prop := ∃ a, x = .ok a

theorem isOk_ok {α : Type} (a : α) : IsOk (Out.ok a : Out Unit α) := ⟨a, rfl⟩

theorem mapOk_isOk {α β : Type} (g : α → β) {x : Out Unit α} (h : IsOk x) : IsOk (Out.mapOk g x) := by
  obtain ⟨a, rfl⟩ := h
  exact ⟨g a, rfl⟩

theorem outFlatMap_isOk {α β : Type} (f : α → Out Unit (List β)) :
    ∀ l : List α, (∀ x ∈ l, IsOk (f x)) → IsOk (outFlatMap f l)
  | [], _ => ⟨[], rfl⟩
  | x :: xs, h => by
    obtain ⟨e, he⟩ := h x (by simp)
    obtain ⟨es, hes⟩ := outFlatMap_isOk f xs (fun y hy => h y (by simp [hy]))
    exact ⟨e ++ es, by simp [outFlatMap, he, hes]⟩

theorem lookup_mem {s : RawSchema} {n : Str} {d : TypeDef} (h : s.lookup n = some d) :
    ∃ t ∈ s.types, t.name = n ∧ t.defn = d := by
  unfold RawSchema.lookup at h
  cases hf : s.types.find? (fun t => t.name == n) with
  | none => simp [hf] at h
  | some t =>
    simp only [hf, Option.map_some, Option.some.injEq] at h
    exact ⟨t, List.mem_of_find?_eq_some hf, by simpa using List.find?_some hf, h⟩

/-- the specification's "last entry wins" is the dict lookup of the code -/
theorem entryOf_eq_lookupLast {α : Type} : ∀ (l : List (Str × α)) (k : Str),
    Spec.entryOf l k = lookupLast l k
  | [], _ => rfl
  | (k', v) :: rest, k => by
    unfold Spec.entryOf lookupLast
    rw [entryOf_eq_lookupLast rest k]
    cases lookupLast rest k with
    | some x => simp
    | none =>
      by_cases h : k' = k
      · simp [h]
      · have : (k' == k) = false := by simpa using h
        simp [h, this]

theorem lookupLast_cons_some {β : Type} {k' k : Str} {b g : β} {l : List (Str × β)}
    (h : lookupLast ((k', b) :: l) k = some g) : lookupLast l k = some g ∨ g = b := by
  unfold lookupLast at h
  cases h1 : lookupLast l k with
  | some x => rw [h1] at h; exact .inl h
  | none =>
    rw [h1] at h
    cases hk : (k' == k) <;> simp only [hk, ↓reduceIte, Bool.false_eq_true] at h
    · cases h
    · exact .inr (Option.some.inj h).symm

/-- Two entry lists built in step (same keys, related values) have related lookups, for a
relation `Rel` on the lookups that relates `none` to `none` and `some` to `some` by `R` only. -/
theorem lookupLast_rel {β γ : Type} (Rel : Option β → Option γ → Prop) (R : β → γ → Prop)
    (hnn : Rel none none) (hss : ∀ b c, R b c → Rel (some b) (some c))
    (hsn : ∀ b, ¬ Rel (some b) none) (hns : ∀ c, ¬ Rel none (some c))
    (k' k : Str) (b : β) (c : γ) (l₁ : List (Str × β)) (l₂ : List (Str × γ))
    (ih : Rel (lookupLast l₁ k) (lookupLast l₂ k)) (h : R b c) :
    Rel (lookupLast ((k', b) :: l₁) k) (lookupLast ((k', c) :: l₂) k) := by
  unfold lookupLast
  cases h1 : lookupLast l₁ k <;> cases h2 : lookupLast l₂ k <;> rw [h1, h2] at ih
  · cases (k' == k)
    · exact hnn
    · exact hss b c h
  · exact absurd ih (hns _)
  · exact absurd ih (hsn _)
  · exact ih

/-- What peeling leaves of an input type is an input type again. -/
def Peel.InputOk (s : RawSchema) : Peel → Prop
  | .items t => s.isInputType t = true
  | .named n => s.isInputNamed n = true
  | _ => True

theorem peel_inputOk {s : RawSchema} : ∀ {b : Bool} {t : TRef} {p : Peel}, s.isInputType t = true →
    peel false b t = p → p.InputOk s
  | _, .named _, _, h, rfl | true, .list _, _, h, rfl => h
  | false, .list t, _, h, rfl | _, .nonNull t, _, h, rfl => peel_inputOk (t := t) h rfl

/-- `assert_leaf_type` cannot fail on a named input type -/
theorem vLeaf_isOk {s : RawSchema} {n : Str} (sh : Shape) (h : s.isInputNamed n = true) :
    IsOk (vLeaf s n sh) := by
  unfold RawSchema.isInputNamed at h
  unfold vLeaf
  generalize s.lookup n = d at h ⊢
  rcases d with _ | d
  · cases h
  · cases d <;> first | exact isOk_ok _ | cases h

theorem vObject_isOk (s : RawSchema) (fields : List InputValue) (oneOf : Bool)
    (entries : List (Str × Bool)) (subs : List (Str × (TRef → Out Unit (List VErr))))
    (h : ∀ k g, lookupLast subs k = some g → ∀ t, s.isInputType t = true → IsOk (g t)) :
    IsOk (vObject s true fields oneOf entries subs) := by
  unfold vObject
  obtain ⟨p1, hp1⟩ := outFlatMap_isOk (vObjField s true subs) fields fun fd _ => by
    unfold vObjField
    split
    · exact isOk_ok _
    · split
      · exact isOk_ok _
      · rename_i hg hi
        exact mapOk_isOk _ (h _ _ hg _ (by simpa using hi))
  rw [hp1]
  exact isOk_ok _

/-- At a named type `n` both the validator and the specification treat every literal as a leaf,
except `null` and an object literal when `n` is an input object type. -/
def LeafAt (s : RawSchema) (n : Str) : Lit → Prop
  | .null => False
  | .obj _ => ¬ ∃ fields o, s.lookup n = some (.input fields o)
  | _ => True

theorem vLit_leaf {s : RawSchema} {g : Bool} {n : Str} {v : Lit} {t : TRef} (hl : LeafAt s n v)
    (hp : peel false (Spec.litIsList v) t = .named n) : vLit s g v t = vLeaf s n v.shape := by
  cases v with
  | null => exact hl.elim
  | obj fs =>
    unfold vLit
    simp only [show peel false false t = .named n from hp]
    split
    · exact absurd ⟨_, _, ‹_›⟩ hl
    · rfl
  | _ => unfold vLit; simp only [Spec.litIsList] at hp; simp only [hp]; rfl

theorem expected_eq_peel : ∀ (l : Bool) (t : TRef),
    (∃ t', peel false l t = .items t' ∧ Spec.expected false l t = some (.list t') ∧ l = true) ∨
    (∃ n, peel false l t = .named n ∧ Spec.expected false l t = some (.named n))
  | _, .named n => .inr ⟨n, rfl, rfl⟩
  | true, .list t => .inl ⟨t, rfl, rfl, rfl⟩
  | false, .list t => expected_eq_peel false t
  | l, .nonNull t => expected_eq_peel l t

theorem expected_named (t : TRef) :
    ∃ n, peel false false t = .named n ∧ Spec.expected false false t = some (.named n) := by
  rcases expected_eq_peel false t with ⟨_, _, _, hl⟩ | h
  · cases hl
  · exact h

theorem vLit_isOk_leaf {s : RawSchema} {n : Str} {v : Lit} {t : TRef} (h : s.isInputType t = true)
    (hl : LeafAt s n v) (hp : peel false (Spec.litIsList v) t = .named n) : IsOk (vLit s true v t) :=
  vLit_leaf hl hp ▸ vLeaf_isOk _ (peel_inputOk h hp)

mutual
theorem vLit_isOk (s : RawSchema) : ∀ (v : Lit) (t : TRef), s.isInputType t = true →
    IsOk (vLit s true v t)
  | .list xs, t, h => by
    rcases expected_eq_peel true t with ⟨t', hp, _⟩ | ⟨n, hp, _⟩
    · unfold vLit
      rw [hp]
      exact vLits_isOk s xs t' 0 (peel_inputOk h hp)
    · exact vLit_isOk_leaf h trivial hp
  | .obj fs, t, h => by
    obtain ⟨n, hp, _⟩ := expected_named t
    by_cases hl : ∃ fields oneOf, s.lookup n = some (.input fields oneOf)
    · obtain ⟨fields, oneOf, hl⟩ := hl
      unfold vLit
      simp only [hp, hl]
      exact vObject_isOk s _ _ _ _ (vEntries_isOk s fs)
    · exact vLit_isOk_leaf h hl hp
  | .null, t, h => by unfold vLit; split <;> exact isOk_ok _
  | .int _, t, h | .float, t, h | .str, t, h | .bool, t, h | .enum _, t, h => by
    obtain ⟨n, hp, _⟩ := expected_named t
    exact vLit_isOk_leaf h trivial hp
theorem vLits_isOk (s : RawSchema) : ∀ (xs : List Lit) (t : TRef) (i : Nat), s.isInputType t = true →
    IsOk (vLits s true xs t i)
  | [], _, _, _ => by unfold vLits; exact isOk_ok _
  | x :: xs, t, i, h => by
    obtain ⟨e, he⟩ := vLit_isOk s x t h
    obtain ⟨es, hes⟩ := vLits_isOk s xs t (i + 1) h
    unfold vLits
    simp only [he, hes]
    exact isOk_ok _
theorem vEntries_isOk (s : RawSchema) : ∀ (fs : List (Str × Lit)) (k : Str)
    (g : TRef → Out Unit (List VErr)), lookupLast (vEntries s true fs) k = some g →
    ∀ t, s.isInputType t = true → IsOk (g t)
  | [], k, g, hl => by simp [vEntries, lookupLast] at hl
  | e :: rest, k, g, hl => by
    unfold vEntries at hl
    rcases lookupLast_cons_some hl with h | rfl
    · exact vEntries_isOk s rest k g h
    · exact fun t ht => vLit_isOk s e.2 t ht
end

theorem validateDefault_isOk (s : RawSchema) (iv : InputValue) (c : Str) :
    IsOk (validateDefault s iv c) := by
  unfold validateDefault
  split
  · exact isOk_ok _
  · split
    · exact isOk_ok _
    · rename_i hi
      exact mapOk_isOk _ (vLit_isOk s _ _ (by simpa using hi))

section
variable (s : RawSchema) (dflt : RawSchema → InputValue → Str → Out Unit (List Err))
  (hd : ∀ iv c, IsOk (dflt s iv c))
include hd

theorem validateArg_isOk (base : Str) (a : InputValue) : IsOk (validateArg s dflt base a) :=
  mapOk_isOk _ (hd _ _)

theorem validateDirective_isOk (d : Directive) : IsOk (validateDirective s dflt d) :=
  mapOk_isOk _ (outFlatMap_isOk _ _ (fun a _ => validateArg_isOk s dflt hd _ a))

theorem validateDirectives_isOk : IsOk (validateDirectives s dflt) :=
  outFlatMap_isOk _ _ (fun d _ => validateDirective_isOk s dflt hd d)

theorem validateField_isOk (tn : Str) (f : Field) : IsOk (validateField s dflt tn f) :=
  mapOk_isOk _ (outFlatMap_isOk _ _ (fun a _ => validateArg_isOk s dflt hd _ a))

theorem validateFields_isOk (tn : Str) (fs : List Field) : IsOk (validateFields s dflt tn fs) :=
  mapOk_isOk _ (outFlatMap_isOk _ _ (fun f _ => validateField_isOk s dflt hd tn f))

theorem validateInputField_isOk (tn : Str) (o : Bool) (f : InputValue) :
    IsOk (validateInputField s dflt tn o f) :=
  mapOk_isOk _ (hd _ _)

theorem validateInputFields_isOk (tn : Str) (fs : List InputValue) (o : Bool) :
    IsOk (validateInputFields s dflt tn fs o) :=
  mapOk_isOk _ (outFlatMap_isOk _ _ (fun f _ => validateInputField_isOk s dflt hd tn o f))

theorem validateType_isOk (t : NamedType) (st : VState) : IsOk (validateType s dflt t st) := by
  rcases t with ⟨name, defn⟩
  cases defn <;> simp only [validateType]
  · exact isOk_ok _
  · exact mapOk_isOk _ (validateFields_isOk s dflt hd _ _)
  · exact mapOk_isOk _ (validateFields_isOk s dflt hd _ _)
  · exact isOk_ok _
  · exact isOk_ok _
  · exact mapOk_isOk _ (validateInputFields_isOk s dflt hd _ _ _)

theorem validateTypesLoop_isOk : ∀ (ts : List NamedType) (st : VState),
    IsOk (validateTypesLoop s dflt ts st)
  | [], st => isOk_ok _
  | t :: ts, st => by
    obtain ⟨⟨e, st1⟩, h1⟩ := validateType_isOk s dflt hd t st
    obtain ⟨⟨es, st2⟩, h2⟩ := validateTypesLoop_isOk ts st1
    unfold validateTypesLoop
    simp only [h1, h2]
    exact isOk_ok _

/-- Neither the directives nor the types raise: `validateSchemaWith` returns the errors of the root
types, the directives and the types, in that order. -/
theorem validateSchemaWith_eq : ∃ ds ts st, validateDirectives s dflt = .ok ds ∧
    validateTypesLoop s dflt s.types ⟨[], [], false⟩ = .ok (ts, st) ∧
    validateSchemaWith dflt s = .ok (validateRootTypes s ++ ds ++ ts, st) := by
  obtain ⟨ds, h1⟩ := validateDirectives_isOk s dflt hd
  obtain ⟨⟨ts, st⟩, h2⟩ := validateTypesLoop_isOk s dflt hd s.types ⟨[], [], false⟩
  exact ⟨ds, ts, st, h1, h2, by simp only [validateSchemaWith, h1, h2]⟩
end

theorem validateSchema_isOk (s : RawSchema) : IsOk (validateSchema s) :=
  let ⟨_, _, _, _, _, h⟩ := validateSchemaWith_eq s validateDefault (validateDefault_isOk s)
  mapOk_isOk _ ⟨_, h⟩

end Gql.Types
