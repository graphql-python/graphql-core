import Gql.Proofs.OverlapUConf
/-! C14: the work-list search `Spec.dfs` of the oracle `Spec.specConflictB`, for an abstract universe
`U` of states closed under `succs`: soundness (no hypothesis), completeness (keys injective on `U`),
termination (the keys of `U` lie in a finite list, `succs` is bounded on `U`).  Each follows the
recursion of `Spec.dfs`: nothing to do, out of fuel, a state seen before, a conflict, an expansion. -/
namespace Gql.Exec
open Overlap

abbrev Spec.Key := Nat × Nat × Bool

section dfs
variable (s : Schema) (d : Doc)

theorem dfs_sound (n : Nat) (seen : List Spec.Key) (work : List Spec.State)
    (h : Spec.dfs s d n seen work = some true) :
    ∃ st0 ∈ work, ∃ st, Spec.Reach s d st0 st ∧ Spec.direct s st = true := by
  fun_induction Spec.dfs s d n seen work with
  | case1 | case2 | case3 => cases h
  | case4 n seen st rest _ ih =>
    obtain ⟨st0, h0, x, hr, hd⟩ := ih h
    exact ⟨st0, List.mem_cons_of_mem _ h0, x, hr, hd⟩
  | case5 n seen st rest _ hd => exact ⟨st, List.mem_cons_self, st, Spec.Reach.refl _, hd⟩
  | case6 n seen st rest _ _ ih =>
    obtain ⟨st0, h0, x, hr, hd⟩ := ih h
    rcases List.mem_append.1 h0 with h0 | h0
    · exact ⟨st, List.mem_cons_self, x, Spec.Reach.step h0 hr, hd⟩
    · exact ⟨st0, List.mem_cons_of_mem _ h0, x, hr, hd⟩

variable (U : Spec.State → Prop) (hClosed : ∀ x, U x → ∀ y ∈ Spec.succs s d x, U y)
  (hKey : ∀ x y, U x → U y → x.key = y.key → x = y)
include hClosed hKey

/-- A search that finds nothing ends with the waiting states expanded, and every state it expanded
conflict-free with expanded successors.  Said of the states expanded by THIS search, so that nothing
about `seen` has to be assumed. -/
theorem dfs_closed (n : Nat) (seen : List Spec.Key) (work : List Spec.State)
    (hW : ∀ x ∈ work, U x) (h : Spec.dfs s d n seen work = some false) :
    ∃ seen', seen ⊆ seen' ∧ (∀ x ∈ work, x.key ∈ seen') ∧
      ∀ x, U x → x.key ∈ seen' → x.key ∉ seen →
        Spec.direct s x = false ∧ ∀ y ∈ Spec.succs s d x, y.key ∈ seen' := by
  fun_induction Spec.dfs s d n seen work with
  | case1 seen | case3 _ seen => exact ⟨seen, fun _ h => h, by simp, fun _ _ h h' => (h' h).elim⟩
  | case2 | case5 => cases h
  | case4 n seen st rest hc ih =>
    obtain ⟨seen', hsub, hk, hcl⟩ := ih (fun x hx => hW x (List.mem_cons_of_mem _ hx)) h
    exact ⟨seen', hsub, List.forall_mem_cons.2 ⟨hsub (by simpa using hc), hk⟩, hcl⟩
  | case6 n seen st rest _ hd ih =>
    obtain ⟨hUst, hWr⟩ := List.forall_mem_cons.1 hW
    obtain ⟨seen', hsub, hk, hcl⟩ := ih (List.forall_mem_append.2 ⟨hClosed st hUst, hWr⟩) h
    obtain ⟨hst, hsub⟩ := List.cons_subset.1 hsub
    obtain ⟨hks, hkr⟩ := List.forall_mem_append.1 hk
    refine ⟨seen', hsub, List.forall_mem_cons.2 ⟨hst, hkr⟩, fun x hx hx' hn => ?_⟩
    by_cases e : x.key = st.key
    · cases hKey x st hx hUst e
      exact ⟨by simpa using hd, hks⟩
    · exact hcl x hx hx' (by simp [e, hn])

theorem dfs_complete (n : Nat) (work : List Spec.State) (hW : ∀ x ∈ work, U x)
    (h : Spec.dfs s d n [] work = some false) :
    ¬ ∃ st0 ∈ work, ∃ st, Spec.Reach s d st0 st ∧ Spec.direct s st = true := by
  obtain ⟨seen', _, hk, hcl⟩ := dfs_closed s d U hClosed hKey n [] work hW h
  rintro ⟨st0, h0, st, hr, hd⟩
  have key : ∀ a b, Spec.Reach s d a b → U a → a.key ∈ seen' → Spec.direct s b = false := by
    intro a b hab
    induction hab with
    | refl _ => exact fun h1 h2 => (hcl _ h1 h2 List.not_mem_nil).1
    | step hstep _ ih =>
      exact fun h1 h2 => ih (hClosed _ h1 _ hstep) ((hcl _ h1 h2 List.not_mem_nil).2 _ hstep)
  rw [key st0 st hr (hW st0 h0) (hk st0 h0)] at hd
  cases hd

end dfs

section term
variable (s : Schema) (d : Doc) (U : Spec.State → Prop) (keys : List Spec.Key) (B : Nat)
  (hClosed : ∀ x, U x → ∀ y ∈ Spec.succs s d x, U y)
  (hBound : ∀ x, U x → x.key ∈ keys ∧ (Spec.succs s d x).length ≤ B)
include hClosed hBound

/-- one unit of fuel for each waiting state, `B + 1` for each key not yet expanded -/
theorem dfs_isSome (n : Nat) (seen : List Spec.Key) (work : List Spec.State)
    (hW : ∀ x ∈ work, U x) (h : work.length + Unmarked.count keys seen * (B + 1) ≤ n) :
    (Spec.dfs s d n seen work).isSome = true := by
  fun_induction Spec.dfs s d n seen work with
  | case1 | case3 | case5 => rfl
  | case2 => simp at h
  | case4 n seen st rest _ ih =>
    exact ih (fun x hx => hW x (List.mem_cons_of_mem _ hx)) (by simp only [List.length_cons] at h; omega)
  | case6 n seen st rest hc _ ih =>
    obtain ⟨hUst, hWr⟩ := List.forall_mem_cons.1 hW
    obtain ⟨hk, hb⟩ := hBound st hUst
    have hlt : (Unmarked.count keys (st.key :: seen) + 1) * (B + 1) ≤ _ :=
      Nat.mul_le_mul_right _ (Unmarked.count_cons_lt hk (by simpa using hc))
    apply ih (List.forall_mem_append.2 ⟨hClosed st hUst, hWr⟩)
    simp only [List.length_cons, List.length_append, Nat.succ_mul] at h hlt ⊢
    omega

end term

end Gql.Exec
