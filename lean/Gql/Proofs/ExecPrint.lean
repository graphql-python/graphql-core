import Gql.Proofs.ExecDefs3
import Gql.Proofs.ValueRoundtrip
/-!
The printer model on the parser's trees of documents: selections with their arguments and directives, operation and
fragment definitions with descriptions and variable definitions, type-system definitions and extensions; every node by
the three steps of `PrintFields`.  `printAst_gdoc`: `printAst` on the tree of a document (`Exec.gdocAst`) is the typed
printer `Exec.printGDoc`; the documents of the two smaller grammars (`Exec.xdocAst`, `Exec.docAst`) are its parts.
Names: `prX` says that the typed tree `X` prints its typed text; `pr_…`, `prList_…`, `prFields_…` are about the
printer's functions on a form of tree.
-/
namespace Gql.Text
open Gql Gql.Syntax

section
variable (w : Widths)

theorem prNamedType (n : List Nat) : pr w (namedType n) = .ok (.text n) := by
  refine pr_node (prFields_cons (prNameNode w n) prFields_nil) ?_
  simp only [printed_fields, leave_NamedTypeNode]

theorem prOptName (n : List Nat) : pr w (optName n) = .ok (optT n) := by
  cases n with
  | nil => exact pr_none
  | cons c r => exact prNameNode w (c :: r)

theorem prOptNamedType (n : List Nat) : pr w (if n.isEmpty then .none else namedType n) = .ok (optT n) := by
  cases n with
  | nil => exact pr_none
  | cons c r => exact prNamedType w (c :: r)

theorem pr_optL_map {α : Type} {f : α → Ast} {g : α → List Nat} {xs : List α}
    (h : ∀ a ∈ xs, pr w (f a) = .ok (.text (g a))) : pr w (optL (xs.map f)) = .ok (optTs (xs.map g)) := by
  cases xs with
  | nil => exact pr_none
  | cons a r => exact pr_list_map h

theorem prArgs (args : Args) : prList w (Exec.argsAst args) = .ok (Val.printFields w args) := by
  induction args with
  | nil => exact prList_nil
  | cons a r ih =>
    obtain ⟨n, v⟩ := a
    rw [Exec.argsAst, Val.printFields]
    refine prList_cons (pr_node (prFields_cons (prNameNode w n) <| prFields_cons (prV w v) prFields_nil) ?_) ih
    simp only [printed_fields, String.reduceEq, leave_ArgumentNode]

theorem prOptArgs (args : Args) : pr w (optL (Exec.argsAst args)) = .ok (optTs (Val.printFields w args)) := by
  cases args with
  | nil => exact pr_none
  | cons a r => exact pr_list (prArgs w (a :: r))

theorem prDir (d : Dir) : pr w (Exec.dirAst d) = .ok (.text (Exec.printDir w d)) := by
  refine pr_node (prFields_cons (prNameNode w d.name) <| prFields_cons (prOptArgs w d.args) prFields_nil) ?_
  simp only [printed_fields, String.reduceEq, leave_DirectiveNode, Exec.printDir]

theorem prDirs (ds : List Dir) : pr w (Exec.dirsAst ds) = .ok (optTs (ds.map (Exec.printDir w))) :=
  pr_optL_map w fun d _ => prDir w d

theorem prSS_of {ss : List Sel} (h : prList w (Exec.selsAst ss) = .ok (Exec.printSels w ss)) :
    pr w (Exec.ssAst ss) = .ok (.text (block (Exec.printSels w ss))) := by
  refine pr_node (prFields_cons (pr_list h) prFields_nil) ?_
  simp only [printed_fields, leave_SelectionSetNode]

/-- A field node, whatever stands for its selection set. -/
theorem prFieldNode (al n : List Nat) (args : Args) (ds : List Dir) {a : Ast} {o : Option (List Nat)}
    (h : pr w a = .ok (.opt o)) :
    pr w (.node "FieldNode" [("directives", Exec.dirsAst ds), ("name", Val.nameNode n), ("alias", optName al),
      ("arguments", optL (Exec.argsAst args)), ("selection_set", a)]) =
    .ok (.text (join [wrappedLineAndArgs w (join [wrap [] al (S ": "), n]) (Val.printFields w args),
      wrap [32] (Exec.printDirs w ds), wrap [32] (o.getD [])])) := by
  refine pr_node (prFields_cons (prDirs w ds) <| prFields_cons (prNameNode w n) <|
    prFields_cons (prOptName w al) <| prFields_cons (prOptArgs w args) <| prFields_cons h prFields_nil) ?_
  simp only [printed_fields, String.reduceEq, leave_FieldNode, Exec.printDirs]

end

theorem dirs_join (w : Widths) (ds : List Dir) :
    (match (if ds = [] then Printed.none else Printed.texts (ds.map (Exec.printDir w))) with
      | .texts ts => join ts [32]
      | _ => join [] [32]) = Exec.printDirs w ds := by
  cases ds <;> simp [Exec.printDirs]

mutual
  theorem prSel (w : Widths) (s : Sel) : pr w (Exec.selAst s) = .ok (.text (Exec.printSel w s)) := by
    match s with
    | .field al n args ds ss =>
      have hS := prSels w ss
      rw [selAst_field]
      cases ss with
      | nil => rw [Exec.printSel.eq_1]; exact prFieldNode w al n args ds (o := none) pr_none
      | cons s0 r0 => rw [Exec.printSel.eq_2]; exact prFieldNode w al n args ds (o := some _) (prSS_of w hS)
    | .spread n ds =>
      rw [Exec.selAst.eq_3, Exec.printSel.eq_3]
      refine pr_node (prFields_cons (prDirs w ds) <| prFields_cons (prNameNode w n) <|
        prFields_cons pr_none prFields_nil) ?_
      simp only [printed_fields, String.reduceEq, leave_FragmentSpreadNode, Exec.printDirs]
    | .inline tc ds ss =>
      rw [selAst_inline, Exec.printSel.eq_4]
      refine pr_node (prFields_cons (prDirs w ds) <| prFields_cons (prSS_of w (prSels w ss)) <|
        prFields_cons (prOptNamedType w tc) prFields_nil) ?_
      simp only [printed_fields, String.reduceEq, leave_InlineFragmentNode, Exec.printDirs]
  theorem prSels (w : Widths) (ss : List Sel) : prList w (Exec.selsAst ss) = .ok (Exec.printSels w ss) := by
    match ss with
    | [] => exact prList_nil
    | s :: r =>
      rw [Exec.selsAst, Exec.printSels]
      exact prList_cons (prSel w s) (prSels w r)
end

section
variable (w : Widths)

theorem prSS (ss : List Sel) : pr w (Exec.ssAst ss) = .ok (.text (block (Exec.printSels w ss))) :=
  prSS_of w (prSels w ss)

end

section
variable (w : Widths)

theorem prDesc (d : Desc) : pr w (Exec.descAst d) = .ok (.opt (d.map fun _ => Exec.descText w d)) := by
  match d with
  | none => exact pr_none
  | some (s, b) =>
    refine pr_node (prFields_cons (pr_str s) <| prFields_cons (pr_bool b) prFields_nil) ?_
    simp only [printed_fields, String.reduceEq, leave_StringValueNode, Exec.descText]

theorem descText_getD (d : Desc) : (d.map fun _ => Exec.descText w d).getD [] = Exec.descText w d := by
  cases d <;> rfl

theorem prDflt (d : Option Val) : pr w (Exec.dfltAst d) = .ok (.opt (d.map (Val.print w))) := by
  cases d with
  | none => exact pr_none
  | some v => exact prV w v

theorem dfltText_getD (d : Option Val) : (d.map (Val.print w)).getD [] = Exec.dfltText w d := by
  cases d <;> rfl

theorem prVarDef (vd : VarDef) : pr w (Exec.varDefAst vd) = .ok (.text (Exec.printVarDef w vd)) := by
  have hv : pr w (.node "VariableNode" [("name", Val.nameNode vd.name)]) = .ok (.text (36 :: vd.name)) := by
    simpa only [Val.toAst, Val.print] using prV w (.var vd.name)
  refine pr_node (prFields_cons (prDesc w vd.desc) <| prFields_cons hv <| prFields_cons (printAst_ty w vd.ty) <|
    prFields_cons (prDflt w vd.dflt) <| prFields_cons (prDirs w vd.dirs) prFields_nil) ?_
  simp only [printed_fields, String.reduceEq, leave_VariableDefinitionNode, descText_getD, dfltText_getD,
    Exec.printVarDef, Exec.printDirs, List.append_assoc]

theorem prOptVarDefs (vds : List VarDef) :
    pr w (optL (vds.map Exec.varDefAst)) = .ok (optTs (vds.map (Exec.printVarDef w))) :=
  pr_optL_map w fun vd _ => prVarDef w vd

theorem prXDef_op (fa : Bool) (desc : Desc) (ot n : List Nat) (vds : List VarDef) (ds : List Dir) (ss : List Sel) :
    pr w (Exec.xdefAst fa (.op desc ot n vds ds ss)) = .ok (.text (Exec.printXDef w (.op desc ot n vds ds ss))) := by
  refine pr_node (prFields_cons (prSS w ss) <| prFields_cons (prDesc w desc) <| prFields_cons (prOptName w n) <|
    prFields_cons (prOptVarDefs w vds) <| prFields_cons (prDirs w ds) <|
    prFields_cons (pr_str ot) prFields_nil) ?_
  simp only [printed_fields, String.reduceEq, leave_OperationDefinitionNode, descText_getD, Exec.printXDef,
    Exec.printDirs, Exec.varDefsOp]
  -- left: the `query`-prefix `if` of `leave` and of `printXDef`, equal by unfolding only
  rfl

/-- Without fragment arguments (`fa = false`) the parser leaves `()` for the variable definitions of a fragment, and
there are none; the field reads alike in both cases. -/
theorem prXDef_frag (fa : Bool) (desc : Desc) (n : List Nat) (vds : List VarDef) (tc : List Nat) (ds : List Dir)
    (ss : List Sel) (h : vds = [] ∨ fa = true) :
    pr w (Exec.xdefAst fa (.frag desc n vds tc ds ss)) =
      .ok (.text (Exec.printXDef w (.frag desc n vds tc ds ss))) := by
  have hv : ∃ p, pr w (if fa then optL (vds.map Exec.varDefAst) else .list []) = .ok p ∧
      ∀ k fs, optTexts ((k, p) :: fs) k = .ok (vds.map (Exec.printVarDef w)) := by
    cases fa
    · rw [h.resolve_right Bool.false_ne_true]
      exact ⟨_, pr_list prList_nil, fun _ _ => optTexts_cons_texts⟩
    · exact ⟨_, prOptVarDefs w vds, fun _ _ => optTexts_cons_optTs⟩
  obtain ⟨p, hp, hr⟩ := hv
  refine pr_node (prFields_cons (prSS w ss) <| prFields_cons (prDesc w desc) <| prFields_cons (prNameNode w n) <|
    prFields_cons hp <| prFields_cons (prDirs w ds) <| prFields_cons (prNamedType w tc) prFields_nil) ?_
  simp only [printed_fields, String.reduceEq, leave_FragmentDefinitionNode, hr, descText_getD, Exec.printXDef,
    Exec.printDirs]

theorem prXDef (fa : Bool) (d : XDef) (h : Exec.xdefWf fa d) :
    pr w (Exec.xdefAst fa d) = .ok (.text (Exec.printXDef w d)) := by
  cases d with
  | op desc ot n vds ds ss => exact prXDef_op w fa desc ot n vds ds ss
  | frag desc n vds tc ds ss => exact prXDef_frag w fa desc n vds tc ds ss h.2.2.2.1

/-- Stage 1 is stage 2 without descriptions and variable definitions (`Def.toX`). -/
theorem prDef (fa : Bool) (d : Def) : pr w (Exec.defAst fa d) = .ok (.text (Exec.printDef w d)) := by
  rw [← Exec.xdefAst_toX, ← Exec.printXDef_toX]
  cases d with
  | op ot n ds ss => exact prXDef_op w fa none ot n [] ds ss
  | frag n tc ds ss => exact prXDef_frag w fa none n [] tc ds ss (Or.inl rfl)

end

/-- The printer model on the parser's tree of a stage-2 executable document prints `Exec.printXDoc`. -/
theorem printAst_xdoc (w : Widths) (fa : Bool) (defs : List XDef) (h : Exec.xdefsWf fa defs) :
    printAst w (Exec.xdocAst fa defs) = .ok (Exec.printXDoc w defs) :=
  printAst_document fun d hd => prXDef w fa d (forall_mem_of_rec (Exec.xdefsWf fa) _ (fun _ _ h => h) defs h d hd)

/-- The printer model on the parser's tree of an executable document prints `Exec.printDoc`. -/
theorem printAst_doc (w : Widths) (fa : Bool) (defs : List Def) :
    printAst w (Exec.docAst fa defs) = .ok (Exec.printDoc w defs) :=
  printAst_document fun d _ => prDef w fa d

section
variable (w : Widths)

theorem prIvd (vd : VarDef) : pr w (Exec.ivdAst vd) = .ok (.text (Exec.printIvd w vd)) := by
  refine pr_node (prFields_cons (prNameNode w vd.name) <| prFields_cons (printAst_ty w vd.ty) <|
    prFields_cons (prDesc w vd.desc) <| prFields_cons (prDflt w vd.dflt) <|
    prFields_cons (prDirs w vd.dirs) prFields_nil) ?_
  simp only [printed_fields, String.reduceEq, leave_InputValueDefinitionNode, descText_getD, dfltText_getD,
    Exec.printIvd, Exec.descPre, Exec.printDirs]

theorem prOptIvds (vds : List VarDef) :
    pr w (optL (vds.map Exec.ivdAst)) = .ok (optTs (vds.map (Exec.printIvd w))) :=
  pr_optL_map w fun vd _ => prIvd w vd

theorem prFd (f : FDef) : pr w (Exec.fdAst f) = .ok (.text (Exec.printFd w f)) := by
  refine pr_node (prFields_cons (prNameNode w f.name) <| prFields_cons (printAst_ty w f.ty) <|
    prFields_cons (prDesc w f.desc) <| prFields_cons (prOptIvds w f.args) <|
    prFields_cons (prDirs w f.dirs) prFields_nil) ?_
  simp only [printed_fields, String.reduceEq, leave_FieldDefinitionNode, descText_getD, Exec.printFd, Exec.descPre,
    Exec.printDirs]

theorem prEv (e : EVDef) : pr w (Exec.evAst e) = .ok (.text (Exec.printEv w e)) := by
  refine pr_node (prFields_cons (prNameNode w e.name) <| prFields_cons (prDesc w e.desc) <|
    prFields_cons (prDirs w e.dirs) prFields_nil) ?_
  simp only [printed_fields, String.reduceEq, leave_EnumValueDefinitionNode, descText_getD, Exec.printEv,
    Exec.descPre, Exec.printDirs]

theorem prOt (ot : List Nat × List Nat) : pr w (Exec.otAst ot) = .ok (.text (Exec.printOt ot)) := by
  refine pr_node (prFields_cons (pr_str ot.1) <| prFields_cons (prNamedType w ot.2) prFields_nil) ?_
  simp only [printed_fields, String.reduceEq, leave_OperationTypeDefinitionNode, Exec.printOt]

theorem prOptNamedTypes (ns : List (List Nat)) : pr w (optL (ns.map namedType)) = .ok (optTs ns) := by
  simpa only [List.map_id] using pr_optL_map w (g := id) fun n _ => prNamedType w n

theorem prTDef (dd : Bool) (d : TDef) (h : Exec.tdefWf dd d) :
    pr w (Exec.tdefAst dd d) = .ok (.text (Exec.printTDef w d)) := by
  cases d with
  | schema desc ds ots =>
    refine pr_node (prFields_cons (prDesc w desc) <| prFields_cons (prDirs w ds) <|
      prFields_cons (pr_list_map fun ot _ => prOt w ot) prFields_nil) ?_
    simp only [printed_fields, String.reduceEq, leave_SchemaDefinitionNode, descText_getD, Exec.printTDef,
      Exec.descPre, Exec.printDirs]
  | scalar desc n ds =>
    refine pr_node (prFields_cons (prNameNode w n) <| prFields_cons (prDesc w desc) <|
      prFields_cons (prDirs w ds) prFields_nil) ?_
    simp only [printed_fields, String.reduceEq, leave_ScalarTypeDefinitionNode, descText_getD, Exec.printTDef,
      Exec.descPre, Exec.printDirs]
  | object iface desc n ifs ds fs =>
    refine pr_node (prFields_cons (prNameNode w n) <| prFields_cons (prDesc w desc) <|
      prFields_cons (prDirs w ds) <| prFields_cons (prOptNamedTypes w ifs) <|
      prFields_cons (pr_optL_map w fun f _ => prFd w f) prFields_nil) ?_
    cases iface <;> simp only [Exec.objCls, Exec.objKw, Exec.printTDef, Bool.false_eq_true, ↓reduceIte]
    · simp only [printed_fields, String.reduceEq, leave_ObjectTypeDefinitionNode, descText_getD, Exec.descPre, Exec.printDirs]
    · simp only [printed_fields, String.reduceEq, leave_InterfaceTypeDefinitionNode, descText_getD, Exec.descPre, Exec.printDirs]
  | union desc n ds ts =>
    refine pr_node (prFields_cons (prNameNode w n) <| prFields_cons (prDesc w desc) <|
      prFields_cons (prDirs w ds) <| prFields_cons (prOptNamedTypes w ts) prFields_nil) ?_
    simp only [printed_fields, String.reduceEq, leave_UnionTypeDefinitionNode, descText_getD, Exec.printTDef,
      Exec.descPre, Exec.printDirs]
  | enum desc n ds vs =>
    refine pr_node (prFields_cons (prNameNode w n) <| prFields_cons (prDesc w desc) <|
      prFields_cons (prDirs w ds) <| prFields_cons (pr_optL_map w fun e _ => prEv w e) prFields_nil) ?_
    simp only [printed_fields, String.reduceEq, leave_EnumTypeDefinitionNode, descText_getD, Exec.printTDef,
      Exec.descPre, Exec.printDirs]
  | input desc n ds fs =>
    refine pr_node (prFields_cons (prNameNode w n) <| prFields_cons (prDesc w desc) <|
      prFields_cons (prDirs w ds) <| prFields_cons (prOptIvds w fs) prFields_nil) ?_
    simp only [printed_fields, String.reduceEq, leave_InputObjectTypeDefinitionNode, descText_getD, Exec.printTDef,
      Exec.descPre, Exec.printDirs]
  | directive desc n args ds rep locs =>
    -- directives on a directive definition are parsed only under `dd`; without it there are none
    have hD : pr w (if dd then Exec.dirsAst ds else .none) = .ok (optTs (ds.map (Exec.printDir w))) := by
      cases dd
      · rw [h.2.2.2.2.1.resolve_right Bool.false_ne_true]
        exact pr_none
      · exact prDirs w ds
    refine pr_node (prFields_cons (prNameNode w n) <|
      prFields_cons (pr_list_map (g := id) fun l _ => prNameNode w l) <| prFields_cons (prDesc w desc) <|
      prFields_cons (prOptIvds w args) <| prFields_cons hD <| prFields_cons (pr_bool rep) prFields_nil) ?_
    simp only [printed_fields, String.reduceEq, leave_DirectiveDefinitionNode, descText_getD, List.map_id,
      Exec.printTDef, Exec.descPre, Exec.printDirs]

end

/-- An extension prints `extend ` in front of what its definition would print without a description: the keyword of
the extension's `leave` method is `extend ` and the keyword `kw` of the definition's. The keywords are strings here,
not their code points, because that is where the two facts about a literal are cheap to check. -/
theorem extend_join {ekw kw : String} (h : ekw = "extend " ++ kw) (hkw : kw ≠ "") (w : Widths)
    (parts : List (List Nat)) :
    join (S ekw :: parts) [32] = S "extend " ++ (Exec.descPre w none ++ join (S kw :: parts) [32]) := by
  have hne : S kw ≠ [] := fun e => hkw (String.toList_eq_nil_iff.mp (List.map_eq_nil_iff.mp e))
  have he : S ekw = S "extend " ++ S kw := by rw [h, S, String.toList_append, List.map_append]; rfl
  rw [he, join_space _ _ (by intro h; exact hne (List.append_eq_nil_iff.mp h).2), join_space _ _ hne]
  simp only [Exec.descPre, Exec.descText, wrap_nil, List.nil_append, List.append_assoc]

variable (w : Widths)

theorem prEDef (d : EDef) : pr w (Exec.edefAst d) = .ok (.text (Exec.printEDef w d)) := by
  cases d with
  | schema ds ots =>
    refine pr_node (prFields_cons (prDirs w ds) <|
      prFields_cons (pr_optL_map w fun ot _ => prOt w ot) prFields_nil) ?_
    simp only [printed_fields, String.reduceEq, leave_SchemaExtensionNode, Exec.printEDef, EDef.base,
      Exec.printTDef, Exec.printDirs]
    exact congrArg _ (extend_join (by decide +kernel) (by decide +kernel) w _)
  | scalar n ds =>
    refine pr_node (prFields_cons (prNameNode w n) <| prFields_cons (prDirs w ds) prFields_nil) ?_
    simp only [printed_fields, String.reduceEq, leave_ScalarTypeExtensionNode, Exec.printEDef, EDef.base,
      Exec.printTDef, Exec.printDirs]
    exact congrArg _ (extend_join (by decide +kernel) (by decide +kernel) w _)
  | object iface n ifs ds fs =>
    refine pr_node (prFields_cons (prNameNode w n) <| prFields_cons (prDirs w ds) <|
      prFields_cons (prOptNamedTypes w ifs) <| prFields_cons (pr_optL_map w fun f _ => prFd w f) prFields_nil) ?_
    cases iface <;> simp only [Exec.objExtCls, Exec.objKw, Exec.printEDef, EDef.base, Exec.printTDef,
      Bool.false_eq_true, ↓reduceIte]
    · simp only [printed_fields, String.reduceEq, leave_ObjectTypeExtensionNode, Exec.printDirs]
      exact congrArg _ (extend_join (by decide +kernel) (by decide +kernel) w _)
    · simp only [printed_fields, String.reduceEq, leave_InterfaceTypeExtensionNode, Exec.printDirs]
      exact congrArg _ (extend_join (by decide +kernel) (by decide +kernel) w _)
  | union n ds ts =>
    refine pr_node (prFields_cons (prNameNode w n) <| prFields_cons (prDirs w ds) <|
      prFields_cons (prOptNamedTypes w ts) prFields_nil) ?_
    simp only [printed_fields, String.reduceEq, leave_UnionTypeExtensionNode, Exec.printEDef, EDef.base,
      Exec.printTDef, Exec.printDirs]
    exact congrArg _ (extend_join (by decide +kernel) (by decide +kernel) w _)
  | enum n ds vs =>
    refine pr_node (prFields_cons (prNameNode w n) <| prFields_cons (prDirs w ds) <|
      prFields_cons (pr_optL_map w fun e _ => prEv w e) prFields_nil) ?_
    simp only [printed_fields, String.reduceEq, leave_EnumTypeExtensionNode, Exec.printEDef, EDef.base,
      Exec.printTDef, Exec.printDirs]
    exact congrArg _ (extend_join (by decide +kernel) (by decide +kernel) w _)
  | input n ds fs =>
    refine pr_node (prFields_cons (prNameNode w n) <| prFields_cons (prDirs w ds) <|
      prFields_cons (prOptIvds w fs) prFields_nil) ?_
    simp only [printed_fields, String.reduceEq, leave_InputObjectTypeExtensionNode, Exec.printEDef, EDef.base,
      Exec.printTDef, Exec.printDirs]
    exact congrArg _ (extend_join (by decide +kernel) (by decide +kernel) w _)

theorem prGDef (fa dd : Bool) (d : GDef) (h : Exec.gdefWf fa dd d) :
    pr w (Exec.gdefAst fa dd d) = .ok (.text (Exec.printGDef w d)) := by
  cases d with
  | x d => exact prXDef w fa d h
  | t d => exact prTDef w dd d h
  | e d => exact prEDef w d

/-- The printer model on the parser's tree of a stage-3 document prints `Exec.printGDoc`. -/
theorem printAst_gdoc (fa dd : Bool) (defs : List GDef) (h : Exec.gdefsWf fa dd defs) :
    printAst w (Exec.gdocAst fa dd defs) = .ok (Exec.printGDoc w defs) :=
  printAst_document fun d hd => prGDef w fa dd d (h d hd)

end Gql.Text
