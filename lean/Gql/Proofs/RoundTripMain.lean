import Gql.Proofs.LiteralBasics
import Gql.Proofs.RoundTripBasics
import Gql.Proofs.Conforms
/-!
`value_to_literal` followed by `coerce_input_literal` gives what `coerce_input_value` gives (C15): the list case
(`list_roundtrip`), the field nodes built for an input object and their lookups (`litFieldsOf`), one declared field
(`field_roundtrip`), and the theorem, an instance of `coerceValue_accepted`.
-/
namespace Gql.Values
open Gql

/-- the list case, abstractly: `f` = coerce an item value, `g` = its literal, `h` = coerce that literal -/
theorem list_roundtrip {xs : List PyVal} {cs : List PyVal} (f : PyVal → R) (g : PyVal → Option Lit) (h : Lit → R)
    (nn : Bool) (hcs : seqItems (xs.map f) = .ok (some cs))
    (hstep : ∀ x ∈ xs, ∀ cv, f x = .ok cv → cv ≠ .undefined → ∃ l, g x = some l ∧ h l = .ok cv) :
    ∃ ls, seqLits (xs.map g) = some ls ∧
      seqItems (ls.map fun l => listItemLiteral none l nn (h l)) = .ok (some cs) := by
  induction xs generalizing cs with
  | nil =>
    simp only [List.map_nil, seqItems, Out.ok.injEq, Option.some.injEq] at hcs
    subst hcs
    exact ⟨[], rfl, rfl⟩
  | cons x xs ih =>
    simp only [List.map_cons] at hcs
    obtain ⟨cv, cs', hfx, hcu, hrest, rfl⟩ := seqItems_cons_inv hcs
    obtain ⟨l, hgl, hhl⟩ := hstep x (by simp) cv hfx hcu
    obtain ⟨ls, hls, hitems⟩ := ih hrest (fun y hy => hstep y (by simp [hy]))
    refine ⟨l :: ls, by simp [seqLits, hgl, hls], ?_⟩
    simp only [List.map_cons, hhl, listItemLiteral_ok none l nn hcu]
    exact seqItems_cons_some hcu hitems

/-- The field nodes `value_to_literal` builds for an input object, `φ f` being the node of field `f` if it has one. -/
def litFieldsOf (fields : List Field) (φ : Field → Option Lit) : List (List Nat × Lit) :=
  fields.filterMap fun f => (φ f).map fun node => (f.name, node)

theorem seqLitFields_map {fields : List Field} {G : Field → Option (Option (List Nat × Lit))} {φ : Field → Option Lit}
    (h : ∀ f ∈ fields, G f = some ((φ f).map fun node => (f.name, node))) :
    seqLitFields (fields.map G) = some (litFieldsOf fields φ) := by
  rw [List.map_congr_left h, seqLitFields_of_all (by simp), List.filterMap_map]
  exact congrArg (fun g => some (fields.filterMap g)) (funext fun f => by cases h : φ f <;> simp [h, litEntryOf])

theorem litFieldsOf_declared (fields : List Field) (φ : Field → Option Lit) :
    (litFieldsOf fields φ).any (fun kv => !fields.any (fun f => f.name = kv.1)) = false := by
  refine List.any_eq_false.2 fun kv hkv => ?_
  obtain ⟨f, hf, hm⟩ := List.mem_filterMap.1 hkv
  obtain ⟨node, _, rfl⟩ := Option.map_eq_some_iff.1 hm
  simpa using ⟨f, hf, rfl⟩

theorem litFieldsOf_single {fields : List Field} (hnd : (fields.map (·.name)).Nodup) {φ : Field → Option Lit} {f0 : Field}
    (hf0 : f0 ∈ fields) {node : Lit} (h0 : φ f0 = some node) (hne : ∀ f ∈ fields, f.name ≠ f0.name → φ f = none) :
    litFieldsOf fields φ = [(f0.name, node)] :=
  (filterMap_unique hnd hf0 _ fun f hf h => by rw [hne f hf h]; rfl).trans (by rw [h0]; rfl)

theorem litGetLast_litFieldsOf {fields : List Field} (hnd : (fields.map (·.name)).Nodup) (φ : Field → Option Lit)
    {f : Field} (hf : f ∈ fields) : litGetLast (litFieldsOf fields φ) f.name = φ f := by
  have hkeys : ((litFieldsOf fields φ).map (·.1)).Nodup := by
    apply List.Nodup.sublist _ hnd
    apply filterMap_keys_sublist
    intro f' k b h
    obtain ⟨_, _, h⟩ := Option.map_eq_some_iff.1 h
    exact (congrArg Prod.fst h).symm
  cases hφf : φ f with
  | some node =>
    apply litGetLast_of_mem_nodup hkeys
    exact List.mem_filterMap.2 ⟨f, hf, by simp [hφf]⟩
  | none =>
    apply litGetLast_none
    intro v hv
    obtain ⟨f', hf', h⟩ := List.mem_filterMap.1 hv
    obtain ⟨node, hφ', h⟩ := Option.map_eq_some_iff.1 h
    cases nodup_name_eq hnd hf' hf (congrArg Prod.fst h)
    rw [hφf] at hφ'; cases hφ'

section
variable (c : PyConv) (D : Field → R) (tm : TypeMap)

/-- The node `value_to_literal` builds for a declared field, if the dict provides it. -/
def fieldNode (c : PyConv) (tm : TypeMap) (kvs : List (List Nat × PyVal)) (f : Field) : Option Lit :=
  (dictGetDefined kvs f.name).bind fun fv => valueToLiteral c tm fv f.type

/-- A declared field that `coerceValue` does not find invalid: `value_to_literal` builds `fieldNode` for it, and an
object literal that holds this node under the field's name gives the field what the dict gives it. A provided value
is accepted and (by the induction hypothesis) makes the round trip; a missing one is not required. -/
theorem field_roundtrip (kvs : List (List Nat × PyVal)) (f : Field) (x : FieldRes)
    (hx : coerceField c D tm kvs f = .ok x) (hxn : x ≠ .invalid)
    (ih : ∀ fv, dictGetDefined kvs f.name = some fv → ∀ cv, coerceValue c D tm fv f.type = .ok cv →
      cv ≠ .undefined → ∃ l, valueToLiteral c tm fv f.type = some l ∧ l.asVar = none ∧
        coerceLiteral c D tm none l f.type = .ok cv) :
    fieldToLiteral c tm kvs f = some ((fieldNode c tm kvs f).map fun node => (f.name, node)) ∧
    (∀ fs, litGetLast fs f.name = fieldNode c tm kvs f →
      coerceLitField c D tm none fs f = coerceField c D tm kvs f) ∧
    (∀ fv, dictGetDefined kvs f.name = some fv → ∃ cv node, coerceField c D tm kvs f = .ok (.entry f.name cv) ∧
      coerceValue c D tm fv f.type = .ok cv ∧ fieldNode c tm kvs f = some node ∧
      valueToLiteral c tm fv f.type = some node) := by
  unfold fieldToLiteral fieldNode coerceLitField litProvided
  unfold coerceField at hx ⊢
  split
  · rename_i fv hfv
    rw [hfv] at hx
    obtain ⟨cv, hc, hcu, rfl⟩ := fieldRes_some_inv hx hxn
    obtain ⟨node, hnode, hav, hcl⟩ := ih fv hfv cv hc hcu
    have hvar : node.isVar = false := by simp [Lit.isVar_eq, hav]
    refine ⟨by simp [hfv, hnode], fun fs hfs => by simp [hfs, hfv, hnode, Option.filter, hvar, hcl, hc], fun fv' hfv' => ?_⟩
    cases hfv.symm.trans hfv'
    exact ⟨cv, node, by rw [hfv]; exact hx, hc, by simp [hfv, hnode], hnode⟩
  · rename_i hnone
    rw [hnone] at hx
    have hr : f.isRequired = false :=
      Bool.eq_false_iff.2 fun hr => hxn (Out.ok.inj (hx.symm.trans (fieldRes_invalid_iff.2 (.inr ⟨rfl, hr⟩))))
    exact ⟨by simp [hnone, hr], fun fs hfs => by simp [hfs, hnone], fun fv h => by rw [hnone] at h; cases h⟩

/-- `literal_roundtrip`: a value `coerce_input_value` accepts is turned into a literal by
`value_to_literal`, and `coerce_input_literal` reads that literal back as the same result. -/
theorem valueToLiteral_roundtrip (hL : RoundTripLaws c) (hW : TmWF D tm) (v : PyVal) (t : InType) (hwf : v.WF)
    {cv : PyVal} (h : coerceValue c D tm v t = .ok cv) (hu : cv ≠ .undefined) :
    ∃ l, valueToLiteral c tm v t = some l ∧ l.asVar = none ∧ coerceLiteral c D tm none l t = .ok cv := by
  refine coerceValue_accepted c D tm (motive := fun v t cv => v.WF → ∃ l, valueToLiteral c tm v t = some l ∧
    l.asVar = none ∧ coerceLiteral c D tm none l t = .ok cv) ?_ ?_ ?_ ?_ ?_ ?_ v t h hu hwf
  · intro v t hn ht _
    exact ⟨.null, by simp [valueToLiteral_nullish c tm t hn, ht], rfl,
      by simp [coerceLiteral_null c D tm none (l := .null) t rfl rfl, ht]⟩
  · intro v t' cv hn _ ih hwf
    obtain ⟨l, hl, hav, hcl⟩ := ih hwf
    obtain ⟨_, hnull, _⟩ := valueToLiteral_shape c tm v hn t' l hl
    refine ⟨l, by rw [valueToLiteral_nonNull c tm hn, hl], hav, ?_⟩
    rw [coerceLiteral_nonNull c D tm none hav]; simp [hnull, hcl]
  · intro v t' xs cs hn hit hs ih hwf
    have hwl := WF_iterItems hwf hit
    obtain ⟨ls, hls, hitems⟩ := list_roundtrip (fun x => coerceValue c D tm x t')
      (fun x => valueToLiteral c tm x t') (fun l => coerceLiteral c D tm none l t') t'.isNonNull hs
      (fun x hx cv' hcv' hcu' =>
        let ⟨l, hl, _, hcl⟩ := ih x hx cv' hcv' hcu' (WFList_mem hwl hx)
        ⟨l, hl, hcl⟩)
    refine ⟨.list ls, ?_, rfl, ?_⟩
    · rw [valueToLiteral_list_iter c tm hn hit, hls]
    · rw [coerceLiteral_list_iter c D tm none (l := .list ls) rfl (by simp [Lit.isNull]) rfl, hitems]
      rfl
  · intro v t' r hn hit _ hr ih hwf
    obtain ⟨l, hl, hav, hcl⟩ := ih hwf
    obtain ⟨_, hnull, hnl⟩ := valueToLiteral_shape c tm v hn t' l hl
    refine ⟨l, by rw [valueToLiteral_list_single c tm hn hit, hl], hav, ?_⟩
    rw [coerceLiteral_list_single c D tm none hav (by simp [hnull]) (hnl hit), hcl, listOfOne_ok hr]
  · intro v n d lf hn hf hl hu _
    obtain ⟨l, hl', hll⟩ := leaf_roundtrip c hL lf v hu
    obtain ⟨hav, hnull, _, _⟩ := Lit.scalarKind_shape (leafToLiteral_kind c lf v l hl')
    exact ⟨l, by rw [valueToLiteral_leaf c tm hn hf hl, hl'], hav,
      by rw [coerceLiteral_leaf c D tm none hav (by simp [hnull]) hf hl, hll]⟩
  · intro v n fields oneOf kvs es hn hf hd hunk' hs hone ih hwf
    have hwd := (WF_asDict hwf hd).2
    have hnames := hW.fieldsNodup n fields oneOf hf
    have hfield := fun f (hf' : f ∈ fields) =>
      let ⟨x, hx, hxn⟩ := seqFields_valid hs hf'
      field_roundtrip c D tm kvs f x hx hxn
        fun fv hfv cv hc hcu => ih f fv hfv cv hc hcu (WFDict_mem hwd (dictGetDefined_mem hfv).1)
    have hv2l : valueToLiteral c tm v (.named n) = some (.obj (litFieldsOf fields (fieldNode c tm kvs))) := by
      rw [valueToLiteral_obj c tm hn hf (asMapping_of_asDict hd), if_neg (by simp [hunk']),
        seqLitFields_map fun f hf' => (hfield f hf').1]
    have hG : fields.map (coerceLitField c D tm none (litFieldsOf fields (fieldNode c tm kvs))) =
        fields.map (coerceField c D tm kvs) :=
      List.map_congr_left fun f hf' => (hfield f hf').2.1 _ (litGetLast_litFieldsOf hnames _ hf')
    refine ⟨_, hv2l, rfl, ?_⟩
    rw [coerceLiteral_obj c D tm none (l := .obj (litFieldsOf fields (fieldNode c tm kvs))) rfl (by simp [Lit.isNull]) hf
      rfl]
    simp only [dictOf, litFieldsOf_declared, Bool.false_eq_true, ↓reduceIte, hG, hs]
    cases oneOf with
    | false => rfl
    | true =>
      obtain ⟨k, c', hes1, hcn⟩ := hone rfl
      subst hes1
      -- every provided field has its entry in the dict, so its name is `k`; the entry belongs to a provided field
      -- `f0`, OneOf fields having no defaults
      have hentry : ∀ f ∈ fields, ∀ fv, dictGetDefined kvs f.name = some fv → f.name = k := fun f hf' fv hfv => by
        obtain ⟨cv', _, hg, _⟩ := (hfield f hf').2.2 fv hfv
        exact (Prod.mk.inj (List.mem_singleton.1 ((mem_seqFields hs).2 ⟨f, hf', hg⟩))).1
      obtain ⟨f0, hf0, h0⟩ := (mem_seqFields hs).1 (List.mem_singleton.2 rfl)
      obtain ⟨hk0, hcu0, h | ⟨_, _, hdf⟩⟩ := fieldRes_entry_iff.1 h0
      case inr => exact absurd (Out.ok.inj (hdf.symm.trans (hW.oneOfNoDefaults n fields hf f0 hf0))) hcu0
      obtain ⟨fv, hfv, hc⟩ := Option.map_eq_some_iff.1 h
      obtain ⟨_, node, _, _, hφ0, hnode⟩ := (hfield f0 hf0).2.2 fv hfv
      rw [litFieldsOf_single hnames hf0 hφ0 fun f hf' hne => by
        cases hfv' : dictGetDefined kvs f.name with
        | none => simp [fieldNode, hfv']
        | some fv' => exact absurd ((hentry f hf' fv' hfv').trans hk0) hne]
      -- that field's literal is not null, because its coerced value is not None
      have hdef := (dictGetDefined_mem hfv).2
      exact oneOfLiteral_one (valueToLiteral_shape c tm fv (fun hnl => hcn <|
        (coerceValue_eq_none_iff c D tm hW.enumsNonNull hc hcu0 hdef).2 (nullish_defined_is_none hnl hdef))
        f0.type node hnode).2.1 hcn

end
end Gql.Values
