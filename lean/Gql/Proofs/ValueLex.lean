import Gql.Proofs.ValueDefs
import Gql.Proofs.Pieces
/-!
`render_lex` for values: the text the printer emits for a well-formed value is a printed piece
(`Pc`, hence lexes to exactly the value's tokens in either layout, re-indented by any amount); the
items of a list or object value are `Its`.
-/
namespace Gql.Text
open Gql.Syntax

theorem digits_no10 {ds : List Nat} (h : ds.all isDigit = true) : ∀ c ∈ ds, c ≠ 10 := by
  intro c hc h10
  have := List.all_eq_true.mp h c hc
  subst h10; simp [isDigit] at this

theorem intPartOK_digits {ip : List Nat} (h : intPartOK ip = true) : ip.all isDigit = true := by
  unfold intPartOK at h
  split at h
  · decide
  · simp only [Bool.and_eq_true, decide_eq_true_eq] at h
    simp only [List.all_cons, Bool.and_eq_true, isDigit, decide_eq_true_eq]
    exact ⟨by omega, h.2⟩
  · cases h

/-- Each of the four parts of a number text is without line feed. -/
theorem isNum_no10 {fl : Bool} {s : List Nat} (h : IsNum fl s) : NoLF s := by
  obtain ⟨⟨sign, ip, fr, ex⟩, ⟨hsign, hip, hfr, hex⟩, rfl, _⟩ := h
  simp only [NumParts.text, NoLF, List.forall_mem_append]
  refine ⟨?_, digits_no10 (intPartOK_digits hip), ?_, ?_⟩
  · rcases hsign with rfl | rfl <;> simp
  · rcases hfr with rfl | ⟨ds, rfl, hds⟩
    · simp
    · simp only [digitsOK, Bool.and_eq_true] at hds
      exact List.forall_mem_cons.mpr ⟨by decide, digits_no10 hds.2⟩
  · rcases hex with rfl | ⟨e, sg, ds, rfl, he, hsg, hds⟩
    · simp
    · simp only [digitsOK, Bool.and_eq_true] at hds
      refine List.forall_mem_cons.mpr ⟨by rcases he with rfl | rfl <;> decide,
        List.forall_mem_append.mpr ⟨?_, digits_no10 hds.2⟩⟩
      rcases hsg with rfl | rfl | rfl <;> simp

theorem read16_hex_no10 {a b c d v : Nat} (h : read16 [a, b, c, d] 0 = some v) :
    a ≠ 10 ∧ b ≠ 10 ∧ c ≠ 10 ∧ d ≠ 10 := by
  have hn := (read16_nonl _ 0 v h).2
  exact ⟨(hn 0 (by omega) (by omega) a rfl).1, (hn 1 (by omega) (by omega) b rfl).1,
    (hn 2 (by omega) (by omega) c rfl).1, (hn 3 (by omega) (by omega) d rfl).1⟩

theorem entry_no10 {c : Nat} {e : List Nat} (h : entryOK c e = true) : ∀ x ∈ e, x ≠ 10 := by
  unfold entryOK at h
  split at h
  · rename_i x
    intro y hy
    simp at hy
    rcases hy with rfl | rfl
    · omega
    · exact (escapedChar_not_nl y c (by simpa using h)).1
  · rename_i h1 h2 h3 h4
    simp only [Bool.and_eq_true, beq_iff_eq] at h
    obtain ⟨a, b, c', d⟩ := read16_hex_no10 h.1.2
    intro y hy
    simp at hy
    rcases hy with rfl | rfl | rfl | rfl | rfl | rfl <;> first | omega | assumption
  · simp at h

theorem translate_no10 (table : List (Nat × List Nat)) (hT : tableOK table = true)
    (hC : tableComplete table = true) (s : List Nat) : ∀ c ∈ translate table s, c ≠ 10 := by
  induction s with
  | nil => intro c hc; simp [translate] at hc
  | cons a r ih =>
    intro c hc
    simp only [translate, List.mem_append] at hc
    rcases hc with hc | hc
    · cases hl : escapeLookup table a with
      | none =>
        simp [hl] at hc; subst hc
        exact (tableComplete_none hC hl).2.2.1
      | some e =>
        simp [hl] at hc
        exact entry_no10 (tableOK_lookup hT hl) c hc
    · exact ih c hc

theorem printString_no10 (hT : tableOK Generated.escapeTable = true)
    (hC : tableComplete Generated.escapeTable = true) (s : List Nat) : ∀ c ∈ printString s, c ≠ 10 := by
  intro c hc
  simp only [printString, printStringWith, List.mem_append, List.mem_cons, List.not_mem_nil, or_false] at hc
  rcases hc with (rfl | hc) | rfl
  · omega
  · exact translate_no10 _ hT hC s c hc
  · omega


end Gql.Text

namespace Gql.Text
open Gql.Syntax Gql.Text.Pairs

namespace Val

mutual
  /-- Well-formed = what `parse_value_literal(is_const)` can build: valid names and number
  texts, enum values other than `true`/`false`/`null`, strings of scalar values, block string
  values that a block string literal can denote, no variables in constant values. -/
  def wf (isConst : Bool) : Val → Prop
    | var n => isConst = false ∧ validName n = true
    | int s => IsNum false s
    | float s => IsNum true s
    | str s b => (∀ c ∈ s, isScalar c = true) ∧ (b = true → BlockRepresentable s)
    | bool _ => True
    | null => True
    | enum n => validName n = true ∧ n ≠ S "true" ∧ n ≠ S "false" ∧ n ≠ S "null"
    | list vs => wfList isConst vs
    | obj fs => wfFields isConst fs
  def wfList (isConst : Bool) : List Val → Prop
    | [] => True
    | v :: vs => wf isConst v ∧ wfList isConst vs
  def wfFields (isConst : Bool) : List (List Nat × Val) → Prop
    | [] => True
    | (n, v) :: fs => validName n = true ∧ wf isConst v ∧ wfFields isConst fs
end

mutual
  /-- Well-formed = what `parse_value_literal(is_const)` can build: valid names and number
  texts, enum values other than `true`/`false`/`null`, strings of scalar values and verbatim surrogate pairs (`Paired`), block string
  values that a block string literal can denote, no variables in constant values. -/
  def wfP (isConst : Bool) : Val → Prop
    | var n => isConst = false ∧ validName n = true
    | int s => IsNum false s
    | float s => IsNum true s
    | str s b => Paired s ∧ (b = true → BlockRepresentable s)
    | bool _ => True
    | null => True
    | enum n => validName n = true ∧ n ≠ S "true" ∧ n ≠ S "false" ∧ n ≠ S "null"
    | list vs => wfPList isConst vs
    | obj fs => wfPFields isConst fs
  def wfPList (isConst : Bool) : List Val → Prop
    | [] => True
    | v :: vs => wfP isConst v ∧ wfPList isConst vs
  def wfPFields (isConst : Bool) : List (List Nat × Val) → Prop
    | [] => True
    | (n, v) :: fs => validName n = true ∧ wfP isConst v ∧ wfPFields isConst fs
end

end Val

mutual
  theorem Val.wfP_of_wf (c : Bool) : ∀ v : Val, Val.wf c v → Val.wfP c v
    | .var _, h => h
    | .int _, h => h
    | .float _, h => h
    | .str _ _, h => ⟨Paired.of_forall_scalar h.1, h.2⟩
    | .bool _, _ => trivial
    | .null, _ => trivial
    | .enum _, h => h
    | .list vs, h => Val.wfPList_of_wf c vs h
    | .obj fs, h => Val.wfPFields_of_wf c fs h
  theorem Val.wfPList_of_wf (c : Bool) : ∀ vs : List Val, Val.wfList c vs → Val.wfPList c vs
    | [], _ => trivial
    | v :: vs, h => ⟨Val.wfP_of_wf c v h.1, Val.wfPList_of_wf c vs h.2⟩
  theorem Val.wfPFields_of_wf (c : Bool) : ∀ fs : List (List Nat × Val), Val.wfFields c fs → Val.wfPFields c fs
    | [], _ => trivial
    | (_, v) :: fs, h => ⟨h.1, Val.wfP_of_wf c v h.2.1, Val.wfPFields_of_wf c fs h.2.2⟩
end

theorem validName_true : validName (S "true") = true ∧ validName (S "false") = true ∧
    validName (S "null") = true := by decide

theorem printFields_ne_of_long (w : Widths) (hw : 4 ≤ w.object) (fs : List (List Nat × Val))
    (hlong : ([123, 32] ++ join (Val.printFields w fs) [44, 32] ++ [32, 125]).length > w.object) :
    Val.printFields w fs ≠ [] := by
  intro h0
  rw [h0] at hlong
  simp [join, joinWith] at hlong
  omega

theorem Pc.number {fl : Bool} {s : List Nat} (h : IsNum fl s) :
    Pc s [(if fl then .float else .int, some s)] := by
  obtain ⟨a, r, rfl, _⟩ := isNum_head h
  exact .flat (Lexes.number fl _ h) (by simp) (isNum_no10 h)

section
variable (w : Widths) (hw : 4 ≤ w.object) (c : Bool)
variable (hT : tableOK Generated.escapeTable = true) (hC : tableComplete Generated.escapeTable = true)
include hw hT hC

mutual
  theorem pcV (v : Val) (h : Val.wfP c v) : Pc (Val.print w v) (Val.kvs v) := by
    match v, h with
    | .var n, h => exact .punct_then 36 .dollar (by decide) (by decide) (.name h.2)
    | .int s, h => exact .number (fl := false) h
    | .float s, h => exact .number (fl := true) h
    | .str s true, h =>
      exact ⟨by simp [Val.print, printBlockStringW], fun k => by
        simpa only [Val.print, ↓reduceIte, Val.kvs] using Lexes.blockP k w.block s h.1 (h.2 rfl)⟩
    | .str s false, h =>
      simp only [Val.print, Bool.false_eq_true, ↓reduceIte, Val.kvs]
      exact .flat (Lexes.stringP s h.1 hT hC) (by simp [printString, printStringWith]) (printString_no10 hT hC s)
    | .bool true, _ => exact .name validName_true.1
    | .bool false, _ => exact .name validName_true.2.1
    | .null, _ => exact .name validName_true.2.2
    | .enum n, h => exact .name h.1
    | .list vs, h =>
      have hI := itsList vs h
      simp only [Val.print, Val.kvs]
      split
      · exact hI.multi .bracket
      · simpa using hI.line .bracket [] (by simp)
    | .obj fs, h =>
      have hI := itsFields fs h
      simp only [Val.print, Val.kvs]
      split
      · -- an object is wrapped only when it has fields: `{  }` is 4 wide
        rename_i hlong
        exact hI.blockPc (printFields_ne_of_long w hw fs hlong)
      · simpa using hI.line .brace [32] (by simp)
  theorem itsList (vs : List Val) (h : Val.wfPList c vs) : Its (Val.printList w vs) (Val.kvsList vs) := by
    match vs, h with
    | [], _ => exact .nil
    | v :: vs', h => exact .cons (pcV v h.1) (itsList vs' h.2)
  theorem itsFields (fs : List (List Nat × Val)) (h : Val.wfPFields c fs) :
      Its (Val.printFields w fs) (Val.kvsFields fs) := by
    match fs, h with
    | [], _ => exact .nil
    | (n, v) :: fs', h => exact .cons (.named h.1 (pcV v h.2.1)) (itsFields fs' h.2.2)
end

theorem lexListP (vs : List Val) (h : Val.wfPList c vs) (k : Nat) (sep : List Nat) (hsep : Ignorable sep)
    (hne : sep ≠ []) :
    Lexes true (joinWith sep ((Val.printList w vs).map (indentLF k))) (Val.kvsList vs) :=
  (itsList w hw c hT hC vs h).lex k sep hsep hne

theorem lexFieldsP (fs : List (List Nat × Val)) (h : Val.wfPFields c fs) (k : Nat) (sep : List Nat)
    (hsep : Ignorable sep) (hne : sep ≠ []) :
    Lexes true (joinWith sep ((Val.printFields w fs).map (indentLF k))) (Val.kvsFields fs) :=
  (itsFields w hw c hT hC fs h).lex k sep hsep hne

theorem lexList (vs : List Val) (h : Val.wfList c vs) (k : Nat) (sep : List Nat) (hsep : Ignorable sep)
    (hne : sep ≠ []) :
    Lexes true (joinWith sep ((Val.printList w vs).map (indentLF k))) (Val.kvsList vs) :=
  lexListP w hw c hT hC vs (Val.wfPList_of_wf c vs h) k sep hsep hne

end

end Gql.Text
