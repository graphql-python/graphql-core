import Gql.Proofs.OverlapDfs
import Gql.Proofs.OverlapHyps
import Gql.Exec.SpecMergeIds
/-! C14, oracle = specification: the universe of states of a document.

Every field *position* of the document once, with the parent type the specification selects it
on (`Doc.allInsts`); the states the search can meet are pairs of those, and the fields below any
typed set are a sublist of it.  Field-node identities (`FieldNode.id`, Python object identity) are
pairwise different (`Doc.FieldIdsNodup`), so a state is determined by its key. -/
namespace Gql.Exec
open Overlap

mutual
/-- every field below a selection (through inline fragments and sub-selections, not through
spreads), each position once, with its parent type -/
def Sel.allInsts (s : Schema) (p : Option String) : Sel → List Spec.FieldInst
  | .field id al name args st hasSub subId sub =>
    ⟨p, ⟨id, al, name, args, st, hasSub, subId, sub⟩⟩ ::
      (if hasSub then selsAllInsts s ((Spec.fieldType s p name).map Ty.named) sub else [])
  | .inline tc _ sels =>
    selsAllInsts s (match tc with | some n => s.typeFromAst n | none => p) sels
  | .spread _ => []
def selsAllInsts (s : Schema) (p : Option String) : List Sel → List Spec.FieldInst
  | [] => []
  | x :: xs => x.allInsts s p ++ selsAllInsts s p xs
end

def Doc.allInsts (s : Schema) (d : Doc) : List Spec.FieldInst :=
  d.flatMap (fun df => selsAllInsts s (df.parent s) df.ss.sels)

mutual
theorem Sel.allInsts_ids (s : Schema) : ∀ (x : Sel) (p : Option String),
    (x.allInsts s p).map (·.node.id) = x.allIds
  | .field id al name args st hasSub subId sub, p => by
    cases hasSub
    · simp [Sel.allInsts, Sel.allIds]
    · simp [Sel.allInsts, Sel.allIds, selsAllInsts_ids s sub _]
  | .inline tc _ sels, p => by
    simpa [Sel.allInsts, Sel.allIds] using selsAllInsts_ids s sels _
  | .spread _, p => by simp [Sel.allInsts, Sel.allIds]
theorem selsAllInsts_ids (s : Schema) : ∀ (xs : List Sel) (p : Option String),
    (selsAllInsts s p xs).map (·.node.id) = selsAllIds xs
  | [], p => by simp [selsAllInsts, selsAllIds]
  | x :: xs, p => by
    simp [selsAllInsts, selsAllIds, Sel.allInsts_ids s x p, selsAllInsts_ids s xs p]
end

theorem Doc.allInsts_ids (s : Schema) (d : Doc) :
    (d.allInsts s).map (·.node.id) = d.fieldIds := by
  induction d with
  | nil => simp [Doc.allInsts, Doc.fieldIds]
  | cons df rest ih =>
    simp only [Doc.allInsts, Doc.fieldIds, List.flatMap_cons, List.map_append] at ih ⊢
    rw [ih, selsAllInsts_ids]

mutual
theorem Sel.allInsts_length (s : Schema) : ∀ (x : Sel) (p : Option String),
    (x.allInsts s p).length ≤ Spec.countFieldsSel x
  | .field id al name args st hasSub subId sub, p => by
    cases hasSub
    · simp [Sel.allInsts, Spec.countFieldsSel]
    · have := selsAllInsts_length s sub ((Spec.fieldType s p name).map Ty.named)
      simp only [Sel.allInsts, if_true, List.length_cons, Spec.countFieldsSel]
      omega
  | .inline tc _ sels, p => by
    simpa [Sel.allInsts, Spec.countFieldsSel] using selsAllInsts_length s sels _
  | .spread _, p => by simp [Sel.allInsts]
theorem selsAllInsts_length (s : Schema) : ∀ (xs : List Sel) (p : Option String),
    (selsAllInsts s p xs).length ≤ Spec.countFieldsSels xs
  | [], p => by simp [selsAllInsts]
  | x :: xs, p => by
    have h1 := Sel.allInsts_length s x p
    have h2 := selsAllInsts_length s xs p
    simp only [selsAllInsts, List.length_append, Spec.countFieldsSels]
    omega
end

theorem countFields_cons (df : Defn) (rest : Doc) :
    Spec.countFields (df :: rest) = Spec.countFieldsSels df.ss.sels + Spec.countFields rest := by
  cases df <;> simp [Spec.countFields, Defn.ss]

theorem Doc.allInsts_length (s : Schema) (d : Doc) :
    (d.allInsts s).length ≤ Spec.countFields d := by
  induction d with
  | nil => simp [Doc.allInsts]
  | cons df rest ih =>
    have h1 := selsAllInsts_length s df.ss.sels (df.parent s)
    have e1 : Doc.allInsts s (df :: rest) =
        selsAllInsts s (df.parent s) df.ss.sels ++ Doc.allInsts s rest := by simp [Doc.allInsts]
    rw [e1, countFields_cons, List.length_append]
    omega

mutual
theorem Sel.flat_sublist_allInsts (s : Schema) : ∀ (x : Sel) (p : Option String),
    (x.flat s p).Sublist (x.allInsts s p)
  | .field .., p => by simp [Sel.flat, Sel.allInsts]
  | .inline tc _ sels, p => by
    simp only [Sel.flat, Sel.allInsts]
    exact selsFlat_sublist_allInsts s sels _
  | .spread _, p => by simp [Sel.flat]
theorem selsFlat_sublist_allInsts (s : Schema) : ∀ (xs : List Sel) (p : Option String),
    (selsFlat s p xs).Sublist (selsAllInsts s p xs)
  | [], p => by simp [selsFlat]
  | x :: xs, p => (Sel.flat_sublist_allInsts s x p).append (selsFlat_sublist_allInsts s xs p)
end

theorem Sel.flat_sub_allInsts (s : Schema) : ∀ (x : Sel) (p : Option String),
    x.flat s p ⊆ x.allInsts s p :=
  fun x p => (Sel.flat_sublist_allInsts s x p).subset

mutual
theorem Sel.typedSets_allInsts_sublist (s : Schema) : ∀ (x : Sel) (p : Option String)
    (t : Option String × SelSet), t ∈ x.typedSets s p →
      (selsAllInsts s t.1 t.2.sels).Sublist (x.allInsts s p)
  | .field id al name args st hasSub subId sub, p, t, h => by
    cases hasSub with
    | false => simp [Sel.typedSets] at h
    | true =>
      simp only [Sel.typedSets, if_true, List.mem_cons] at h
      simp only [Sel.allInsts, if_true]
      rcases h with rfl | h
      · exact List.sublist_cons_self _ _
      · exact (selsTypedSets_allInsts_sublist s sub _ t h).cons _
  | .inline tc ssId sels, p, t, h => by
    simp only [Sel.typedSets, List.mem_cons] at h
    simp only [Sel.allInsts]
    rcases h with rfl | h
    · exact List.Sublist.refl _
    · exact selsTypedSets_allInsts_sublist s sels _ t h
  | .spread _, p, t, h => by simp [Sel.typedSets] at h
theorem selsTypedSets_allInsts_sublist (s : Schema) : ∀ (xs : List Sel) (p : Option String)
    (t : Option String × SelSet), t ∈ selsTypedSets s p xs →
      (selsAllInsts s t.1 t.2.sels).Sublist (selsAllInsts s p xs)
  | [], p, t, h => by simp [selsTypedSets] at h
  | x :: xs, p, t, h => by
    simp only [selsTypedSets, List.mem_append] at h
    rcases h with h | h
    · exact (Sel.typedSets_allInsts_sublist s x p t h).trans (List.sublist_append_left _ _)
    · exact (selsTypedSets_allInsts_sublist s xs p t h).trans (List.sublist_append_right _ _)
end

theorem Sel.typedSets_allInsts (s : Schema) : ∀ (x : Sel) (p : Option String)
    (t : Option String × SelSet), t ∈ x.typedSets s p →
      selsAllInsts s t.1 t.2.sels ⊆ x.allInsts s p :=
  fun x p t h => (Sel.typedSets_allInsts_sublist s x p t h).subset

/-- the fields below a typed set of the document are among the fields of the document, each
position once: this bounds their number too -/
theorem Doc.typedSets_allInsts_sublist {s : Schema} {d : Doc} {t : Option String × SelSet}
    (ht : t ∈ d.typedSets s) : (selsAllInsts s t.1 t.2.sels).Sublist (d.allInsts s) := by
  obtain ⟨df, hdf, hcase⟩ := Doc.mem_typedSets ht
  rw [Doc.allInsts, List.flatMap_def]
  refine List.Sublist.trans ?_ (List.sublist_flatten_of_mem (List.mem_map_of_mem hdf))
  rcases hcase with rfl | hin
  · exact List.Sublist.refl _
  · exact selsTypedSets_allInsts_sublist s _ _ t hin

theorem DocInst.mem_allInsts {s : Schema} {d : Doc} {a : Spec.FieldInst} (h : DocInst s d a) :
    a ∈ d.allInsts s := by
  obtain ⟨t, ht, ha⟩ := h
  exact (Doc.typedSets_allInsts_sublist ht).subset ((selsFlat_sublist_allInsts s _ _).subset ha)

theorem DocInst.eq_of_id {s : Schema} {d : Doc} (hF : d.FieldIdsNodup) {a b : Spec.FieldInst}
    (ha : DocInst s d a) (hb : DocInst s d b) (e : a.node.id = b.node.id) : a = b := by
  have hn : ((d.allInsts s).map (fun x => x.node.id)).Nodup := by
    rw [Doc.allInsts_ids]; exact hF
  exact eq_of_nodup_map (fun (x : Spec.FieldInst) => x.node.id) hn ha.mem_allInsts
    hb.mem_allInsts e

theorem DocState.key_inj {s : Schema} {d : Doc} (hF : d.FieldIdsNodup) {x y : Spec.State}
    (hx : DocState s d x) (hy : DocState s d y) (e : x.key = y.key) : x = y := by
  simp only [Spec.State.key, Prod.mk.injEq] at e
  obtain ⟨e1, e2, e3⟩ := e
  have ha := DocInst.eq_of_id hF hx.1 hy.1 e1
  have hb := DocInst.eq_of_id hF hx.2 hy.2 e2
  cases x; cases y
  simp_all

theorem dfs_init_iff {s : Schema} {d : Doc} (hF : d.FieldIdsNodup) (n : Nat) (b : Bool)
    (h : Spec.dfs s d n [] (Spec.initStates s d) = some b) :
    b = true ↔ Spec.SpecConflict s d := by
  cases b with
  | true =>
    simp only [true_iff]
    exact dfs_sound s d n [] _ h
  | false =>
    simp only [Bool.false_eq_true, false_iff]
    exact dfs_complete s d (DocState s d) (fun x hx => hx.succs)
      (fun x y hx hy e => DocState.key_inj hF hx hy e) n _ (fun x hx => DocState.init hx) h

end Gql.Exec
