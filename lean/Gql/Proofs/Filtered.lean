import Gql.Async.Plan
/-!
Characterisation of `getFilteredDeferUsageSet` (model of `get_filtered_defer_usage_set`):
the defer usages of the fields that have no proper ancestor among them.
-/
namespace Gql.Async.Plan

variable (parentOf : Nat → Option Nat)

theorem Ancestor.lt (hwf : ∀ d p, parentOf d = some p → p < d) {a d : Nat}
    (h : Ancestor parentOf a d) : a < d := by
  induction h with
  | parent hp => exact hwf _ _ hp
  | step hp _ ih => exact Nat.lt_trans ih (hwf _ _ hp)

theorem Ancestor.trans {a b d : Nat} (h1 : Ancestor parentOf a b) (h2 : Ancestor parentOf b d) :
    Ancestor parentOf a d := by
  induction h2 with
  | parent hp => exact Ancestor.step hp h1
  | step hp _ ih => exact Ancestor.step hp ih

theorem exists_ancestor_iff (s : DeferUsageSet) (d : Nat) :
    (∃ a ∈ s, Ancestor parentOf a d) ↔
      ∃ q, parentOf d = some q ∧ (q ∈ s ∨ ∃ a ∈ s, Ancestor parentOf a q) := by
  constructor
  · rintro ⟨a, has, ha⟩
    cases ha with
    | parent h => exact ⟨a, h, .inl has⟩
    | step h hr => exact ⟨_, h, .inr ⟨a, has, hr⟩⟩
  · rintro ⟨q, hq, hqs | ⟨a, has, ha⟩⟩
    · exact ⟨q, hqs, .parent hq⟩
    · exact ⟨a, has, .step hq ha⟩

/-- with enough fuel the parent walk from `o` finds exactly `o` itself or its proper ancestors -/
theorem ancestorIn_iff (hwf : ∀ d p, parentOf d = some p → p < d) (s : DeferUsageSet) :
    ∀ (fuel : Nat) (o : Option Nat), (∀ p, o = some p → p < fuel) →
      (ancestorIn parentOf s fuel o = true ↔
        ∃ p, o = some p ∧ (p ∈ s ∨ ∃ a ∈ s, Ancestor parentOf a p))
  | 0, none, _ => by simp [ancestorIn]
  | 0, some p, h => absurd (h p rfl) (Nat.not_lt_zero _)
  | fuel + 1, none, _ => by simp [ancestorIn]
  | fuel + 1, some p, h => by
    simp only [ancestorIn, Option.some.injEq, exists_eq_left']
    by_cases hp : p ∈ s
    · simp [hp]
    · rw [if_neg hp, ancestorIn_iff hwf s fuel (parentOf p) (fun q hq => by
        have := hwf p q hq; have := h p rfl; omega), exists_ancestor_iff]
      simp [hp]

theorem ancestorIn_parent (hwf : ∀ d p, parentOf d = some p → p < d) (s : DeferUsageSet)
    (fuel d : Nat) (hd : d < fuel) :
    ancestorIn parentOf s fuel (parentOf d) = true ↔ ∃ a ∈ s, Ancestor parentOf a d := by
  rw [ancestorIn_iff parentOf hwf s fuel _ (fun q hq => by have := hwf d q hq; omega),
    exists_ancestor_iff]

/-- the invariant of the second loop: nothing is removed unless it has an ancestor in `s` -/
structure Good (s live : DeferUsageSet) : Prop where
  sub : ∀ x ∈ live, x ∈ s
  nodup : live.Nodup
  removed : ∀ x ∈ s, x ∉ live → ∃ a ∈ s, Ancestor parentOf a x

variable {parentOf}

/-- climbing from an ancestor in `s` that was removed to the ancestor it was removed for ends in
`live` (`n` bounds the climb) -/
theorem Good.ancestor_live (hwf : ∀ d p, parentOf d = some p → p < d) {s live : DeferUsageSet}
    (hg : Good parentOf s live) {d : Nat} :
    ∀ (n a : Nat), a < n → a ∈ s → Ancestor parentOf a d → ∃ r ∈ live, Ancestor parentOf r d
  | 0, _, h, _, _ => by omega
  | n + 1, a, h, has, had => by
    by_cases hl : a ∈ live
    · exact ⟨a, hl, had⟩
    · obtain ⟨b, hbs, hba⟩ := hg.removed a has hl
      exact hg.ancestor_live hwf n b (by have := hba.lt parentOf hwf; omega) hbs
        (hba.trans parentOf had)

/-- so the loop's test against the live set is a test against `s` -/
theorem Good.ancestor_iff (hwf : ∀ d p, parentOf d = some p → p < d) {s live : DeferUsageSet}
    (hg : Good parentOf s live) (d : Nat) :
    (∃ a ∈ live, Ancestor parentOf a d) ↔ ∃ a ∈ s, Ancestor parentOf a d :=
  ⟨fun ⟨a, hal, had⟩ => ⟨a, hg.sub a hal, had⟩,
    fun ⟨a, has, had⟩ => hg.ancestor_live hwf (a + 1) a (by omega) has had⟩

theorem Good.erase {s live : DeferUsageSet} (hg : Good parentOf s live) {d : Nat}
    (hd : ∃ a ∈ s, Ancestor parentOf a d) : Good parentOf s (live.erase d) :=
  ⟨fun x hx => hg.sub x (List.mem_of_mem_erase hx), hg.nodup.erase d, fun x hxs hx => by
    by_cases hxd : x = d
    · exact hxd ▸ hd
    · exact hg.removed x hxs fun hin => hx ((List.mem_erase_of_ne hxd).mpr hin)⟩

variable (parentOf)

/-- the second loop removes from `live` exactly the elements of `todo` with an ancestor in `s` -/
theorem mem_pruneChildren (hwf : ∀ d p, parentOf d = some p → p < d) (fuel : Nat)
    (s : DeferUsageSet) (hfuel : ∀ d ∈ s, d < fuel) (x : Nat) :
    ∀ (todo live : DeferUsageSet), Good parentOf s live → (∀ d ∈ todo, d ∈ s) →
      (x ∈ pruneChildren parentOf fuel todo live ↔
        x ∈ live ∧ (x ∈ todo → ¬ ∃ a ∈ s, Ancestor parentOf a x))
  | [], live, _, _ => by simp [pruneChildren]
  | d :: rest, live, hg, htodo => by
    have hrest : ∀ y ∈ rest, y ∈ s := fun y hy => htodo y (by simp [hy])
    have htest := (ancestorIn_parent parentOf hwf live fuel d (hfuel d (htodo d (by simp)))).trans
      (hg.ancestor_iff hwf d)
    by_cases hd : ∃ a ∈ s, Ancestor parentOf a d
    · rw [pruneChildren, if_pos (htest.mpr hd),
        mem_pruneChildren hwf fuel s hfuel x rest _ (hg.erase hd) hrest, hg.nodup.mem_erase_iff]
      by_cases hxd : x = d <;> simp [hxd, hd]
    · rw [pruneChildren, if_neg (mt htest.mp hd),
        mem_pruneChildren hwf fuel s hfuel x rest live hg hrest]
      by_cases hxd : x = d <;> simp [hxd, hd]

theorem setAdd_mem (s : DeferUsageSet) (d x : Nat) : x ∈ setAdd s d ↔ x ∈ s ∨ x = d := by
  unfold setAdd
  split
  · constructor
    · exact Or.inl
    · rintro (h | rfl) <;> assumption
  · simp

theorem setAdd_nodup (s : DeferUsageSet) (d : Nat) (h : s.Nodup) : (setAdd s d).Nodup := by
  unfold setAdd
  split
  · exact h
  · rename_i hd
    exact List.nodup_append.mpr ⟨h, by simp, by
      intro a ha b hb
      simp only [List.mem_singleton] at hb
      subst hb
      exact fun e => hd (e ▸ ha)⟩

theorem collectUsages_some (fdl : FieldDetailsList) :
    ∀ acc, (∀ fd ∈ fdl, fd.deferUsage.isSome) → acc.Nodup →
      ∃ s, collectUsages fdl acc = some s ∧ s.Nodup ∧
        ∀ x, x ∈ s ↔ x ∈ acc ∨ x ∈ fdl.filterMap (·.deferUsage) := by
  induction fdl with
  | nil => intro acc _ hnd; exact ⟨acc, rfl, hnd, by simp⟩
  | cons fd rest ih =>
    intro acc hall hnd
    have hfd := hall fd (by simp)
    cases hd : fd.deferUsage with
    | none => simp [hd] at hfd
    | some d =>
      obtain ⟨s, hs, hsnd, hmem⟩ := ih (setAdd acc d) (fun f hf => hall f (by simp [hf])) (setAdd_nodup acc d hnd)
      refine ⟨s, by simp [collectUsages, hd, hs], hsnd, ?_⟩
      intro x
      rw [hmem x, setAdd_mem, List.filterMap_cons, hd, List.mem_cons, or_assoc]

/-- **`get_filtered_defer_usage_set`, all fields deferred**: exactly the usages of the fields that
have no proper ancestor among the usages of the fields. -/
theorem filtered_spec (hwf : ∀ d p, parentOf d = some p → p < d) (fuel : Nat)
    (fdl : FieldDetailsList) (hall : ∀ fd ∈ fdl, fd.deferUsage.isSome)
    (hfuel : ∀ fd ∈ fdl, ∀ d, fd.deferUsage = some d → d < fuel) (d : Nat) :
    d ∈ getFilteredDeferUsageSet parentOf fuel fdl ↔
      d ∈ fdl.filterMap (·.deferUsage) ∧
        ¬ ∃ a ∈ fdl.filterMap (·.deferUsage), Ancestor parentOf a d := by
  obtain ⟨s, hs, hsnd, hmem⟩ := collectUsages_some fdl [] hall (by simp)
  have hmem' : ∀ x, x ∈ s ↔ x ∈ fdl.filterMap (·.deferUsage) := by simpa using hmem
  have hf : ∀ x ∈ s, x < fuel := by
    intro x hx
    obtain ⟨fd, hfd, he⟩ := List.mem_filterMap.mp ((hmem' x).mp hx)
    exact hfuel fd hfd x he
  rw [getFilteredDeferUsageSet, hs, mem_pruneChildren parentOf hwf fuel s hf d s s
    ⟨fun _ h => h, hsnd, fun x hx hn => absurd hx hn⟩ (fun _ h => h)]
  simp only [hmem']
  exact and_congr_right fun h => ⟨fun h' => h' h, fun h' _ => h'⟩

end Gql.Async.Plan
