import Gql.Proofs.BlockPrinter
/-!
C08-2: `print_block_string` followed by the lexer's `read_block_string` is the identity on
block-representable values of Unicode scalar values and surrogate pairs, for every width, both
settings of `minimize`, and wherever the literal stands in a text.  The printed literal is `"""`,
the escaped form of a raw text `pbsRaw` (`before ++ v ++ after`), `"""`; the printer's choices of
`before` and `after` make that text a raw text of `v` (`pbsRaw_rawOf`), and `scan_raw` does the rest.
-/
namespace Gql.Text

theorem pbsBefore_cases (f : PbsFlags) : pbsBefore f = [] ∨ pbsBefore f = [10] := by
  unfold pbsBefore; split <;> simp

theorem pbsAfter_cases (f : PbsFlags) : pbsAfter f = [] ∨ pbsAfter f = [10] := by
  unfold pbsAfter; split <;> simp

theorem emptyOrIndented_false_iff (x : List Nat) : emptyOrIndented x = false ↔ Unindented x := by
  rw [← startsUnindented_iff]
  cases x with
  | nil => simp [emptyOrIndented, startsUnindented]
  | cons c r => simp [emptyOrIndented, startsUnindented, isBlankCh]

theorem pbsAfter_of_endsOpen (w : Nat) (v : List Nat) (m : Bool) (h : endsOpen v = true) :
    pbsAfter (pbsFlags w v m) = [10] := by
  have hf : (pbsFlags w v m).forceTrailingNewLine = true := by
    rcases endsOpen_forces v h with h92 | ⟨h34, hns⟩
    · have : endsWith v [92] = true := (endsWith_single v 92).mpr h92
      simp [pbsFlags, this]
    · have h1 : endsWith v [34] = true := (endsWith_single v 34).mpr h34
      have h2 : endsWith (escapeTQ v) [92, 34, 34, 34] = false := by
        unfold endsWith
        cases hb : List.isSuffixOf [92, 34, 34, 34] (escapeTQ v) with
        | false => rfl
        | true => exact absurd (List.isSuffixOf_iff_suffix.mp hb) hns
      simp [pbsFlags, h1, h2]
  simp [pbsAfter, hf]

/-- An empty line for every line feed of `before` or `after`. -/
def afterLines (after : List Nat) : List (List Nat) := after.map (fun _ => [])

/-- The printer's choice of `before` is compatible with the dedentation of the lexer: among the lines
after the first of `before ++ v`, if there are any, one is not indented. -/
theorem before_cond (w : Nat) (v : List Nat) (m : Bool) (h13 : ∀ c ∈ v, c ≠ 13)
    {l0 : List Nat} {M : List (List Nat)} (hL : splitLF v = l0 :: M) (h0 : ¬ Blank l0)
    (hU : M = [] ∨ ∃ x ∈ splitLF v, Unindented x) :
    (afterLines (pbsBefore (pbsFlags w v m)) ++ splitLF v).tail = [] ∨
      ∃ x ∈ (afterLines (pbsBefore (pbsFlags w v m)) ++ splitLF v).tail, Unindented x := by
  have hlines : reSplitNL (escapeTQ v) = escapeTQ l0 :: M.map escapeTQ := by
    rw [reSplitNL_escapeTQ v h13, hL]; rfl
  have hall : (M.map escapeTQ).all emptyOrIndented = M.all emptyOrIndented := by
    rw [List.all_map]; congr 1; funext x; exact emptyOrIndented_escapeTQ x
  -- the two flags that decide `before`, by the lines of `v`
  have hFL : (pbsFlags w v m).forceLeadingNewLine = (!M.isEmpty && M.all emptyOrIndented) := by
    simp only [pbsFlags, hlines, List.drop_one, List.tail_cons, hall, List.length_cons, List.length_map]
    cases M <;> simp
  have hSK : (pbsFlags w v m).skipLeadingNewLine = (M.isEmpty && startsBlank v) := by
    cases M <;> simp [pbsFlags, hlines]
  unfold pbsBefore
  split
  · rename_i hc
    refine .inr (?_ : ∃ x ∈ splitLF v, Unindented x)
    refine hU.elim (fun hM => ?_) id
    -- one line: the leading line feed was not skipped, so the value does not start with a blank
    subst hM
    have hv : l0 = v := by
      have := joinLines_linesFrom v []
      rw [linesFrom_nil, hL] at this
      simpa [joinLines] using this
    subst hv
    simp only [hFL, hSK, List.isEmpty_nil, Bool.not_true, Bool.false_and, Bool.or_false, Bool.true_and,
      Bool.and_eq_true, Bool.not_eq_true'] at hc
    refine ⟨l0, by simp [hL], h0, ?_⟩
    cases l0 with
    | nil => rfl
    | cons c r => simpa [startsBlank, isBlankCh, leadingWhiteSpace] using hc.2
  · rename_i hc
    simp only [Bool.or_eq_true, not_or, Bool.not_eq_true, hFL] at hc
    rw [hL]
    show M = [] ∨ ∃ x ∈ M, Unindented x
    cases M with
    | nil => exact .inl rfl
    | cons y ys =>
      obtain ⟨x, hx, he⟩ := List.all_eq_false.mp (hc.2 : (y :: ys).all emptyOrIndented = false)
      exact .inr ⟨x, hx, (emptyOrIndented_false_iff x).mp (by simpa using he)⟩
theorem dedent_printed (w : Nat) (v : List Nat) (m : Bool) (hne : v ≠ []) (hrep : BlockRepresentable v) :
    dedentBlockStringLines
      (afterLines (pbsBefore (pbsFlags w v m)) ++ splitLF v ++ afterLines (pbsAfter (pbsFlags w v m))) =
      splitLF v := by
  obtain ⟨h13, l0, lN, hhd, hlast, h0, hN, hU⟩ := ((blockRepresentable_iff v).mp hrep).resolve_left hne
  obtain ⟨M, hL⟩ := List.head?_eq_some_iff.mp hhd
  obtain ⟨xs, hxs⟩ := List.getLast?_eq_some_iff.mp hlast
  have hnil : ∀ s : List Nat, ∀ x ∈ afterLines s, x = [] := by simp [afterLines]
  have hblank : ∀ s : List Nat, ∀ x ∈ afterLines s, Blank x := fun s x hx => hnil s x hx ▸ blank_nil
  have hT := before_cond w v m h13 hL h0 (hU.imp_left fun h => by simpa [hL] using h)
  generalize pbsBefore (pbsFlags w v m) = before at hT ⊢
  generalize pbsAfter (pbsFlags w v m) = after
  obtain ⟨hd, T, hB⟩ := List.exists_cons_of_ne_nil (l := afterLines before ++ splitLF v) (by simp [hL])
  rw [hB, List.tail_cons] at hT
  -- nothing is cut off the later lines, by the printer's choice of `before`; then the empty lines
  -- around the lines of `v` are trimmed
  have hcut : (T ++ afterLines after).map (cut (cmin none (T ++ afterLines after))) = T ++ afterLines after := by
    rcases hT with rfl | ⟨x, hx, hu⟩
    · exact map_cut_nils _ (hnil after)
    · exact map_cut_cmin_of_unindented (List.mem_append_left _ hx) hu
  rw [hB, List.cons_append, dedent_eq_trim, hcut, ← List.cons_append, ← hB]
  exact trim_sandwich (hblank before) (hblank after) hL h0 hxs hN

theorem BlockRepresentable.no_cr {v : List Nat} (hrep : BlockRepresentable v) : ∀ c ∈ v, c ≠ 13 := by
  intro c hc
  exact (((blockRepresentable_iff v).mp hrep).resolve_left (List.ne_nil_of_mem hc)).1 c hc

/-- The raw text of a printed literal: what stands, escaped, between its quotes. -/
def pbsRaw (w : Nat) (v : List Nat) (m : Bool) : List Nat :=
  pbsBefore (pbsFlags w v m) ++ (v ++ pbsAfter (pbsFlags w v m))

theorem pbsRaw_closed (w : Nat) (v : List Nat) (m : Bool) :
    escapeTQ (pbsRaw w v m) = pbsBefore (pbsFlags w v m) ++ (escapeTQ v ++ pbsAfter (pbsFlags w v m)) ∧
      endsOpen (pbsRaw w v m) = false := by
  have hopen := pbsAfter_of_endsOpen w v m
  unfold pbsRaw
  generalize pbsFlags w v m = f at hopen ⊢
  -- a value that ends open gets the trailing line feed
  have hva : escapeTQ (v ++ pbsAfter f) = escapeTQ v ++ pbsAfter f ∧ endsOpen (v ++ pbsAfter f) = false := by
    rcases pbsAfter_cases f with hA | hA <;> rw [hA] at hopen ⊢
    · refine ⟨by simp, ?_⟩
      cases h : endsOpen v with
      | false => simpa using h
      | true => cases hopen h
    · exact ⟨by rw [escapeTQ_append_noq _ _ (by simp)]; rfl,
        endsOpen_append_noq v [10] (by simp) (by simp)⟩
  rcases pbsBefore_cases f with hB | hB <;> rw [hB]
  · exact hva
  · refine ⟨by rw [List.singleton_append, escapeTQ_ne _ (by decide), hva.1]; rfl, ?_⟩
    by_cases h : v ++ pbsAfter f = []
    · rw [h]; rfl
    · rw [List.singleton_append, endsOpen_ne _ (by decide) h]; exact hva.2

/-- The printed literal is the escaped form of its raw text between quotes. -/
theorem printed_raw (w : Nat) (v : List Nat) (m : Bool) :
    printBlockStringW w v m = [34, 34, 34] ++ (escapeTQ (pbsRaw w v m) ++ [34, 34, 34]) := by
  rw [(pbsRaw_closed w v m).1]
  simp [printBlockStringW]

theorem linesFrom_wrap (before v after : List Nat) (hb : before = [] ∨ before = [10])
    (ha : after = [] ∨ after = [10]) :
    linesFrom [] (before ++ (v ++ after)) = afterLines before ++ splitLF v ++ afterLines after := by
  have h1 : linesFrom [] (v ++ after) = splitLF v ++ afterLines after := by
    rcases ha with rfl | rfl
    · simp [afterLines, linesFrom_nil]
    · rw [linesFrom_append_lf, linesFrom_nil]; rfl
  rcases hb with rfl | rfl
  · simpa [afterLines] using h1
  · simp [afterLines, linesFrom, h1]

/-- The raw text of the printed literal of a block-representable `Paired` value is a raw text of
that value: the printer's `before` and `after` add blank lines, which the dedentation removes
again. -/
theorem pbsRaw_rawOf (w : Nat) {v : List Nat} (m : Bool) (hv : Pairs.Paired v) (hrep : BlockRepresentable v) :
    RawOf v (pbsRaw w v m) := by
  have hB := pbsBefore_cases (pbsFlags w v m)
  have hA := pbsAfter_cases (pbsFlags w v m)
  have h10 : ∀ {x : List Nat}, x = [] ∨ x = [10] → Pairs.Paired x ∧ ∀ c ∈ x, c ≠ 13 := by
    rintro x (rfl | rfl) <;> exact ⟨by decide, by simp⟩
  refine ⟨.append (h10 hB).1 (.append hv (h10 hA).1), fun c hc => ?_, (pbsRaw_closed w v m).2, ?_⟩
  · simp only [pbsRaw, List.mem_append] at hc
    rcases hc with hc | hc | hc
    · exact (h10 hB).2 c hc
    · exact hrep.no_cr c hc
    · exact (h10 hA).2 c hc
  rw [pbsRaw, linesFrom_wrap _ v _ hB hA]
  by_cases hne : v = []
  · subst hne
    have hB : pbsBefore (pbsFlags w [] m) = [] := by simp [pbsFlags, pbsBefore, escapeTQ, reSplitNL, endsWith, startsBlank]
    have hA : pbsAfter (pbsFlags w [] m) = [] := by simp [pbsFlags, pbsAfter, escapeTQ, reSplitNL, endsWith]
    rw [hB, hA]
    rfl
  · rw [dedent_printed w v m hne hrep, ← linesFrom_nil, joinLines_linesFrom, List.nil_append]

/-- `print_block_string` followed by the lexer's block string loop is the identity on
block-representable `Paired` values (any width, both settings of `minimize`), wherever the literal
stands in a text. -/
theorem printBlockStringW_roundtrip_loop_at (w : Nat) (v : List Nat) (m : Bool) (body rest : List Nat)
    (p : Nat) (st : LexState) (start ls : Nat) (hbody : body.drop p = printBlockStringW w v m ++ rest)
    (hv : Pairs.Paired v) (hrep : BlockRepresentable v) :
    tokOf (readBlockStringLoop body st start (p + 3) (p + 3) ls [] []) =
      .ok (mkToken st .blockString start (p + (printBlockStringW w v m).length) (some v)) := by
  rw [printed_raw] at hbody ⊢
  exact scan_raw (pbsRaw_rawOf w m hv hrep) body st start p ls rest hbody

end Gql.Text
