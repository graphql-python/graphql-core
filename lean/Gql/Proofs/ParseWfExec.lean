import Gql.Proofs.ParseWfValue
import Gql.Proofs.ExecParse
/-!
C08, converse direction (`parse_wf`) for the first layers of the document grammar: arguments,
directives (constant or not) and selection sets (fields with alias / arguments / directives / nested
selection sets, fragment spreads without arguments, inline fragments).  Whatever
`parse_arguments`, `parse_directives`, `parse_selection_set` return from a parser state over the
tokens of a source text without surrogates is the tree of a well-formed typed tree
(`Exec.argsWfC`, `Exec.dirsWfC`, `Exec.selsWf`).
-/
namespace Gql.Syntax
open Gql Gql.Text

section
variable {body : List Nat} {cfg : Cfg} {item : P Ast} {R : Ast → Prop} (hitem : ItemWp body item R)
  {s : PS} (n : Nat) (o c : TokKind)
include hitem

/-- `optional_many`: `None`, or a non-empty tuple of items; as an attribute, the optional list of the items. -/
theorem parseOptionalMany_vinv : Wp body (parseOptionalMany cfg n o item c) s fun r _ =>
    ∃ xs, (∀ x ∈ xs, R x) ∧ optListO r = optL xs :=
  (expectOptionalToken_vinv o).step fun opened s1 _ => by
    cases opened with
    | false => exact .pure ⟨[], nofun, rfl⟩
    | true =>
      exact (hitem s1).step fun x s2 hx =>
        (untilClose_vinv hitem c n [x] s2 (by simpa using hx)).step fun xs _ ⟨hall, ys, e⟩ =>
          .pure ⟨xs, hall, by simp [e, optListO, optL]⟩

/-- `many`: a non-empty tuple of items. -/
theorem parseMany_vinv : Wp body (parseMany cfg n o item c) s fun xs _ => xs ≠ [] ∧ ∀ x ∈ xs, R x :=
  (expectToken_vinv o).step fun _ s1 _ => (hitem s1).step fun x s2 hx =>
    (untilClose_vinv hitem c n [x] s2 (by simpa using hx)).mono fun _ _ ⟨hall, ys, e⟩ => ⟨by simp [e], hall⟩

end

theorem optName_of_valid {n : List Nat} (h : validName n = true) : optName n = Val.nameNode n := by
  cases n with
  | nil => exact absurd rfl (validName_ne_nil h)
  | cons x r => rfl

section
variable {body : List Nat} {cfg : Cfg} {s : PS}

theorem parseFragmentName_vinv : Wp body (parseFragmentName cfg) s fun a _ =>
    ∃ n, validName n = true ∧ n ≠ S "on" ∧ a = Val.nameNode n := by
  rw [parseFragmentName]
  exact .cur <| .ite (fun _ => .unexpected) fun hon => parseName_vinv.mono fun _ _ ⟨n, hn, hv, e⟩ =>
    ⟨n, hn, fun he => hon ((valueIs_iff hv "on").mpr he), e⟩

theorem expectOptionalKeyword_vinv (v : String) : Wp body (expectOptionalKeyword cfg v) s fun _ _ => True := by
  rw [expectOptionalKeyword]
  exact .cur <| .ite (fun _ => advanceLexer_vinv.step fun _ _ _ => .pure trivial) fun _ => .pure trivial

theorem parseNamedType_vinv : Wp body (parseNamedType cfg) s fun a _ => ∃ n, validName n = true ∧ a = namedType n :=
  parseName_vinv.step fun _ _ ⟨n, hn, _, e⟩ => .pure ⟨n, hn, by simp [e, mk_namedType, namedType]⟩

end

section
variable {body : List Nat} (hsrc : ∀ x ∈ body, isSurr x = false) {cfg : Cfg}
include hsrc

theorem valueLit_vwf (c : Bool) (n : Nat) :
    ItemWp body (valueLit n cfg c) fun a => ∃ v : Val, Val.wf c v ∧ a = v.toAst := fun s =>
  (valueLit_vinv c n s).mono fun _ _ ⟨v, hv, e⟩ =>
    ⟨v, Val.wf_of_wfG (ChOk body) (fun _ hc => ChOk.isScalar hsrc hc) c v hv, e⟩

theorem parseArgument_vinv (n : Nat) (c : Bool) :
    ItemWp body (parseArgument cfg n "ArgumentNode" c) fun a => ∃ p : List Nat × Val,
      (validName p.1 = true ∧ Val.wf c p.2) ∧
        a = .node "ArgumentNode" [("name", Val.nameNode p.1), ("value", p.2.toAst)] := fun _ =>
  parseName_vinv.step fun _ _ ⟨nm, hnm, _, e1⟩ => (expectToken_vinv .colon).step fun _ _ _ =>
    (valueLit_vwf hsrc c n _).step fun _ _ ⟨v, hv, e3⟩ => .pure ⟨(nm, v), ⟨hnm, hv⟩, by simp [e1, e3, mk_arg]⟩

theorem parseArguments_vinv {s : PS} (n : Nat) (c : Bool) :
    Wp body (parseArguments cfg n c) s fun o _ =>
      ∃ as : Args, Exec.argsWfC c as ∧ optListO o = optL (Exec.argsAst as) :=
  (parseOptionalMany_vinv (parseArgument_vinv hsrc n c) n .parenL .parenR).mono fun o _ ⟨xs, hall, e⟩ => by
    obtain ⟨as, has, rfl⟩ := exists_list_of_forall (Ws := Exec.argsWfC c) (asts := Exec.argsAst)
      ⟨trivial, rfl⟩ (fun _ _ hb hbs => ⟨⟨hb.1, hb.2, hbs⟩, rfl⟩) xs hall
    exact ⟨as, has, e⟩

theorem parseDirective_vinv (n : Nat) (c : Bool) :
    ItemWp body (parseDirective cfg n c) fun a => ∃ d : Dir, Exec.dirWfC c d ∧ a = Exec.dirAst d := fun _ =>
  (expectToken_vinv .at).step fun _ _ _ => parseName_vinv.step fun _ _ ⟨nm, hnm, _, e2⟩ =>
    (parseArguments_vinv hsrc n c).step fun _ _ ⟨as, has, hoe⟩ =>
      .pure ⟨⟨nm, as⟩, ⟨hnm, has⟩, by simp [e2, mk_dir, Exec.dirAst, hoe]⟩

theorem directivesLoop_vinv (n : Nat) (c : Bool) : ∀ (k : Nat) (acc : List Ast) (s : PS),
    (∀ x ∈ acc, ∃ d : Dir, Exec.dirWfC c d ∧ x = Exec.dirAst d) →
    Wp body (directivesLoop cfg n c k acc) s fun xs _ => ∀ x ∈ xs, ∃ d : Dir, Exec.dirWfC c d ∧ x = Exec.dirAst d
  | 0, _, _, _ => .crash
  | k + 1, acc, s, hacc => by
    rw [directivesLoop]
    exact .peek <| .ite (fun _ => (parseDirective_vinv hsrc n c s).step fun d s2 hd =>
      directivesLoop_vinv n c k _ s2 (List.forall_mem_append.2 ⟨hacc, by simpa using hd⟩)) fun _ => .pure hacc

theorem parseDirectives_vinv {s : PS} (n : Nat) (c : Bool) :
    Wp body (parseDirectives cfg n c) s fun o _ =>
      ∃ ds : List Dir, Exec.dirsWfC c ds ∧ optListO o = Exec.dirsAst ds :=
  (directivesLoop_vinv hsrc n c n [] s (fun _ h => nomatch h)).step fun xs _ hall => by
    obtain ⟨ds, hds, rfl⟩ := exists_list_of_forall (Ws := Exec.dirsWfC c) (asts := List.map Exec.dirAst)
      ⟨trivial, rfl⟩ (fun _ _ hb hbs => ⟨⟨hb, hbs⟩, rfl⟩) xs hall
    exact .pure ⟨ds, hds, by cases ds <;> simp [optListO, Exec.dirsAst, optL]⟩

/-- What the nested `parse_selection_set` is assumed to return (induction hypothesis). -/
abbrev SsWp (body : List Nat) (ss : P Ast) : Prop :=
  ItemWp body ss fun a => ∃ sels : List Sel, Exec.selsWf sels ∧ sels ≠ [] ∧ a = Exec.ssAst sels

theorem parseField_vinv {ss : P Ast} (hss : SsWp body ss) (n : Nat) :
    ItemWp body (parseField cfg n ss) fun a => ∃ sel : Sel, Exec.selWf sel ∧ a = Exec.selAst sel := by
  intro s
  rw [parseField]
  refine parseName_vinv.step fun _ _ ⟨n1, hn1, _, e1⟩ => ?_
  refine (expectOptionalToken_vinv .colon).step fun hasAlias s2 _ => ?_
  have hname : Wp body (if hasAlias = true then parseName cfg else pure _) s2 fun nm _ =>
      ∃ (al fn : List Nat), (al = [] ∨ validName al = true) ∧ validName fn = true ∧ nm = Val.nameNode fn ∧
        (if hasAlias = true then Val.nameNode n1 else Ast.none) = optName al :=
    .ite (fun ha => parseName_vinv.mono fun _ _ ⟨n2, hn2, _, e⟩ =>
        ⟨n1, n2, .inr hn1, hn2, e, by rw [if_pos ha, optName_of_valid hn1]⟩)
      fun ha => .pure ⟨[], n1, .inl rfl, hn1, e1, by simp [optName, ha]⟩
  subst e1
  refine hname.step fun _ _ ⟨al, fn, hal, hfn, e3, halias⟩ => ?_
  refine (parseArguments_vinv hsrc n false).step fun _ _ ⟨as, has, hoa⟩ => ?_
  refine (parseDirectives_vinv hsrc n false).step fun _ s5 ⟨ds, hds, hod⟩ => .peek ?_
  have hsel : Wp body (if (s5.cur.kind == TokKind.braceL) = true then ss else pure .none) s5 fun sel _ =>
      ∃ sels : List Sel, Exec.selsWf sels ∧ sel = (match sels with
        | [] => Ast.none
        | x :: r => .node "SelectionSetNode" [("selections", .list (Exec.selsAst (x :: r)))]) :=
    .ite (fun _ => (hss s5).mono fun _ _ ⟨sels, hw, hne, e⟩ => ⟨sels, hw, by
        cases sels with
        | nil => exact absurd rfl hne
        | cons x r => exact e⟩)
      fun _ => .pure ⟨[], trivial, rfl⟩
  refine hsel.step fun _ _ ⟨sels, hsw, e7⟩ => .pure ⟨.field al fn as ds sels, ⟨hal, hfn, has, hds, hsw⟩, ?_⟩
  rw [mk_fieldNode, halias, hoa, hod, e3, e7]
  cases sels <;> simp only [Exec.selAst]

theorem parseFragment_vinv (hfa : cfg.fragArgs = false) {ss : P Ast} (hss : SsWp body ss) (n : Nat) :
    ItemWp body (parseFragment cfg n ss) fun a => ∃ sel : Sel, Exec.selWf sel ∧ a = Exec.selAst sel := by
  intro s
  rw [parseFragment]
  refine (expectToken_vinv .spread).step fun _ _ _ => ?_
  refine (expectOptionalKeyword_vinv "on").step fun hasTC s2 _ => .peek <| .ite (fun _ => ?_) fun _ => ?_
  · -- fragment spread
    refine parseFragmentName_vinv.step fun _ _ ⟨nm, hnm, hon, e4⟩ => .peek ?_
    simp only [hfa, Bool.and_false, Bool.false_eq_true, ↓reduceIte]
    exact (parseDirectives_vinv hsrc n false).step fun _ _ ⟨ds, hds, hod⟩ =>
      .pure ⟨.spread nm ds, ⟨hnm, hon, hds⟩, by rw [mk_spreadNode, hod, e4]; simp only [Exec.selAst]⟩
  · -- inline fragment
    have htc : Wp body (if hasTC = true then parseNamedType cfg else pure .none) s2 fun tc _ =>
        ∃ tn : List Nat, (tn = [] ∨ validName tn = true) ∧ tc = (if tn.isEmpty then Ast.none else namedType tn) :=
      .ite (fun _ => parseNamedType_vinv.mono fun _ _ ⟨tn, htn, e⟩ => ⟨tn, .inr htn, by
          cases tn with
          | nil => exact absurd rfl (validName_ne_nil htn)
          | cons x r => simpa using e⟩)
        fun _ => .pure ⟨[], .inl rfl, by simp⟩
    refine htc.step fun _ _ ⟨tn, htn, e4⟩ => ?_
    refine (parseDirectives_vinv hsrc n false).step fun _ s5 ⟨ds, hds, hod⟩ => ?_
    exact (hss s5).step fun _ _ ⟨sels, hsw, hne, e6⟩ => .pure ⟨.inline tn ds sels, ⟨htn, hds, hne, hsw⟩,
      by rw [mk_inlineNode, hod, e4, e6]; simp only [Exec.selAst, Exec.ssAst]⟩

theorem parseSelection_vinv (hfa : cfg.fragArgs = false) {ss : P Ast} (hss : SsWp body ss) (n : Nat) :
    ItemWp body (parseSelection cfg n ss) fun a => ∃ sel : Sel, Exec.selWf sel ∧ a = Exec.selAst sel := by
  intro s
  rw [parseSelection]
  exact .peek <| .ite (fun _ => parseFragment_vinv hsrc hfa hss n s) fun _ => parseField_vinv hsrc hss n s

/-- **`parse_wf` for selection sets** (no `experimental_fragment_arguments`): whatever
`parse_selection_set` returns is the tree of a non-empty list of well-formed selections. -/
theorem selectionSet_vinv (hfa : cfg.fragArgs = false) : ∀ n : Nat, SsWp body (selectionSet n cfg)
  | 0, _ => .crash
  | n + 1, s => by
    rw [selectionSet]
    refine (parseMany_vinv (parseSelection_vinv hsrc hfa (selectionSet_vinv hfa n) n)
      n .braceL .braceR).step fun xs _ ⟨hne, hall⟩ => ?_
    obtain ⟨sels, hsw, rfl⟩ := exists_list_of_forall (Ws := Exec.selsWf) (asts := Exec.selsAst)
      ⟨trivial, rfl⟩ (fun _ _ hb hbs => ⟨⟨hb, hbs⟩, rfl⟩) xs hall
    exact .pure ⟨sels, hsw, fun he => hne (by rw [he]; rfl), by simp [mk_ssNode, Exec.ssAst]⟩

end

end Gql.Syntax
