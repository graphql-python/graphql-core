import Gql.Proofs.OverlapLocal
/-! C14: the specification's local requirement on a pair does not depend on the order of the
pair, and a field never conflicts with itself. -/
namespace Gql.Exec
open Overlap

theorem shapeConflict_comm (a b : Ty) : Spec.shapeConflict a b = Spec.shapeConflict b a := by
  induction a generalizing b with
  | leaf x => cases b <;> simp [Spec.shapeConflict, bne_comm]
  | comp _ => cases b <;> simp [Spec.shapeConflict]
  | list a ih => cases b <;> simp [Spec.shapeConflict, ih]
  | nonNull a ih => cases b <;> simp [Spec.shapeConflict, ih]

theorem shapeConflict_self (a : Ty) : Spec.shapeConflict a a = false := by
  induction a <;> simp [Spec.shapeConflict, *]

theorem typesConflict_comm (a b : Option Ty) : Spec.typesConflict a b = Spec.typesConflict b a := by
  cases a <;> cases b <;> simp [Spec.typesConflict, shapeConflict_comm]

theorem typesConflict_self (a : Option Ty) : Spec.typesConflict a a = false := by
  cases a <;> simp [Spec.typesConflict, shapeConflict_self]

/-- some linear order on names (core's): which one sorts the fields does not matter below -/
theorem stringLe_linOrd : LinOrd (fun a b : String => decide (a ≤ b)) :=
  ⟨fun a b => by simpa using String.le_total a b,
    fun _ _ _ h1 h2 => decide_eq_true (String.le_trans (of_decide_eq_true h1) (of_decide_eq_true h2)),
    fun _ _ h1 h2 => String.le_antisymm (of_decide_eq_true h1) (of_decide_eq_true h2)⟩

/-- "identical sets of arguments" is equality of the normal forms, fields sorted -/
theorem argsEquiv_eq_sorted {le : String → String → Bool} (h : LinOrd le) {a b : Args}
    (ha : argsWF a = true) (hb : argsWF b = true) :
    Spec.argsEquiv a b = valueBeq (sortValue le (.obj a)) (sortValue le (.obj b)) := by
  have h := sameValue_eq h (.obj a) (.obj b)
    (by simpa [Value.keysUnique, argsWF] using ha) (by simpa [Value.keysUnique, argsWF] using hb)
  rw [h]
  simp [Spec.valueEquiv, Spec.argsEquiv]

theorem valueBeq_comm (a b : Value) : valueBeq a b = valueBeq b a := by
  rw [Bool.eq_iff_iff, valueBeq_iff, valueBeq_iff]
  exact eq_comm

theorem valueBeq_self (a : Value) : valueBeq a a = true := (valueBeq_iff a a).2 rfl

theorem argsEquiv_comm {a b : Args} (ha : argsWF a = true) (hb : argsWF b = true) :
    Spec.argsEquiv a b = Spec.argsEquiv b a := by
  rw [argsEquiv_eq_sorted stringLe_linOrd ha hb, argsEquiv_eq_sorted stringLe_linOrd hb ha, valueBeq_comm]

theorem argsEquiv_self {a : Args} (ha : argsWF a = true) : Spec.argsEquiv a a = true := by
  rw [argsEquiv_eq_sorted stringLe_linOrd ha ha, valueBeq_self]

theorem streamsEquiv_comm {a b : Option Args} (ha : ∀ x, a = some x → argsWF x = true)
    (hb : ∀ x, b = some x → argsWF x = true) : Spec.streamsEquiv a b = Spec.streamsEquiv b a := by
  cases a <;> cases b <;> simp [Spec.streamsEquiv]
  exact argsEquiv_comm (ha _ rfl) (hb _ rfl)

theorem streamsEquiv_self {a : Option Args} (ha : ∀ x, a = some x → argsWF x = true) :
    Spec.streamsEquiv a a = true := by
  cases a <;> simp [Spec.streamsEquiv]
  exact argsEquiv_self (ha _ rfl)

theorem parentsOverlap_comm (s : Schema) (a b : Spec.FieldInst) :
    Spec.parentsOverlap s a b = Spec.parentsOverlap s b a := by
  simp only [Spec.parentsOverlap]
  rw [BEq.comm (a := a.parent)]
  cases (b.parent == a.parent) <;> cases s.isObject a.parent <;> cases s.isObject b.parent <;> rfl

theorem deeper_comm (s : Schema) (a b : Spec.FieldInst) (full : Bool) :
    Spec.deeper s ⟨a, b, full⟩ = Spec.deeper s ⟨b, a, full⟩ := by
  simp only [Spec.deeper, parentsOverlap_comm s a b]

theorem direct_comm (s : Schema) {a b : Spec.FieldInst} (ha : a.node.argsOK) (hb : b.node.argsOK)
    (full : Bool) : Spec.direct s ⟨a, b, full⟩ = Spec.direct s ⟨b, a, full⟩ := by
  simp only [Spec.direct, Spec.typesOf]
  rw [typesConflict_comm, streamsEquiv_comm ha.2 hb.2, parentsOverlap_comm s a b,
    argsEquiv_comm ha.1 hb.1]
  rw [bne_comm (a := a.node.name)]

theorem direct_self (s : Schema) {a : Spec.FieldInst} (ha : a.node.argsOK) (full : Bool) :
    Spec.direct s ⟨a, a, full⟩ = false := by
  simp [Spec.direct, Spec.typesOf, typesConflict_self, streamsEquiv_self ha.2,
    argsEquiv_self ha.1]

end Gql.Exec
