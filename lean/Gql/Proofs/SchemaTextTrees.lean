import Gql.Types.PrintSchemaText
import Gql.Proofs.ExecDefs3
/-!
C17, text level: the translation of C17's definitions (`Gql.Types.Def`) into C08's typed document trees
(`Gql.Text.GDef`), the reader back (`gdefsToDefs`, what `tools/c17_gen.py` does with the parsed document) with the proof
that it inverts the translation on the definitions `print_schema` emits, and the assembly of a document text from
definition texts.
-/
namespace Gql.Types.PrintSchema
open Gql Gql.Text Gql.Syntax Gql.Generated

def toTy : TypeRef → Ty
  | .named n => .named n
  | .list t => .list (toTy t)
  | .nonNull t => .nonNull (toTy t)

mutual
  /-- A chain constructor in value position (not a literal) becomes the enum value with the empty
  name: it prints as the empty text, like `printValue`, and is not well formed for C08. -/
  def toVal : Value → Val
    | .int s => .int s
    | .float s => .float s
    | .str s b => .str s b
    | .bool b => .bool b
    | .null => .null
    | .enum n => .enum n
    | .list items => .list (toValList items)
    | .obj fields => .obj (toValFields fields)
    | .vnil => .enum []
    | .lcons _ _ => .enum []
    | .fcons _ _ _ => .enum []
  def toValList : Value → List Val
    | .lcons v rest => toVal v :: toValList rest
    | _ => []
  def toValFields : Value → List (List Nat × Val)
    | .fcons n v rest => (n, toVal v) :: toValFields rest
    | _ => []
end

mutual
  /-- The cons-chain encoding of a value tree (inverse of `toVal` on well-shaped values). -/
  def ofVal : Val → Value
    | .var n => .enum n
    | .int s => .int s
    | .float s => .float s
    | .str s b => .str s b
    | .bool b => .bool b
    | .null => .null
    | .enum n => .enum n
    | .list vs => .list (ofValList vs)
    | .obj fs => .obj (ofValFields fs)
  def ofValList : List Val → Value
    | [] => .vnil
    | v :: vs => .lcons (ofVal v) (ofValList vs)
  def ofValFields : List (List Nat × Val) → Value
    | [] => .vnil
    | (n, v) :: fs => .fcons n (ofVal v) (ofValFields fs)
end

/-- The value is a proper literal: list items form an `lcons … vnil` chain, object fields an
`fcons … vnil` chain (what `dValue` of the driver and the builders produce). -/
def valueShaped (v : Value) : Bool := ofVal (toVal v) == v

def toDesc (d : Option DescNode) : Desc := d.map (fun n => (n.value, n.block))

def toDir (d : DirApp) : Dir := ⟨d.name, d.args.map (fun p => (p.1, toVal p.2))⟩

def toVarDef (n : IVD) : VarDef := ⟨toDesc n.desc, n.name, toTy n.type, n.default.map toVal, n.dirs.map toDir⟩

def toFDef (n : FD) : FDef := ⟨toDesc n.desc, n.name, n.args.map toVarDef, toTy n.type, n.dirs.map toDir⟩

def toEVDef (n : EVD) : EVDef := ⟨toDesc n.desc, n.name, n.dirs.map toDir⟩

def opName : Op → List Nat
  | .query => S "query"
  | .mutation => S "mutation"
  | .subscription => S "subscription"

def toOts (ops : List (Op × Str)) : List (List Nat × List Nat) := ops.map (fun p => (opName p.1, p.2))

def typeNodeToTDef (desc : Option DescNode) (t : TypeNode) : TDef :=
  match t.body with
  | .scalar => .scalar (toDesc desc) t.name (t.dirs.map toDir)
  | .object is fs => .object false (toDesc desc) t.name is (t.dirs.map toDir) (fs.map toFDef)
  | .interface is fs => .object true (toDesc desc) t.name is (t.dirs.map toDir) (fs.map toFDef)
  | .union ms => .union (toDesc desc) t.name (t.dirs.map toDir) ms
  | .enum vs => .enum (toDesc desc) t.name (t.dirs.map toDir) (vs.map toEVDef)
  | .input fs => .input (toDesc desc) t.name (t.dirs.map toDir) (fs.map toVarDef)

def typeNodeToEDef (t : TypeNode) : EDef :=
  match t.body with
  | .scalar => .scalar t.name (t.dirs.map toDir)
  | .object is fs => .object false t.name is (t.dirs.map toDir) (fs.map toFDef)
  | .interface is fs => .object true t.name is (t.dirs.map toDir) (fs.map toFDef)
  | .union ms => .union t.name (t.dirs.map toDir) ms
  | .enum vs => .enum t.name (t.dirs.map toDir) (vs.map toEVDef)
  | .input fs => .input t.name (t.dirs.map toDir) (fs.map toVarDef)

/-- One definition.  `Def.other` (an executable definition: no content in C17's AST) and
`extend directive` (not among C08's typed trees) have no image. -/
def defToGDef : Def → Option GDef
  | .schemaDef desc dirs ops => some (.t (.schema (toDesc desc) (dirs.map toDir) (toOts ops)))
  | .schemaExt dirs ops => some (.e (.schema (dirs.map toDir) (toOts ops)))
  | .directiveDef desc name args dirs rep locs =>
    some (.t (.directive (toDesc desc) name (args.map toVarDef) (dirs.map toDir) rep locs))
  | .directiveExt _ _ => none
  | .typeDef desc node => some (.t (typeNodeToTDef desc node))
  | .typeExt node => some (.e (typeNodeToEDef node))
  | .other => none

/-- C17 definitions → C08 document trees. -/
def defsToGDefs (defs : List Def) : List GDef := defs.filterMap defToGDef

/-- The type-system definitions (`TDef`) of a schema, in `print_schema`'s order. -/
def schemaDefTDef (s : Schema) : List TDef :=
  (schemaDefOf s).filterMap (fun d => match d with
    | .schemaDef desc dirs ops => some (.schema (toDesc desc) (dirs.map toDir) (toOts ops))
    | _ => none)

def directiveTDef (d : Directive) : TDef :=
  .directive (toDesc (descNode d.desc)) d.name ((d.args.map argToIVD).map toVarDef) ((deprDirs d.depr).map toDir)
    d.repeatable d.locations

def typeTDef (t : TypeDef) : TDef :=
  match typeToDef t with
  | .typeDef desc node => typeNodeToTDef desc node
  | _ => .scalar none [] []

def schemaTDefs (s : Schema) : List TDef :=
  schemaDefTDef s ++ s.directives.map directiveTDef ++ s.types.map typeTDef

theorem typeToDef_gdef (t : TypeDef) : defToGDef (typeToDef t) = some (.t (typeTDef t)) := by
  cases t <;> simp [typeToDef, defToGDef, typeTDef]

theorem defsToGDefs_schemaToDefs (s : Schema) :
    defsToGDefs (schemaToDefs s) = (schemaTDefs s).map GDef.t := by
  unfold defsToGDefs schemaToDefs schemaTDefs
  simp only [List.filterMap_append, List.map_append, List.filterMap_map]
  congr 1
  · congr 1
    · unfold schemaDefTDef schemaDefOf
      split
      · rfl
      · split
        · rfl
        · simp [defToGDef]
    · induction s.directives with
      | nil => rfl
      | cons d r ih => simp [directiveToDef, defToGDef, directiveTDef] at ih ⊢; exact ih
  · induction s.types with
    | nil => rfl
    | cons t r ih => simp [typeToDef_gdef] at ih ⊢; exact ih

theorem gdefsKvs_t (pb : Bool) (ds : List TDef) :
    Exec.gdefsKvs pb (ds.map GDef.t) = ds.flatMap Exec.tdefKvs := by
  induction ds generalizing pb with
  | nil => rfl
  | cons d r ih => simp [Exec.gdefsKvs, Exec.isShortG, Exec.gdefKvs, ih]

theorem lexes_joinTexts (ps : List (List Nat × List KV)) (h : ∀ p ∈ ps, Lexes true p.1 p.2)
    (sep : List Nat) (hsep : Ignorable sep) (hne : sep ≠ []) :
    Lexes true (joinWith sep (ps.map (·.1))) (ps.flatMap (·.2)) := by
  induction ps with
  | nil => exact Lexes.nil.weaken true
  | cons a r ih =>
    have hv := h a (by simp)
    have ih' := ih (fun b hb => h b (by simp [hb]))
    cases r with
    | nil => simpa [joinWith] using hv
    | cons b r' =>
      simp only [List.map_cons, joinWith, List.flatMap_cons] at ih' ⊢
      have := Lexes.append_l (Lexes.append_ign hv hsep hne) ih'
      simpa [List.append_assoc] using this


def ofTy : Ty → TypeRef
  | .named n => .named n
  | .list t => .list (ofTy t)
  | .nonNull t => .nonNull (ofTy t)

def ofDesc (d : Desc) : Option DescNode := d.map (fun p => ⟨p.1, p.2⟩)

def ofDir (d : Dir) : DirApp := ⟨d.name, d.args.map (fun p => (p.1, ofVal p.2))⟩

def ofVarDef (v : VarDef) : IVD := ⟨ofDesc v.desc, v.name, ofTy v.ty, v.dflt.map ofVal, v.dirs.map ofDir⟩

def ofFDef (f : FDef) : FD := ⟨ofDesc f.desc, f.name, f.args.map ofVarDef, ofTy f.ty, f.dirs.map ofDir⟩

def ofEVDef (e : EVDef) : EVD := ⟨ofDesc e.desc, e.name, e.dirs.map ofDir⟩

def ofOp (n : List Nat) : Op :=
  if n = S "mutation" then .mutation else if n = S "subscription" then .subscription else .query

def ofOts (ots : List (List Nat × List Nat)) : List (Op × Str) := ots.map (fun p => (ofOp p.1, p.2))

def tdefToDef : TDef → Def
  | .schema d ds ots => .schemaDef (ofDesc d) (ds.map ofDir) (ofOts ots)
  | .scalar d n ds => .typeDef (ofDesc d) ⟨n, ds.map ofDir, .scalar⟩
  | .object iface d n ifs ds fs =>
    .typeDef (ofDesc d) ⟨n, ds.map ofDir, if iface then .interface ifs (fs.map ofFDef) else .object ifs (fs.map ofFDef)⟩
  | .union d n ds ts => .typeDef (ofDesc d) ⟨n, ds.map ofDir, .union ts⟩
  | .enum d n ds vs => .typeDef (ofDesc d) ⟨n, ds.map ofDir, .enum (vs.map ofEVDef)⟩
  | .input d n ds fs => .typeDef (ofDesc d) ⟨n, ds.map ofDir, .input (fs.map ofVarDef)⟩
  | .directive d n args ds rep locs => .directiveDef (ofDesc d) n (args.map ofVarDef) (ds.map ofDir) rep locs

def edefToDef : EDef → Def
  | .schema ds ots => .schemaExt (ds.map ofDir) (ofOts ots)
  | .scalar n ds => .typeExt ⟨n, ds.map ofDir, .scalar⟩
  | .object iface n ifs ds fs =>
    .typeExt ⟨n, ds.map ofDir, if iface then .interface ifs (fs.map ofFDef) else .object ifs (fs.map ofFDef)⟩
  | .union n ds ts => .typeExt ⟨n, ds.map ofDir, .union ts⟩
  | .enum n ds vs => .typeExt ⟨n, ds.map ofDir, .enum (vs.map ofEVDef)⟩
  | .input n ds fs => .typeExt ⟨n, ds.map ofDir, .input (fs.map ofVarDef)⟩

/-- A parsed definition as C17's definition AST (executable definitions carry nothing). -/
def gdefToDef : GDef → Def
  | .x _ => .other
  | .t d => tdefToDef d
  | .e d => edefToDef d

def gdefsToDefs (ds : List GDef) : List Def := ds.map gdefToDef

def argShaped (a : Arg) : Bool :=
  match a.default with
  | none => true
  | some v => valueShaped v

/-- Every default value of the schema is a proper literal (`valueShaped`). -/
def schemaShaped (s : Schema) : Bool :=
  s.directives.all (fun d => d.args.all argShaped) &&
  s.types.all (fun t =>
    match t with
    | .object _ _ _ fs | .interface _ _ _ fs => fs.all (fun f => f.args.all argShaped)
    | .input _ _ _ fs => fs.all argShaped
    | _ => true)

theorem ofTy_toTy (t : TypeRef) : ofTy (toTy t) = t := by
  induction t with
  | named n => rfl
  | list t ih => simp [toTy, ofTy, ih]
  | nonNull t ih => simp [toTy, ofTy, ih]

theorem ofDesc_toDesc (d : Option DescNode) : ofDesc (toDesc d) = d := by
  cases d <;> simp [ofDesc, toDesc]

/-! The reader inverts the translation part by part; the lists are stated as `simp` leaves them (`List.map_map`). -/

theorem ofDir_deprDirs (r : Option Str) : List.map (ofDir ∘ toDir) (deprDirs r) = deprDirs r := by
  cases r with
  | none => rfl
  | some r =>
    simp only [deprDirs]
    split <;> simp [toDir, ofDir, toVal, ofVal]

theorem ofDir_specifiedByDirs (u : Option Str) : List.map (ofDir ∘ toDir) (specifiedByDirs u) = specifiedByDirs u := by
  cases u <;> simp [specifiedByDirs, toDir, ofDir, toVal, ofVal]

theorem ofVarDef_arg (a : Arg) (h : argShaped a = true) : ofVarDef (toVarDef (argToIVD a)) = argToIVD a := by
  have hd : (a.default.map toVal).map ofVal = a.default := by
    cases hdef : a.default with
    | none => rfl
    | some v =>
      simp only [argShaped, hdef, valueShaped, beq_iff_eq] at h
      simp [h]
  simp [ofVarDef, toVarDef, argToIVD, ofDesc_toDesc, ofTy_toTy, ofDir_deprDirs, hd]

theorem ofVarDef_args (as : List Arg) (h : as.all argShaped = true) :
    List.map (ofVarDef ∘ toVarDef ∘ argToIVD) as = as.map argToIVD :=
  List.map_congr_left fun a ha => ofVarDef_arg a (List.all_eq_true.mp h a ha)

theorem ofFDef_field (f : Field) (h : f.args.all argShaped = true) : ofFDef (toFDef (fieldToFD f)) = fieldToFD f := by
  simp [ofFDef, toFDef, fieldToFD, ofDesc_toDesc, ofTy_toTy, ofDir_deprDirs, ofVarDef_args f.args h]

theorem ofFDef_fields (fs : List Field) (h : fs.all (fun f => f.args.all argShaped) = true) :
    List.map (ofFDef ∘ toFDef ∘ fieldToFD) fs = fs.map fieldToFD :=
  List.map_congr_left fun f hf => ofFDef_field f (List.all_eq_true.mp h f hf)

theorem ofEVDef_vals (vs : List EnumVal) : List.map (ofEVDef ∘ toEVDef ∘ enumValToEVD) vs = vs.map enumValToEVD :=
  List.map_congr_left fun v _ => by simp [ofEVDef, toEVDef, enumValToEVD, ofDesc_toDesc, ofDir_deprDirs]

def typeShaped : TypeDef → Bool
  | .object _ _ _ fs | .interface _ _ _ fs => fs.all (fun f => f.args.all argShaped)
  | .input _ _ _ fs => fs.all argShaped
  | _ => true

theorem tdefToDef_type (t : TypeDef) (h : typeShaped t = true) : tdefToDef (typeTDef t) = typeToDef t := by
  cases t with
  | scalar n d u => simp [typeTDef, typeToDef, typeNodeToTDef, tdefToDef, ofDesc_toDesc, ofDir_specifiedByDirs]
  | object n d is fs | interface n d is fs =>
    simp [typeTDef, typeToDef, typeNodeToTDef, tdefToDef, ofDesc_toDesc, ofFDef_fields fs h]
  | union n d ms => simp [typeTDef, typeToDef, typeNodeToTDef, tdefToDef, ofDesc_toDesc]
  | enum n d vs => simp [typeTDef, typeToDef, typeNodeToTDef, tdefToDef, ofDesc_toDesc, ofEVDef_vals]
  | input n d o fs =>
    cases o <;> simp [typeTDef, typeToDef, typeNodeToTDef, tdefToDef, ofDesc_toDesc, ofVarDef_args fs h, toDir, ofDir]

theorem tdefToDef_directive (d : Directive) (h : d.args.all argShaped = true) :
    tdefToDef (directiveTDef d) = directiveToDef d := by
  simp [directiveTDef, directiveToDef, tdefToDef, ofDesc_toDesc, ofDir_deprDirs, ofVarDef_args d.args h]

theorem ofOp_opName (o : Op) : ofOp (opName o) = o := by
  cases o <;> decide +kernel

theorem ofOts_toOts (ops : List (Op × Str)) : ofOts (toOts ops) = ops := by
  rw [toOts, ofOts, List.map_map]
  exact (List.map_congr_left fun p _ => by simp [ofOp_opName]).trans (List.map_id ops)

theorem tdefToDef_schemaDef (s : Schema) : (schemaDefTDef s).map tdefToDef = schemaDefOf s := by
  unfold schemaDefTDef schemaDefOf
  split
  · rfl
  · split
    · rfl
    · simp only [List.filterMap_cons, List.filterMap_nil, List.map_cons, List.map_nil, tdefToDef, ofDesc_toDesc,
        ofOts_toOts]

/-- **The reader inverts the translation** on the definitions `print_schema` emits. -/
theorem gdefsToDefs_schemaToDefs (s : Schema) (h : schemaShaped s = true) :
    gdefsToDefs (defsToGDefs (schemaToDefs s)) = schemaToDefs s := by
  rw [defsToGDefs_schemaToDefs]
  simp only [schemaShaped, Bool.and_eq_true] at h
  unfold gdefsToDefs schemaTDefs schemaToDefs
  simp only [List.map_append, List.map_map]
  have h1 : List.map (gdefToDef ∘ GDef.t) (schemaDefTDef s) = schemaDefOf s := by
    rw [← tdefToDef_schemaDef s]; rfl
  have h2 : List.map (gdefToDef ∘ GDef.t ∘ directiveTDef) s.directives = List.map directiveToDef s.directives := by
    apply List.map_congr_left
    intro d hd
    exact tdefToDef_directive d (List.all_eq_true.mp h.1 d hd)
  have h3 : List.map (gdefToDef ∘ GDef.t ∘ typeTDef) s.types = List.map typeToDef s.types := by
    apply List.map_congr_left
    intro t ht
    have := List.all_eq_true.mp h.2 t ht
    exact tdefToDef_type t (by cases t <;> simpa [typeShaped] using this)
  rw [h1, h2, h3]

end Gql.Types.PrintSchema
