import Gql.Proofs.WorkQueue
/-!
Invariants of the id table of the `IncrementalPublisher` model, for *arbitrary* streams of work
queue events (nothing is assumed about the scheduler here).  Everything about a single event goes
through `handleEvent_node` (one shape of `_handle_work_queue_event` for all events: `_ensure_id`,
`del` if the event completes its node — `evTable` — then `_to_pending_results` as a list of
(node, id) pairs, `toPendingNodes`, specified by `Announced`); the initial result is
`toPendingNodes` from the empty table (`initialPayload_nodes`).  An invariant of the table is shown
for these phases and composed.  The bookkeeping of completed ids across payloads is one invariant —
`PubIds` between payloads, `BatchInv` within one — carried through any batches by `publish_ids`.
-/
namespace Gql.Async
open Gql.Spec.Protocol

def live (p : Pub) (i : Nat) : Prop := ∃ n, alookup p.ids n = some i

structure PubInv (p : Pub) : Prop where
  bound : ∀ n i, alookup p.ids n = some i → i < p.nextId
  inj : ∀ m n i, alookup p.ids m = some i → alookup p.ids n = some i → m = n

/-- Ids only ever come from the table or from the counter. -/
structure Ext (p p' : Pub) : Prop where
  mono : p.nextId ≤ p'.nextId
  fresh : ∀ j, live p' j → live p j ∨ p.nextId ≤ j

theorem Ext.refl (p : Pub) : Ext p p := ⟨Nat.le_refl _, fun _ h => Or.inl h⟩

theorem Ext.trans {a b c : Pub} (h1 : Ext a b) (h2 : Ext b c) : Ext a c := by
  refine ⟨Nat.le_trans h1.mono h2.mono, fun j hj => ?_⟩
  rcases h2.fresh j hj with h | h
  · exact h1.fresh j h
  · exact Or.inr (Nat.le_trans h1.mono h)

/-- Retired ids: below the counter and not in the table. -/
def Ret (p : Pub) (R : List Nat) : Prop := ∀ r ∈ R, r < p.nextId ∧ ¬ live p r

theorem Ret.ext {p p' : Pub} {R : List Nat} (h : Ret p R) (e : Ext p p') : Ret p' R := by
  intro r hr
  obtain ⟨h1, h2⟩ := h r hr
  refine ⟨Nat.lt_of_lt_of_le h1 e.mono, fun hl => ?_⟩
  rcases e.fresh r hl with h3 | h3
  · exact h2 h3
  · omega

theorem pubInv_empty : PubInv {} := ⟨fun _ _ h => by simp [alookup] at h, fun _ _ _ h => by simp [alookup] at h⟩

theorem ensureId_found (p : Pub) (n : Node) (i : Nat) (h : alookup p.ids n = some i) :
    ensureId p n = (p, i) := by
  simp [ensureId, h]

theorem ensureId_self (p : Pub) (n : Node) :
    alookup (ensureId p n).1.ids n = some (ensureId p n).2 := by
  cases hl : alookup p.ids n with
  | some i => simp [ensureId, hl]
  | none => simp [ensureId, hl, alookup_aset_self]

theorem ensureId_lookup (p : Pub) (n m : Node) (i : Nat) (h : alookup p.ids m = some i) :
    alookup (ensureId p n).1.ids m = some i := by
  unfold ensureId
  cases hl : alookup p.ids n with
  | some j => exact h
  | none =>
    simp only
    by_cases e : n = m
    · subst e; rw [hl] at h; cases h
    · rw [alookup_aset_ne _ _ _ _ e]; exact h

theorem ensureId_dom (p : Pub) (n m : Node) (i : Nat)
    (h : alookup (ensureId p n).1.ids m = some i) : alookup p.ids m = some i ∨ m = n := by
  unfold ensureId at h
  cases hl : alookup p.ids n with
  | some j => simp [hl] at h; exact Or.inl h
  | none =>
    simp only [hl] at h
    by_cases e : n = m
    · exact Or.inr e.symm
    · rw [alookup_aset_ne _ _ _ _ e] at h; exact Or.inl h

theorem dropId_dom (p : Pub) (n m : Node) (i : Nat)
    (h : alookup (dropId p n).ids m = some i) : alookup p.ids m = some i ∧ m ≠ n := by
  unfold dropId at h
  by_cases e : n = m
  · subst e; rw [alookup_aerase_self] at h; cases h
  · rw [alookup_aerase_ne _ _ _ e] at h; exact ⟨h, fun h' => e h'.symm⟩

theorem dropId_lookup (p : Pub) (n m : Node) (i : Nat) (h : alookup p.ids m = some i) (hne : m ≠ n) :
    alookup (dropId p n).ids m = some i := by
  unfold dropId
  simp only
  rw [alookup_aerase_ne _ _ _ (fun e => hne e.symm)]; exact h

theorem ensureId_inv (p : Pub) (n : Node) (hp : PubInv p) :
    PubInv (ensureId p n).1 ∧ Ext p (ensureId p n).1 := by
  unfold ensureId
  cases h : alookup p.ids n with
  | some i => exact ⟨hp, Ext.refl p⟩
  | none =>
    simp only
    refine ⟨⟨?_, ?_⟩, ⟨Nat.le_succ _, ?_⟩⟩
    · intro m i hm
      show i < p.nextId + 1
      rw [alookup_aset] at hm
      split at hm
      · cases hm; omega
      · have := hp.bound m i hm; omega
    · intro m m' i hm hm'
      rw [alookup_aset] at hm hm'
      split at hm <;> split at hm'
      · rename_i e e'; exact e.symm.trans e'
      · cases hm; have := hp.bound m' _ hm'; omega
      · cases hm'; have := hp.bound m _ hm; omega
      · exact hp.inj m m' i hm hm'
    · intro j ⟨m, hm⟩
      rw [alookup_aset] at hm
      split at hm
      · cases hm; exact Or.inr (Nat.le_refl _)
      · exact Or.inl ⟨m, hm⟩

theorem dropId_inv (p : Pub) (n : Node) (hp : PubInv p) : PubInv (dropId p n) ∧ Ext p (dropId p n) :=
  ⟨⟨fun m j hm => hp.bound m j (dropId_dom p n m j hm).1,
    fun m m' j hm hm' => hp.inj m m' j (dropId_dom p n m j hm).1 (dropId_dom p n m' j hm').1⟩,
   ⟨Nat.le_refl _, fun j ⟨m, hm⟩ => Or.inl ⟨m, (dropId_dom p n m j hm).1⟩⟩⟩

theorem dropId_retired (p : Pub) (n : Node) (i : Nat) (hp : PubInv p) (hi : alookup p.ids n = some i) :
    ¬ live (dropId p n) i := by
  intro ⟨m, hm⟩
  obtain ⟨h1, h2⟩ := dropId_dom p n m i hm
  exact h2 (hp.inj m n i h1 hi)

def nodesOf (gs ss : List Nat) : List Node := gs.map Node.group ++ ss.map Node.stream

/-- The nodes an event announces. -/
def evNew : WQEvent → List Node
  | .groupSuccess _ ng ns => nodesOf ng ns
  | .streamValues _ _ ng ns => nodesOf ng ns
  | _ => []

/-- The `pending` entry of a node with its id. -/
def mkEntry (π : PubStatic) (x : Node × Nat) : Pending :=
  { id := x.2, path := π.path x.1, label := π.label x.1 }

/-- `_to_pending_results` without paths and labels: the table and the (node, id) pairs. -/
def toPendingNodes (p : Pub) : List Node → Pub × List (Node × Nat)
  | [] => (p, [])
  | n :: ns => ((toPendingNodes (ensureId p n).1 ns).1,
      (n, (ensureId p n).2) :: (toPendingNodes (ensureId p n).1 ns).2)

theorem toPending_nodes (π : PubStatic) (p : Pub) (gs ss : List Nat) :
    toPendingResults π p gs ss =
      ((toPendingNodes p (nodesOf gs ss)).1, (toPendingNodes p (nodesOf gs ss)).2.map (mkEntry π)) := by
  have key : ∀ (ns : List Node) (p : Pub) (acc : List Pending),
      ns.foldl (fun (acc : Pub × List Pending) n =>
        let (p, i) := ensureId acc.1 n
        (p, acc.2 ++ [{ id := i, path := π.path n, label := π.label n }])) (p, acc) =
      ((toPendingNodes p ns).1, acc ++ (toPendingNodes p ns).2.map (mkEntry π)) := by
    intro ns
    induction ns with
    | nil => intro p acc; simp [toPendingNodes]
    | cons n ns ih =>
      intro p acc
      simp only [List.foldl_cons, toPendingNodes, List.map_cons]
      exact (ih (ensureId p n).1 _).trans (by simp [mkEntry])
  simpa [toPendingResults, nodesOf] using key (nodesOf gs ss) p []

/-- `build_response` announces the initial groups and streams from the empty table. -/
theorem initialPayload_nodes (π : PubStatic) (gs ss : List Nat) :
    initialPayload π gs ss = ((toPendingNodes {} (nodesOf gs ss)).1,
      { pending := (toPendingNodes {} (nodesOf gs ss)).2.map (mkEntry π), hasNext := true }) := by
  simp only [initialPayload, toPending_nodes]

/-- What `_to_pending_results` does to the table: the announced nodes get (or keep) their ids,
nothing else changes. -/
structure Announced (p : Pub) (ns : List Node) (r : Pub × List (Node × Nat)) : Prop where
  nodes : r.2.map (·.1) = ns
  keep : ∀ m i, alookup p.ids m = some i → alookup r.1.ids m = some i
  mem : ∀ x ∈ r.2, alookup r.1.ids x.1 = some x.2
  src : ∀ m i, alookup r.1.ids m = some i → alookup p.ids m = some i ∨ (m, i) ∈ r.2

theorem toPendingNodes_spec (p : Pub) (ns : List Node) : Announced p ns (toPendingNodes p ns) := by
  induction ns generalizing p with
  | nil => exact ⟨rfl, fun _ _ h => h, fun x hx => (by cases hx), fun _ _ h => Or.inl h⟩
  | cons n ns ih =>
    have r := ih (ensureId p n).1
    refine ⟨by simp [toPendingNodes, r.nodes], fun m i h => r.keep m i (ensureId_lookup p n m i h), ?_, ?_⟩
    · intro x hx
      rcases List.mem_cons.mp hx with rfl | hx
      · exact r.keep _ _ (ensureId_self p n)
      · exact r.mem x hx
    · intro m i h
      rcases r.src m i h with h1 | h1
      · rcases ensureId_dom p n m i h1 with h2 | rfl
        · exact Or.inl h2
        · rw [ensureId_self] at h1; cases h1
          exact Or.inr List.mem_cons_self
      · exact Or.inr (List.mem_cons_of_mem _ h1)

theorem toPendingNodes_inv (p : Pub) (ns : List Node) (hp : PubInv p) :
    PubInv (toPendingNodes p ns).1 ∧ Ext p (toPendingNodes p ns).1 := by
  induction ns generalizing p with
  | nil => exact ⟨hp, Ext.refl p⟩
  | cons n ns ih =>
    obtain ⟨h1, h2⟩ := ensureId_inv p n hp
    exact ⟨(ih _ h1).1, h2.trans (ih _ h1).2⟩

/-- The node an event reports on. -/
def evNode : WQEvent → Option Node
  | .groupValues g _ | .groupSuccess g _ _ | .groupFailure g => some (.group g)
  | .streamValues s _ _ _ | .streamSuccess s | .streamFailure s => some (.stream s)
  | .termination => none

/-- For the events that complete their node: whether it failed. -/
def evDone : WQEvent → Option Bool
  | .groupSuccess _ _ _ | .streamSuccess _ => some false
  | .groupFailure _ | .streamFailure _ => some true
  | _ => none

/-- The incremental entries of an event whose node has id `i` in table `p`. -/
def evIncr (π : PubStatic) (p : Pub) (i : Nat) : WQEvent → List Incr
  | .groupValues g vals => vals.map (fun v =>
      Incr.defer (bestIdAndSubPath π p i g v).1 (bestIdAndSubPath π p i g v).2 v.data)
  | .streamValues _ vals _ _ => [Incr.stream i (vals.map (fun v => (v.idx, v.item)))]
  | _ => []

/-- `_ensure_id(n)`, then `del _ids[n]` if the event completes `n`. -/
def evTable (p : Pub) (n : Node) (done : Bool) : Pub :=
  if done then dropId (ensureId p n).1 n else (ensureId p n).1

theorem evNode_none {e : WQEvent} (h : evNode e = none) : e = .termination := by
  cases e <;> first | rfl | cases h

/-- `_handle_work_queue_event` in one shape for all events: find or mint the id of the node,
delete it if the event completes the node, announce the new nodes; the context gains the new
`pending` entries, the event's incremental entries and at most one `completed` entry. -/
theorem handleEvent_node (π : PubStatic) (p : Pub) (c : PCtx) {e : WQEvent} {n : Node}
    (h : evNode e = some n) :
    handleEvent π p c e =
      ((toPendingNodes (evTable p n (evDone e).isSome) (evNew e)).1,
       { c with
         pending := c.pending ++ (toPendingNodes (evTable p n (evDone e).isSome) (evNew e)).2.map (mkEntry π),
         incremental := c.incremental ++ evIncr π (ensureId p n).1 (ensureId p n).2 e,
         completed := c.completed ++
           (evDone e).toList.map (fun f => { id := (ensureId p n).2, failed := f }) }) := by
  have hnil : ∀ ng ns : List Nat, ng.isEmpty ∧ ns.isEmpty → nodesOf ng ns = [] := by
    intro ng ns ⟨h1, h2⟩
    simp only [List.isEmpty_iff] at h1 h2
    subst h1; subst h2; rfl
  cases e with
  | termination => cases h
  | groupSuccess _ ng ns | streamValues _ _ ng ns =>
    -- announcing nothing is the identity, so the test for new groups or streams makes no difference
    cases h
    simp only [handleEvent, evDone, evNew, evIncr, evTable, Option.isSome, Option.toList, List.map_nil,
      List.map_cons, List.append_nil, if_true, Bool.false_eq_true, if_false]
    split
    · rename_i he; rw [hnil _ _ he]; simp [toPendingNodes]
    · rw [toPending_nodes]
  | _ =>
    cases h
    simp only [handleEvent, evDone, evNew, evIncr, evTable, Option.isSome, Option.toList, List.map_nil,
      List.map_cons, List.append_nil, toPendingNodes, if_true, Bool.false_eq_true, if_false]

theorem handleEvent_term (π : PubStatic) (p : Pub) (c : PCtx) :
    handleEvent π p c .termination = (p, { c with hasNext := false }) := rfl

theorem evIncr_done (π : PubStatic) (p : Pub) (i : Nat) {e : WQEvent} (h : (evDone e).isSome = true) :
    evIncr π p i e = [] := by
  cases e <;> first | rfl | cases h

theorem bestId_live (π : PubStatic) (p : Pub) (i : Nat) (g : Nat) (v : GVal) (hi : live p i) :
    live p (bestIdAndSubPath π p i g v).1 := by
  unfold bestIdAndSubPath
  refine foldl_inv (fun acc : Nat × Nat => live p acc.2) _ _ _ hi ?_
  intro acc dg hacc
  simp only
  split
  · exact hacc
  · split
    · exact hacc
    · split
      · exact ⟨_, ‹alookup p.ids (Node.group dg) = some _›⟩
      · exact hacc

theorem evIncr_live (π : PubStatic) (p : Pub) (i : Nat) (e : WQEvent) (hi : live p i) :
    ∀ x ∈ evIncr π p i e, live p x.id := by
  cases e <;> intro x hx <;> simp only [evIncr, List.mem_map, List.mem_singleton, List.not_mem_nil] at hx
  · obtain ⟨v, _, rfl⟩ := hx; exact bestId_live π p i _ v hi
  · subst hx; exact hi

theorem evTable_inv (p : Pub) (n : Node) (d : Bool) (hp : PubInv p) :
    PubInv (evTable p n d) ∧ Ext p (evTable p n d) := by
  obtain ⟨h1, h2⟩ := ensureId_inv p n hp
  cases d with
  | false => exact ⟨h1, h2⟩
  | true => exact ⟨(dropId_inv _ n h1).1, h2.trans (dropId_inv _ n h1).2⟩

theorem handleEvent_inv (π : PubStatic) (p : Pub) (c : PCtx) (e : WQEvent) (hp : PubInv p) :
    PubInv (handleEvent π p c e).1 ∧ Ext p (handleEvent π p c e).1 := by
  cases hn : evNode e with
  | none => rw [evNode_none hn, handleEvent_term]; exact ⟨hp, Ext.refl p⟩
  | some n =>
    rw [handleEvent_node π p c hn]
    obtain ⟨t1, t2⟩ := evTable_inv p n (evDone e).isSome hp
    obtain ⟨i1, i2⟩ := toPendingNodes_inv _ (evNew e) t1
    exact ⟨i1, t2.trans i2⟩

/-- The loop of `_handle_batch`, from table `p` and context `c`. -/
def handleEvents (π : PubStatic) (p : Pub) (c : PCtx) (evs : List WQEvent) : Pub × PCtx :=
  evs.foldl (fun acc e => handleEvent π acc.1 acc.2 e) (p, c)

theorem handleEvents_cons (π : PubStatic) (p : Pub) (c : PCtx) (e : WQEvent) (evs : List WQEvent) :
    handleEvents π p c (e :: evs) =
      handleEvents π (handleEvent π p c e).1 (handleEvent π p c e).2 evs := by
  simp only [handleEvents, List.foldl_cons]  -- `rfl` would unfold `handleEvent` to see the pair

/-- The id bookkeeping between two payloads: the ids `R` completed so far are retired and
pairwise distinct.  Each phase of an event keeps it (`ensure`, `announce`) or retires one more id
(`retire`). -/
structure PubIds (R : List Nat) (p : Pub) : Prop where
  inv : PubInv p
  ret : Ret p R
  nodup : R.Nodup

theorem PubIds.notMem {R : List Nat} {p : Pub} (h : PubIds R p) {i : Nat} (hl : live p i) : i ∉ R :=
  fun hr => (h.ret i hr).2 hl

theorem PubIds.ensure {R : List Nat} {p : Pub} (h : PubIds R p) (n : Node) : PubIds R (ensureId p n).1 :=
  ⟨(ensureId_inv p n h.inv).1, h.ret.ext (ensureId_inv p n h.inv).2, h.nodup⟩

theorem PubIds.announce {R : List Nat} {p : Pub} (h : PubIds R p) (ns : List Node) :
    PubIds R (toPendingNodes p ns).1 :=
  ⟨(toPendingNodes_inv p ns h.inv).1, h.ret.ext (toPendingNodes_inv p ns h.inv).2, h.nodup⟩

/-- `del _ids[n]`: the id of `n` was in the table, so it was not retired before; it is now. -/
theorem PubIds.retire {R : List Nat} {p : Pub} (h : PubIds R p) {n : Node} {i : Nat}
    (hi : alookup p.ids n = some i) : PubIds (R ++ [i]) (dropId p n) := by
  refine ⟨(dropId_inv p n h.inv).1, fun r hr => ?_, List.nodup_append.mpr ⟨h.nodup, by simp, ?_⟩⟩
  · rcases List.mem_append.mp hr with hr | hr
    · exact h.ret.ext (dropId_inv p n h.inv).2 r hr
    · cases List.mem_singleton.mp hr
      exact ⟨h.inv.bound n i hi, dropId_retired p n i h.inv hi⟩
  · intro a ha b hb hab
    cases List.mem_singleton.mp hb
    exact h.notMem ⟨n, hi⟩ (hab ▸ ha)

/-- The invariant of a batch under construction, relative to the ids `R` retired by earlier
payloads. -/
structure BatchInv (R : List Nat) (p : Pub) (c : PCtx) : Prop
    extends PubIds (R ++ c.completed.map (·.id)) p where
  fresh : ∀ a ∈ c.pending, a.id ∉ R
  noLate : ∀ x ∈ c.incremental, x.id ∉ R

/-- One event keeps the invariant: the ids it adds to `incremental` and `pending` are in the table
(after `_ensure_id`, at the end), hence not retired; the id it completes (if any) is retired. -/
theorem BatchInv.step {R : List Nat} {p : Pub} {c : PCtx} (π : PubStatic) (e : WQEvent)
    (h : BatchInv R p c) : BatchInv R (handleEvent π p c e).1 (handleEvent π p c e).2 := by
  cases hn : evNode e with
  | none => rw [evNode_none hn, handleEvent_term]; exact ⟨h.toPubIds, h.fresh, h.noLate⟩
  | some n =>
    rw [handleEvent_node π p c hn]
    have h1 := h.toPubIds.ensure n
    have hi := ensureId_self p n
    have h2 : PubIds (R ++ (c.completed.map (·.id) ++ (evDone e).toList.map fun _ => (ensureId p n).2))
        (toPendingNodes (evTable p n (evDone e).isSome) (evNew e)).1 := by
      cases hd : evDone e with
      | none => simpa [evTable] using h1.announce (evNew e)
      | some f => simpa [evTable, List.append_assoc] using (h1.retire hi).announce (evNew e)
    refine ⟨by simpa [Function.comp_def] using h2, fun a ha => ?_, fun x hx => ?_⟩
    · refine (List.mem_append.mp ha).elim (h.fresh a) fun ha => ?_
      obtain ⟨x, hx, rfl⟩ := List.mem_map.mp ha
      exact fun hR => h2.notMem ⟨x.1, (toPendingNodes_spec _ _).mem x hx⟩ (List.mem_append_left _ hR)
    · refine (List.mem_append.mp hx).elim (h.noLate x) fun hx hR => ?_
      exact h1.notMem (evIncr_live π _ _ e ⟨n, hi⟩ x hx) (List.mem_append_left _ hR)

theorem BatchInv.fold {R : List Nat} (π : PubStatic) (evs : List WQEvent) {p : Pub} {c : PCtx}
    (h : BatchInv R p c) :
    BatchInv R (handleEvents π p c evs).1
      (handleEvents π p c evs).2 := by
  induction evs generalizing p c with
  | nil => exact h
  | cons e evs ih => rw [handleEvents_cons]; exact ih (h.step π e)

theorem handleBatch_spec (π : PubStatic) (evs : List WQEvent) {p : Pub} {R : List Nat} (h : PubIds R p) :
    BatchInv R (handleBatch π p evs).1
      { pending := (handleBatch π p evs).2.pending, incremental := (handleBatch π p evs).2.incremental,
        completed := (handleBatch π p evs).2.completed, hasNext := (handleBatch π p evs).2.hasNext } :=
  BatchInv.fold π evs
    ⟨⟨h.inv, by simpa using h.ret, by simpa using h.nodup⟩, by simp, by simp⟩

theorem noReuse_append (R : List Nat) (a b : List Payload) :
    NoReuse R (a ++ b) ↔ NoReuse R a ∧ NoReuse (R ++ completedIds a) b := by
  induction a generalizing R with
  | nil => simp [NoReuse, completedIds]
  | cons p a ih =>
    simp only [List.cons_append, NoReuse, ih, completedIds, List.flatMap_cons, List.append_assoc]
    constructor
    · rintro ⟨h1, h2, h3⟩; exact ⟨⟨h1, h2⟩, h3⟩
    · rintro ⟨⟨h1, h2⟩, h3⟩; exact ⟨h1, h2, h3⟩

theorem noLateData_append (R : List Nat) (a b : List Payload) :
    NoLateData R (a ++ b) ↔ NoLateData R a ∧ NoLateData (R ++ completedIds a) b := by
  induction a generalizing R with
  | nil => simp [NoLateData, completedIds]
  | cons p a ih =>
    simp only [List.cons_append, NoLateData, ih, completedIds, List.flatMap_cons, List.append_assoc]
    constructor
    · rintro ⟨h1, h2, h3⟩; exact ⟨⟨h1, h2⟩, h3⟩
    · rintro ⟨⟨h1, h2⟩, h3⟩; exact ⟨h1, h2, h3⟩

/-- The id bookkeeping through any batches, with the two stream-level facts it gives:
no payload announces, or carries data for, an id that an earlier payload completed. -/
theorem publish_ids (π : PubStatic) (bs : List (List WQEvent)) {p : Pub} {R : List Nat} (h : PubIds R p) :
    PubIds (R ++ completedIds (publish π p bs).2) (publish π p bs).1 ∧
    NoReuse R (publish π p bs).2 ∧ NoLateData R (publish π p bs).2 := by
  induction bs generalizing p R with
  | nil => simpa [publish, completedIds, NoReuse, NoLateData] using h
  | cons b bs ih =>
    have hb := handleBatch_spec π b h
    obtain ⟨i1, i2, i3⟩ := ih hb.toPubIds
    simp only [publish, NoReuse, NoLateData]
    exact ⟨by simpa [completedIds, List.append_assoc] using i1, ⟨hb.fresh, i2⟩, ⟨hb.noLate, i3⟩⟩

theorem publish_spec (π : PubStatic) (batches : List (List WQEvent)) (p : Pub) (R : List Nat)
    (hp : PubInv p) (hr : Ret p R) (hn : R.Nodup) :
    (R ++ completedIds (publish π p batches).2).Nodup ∧
    ∀ pre pl post, (publish π p batches).2 = pre ++ pl :: post →
      ∀ a ∈ pl.pending, a.id ∉ R ++ completedIds pre := by
  obtain ⟨h, hre, _⟩ := publish_ids π batches ⟨hp, hr, hn⟩
  refine ⟨h.nodup, fun pre pl post e => ?_⟩
  rw [e, noReuse_append] at hre
  exact hre.2.1

/-- The id bookkeeping of the initial result followed by the publisher's output on any batches. -/
theorem initial_ids (π : PubStatic) (gs ss : List Nat) (bs : List (List WQEvent)) :
    (completedIds ((initialPayload π gs ss).2 :: (publish π (initialPayload π gs ss).1 bs).2)).Nodup ∧
    NoReuse [] ((initialPayload π gs ss).2 :: (publish π (initialPayload π gs ss).1 bs).2) ∧
    NoLateData [] ((initialPayload π gs ss).2 :: (publish π (initialPayload π gs ss).1 bs).2) := by
  obtain ⟨h, h1, h2⟩ := publish_ids π bs (p := (initialPayload π gs ss).1) (R := [])
    ⟨by rw [initialPayload_nodes]; exact (toPendingNodes_inv {} _ pubInv_empty).1, nofun, List.nodup_nil⟩
  have hc : (initialPayload π gs ss).2.completed = [] := rfl
  exact ⟨by simpa [completedIds, hc] using h.nodup, by simpa [NoReuse, hc] using h1,
    by simpa [NoLateData, hc, initialPayload] using h2⟩

end Gql.Async
