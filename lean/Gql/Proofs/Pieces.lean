import Gql.Proofs.LexLeaves
/-!
Printed pieces.  `Pc t ks`: the non-empty text `t`, re-indented by any amount (the printer's `indent`
re-indents children it has already printed), lexes to `ks`.  `OptPc`: a piece or nothing.  `Its ts K`:
a list of pieces, which lexes to `K` when joined by any ignorable separator at any indentation.  The
three are closed under the printer's own combinators (`wrap`, `join`, `indent`, `block`,
`wrappedLineAndArgs`, `argDefs`) with the token shapes the `…Kvs` functions have, so the lemma of a
node is the term that follows its `leave_*` method.  Both layouts of a bracketed list lex to the
same tokens (`Its.line`, `Its.multi`), so the printer's choice between them is one `split`.
-/
namespace Gql.Text
open Gql.Syntax

theorem indentLF_zero (x : List Nat) : indentLF 0 x = x := by
  induction x with
  | nil => rfl
  | cons c r ih => by_cases hc : c = 10 <;> simp [indentLF, hc, ih]

theorem indentLF_ne_nil {k : Nat} {x : List Nat} (h : x ≠ []) : indentLF k x ≠ [] := by
  obtain ⟨a, r, rfl⟩ := List.exists_cons_of_ne_nil h
  by_cases ha : a = 10 <;> simp [indentLF, ha]

theorem indentLF_joinWith (k : Nat) (sep : List Nat) (ts : List (List Nat)) :
    indentLF k (joinWith sep ts) = joinWith (indentLF k sep) (ts.map (indentLF k)) := by
  induction ts with
  | nil => simp [joinWith, indentLF]
  | cons t rest ih =>
    cases rest with
    | nil => simp [joinWith]
    | cons t' rest' =>
      simp only [joinWith, List.map_cons, indentLF_append] at ih ⊢
      rw [ih]

theorem join_eq_joinWith (sep : List Nat) (ts : List (List Nat)) (h : ∀ t ∈ ts, t ≠ []) :
    join ts sep = joinWith sep ts := by
  unfold join
  congr 1
  rw [List.filter_eq_self]
  intro t ht
  have := h t ht
  cases t <;> simp_all

theorem joinWith_eq_nil {sep : List Nat} {ts : List (List Nat)} (h : ∀ t ∈ ts, t ≠ []) (hts : ts ≠ []) :
    joinWith sep ts ≠ [] := by
  cases ts with
  | nil => exact absurd rfl hts
  | cons t rest =>
    have ht := h t (by simp)
    cases rest with
    | nil => simpa [joinWith] using ht
    | cons t' r => simp [joinWith, ht]

theorem wrap_of_ne {s x e : List Nat} (h : x ≠ []) : wrap s x e = s ++ x ++ e := by
  cases x with
  | nil => exact absurd rfl h
  | cons a r => simp [wrap]

theorem ignorable_append {a b : List Nat} (ha : Ignorable a) (hb : Ignorable b) : Ignorable (a ++ b) := by
  intro c hc
  rcases List.mem_append.mp hc with h | h
  · exact ha c h
  · exact hb c h

theorem ignorable_lf_spaces (k : Nat) : Ignorable (10 :: List.replicate k 32) := by
  intro c hc
  simp at hc
  rcases hc with rfl | ⟨_, rfl⟩ <;> simp

theorem ign32 : Ignorable [32] := by intro x hx; simp at hx; simp [hx]
theorem ign10 : Ignorable [10] := by intro x hx; simp at hx; simp [hx]

theorem Ignorable.indentLF {s : List Nat} (hs : Ignorable s) (k : Nat) : Ignorable (indentLF k s) := by
  induction s with
  | nil => intro c hc; simp [Gql.Text.indentLF] at hc
  | cons x r ih =>
    have hr := ih fun d hd => hs d (by simp [hd])
    intro c hc
    by_cases h10 : x = 10
    · simp only [Gql.Text.indentLF, h10, ↓reduceIte, List.mem_cons, List.mem_append, List.mem_replicate] at hc
      rcases hc with rfl | ⟨_, rfl⟩ | hc
      · simp
      · simp
      · exact hr c hc
    · simp only [Gql.Text.indentLF, h10, ↓reduceIte, List.mem_cons] at hc
      rcases hc with rfl | hc
      · exact hs _ (by simp)
      · exact hr c hc

/-- No character of a name is a character that cannot continue a name (a line feed, a brace, …). -/
theorem name_not {n : List Nat} (h : validName n = true) (x : Nat) (hx : isNameContinue x = false) :
    ∀ c ∈ n, c ≠ x := by
  cases n with
  | nil => simp [validName] at h
  | cons a r =>
    simp only [validName, Bool.and_eq_true, List.all_eq_true] at h
    rintro c hc rfl
    rcases List.mem_cons.mp hc with rfl | hc
    · rw [isNameStart_continue h.1] at hx; cases hx
    · rw [h.2 c hc] at hx; cases hx

theorem indentNL_eq (x : List Nat) : Gql.Syntax.indentNL x = indentLF 2 x := by
  induction x with
  | nil => rfl
  | cons c r ih => by_cases hc : c = 10 <;> simp [Gql.Syntax.indentNL, indentLF, hc, ih, List.replicate]

theorem S_colon : S ": " = [58, 32] := by decide

/-- `open A items B close`: the shape of every list / object layout. -/
theorem lexes_bracket (o cl : Nat) (ko kc : TokKind) (hko : punctKind o = some ko)
    (hkc : punctKind cl = some kc) (hsafe : safeHead cl = true) (A B J : List Nat) (K : List KV)
    (hA : Ignorable A) (hB : Ignorable B) (hJ : Lexes true J K) :
    Lexes true ([o] ++ (A ++ (J ++ (B ++ [cl])))) ((ko, none) :: K ++ [(kc, none)]) := by
  have hJB : Lexes true (J ++ B) K := by
    by_cases hb : B = []
    · subst hb; simpa using hJ
    · exact (Lexes.append_ign hJ hB hb).weaken true
  have h1 := Lexes.append_punct hJB cl kc hkc hsafe
  have h2 := Lexes.append_l (Lexes.ignorable A hA) h1
  have h3 := Lexes.append_l (Lexes.punct o ko hko) h2
  have := h3.weaken true
  simpa [List.append_assoc] using this

theorem indent_of_ne {y : List Nat} (hy : y ≠ []) : indent y = [32, 32] ++ indentLF 2 y := by
  unfold indent
  rw [indentNL_eq, wrap_of_ne (indentLF_ne_nil hy), List.append_nil]

theorem indent_nil : indent [] = [] := by simp [indent, wrap, indentNL]

theorem indentLF_lf (k : Nat) : indentLF k [10] = 10 :: List.replicate k 32 := by simp [indentLF]

theorem indentLF_wrapped (k o cl : Nat) (ts : List (List Nat)) (hts : ts ≠ []) (hne : ∀ t ∈ ts, t ≠ [])
    (ho : o ≠ 10) (hcl : cl ≠ 10) :
    indentLF k ([o] ++ [10] ++ indent (joinWith [10] ts) ++ [10] ++ [cl]) =
      [o] ++ ((10 :: List.replicate k 32 ++ [32, 32]) ++
        (joinWith (10 :: List.replicate (k + 2) 32) (ts.map (indentLF (k + 2))) ++
          ((10 :: List.replicate k 32) ++ [cl]))) := by
  rw [indent_of_ne (joinWith_eq_nil hne hts)]
  simp only [indentLF_append]
  rw [indentLF_indentLF, indentLF_joinWith, indentLF_lf, indentLF_lf]
  simp [indentLF, ho, hcl, List.append_assoc]

theorem block_eq (ts : List (List Nat)) (hts : ts ≠ []) (hne : ∀ t ∈ ts, t ≠ []) :
    block ts = [123] ++ [10] ++ indent (joinWith [10] ts) ++ [10] ++ [125] := by
  unfold block wrap
  rw [join_eq_joinWith [10] _ hne, indent_of_ne (joinWith_eq_nil hne hts)]
  simp

/-- A printed piece: not empty, and at every indentation it lexes to `ks`. -/
structure Pc (t : List Nat) (ks : List KV) : Prop where
  ne : t ≠ []
  lex : ∀ k, Lexes true (indentLF k t) ks

/-- A piece or nothing (the printer's `wrap` and `join` drop empty texts). -/
def OptPc (t : List Nat) (ks : List KV) : Prop := (t = [] ∧ ks = []) ∨ Pc t ks

/-- A list of pieces with the concatenation of their tokens. -/
inductive Its : List (List Nat) → List KV → Prop
  | nil : Its [] []
  | cons {t ks ts K} : Pc t ks → Its ts K → Its (t :: ts) (ks ++ K)

/-- The text may stand directly behind a name, a number or a string. -/
def SafeHd (b : List Nat) : Prop := ∃ c r, b = c :: r ∧ safeHead c = true

abbrev NoLF (t : List Nat) : Prop := ∀ c ∈ t, c ≠ 10

theorem SafeHd.indent {b : List Nat} (h : SafeHd b) (k : Nat) (rest : List Nat) : Safe (indentLF k b ++ rest) := by
  obtain ⟨c, r, rfl, hc⟩ := h
  by_cases h10 : c = 10
  · subst h10; simp only [indentLF, ↓reduceIte, List.cons_append]; exact Safe.cons hc
  · simp only [indentLF, h10, ↓reduceIte, List.cons_append]; exact Safe.cons hc

theorem wrap_safeHd {c : Nat} {s x e : List Nat} (hc : safeHead c = true) (h : wrap (c :: s) x e ≠ []) :
    SafeHd (wrap (c :: s) x e) := by
  unfold wrap at h ⊢
  split at h
  · exact absurd rfl h
  · rename_i hx; simp only [hx]; exact ⟨c, _, rfl, hc⟩

theorem Pc.flat {t : List Nat} {ks : List KV} (h : Lexes true t ks) (hne : t ≠ []) (hno : NoLF t) : Pc t ks :=
  ⟨hne, fun k => by rw [indentLF_no10 k t hno]; exact h⟩

theorem Pc.name {n : List Nat} (h : validName n = true) : Pc n [(.name, some n)] :=
  .flat (Lexes.name n h) (validName_ne_nil h) (name_not h 10 (by decide))

theorem Pc.punct (c : Nat) (k : TokKind) (h : punctKind c = some k) (h10 : c ≠ 10) : Pc [c] [(k, none)] :=
  .flat ((Lexes.punct c k h).weaken true) (by simp) (by intro x hx; simp at hx; omega)

theorem Pc.append {a b : List Nat} {ka kb : List KV} (ha : Pc a ka) (hb : Pc b kb) (hs : SafeHd b) :
    Pc (a ++ b) (ka ++ kb) :=
  ⟨by simp [ha.ne], fun k => by
    rw [indentLF_append]
    exact Lexes.append (ha.lex k) (hb.lex k) (fun _ rest _ => hs.indent k rest)⟩

/-- `a`, then blanks (or commas, line feeds), then `b`. -/
theorem Pc.sep {a b : List Nat} {ka kb : List KV} (ha : Pc a ka) (s : List Nat) (hs : Ignorable s) (hne : s ≠ [])
    (hb : Pc b kb) : Pc (a ++ s ++ b) (ka ++ kb) :=
  ⟨by simp [ha.ne], fun k => by
    rw [indentLF_append, indentLF_append]
    exact Lexes.append_l (Lexes.append_ign (ha.lex k) (hs.indentLF k) (indentLF_ne_nil hne)) (hb.lex k)⟩

theorem Pc.then_punct {a : List Nat} {ka : List KV} (ha : Pc a ka) (c : Nat) (k : TokKind)
    (h : punctKind c = some k) (hs : safeHead c = true) (h10 : c ≠ 10) : Pc (a ++ [c]) (ka ++ [(k, none)]) :=
  ha.append (.punct c k h h10) ⟨c, [], rfl, hs⟩

/-- a flat opening that needs nothing particular behind it, directly before a piece -/
theorem Pc.pre {s x : List Nat} {ks kx : List KV} (hs : Lexes false s ks) (hs10 : NoLF s) (hx : Pc x kx) :
    Pc (s ++ x) (ks ++ kx) :=
  ⟨by simp [hx.ne], fun k => by
    rw [indentLF_append, indentLF_no10 k s hs10]; exact Lexes.append_l hs (hx.lex k)⟩

theorem Pc.punct_then (c : Nat) (k : TokKind) (h : punctKind c = some k) (h10 : c ≠ 10) {b : List Nat}
    {kb : List KV} (hb : Pc b kb) : Pc (c :: b) ((k, none) :: kb) :=
  Pc.pre (Lexes.punct c k h) (by intro x hx; simp at hx; omega) hb

theorem Pc.named {n : List Nat} (hn : validName n = true) {b : List Nat} {kb : List KV} (hb : Pc b kb) :
    Pc (n ++ S ": " ++ b) ((.name, some n) :: (.colon, none) :: kb) := by
  have := ((Pc.name hn).then_punct 58 .colon (by decide) (by decide) (by decide)).sep [32] ign32 (by simp) hb
  simpa [S_colon, List.append_assoc] using this

theorem OptPc.none : OptPc [] [] := .inl ⟨rfl, rfl⟩

theorem Pc.opt {t : List Nat} {ks : List KV} (h : Pc t ks) : OptPc t ks := .inr h

/-- At indentation 0 the piece is the text itself. -/
theorem OptPc.lexes {t : List Nat} {ks : List KV} (h : OptPc t ks) : Lexes true t ks := by
  rcases h with ⟨rfl, rfl⟩ | h
  · exact Lexes.nil.weaken true
  · simpa [indentLF_zero] using h.lex 0

theorem Pc.appendOpt {a b : List Nat} {ka kb : List KV} (ha : Pc a ka) (hb : OptPc b kb)
    (hs : b ≠ [] → SafeHd b) : Pc (a ++ b) (ka ++ kb) := by
  rcases hb with ⟨rfl, rfl⟩ | hb
  · simpa using ha
  · exact ha.append hb (hs hb.ne)

theorem Pc.sp {a b : List Nat} {ka kb : List KV} (ha : Pc a ka) (hb : OptPc b kb) :
    Pc (a ++ wrap [32] b) (ka ++ kb) := by
  rcases hb with ⟨rfl, rfl⟩ | hb
  · simpa [wrap] using ha
  · simpa [wrap_of_ne hb.ne, List.append_assoc] using ha.sep [32] ign32 (by simp) hb

/-- an optional piece with a separator behind it, in front of a piece: `wrap "" b sep ++ R` -/
theorem Pc.optThen {b R : List Nat} {kb kr : List KV} (hb : OptPc b kb) (s : List Nat) (hs : Ignorable s)
    (hne : s ≠ []) (hR : Pc R kr) : Pc (wrap [] b s ++ R) (kb ++ kr) := by
  rcases hb with ⟨rfl, rfl⟩ | hb
  · simpa [wrap] using hR
  · have := hb.sep s hs hne hR
    rwa [wrap_of_ne hb.ne, List.nil_append]

/-- `wrap start x`: an optional piece behind a flat opening. -/
theorem OptPc.wrapPre {s x : List Nat} {ks kx : List KV} (hs : Lexes false s ks) (hs10 : NoLF s)
    (hx : x ≠ [] → Pc x kx) : OptPc (wrap s x) (if x.isEmpty then [] else ks ++ kx) := by
  cases x with
  | nil => exact .inl ⟨by simp [wrap], by simp⟩
  | cons c r => exact .inr (by simpa [wrap] using Pc.pre hs hs10 (hx (by simp)))

/-- `wrap s X e` for a text `X` that is empty exactly when `b`. -/
theorem OptPc.wrapIf {s X e : List Nat} {ks : List KV} {b : Bool} (h0 : b = true → X = [])
    (h1 : b = false → X ≠ [] ∧ Pc (s ++ X ++ e) ks) : OptPc (wrap s X e) (if b then [] else ks) := by
  cases b with
  | true => exact .inl ⟨by simp [wrap, h0 rfl], rfl⟩
  | false => obtain ⟨hX, hP⟩ := h1 rfl; rw [wrap_of_ne hX]; exact .inr hP

theorem Its.ne {ts : List (List Nat)} {K : List KV} (h : Its ts K) : ∀ t ∈ ts, t ≠ [] := by
  induction h with
  | nil => simp
  | cons h _ ih => intro x hx; rcases List.mem_cons.mp hx with rfl | hx; exact h.ne; exact ih x hx

theorem Its.lex {ts : List (List Nat)} {K : List KV} (h : Its ts K) (k : Nat) (sep : List Nat)
    (hsep : Ignorable sep) (hne : sep ≠ []) : Lexes true (joinWith sep (ts.map (indentLF k))) K := by
  induction h with
  | nil => exact Lexes.nil.weaken true
  | @cons t ks ts K h hr ih =>
    cases hr with
    | nil => simpa [joinWith] using h.lex k
    | cons h2 hr2 =>
      have := Lexes.append_l (Lexes.append_ign (h.lex k) hsep hne) ih
      simpa [joinWith, List.append_assoc] using this

/-- A recursive function over a list that concatenates the results for the items is a `flatMap`. -/
theorem kvs_eq_flatMap {α β : Type} (f : List α → List β) (g : α → List β) (h0 : f [] = [])
    (hc : ∀ a r, f (a :: r) = g a ++ f r) (xs : List α) : f xs = xs.flatMap g := by
  induction xs with
  | nil => exact h0
  | cons a r ih => rw [hc, ih, List.flatMap_cons]

/-- A recursive predicate over a list that holds of `a :: r` only if `Q a` and the predicate of `r`, gives `Q` of
every member. -/
theorem forall_mem_of_rec {α : Type} (P : List α → Prop) (Q : α → Prop) (hc : ∀ a r, P (a :: r) → Q a ∧ P r) :
    ∀ xs, P xs → ∀ x ∈ xs, Q x
  | a :: r, h, x, hx => by
    rcases List.mem_cons.mp hx with rfl | hx
    · exact (hc x r h).1
    · exact forall_mem_of_rec P Q hc r (hc a r h).2 x hx

/-- The items printed from a list `xs` whose tokens the recursive `kvs` concatenates. -/
theorem Its.map {α : Type} (pr : α → List Nat) (kv : α → List KV) (kvs : List α → List KV)
    (hnil : kvs [] = []) (hcons : ∀ a r, kvs (a :: r) = kv a ++ kvs r) (xs : List α)
    (h : ∀ a ∈ xs, Pc (pr a) (kv a)) : Its (xs.map pr) (kvs xs) := by
  induction xs with
  | nil => rw [hnil]; exact .nil
  | cons a r ih =>
    rw [List.map_cons, hcons]
    exact .cons (h a (by simp)) (ih fun b hb => h b (by simp [hb]))

theorem Its.join_ne_nil {ts : List (List Nat)} {K : List KV} (h : Its ts K) (hts : ts ≠ []) (sep : List Nat) :
    Gql.Syntax.join ts sep ≠ [] := by
  rw [join_eq_joinWith _ _ h.ne]; exact joinWith_eq_nil h.ne hts

/-- `join(items, sep)` of pieces, for an ignorable separator. -/
theorem Its.joined {ts : List (List Nat)} {K : List KV} (h : Its ts K) (sep : List Nat) (hsep : Ignorable sep)
    (hne : sep ≠ []) : OptPc (Gql.Syntax.join ts sep) K := by
  cases h with
  | nil => exact .none
  | cons h1 hr =>
    have hI : Its _ _ := .cons h1 hr
    refine .inr ⟨hI.join_ne_nil (by simp) sep, fun k => ?_⟩
    rw [join_eq_joinWith _ _ hI.ne, indentLF_joinWith]
    exact hI.lex k _ (hsep.indentLF k) (indentLF_ne_nil hne)

/-- A pair of brackets with their token kinds; the closing one may stand directly behind a name. -/
structure Brackets (o cl : Nat) (ko kc : TokKind) : Prop where
  ko : punctKind o = some ko
  kc : punctKind cl = some kc
  safe : safeHead cl = true
  o10 : o ≠ 10
  c10 : cl ≠ 10

theorem Brackets.paren : Brackets 40 41 .parenL .parenR := by constructor <;> decide
theorem Brackets.bracket : Brackets 91 93 .bracketL .bracketR := by constructor <;> decide
theorem Brackets.brace : Brackets 123 125 .braceL .braceR := by constructor <;> decide

section
variable {o cl : Nat} {ko kc : TokKind} (b : Brackets o cl ko kc) {ts : List (List Nat)} {K : List KV}
include b

/-- one line: `o pad a, b, c pad cl` -/
theorem Its.line (h : Its ts K) (pad : List Nat) (hpad : ∀ c ∈ pad, c = 32) :
    Pc ([o] ++ pad ++ Gql.Syntax.join ts [44, 32] ++ pad ++ [cl]) ((ko, none) :: K ++ [(kc, none)]) :=
  ⟨by simp, fun k => by
    have hpi : Ignorable pad := fun c hc => Or.inl (hpad c hc)
    have := lexes_bracket o cl ko kc b.ko b.kc b.safe pad pad _ _ hpi hpi
      (h.lex k [44, 32] (by intro x hx; simp at hx; rcases hx with rfl | rfl <;> simp) (by simp))
    have hp : indentLF k pad = pad := indentLF_no10 k pad fun c hc h10 => by have := hpad c hc; omega
    rw [join_eq_joinWith _ _ h.ne]
    simpa [indentLF_append, indentLF_joinWith, indentLF, b.o10, b.c10, hp, List.append_assoc] using this⟩

/-- one item per line, indented: the items are re-indented by two more -/
theorem Its.multi (h : Its ts K) :
    Pc ([o] ++ [10] ++ indent (Gql.Syntax.join ts [10]) ++ [10] ++ [cl]) ((ko, none) :: K ++ [(kc, none)]) :=
  ⟨by simp, fun k => by
    rw [join_eq_joinWith _ _ h.ne]
    by_cases hts : ts = []
    · subst hts
      have := lexes_bracket o cl ko kc b.ko b.kc b.safe (10 :: List.replicate k 32) (10 :: List.replicate k 32) _ _
        (ignorable_lf_spaces k) (ignorable_lf_spaces k) (h.lex k [10] ign10 (by simp))
      simpa [joinWith, indent_nil, indentLF, b.o10, b.c10, List.append_assoc] using this
    · rw [indentLF_wrapped k o cl _ hts h.ne b.o10 b.c10]
      exact lexes_bracket o cl ko kc b.ko b.kc b.safe _ _ _ _
        (ignorable_append (ignorable_lf_spaces k) (by intro x hx; simp at hx; simp [hx]))
        (ignorable_lf_spaces k) (h.lex (k + 2) (10 :: List.replicate (k + 2) 32) (ignorable_lf_spaces _) (by simp))⟩

/-- `wrap "(" (join items ", ") ")"`: nothing for no items. -/
theorem Its.wrapLine (h : Its ts K) :
    OptPc (wrap [o] (Gql.Syntax.join ts [44, 32]) [cl]) (if ts.isEmpty then [] else (ko, none) :: K ++ [(kc, none)]) :=
  .wrapIf (fun h0 => by rw [List.isEmpty_iff.mp h0]; rfl) fun h0 =>
    ⟨h.join_ne_nil (by rintro rfl; cases h0) _, by simpa using h.line b [] (by simp)⟩

/-- `wrap "(\n" (indent (join items "\n")) "\n)"`: nothing for no items. -/
theorem Its.wrapMulti (h : Its ts K) :
    OptPc (wrap [o, 10] (indent (Gql.Syntax.join ts [10])) [10, cl])
      (if ts.isEmpty then [] else (ko, none) :: K ++ [(kc, none)]) :=
  .wrapIf (fun h0 => by rw [List.isEmpty_iff.mp h0]; exact indent_nil) fun h0 =>
    ⟨by rw [indent_of_ne (h.join_ne_nil (by rintro rfl; cases h0) _)]; simp,
      by simpa using h.multi b⟩

/-- `wrap "(\n" (join items "\n") "\n)"`, the items not indented: nothing for no items. -/
theorem Its.wrapLines (h : Its ts K) :
    OptPc (wrap [o, 10] (Gql.Syntax.join ts [10]) [10, cl])
      (if ts.isEmpty then [] else (ko, none) :: K ++ [(kc, none)]) :=
  .wrapIf (fun h0 => by rw [List.isEmpty_iff.mp h0]; rfl) fun h0 =>
    ⟨h.join_ne_nil (by rintro rfl; cases h0) _, by simp, fun k => by
      have := lexes_bracket o cl ko kc b.ko b.kc b.safe _ _ _ _ (ignorable_lf_spaces k) (ignorable_lf_spaces k)
        (h.lex k (10 :: List.replicate k 32) (ignorable_lf_spaces k) (by simp))
      rw [join_eq_joinWith _ _ h.ne]
      simpa [indentLF_append, indentLF_joinWith, indentLF, b.o10, b.c10, List.append_assoc] using this⟩

end

/-- `block(items)`: nothing for no items. -/
theorem Its.block {ts : List (List Nat)} {K : List KV} (h : Its ts K) :
    OptPc (Gql.Syntax.block ts) (if ts.isEmpty then [] else (.braceL, none) :: K ++ [(.braceR, none)]) :=
  h.wrapMulti .brace

theorem Its.blockPc {ts : List (List Nat)} {K : List KV} (h : Its ts K) (hts : ts ≠ []) :
    Pc (Gql.Syntax.block ts) ((.braceL, none) :: K ++ [(.braceR, none)]) := by
  rw [block_eq ts hts h.ne, ← join_eq_joinWith _ _ h.ne]
  exact h.multi .brace

/-- `argDefs(items)`: the parenthesised list in the layout its items ask for. -/
theorem Its.argDefs {ts : List (List Nat)} {K : List KV} (h : Its ts K) :
    OptPc (Gql.Syntax.argDefs ts) (if ts.isEmpty then [] else (.parenL, none) :: K ++ [(.parenR, none)]) := by
  unfold Gql.Syntax.argDefs
  split
  · exact h.wrapMulti .paren
  · exact h.wrapLine .paren

/-- It may stand behind a name. -/
theorem argDefs_safeHd (ts : List (List Nat)) : Gql.Syntax.argDefs ts ≠ [] → SafeHd (Gql.Syntax.argDefs ts) := by
  unfold Gql.Syntax.argDefs
  split <;> exact wrap_safeHd (by decide)

/-- `wrapped_line_and_args(prefix, args)` -/
theorem Pc.wla (w : Widths) {pre : List Nat} {kp : List KV} (hp : Pc pre kp) {args : List (List Nat)}
    {K : List KV} (ha : Its args K) :
    Pc (wrappedLineAndArgs w pre args)
      (kp ++ if args.isEmpty then [] else (.parenL, none) :: K ++ [(.parenR, none)]) := by
  unfold wrappedLineAndArgs
  simp only
  split
  · exact hp.appendOpt (ha.wrapMulti .paren)
      (wrap_safeHd (by decide))
  · exact hp.appendOpt (ha.wrapLine .paren)
      (wrap_safeHd (by decide))

end Gql.Text
