import Gql.Proofs.Rules
import Gql.Proofs.RulesTree
/-!
C12-7 — the run of one rule over a complete traversal as a pure function of its private state (`Rule.run`), and the
three forms in which the rule proofs use it.  `Member.trav_run`, `validate_run`, `validate_nil_iff_run`: for a rule
that does not read the TypeInfo and never answers BREAK, `validate([rule])` reports nothing iff the run does.  Rules
that are quiet on a subtree (keep the state, answer `None`) report nothing iff no handler call does (`Rule.run_quiet`;
everywhere: `stateless_nil_iff`).  Rules that answer SKIP at every operation and fragment definition run as a fold of
their step over the outer definitions (`run_outer`, `foldStep`); for the rules built on `uniqueStep` the fold reports
nothing iff the names are pairwise distinct (`foldNames_nil_iff`).
-/
namespace Gql.Validation
variable {τ σ ε : Type}

def Rule.handles (r : Rule τ σ ε) : Phase → String → Bool
  | .enter => r.hEnter
  | .leave => r.hLeave

def Rule.call (r : Rule τ σ ε) (s : σ) (ph : Phase) (i : Info) (ti : TI τ) : Action × σ × List ε :=
  if r.handles ph i.kind then r.step s ph i ti else (Action.idle, s, [])

theorem Rule.call_unhandled (r : Rule τ σ ε) (s : σ) (ph : Phase) (i : Info) (ti : TI τ)
    (h : r.handles ph i.kind = false) : r.call s ph i ti = (Action.idle, s, []) := by
  rw [Rule.call, h]; rfl

mutual
  /-- The run of a rule over the complete traversal of a subtree, as a function of its private state: the handler at
  `enter`; unless it answers SKIP, the children and the handler at `leave`.  Result: the state afterwards and the
  reports in order.  (`ti`: the TypeInfo handed to every call; the modelled rules do not read it.) -/
  def Rule.run (r : Rule τ σ ε) (ti : TI τ) : σ → Tree → σ × List ε
    | s, .node i cs =>
      let a := r.call s .enter i ti
      if a.1 = Action.skip then a.2
      else
        let c := Rule.runList r ti a.2.1 cs
        let l := r.call c.1 .leave i ti
        (l.2.1, a.2.2 ++ c.2 ++ l.2.2)
  def Rule.runList (r : Rule τ σ ε) (ti : TI τ) : σ → List Tree → σ × List ε
    | s, [] => (s, [])
    | s, t :: ts => ((Rule.runList r ti (Rule.run r ti s t).1 ts).1, (Rule.run r ti s t).2 ++ (Rule.runList r ti (Rule.run r ti s t).1 ts).2)
end

/-- `m'` is `m` after a stretch that the run `out` (state afterwards, reports) describes, with `sk` in `skipping` -/
def Member.Ran (r : Rule τ σ ε) (m m' : Member τ σ ε) (sk : Skipping) (out : σ × List ε) : Prop :=
  m'.rule = r ∧ m'.skipping = sk ∧ m'.st = out.1 ∧ m'.errs = m.errs ++ out.2

theorem Member.Ran.trans {r : Rule τ σ ε} {m m1 m2 : Member τ σ ε} {sk : Skipping} {o1 o2 : σ × List ε}
    (h1 : Member.Ran r m m1 .none o1) (h2 : Member.Ran r m1 m2 sk o2) : Member.Ran r m m2 sk (o2.1, o1.2 ++ o2.2) :=
  ⟨h2.1, h2.2.1, h2.2.2.1, by rw [h2.2.2.2, h1.2.2.2, List.append_assoc]⟩

theorem Member.enter_fields (ti : TI τ) (i : Info) (m : Member τ σ ε) (hs : m.skipping = .none) :
    Member.Ran m.rule m (Member.enter ti i m).1 (Member.skipOf (m.rule.call m.st .enter i ti).1 i)
      (m.rule.call m.st .enter i ti).2 := by
  unfold Member.Ran Member.enter Rule.call
  by_cases h : m.rule.hEnter i.kind = true <;> simp [hs, h, Member.skipOf, Rule.handles]

theorem Member.leave_fields (ti : TI τ) (i : Info) (m : Member τ σ ε) (hs : m.skipping = .none) :
    Member.Ran m.rule m (Member.leave ti i m).1 (if (m.rule.call m.st .leave i ti).1 = Action.brk then .brk else .none)
      (m.rule.call m.st .leave i ti).2 := by
  unfold Member.Ran Member.leave Rule.call
  by_cases h : m.rule.hLeave i.kind = true <;> simp [hs, h, Rule.handles]

/-- `noSelfNest`: the node a SKIP was answered at does not reappear below itself, so `skipping` is reset only when
that node is left. -/
theorem Member.trav_run (D : Driver τ) (r : Rule τ σ ε) (ti0 : TI τ)
    (hb : ∀ s ph i ti, r.step s ph i ti = r.step s ph i ti0)
    (hnb : ∀ s ph i, (r.step s ph i ti0).1 ≠ Action.brk) :
    (∀ t (ti : TI τ) (m : Member τ σ ε), m.rule = r → m.skipping = .none → t.noSelfNest = true →
      Member.Ran r m (Member.trav D ti m t) .none (r.run ti0 m.st t)) ∧
    (∀ ts (ti : TI τ) (m : Member τ σ ε), m.rule = r → m.skipping = .none → Tree.noSelfNestList ts = true →
      Member.Ran r m (Member.travList D ti m ts) .none (r.runList ti0 m.st ts)) := by
  have hcall : ∀ s ph i ti, r.call s ph i ti = r.call s ph i ti0 := by
    intro s ph i ti; unfold Rule.call; rw [hb]
  have hcnb : ∀ s ph i, (r.call s ph i ti0).1 ≠ Action.brk := by
    intro s ph i; unfold Rule.call; split
    · exact hnb s ph i
    · simp
  apply Tree.induct
  · intro i cs ih ti m hr hs hN
    simp only [Tree.noSelfNest, Bool.and_eq_true, Bool.not_eq_true', List.contains_eq_mem,
      decide_eq_false_iff_not] at hN
    rw [Member.trav, Rule.run]
    have hE := Member.enter_fields (D.enter ti i) i m hs
    rw [hr, hcall] at hE
    have hne := hcnb m.st .enter i
    generalize r.call m.st .enter i ti0 = a at hE hne ⊢
    obtain ⟨act, s1, es⟩ := a
    cases act with
    | brk => exact absurd rfl hne
    | skip =>
      -- the children are passed over, the `leave` of the node itself resets `skipping`
      obtain ⟨e1, e2, e3, e4⟩ := hE
      rw [(Member.trav_stopped D).2 cs _ _ (.inr ⟨i, e2, hN.1⟩)]
      simp [Member.Ran, Member.leave, Member.skipOf, e1, e2, e3, e4]
    | idle =>
      have hC := ih (D.enter ti i) _ hE.1 hE.2.1 hN.2
      have hL := Member.leave_fields (tiTravList D (D.enter ti i) cs) i _ hC.2.1
      rw [hC.1, hcall, hC.2.2.1, hE.2.2.1, if_neg (hcnb _ _ _)] at hL
      rw [hE.2.2.1] at hC
      simpa [List.append_assoc] using (hE.trans hC).trans hL
  · intro ti m hr hs _
    exact ⟨hr, hs, rfl, (List.append_nil _).symm⟩
  · intro t ts iht ihts ti m hr hs hN
    simp only [Tree.noSelfNestList, Bool.and_eq_true] at hN
    rw [Member.travList, Rule.runList]
    have hT := iht ti m hr hs hN.1
    exact hT.trans (hT.2.2.1 ▸ ihts (tiTrav D ti t) _ hT.1 hT.2.1 hN.2)

theorem validate_run (tbl : TITable) (L : Lookups τ) (r : Rule τ σ ε) (s0 : σ)
    (hb : ∀ s ph i ti, r.step s ph i ti = r.step s ph i TI.init)
    (hnb : ∀ s ph i, (r.step s ph i TI.init).1 ≠ Action.brk) (doc : Tree) (hN : doc.noSelfNest = true) :
    validate tbl L none [(r, s0)] doc = (r.run TI.init s0 doc).2.map Reported.error := by
  rw [validate_closed]
  exact congrArg (List.map Reported.error) (List.append_cancel_left
    (((trav_errs _).1 doc TI.init (Member.start r s0)).symm.trans
      ((Member.trav_run (realDriver tbl L) r TI.init hb hnb).1 doc TI.init (Member.start r s0) rfl rfl hN).2.2.2))

def Rule.QuietOn (r : Rule τ σ ε) (P : String → Bool) (f : σ → Phase → Info → List ε) : Prop :=
  ∀ s ph i ti, P i.kind = true → r.step s ph i ti = (Action.idle, s, f s ph i)

/-- what a quiet rule reports at the node `i` in state `s`: nothing at `enter` and at `leave`, where it has handlers -/
def Rule.QuietAt (r : Rule τ σ ε) (f : σ → Phase → Info → List ε) (s : σ) (i : Info) : Prop :=
  (r.hEnter i.kind = true → f s .enter i = []) ∧ (r.hLeave i.kind = true → f s .leave i = [])

theorem Rule.run_quiet (r : Rule τ σ ε) (P : String → Bool) (f : σ → Phase → Info → List ε) (hq : r.QuietOn P f)
    (ti : TI τ) (s : σ) :
    (∀ t, (∀ i ∈ t.infos, P i.kind = true) → (r.run ti s t).1 = s ∧
      ((r.run ti s t).2 = [] ↔ ∀ i ∈ t.infos, r.QuietAt f s i)) ∧
    (∀ ts, (∀ i ∈ Tree.infosList ts, P i.kind = true) → (r.runList ti s ts).1 = s ∧
      ((r.runList ti s ts).2 = [] ↔ ∀ i ∈ Tree.infosList ts, r.QuietAt f s i)) := by
  apply Tree.induct
  · intro i cs ih hP
    simp only [Tree.infos, List.mem_cons, forall_eq_or_imp] at hP ⊢
    have hc : ∀ ph, r.call s ph i ti = (Action.idle, s, if r.handles ph i.kind then f s ph i else []) := by
      intro ph; unfold Rule.call; split
      · exact hq _ _ _ _ hP.1
      · rfl
    obtain ⟨h1, h2⟩ := ih hP.2
    rw [Rule.run]
    simp only [hc, h1, reduceCtorEq, if_false, List.append_eq_nil_iff, h2, true_and, Rule.QuietAt]
    rw [ite_eq_right_iff, ite_eq_right_iff]
    exact ⟨fun ⟨⟨a, b⟩, c⟩ => ⟨⟨a, c⟩, b⟩, fun ⟨⟨a, c⟩, b⟩ => ⟨⟨a, b⟩, c⟩⟩
  · intro _
    simp [Rule.runList, Tree.infosList]
  · intro t ts iht ihts hP
    simp only [Tree.infosList, List.mem_append] at hP ⊢
    obtain ⟨a1, a2⟩ := iht (fun i hi => hP i (Or.inl hi))
    obtain ⟨b1, b2⟩ := ihts (fun i hi => hP i (Or.inr hi))
    rw [Rule.runList]
    simp only [a1, b1, List.append_eq_nil_iff, a2, b2, true_and]
    exact ⟨fun h i hi => hi.elim (h.1 i) (h.2 i), fun h => ⟨fun i hi => h i (Or.inl hi), fun i hi => h i (Or.inr hi)⟩⟩

def Rule.Stateless (r : Rule τ σ ε) (f : Phase → Info → List ε) : Prop :=
  r.QuietOn (fun _ => true) (fun _ => f)

end Gql.Validation

namespace Gql.Validation.Rules
open Gql.Validation

variable {τ : Type}

/-- What a rule reports at an event, read off its handler (for rules whose reports do not depend on the state). -/
def reportsOf (r : CRule τ) (ph : Phase) (i : Info) : List RErr := (r.step RS.init ph i TI.init).2.2

theorem ATree.erase_noSelfNest :
    (∀ t : ATree, t.ids.Nodup → t.erase.noSelfNest = true) ∧
    (∀ ts : List ATree, (ATree.idsList ts).Nodup → Tree.noSelfNestList (ATree.eraseList ts) = true) := by
  apply ATree.induct
  · intro i f v cs ih hnd
    simp only [ATree.ids, List.nodup_cons] at hnd
    simp only [ATree.erase, Tree.noSelfNest, ih hnd.2, Bool.and_true, Bool.not_eq_true', List.contains_eq_mem,
      decide_eq_false_iff_not, ATree.infos_erase.2, List.mem_map, not_exists, not_and]
    intro n hn hni
    have : n.id ∈ ATree.idsList cs := ATree.ids_eq_map.2 cs ▸ List.mem_map_of_mem hn
    exact hnd.1 (by simpa [ATree.id, hni] using this)
  · intro _; rfl
  · intro t ts iht ihts hnd
    simp only [ATree.idsList, List.nodup_append] at hnd
    simp [ATree.eraseList, Tree.noSelfNestList, iht hnd.1, ihts hnd.2.1]

theorem withNode_of_mem {doc n : ATree} (hu : doc.uniqueIds) (hn : n ∈ doc.nodes) (s : RS)
    (g : ATree → Action × RS × List RErr) : withNode doc n.info s g = g n := by
  unfold withNode
  rw [show doc.find n.info.id = some n from ATree.find_of_mem.1 doc hu n hn]

theorem validate_nil_iff_run (tbl : TITable) (L : Lookups τ) (r : CRule τ)
    (hb : ∀ s ph i ti, r.step s ph i ti = r.step s ph i TI.init) (hnb : NeverBreaks r) (s0 : RS) (doc : ATree)
    (hu : doc.uniqueIds) :
    validate tbl L none [(r, s0)] doc.erase = [] ↔ (r.run TI.init s0 doc.erase).2 = [] := by
  rw [validate_run tbl L r s0 hb (fun s ph i => hnb s ph i TI.init) _ (ATree.erase_noSelfNest.1 doc hu),
    List.map_eq_nil_iff]

theorem stateless_nil_iff (tbl : TITable) (L : Lookups τ) (r : CRule τ) (f : Phase → Info → List RErr)
    (hf : r.Stateless f) (doc : ATree) (hu : doc.uniqueIds) :
    validate tbl L none [(r, RS.init)] doc.erase = [] ↔
      ∀ n ∈ doc.nodes, (r.hEnter n.kind = true → f .enter n.info = []) ∧ (r.hLeave n.kind = true → f .leave n.info = []) := by
  rw [validate_nil_iff_run tbl L r (fun s ph i ti => by rw [hf _ _ _ _ rfl, hf _ _ _ _ rfl])
      (fun s ph i ti => by rw [hf _ _ _ _ rfl]; simp) _ doc hu,
    ((r.run_quiet _ _ hf TI.init RS.init).1 doc.erase (fun _ _ => rfl)).2, ATree.infos_erase.1, List.forall_mem_map]
  rfl

def isDef (k : String) : Bool := k == "operation_definition" || k == "fragment_definition"

mutual
  /-- the operation / fragment definitions not nested inside another one, in document order (for a parsed
  document: `document.definitions`) -/
  def outer : ATree → List ATree
    | .node i f v cs => if isDef i.kind then [.node i f v cs] else outerList cs
  def outerList : List ATree → List ATree
    | [] => []
    | t :: ts => outer t ++ outerList ts
end

theorem outer_eq (t : ATree) : outer t = if isDef t.kind then [t] else outerList t.children := by
  cases t; rfl

def foldStep {σ α ε : Type} (step : σ → α → σ × List ε) : σ → List α → σ × List ε
  | s, [] => (s, [])
  | s, a :: as => ((foldStep step (step s a).1 as).1, (step s a).2 ++ (foldStep step (step s a).1 as).2)

theorem foldStep_append {σ α ε : Type} (step : σ → α → σ × List ε) (s : σ) (a b : List α) :
    foldStep step s (a ++ b) =
      ((foldStep step (foldStep step s a).1 b).1, (foldStep step s a).2 ++ (foldStep step (foldStep step s a).1 b).2) := by
  induction a generalizing s with
  | nil => simp [foldStep]
  | cons x xs ih => simp [foldStep, ih, List.append_assoc]

theorem run_outer (r : CRule τ) (step : RS → ATree → RS × List RErr) (hE : r.hEnter = isDef) :
    (∀ t : ATree, (∀ n ∈ t.nodes, r.hLeave n.kind = false ∧
        (isDef n.kind = true → ∀ s, r.step s .enter n.info TI.init = (Action.skip, step s n))) →
      ∀ s, r.run TI.init s t.erase = foldStep step s (outer t)) ∧
    (∀ ts : List ATree, (∀ n ∈ ATree.nodesList ts, r.hLeave n.kind = false ∧
        (isDef n.kind = true → ∀ s, r.step s .enter n.info TI.init = (Action.skip, step s n))) →
      ∀ s, r.runList TI.init s (ATree.eraseList ts) = foldStep step s (outerList ts)) := by
  apply ATree.induct
  · intro i f v cs ih h s
    simp only [ATree.nodes, List.mem_cons, forall_eq_or_imp] at h
    have h1 : r.hLeave i.kind = false ∧
        (isDef i.kind = true → ∀ s, r.step s .enter i TI.init = (Action.skip, step s (.node i f v cs))) := h.1
    rw [ATree.erase, Rule.run, outer]
    by_cases hd : isDef i.kind = true
    · simp [Rule.call, Rule.handles, hE, hd, h1.2 hd s, foldStep]
    · simp [Rule.call, Rule.handles, hE, hd, h1.1, ih h.2]
  · intro _ s
    rfl
  · intro t ts iht ihts h s
    simp only [ATree.nodesList, List.mem_append] at h
    rw [ATree.eraseList, Rule.runList, outerList, foldStep_append, iht (fun n hn => h n (Or.inl hn)),
      ihts (fun n hn => h n (Or.inr hn))]

/-- `enter` of a Unique…Names rule at a node whose `name` attribute is `o`: a missing name is the crash marker. -/
def nameStep (rule : String) (known : List (String × Nat)) : Option ATree → List (String × Nat) × List RErr
  | some nm => uniqueStep rule known nm
  | none => (known, [RErr.crash rule])

theorem lookupName_snoc (x v : String) (id : Nat) (known : List (String × Nat)) :
    lookupName x (known ++ [(v, id)]) = none ↔ lookupName x known = none ∧ v ≠ x := by
  induction known with
  | nil => simp [lookupName]
  | cons kv rest ih =>
    obtain ⟨k', v'⟩ := kv
    by_cases h : k' = x
    · simp [lookupName, h]
    · simp [lookupName, h, ih]

def namesOf (os : List (Option ATree)) : List String := os.filterMap (·.map (·.value))

theorem foldNames_nil_iff (rule : String) (os : List (Option ATree)) : ∀ known : List (String × Nat),
    (foldStep (nameStep rule) known os).2 = [] ↔
      (∀ o ∈ os, o.isSome = true) ∧ (namesOf os).Nodup ∧ ∀ x ∈ namesOf os, lookupName x known = none := by
  induction os with
  | nil => intro known; simp [foldStep, namesOf]
  | cons o os ih =>
    intro known
    rw [foldStep, List.append_eq_nil_iff, ih]
    cases o with
    | none => simp [nameStep, RErr.crash]
    | some nm =>
      have h2 : namesOf (some nm :: os) = nm.value :: namesOf os := rfl
      rw [h2]
      simp only [nameStep, uniqueStep, List.mem_cons, forall_eq_or_imp, Option.isSome_some, true_and, List.nodup_cons]
      cases hl : lookupName nm.value known with
      | some prev => simp
      | none =>
        simp only [lookupName_snoc, true_and]
        constructor
        · rintro ⟨hall, hnd, h⟩
          exact ⟨hall, ⟨fun hmem => (h _ hmem).2 rfl, hnd⟩, fun x hx => (h x hx).1⟩
        · rintro ⟨hall, ⟨hni, hnd⟩, h⟩
          exact ⟨hall, hnd, fun x hx => ⟨h x hx, fun he => hni (he ▸ hx)⟩⟩

/-- The `enter` step of UniqueOperationNames / UniqueFragmentNames on the node object `n`: at the nodes `sel`
selects, `nameStep` on the selected `name` attribute; nothing elsewhere. -/
def selStep (rule : String) (sel : ATree → Option (Option ATree)) (s : RS) (n : ATree) : RS × List RErr :=
  match sel n with
  | none => (s, [])
  | some o => ({ s with known := (nameStep rule s.known o).1 }, (nameStep rule s.known o).2)

theorem foldStep_selStep (rule : String) (sel : ATree → Option (Option ATree)) (ns : List ATree) : ∀ s : RS,
    foldStep (selStep rule sel) s ns =
      ({ s with known := (foldStep (nameStep rule) s.known (ns.filterMap sel)).1 },
        (foldStep (nameStep rule) s.known (ns.filterMap sel)).2) := by
  induction ns with
  | nil => intro s; rfl
  | cons n ns ih =>
    intro s
    rw [foldStep, ih, selStep, List.filterMap_cons]
    cases sel n <;> rfl

end Gql.Validation.Rules
