import Gql.Proofs.LexerString
import Gql.Proofs.BlockDedent
/-!
# `read_block_string` against the BlockString production and `BlockStringValue()`
-/
open Gql Gql.Text
namespace Gql.Text
open Gql.Spec.Lex

theorem take3_iff (body : List Nat) (p : Nat) (h : p < body.length) :
    (body[p] = 34 ∧ slice body (p + 1) (p + 3) = [34, 34]) ↔ (body.drop p).take 3 = [34, 34, 34] := by
  rw [List.drop_eq_getElem_cons h, slice_eq_take_drop body (p + 1) 2]
  rw [show (3 : Nat) = 2 + 1 from rfl, List.take_succ_cons]
  constructor
  · rintro ⟨h1, h2⟩; rw [h1, h2]
  · intro hh; have := List.cons.inj hh; exact ⟨this.1, this.2⟩

theorem take4_iff (body : List Nat) (p : Nat) (h : p < body.length) :
    (body[p] = 92 ∧ slice body (p + 1) (p + 4) = [34, 34, 34]) ↔ (body.drop p).take 4 = [92, 34, 34, 34] := by
  rw [List.drop_eq_getElem_cons h, slice_eq_take_drop body (p + 1) 3]
  rw [show (4 : Nat) = 3 + 1 from rfl, List.take_succ_cons]
  constructor
  · rintro ⟨h1, h2⟩; rw [h1, h2]
  · intro hh; have := List.cons.inj hh; exact ⟨this.1, this.2⟩

theorem blockRest_nil (fuel : Nat) : blockRest fuel [] = none := by
  cases fuel <;> simp [blockRest, sourceCharLen]

theorem splitLinesAux_plain (cur : List Nat) (c : Nat) (w : List Nat) (h10 : c ≠ 10) (h13 : c ≠ 13) :
    splitLinesAux cur (c :: w) = splitLinesAux (cur ++ [c]) w := by
  rw [splitLinesAux]
  · intro r hr; exact absurd hr h13
  · intro hr; exact absurd hr h13
  · intro hr; exact absurd hr h10

theorem splitLinesAux_lf (cur w : List Nat) : splitLinesAux cur (10 :: w) = cur :: splitLinesAux [] w := by
  rw [splitLinesAux]

theorem splitLinesAux_crlf (cur w : List Nat) : splitLinesAux cur (13 :: 10 :: w) = cur :: splitLinesAux [] w := by
  rw [splitLinesAux]

theorem splitLinesAux_cr (cur w : List Nat) (h : w.head? ≠ some 10) :
    splitLinesAux cur (13 :: w) = cur :: splitLinesAux [] w := by
  rw [splitLinesAux]
  intro r hr
  subst hr; simp at h

theorem splitLinesAux_append_plain (cur v w : List Nat) (h : ∀ c ∈ v, c ≠ 10 ∧ c ≠ 13) :
    splitLinesAux cur (v ++ w) = splitLinesAux (cur ++ v) w := by
  induction v generalizing cur with
  | nil => simp
  | cons c v ih =>
    rw [List.cons_append, splitLinesAux_plain _ _ _ (h c (by simp)).1 (h c (by simp)).2,
      ih _ fun d hd => h d (by simp [hd]), List.append_assoc]
    rfl

theorem sourceCharLen_noNL {s : List Nat} {k : Nat} (h : sourceCharLen s = some k)
    (hh : ∀ c, s.head? = some c → c ≠ 10 ∧ c ≠ 13) : ∀ c ∈ s.take k, c ≠ 10 ∧ c ≠ 13 := by
  rcases sourceCharLen_eq_some.1 h with ⟨c, r, rfl, _, rfl⟩ | ⟨c, d, r, rfl, _, hp, rfl⟩
  · simpa using hh c rfl
  · unfold LeadSurrogate TrailSurrogate at hp
    simp only [List.take_succ_cons, List.take_zero, List.mem_cons, List.not_mem_nil, or_false]
    rintro x (rfl | rfl) <;> omega

/-- Prepend one `BlockStringCharacter` (length `n`, raw value `v`). -/
def consB (n : Nat) (v : List Nat) : Option (Nat × List Nat) → Option (Nat × List Nat)
  | none => none
  | some (m, w) => some (m + n, v ++ w)

theorem blockRest_succ (f : Nat) (s : List Nat) :
    blockRest (f + 1) s =
      if s.take 3 = [34, 34, 34] then some (3, [])
      else if s.take 4 = [92, 34, 34, 34] then consB 4 [34, 34, 34] (blockRest f (s.drop 4))
      else match sourceCharLen s with
        | some n => consB n (s.take n) (blockRest f (s.drop n))
        | none => none := by
  rw [blockRest]
  split
  · rfl
  · split
    · cases blockRest f (s.drop 4) with
      | none => rfl
      | some mw => rfl
    · cases sourceCharLen s with
      | none => rfl
      | some n =>
        simp only []
        cases blockRest f (s.drop n) with
        | none => rfl
        | some mw => rfl

/-- Induction over a successful `blockRest`: the closing quotes, an escaped `"""`, or one source
character followed by a successful rest. -/
theorem blockRest_induct {P : List Nat → Nat → List Nat → Prop}
    (close : ∀ s, s.take 3 = [34, 34, 34] → P s 3 [])
    (esc : ∀ s m w, ¬ s.take 3 = [34, 34, 34] → s.take 4 = [92, 34, 34, 34] → P (s.drop 4) m w →
      P s (m + 4) ([34, 34, 34] ++ w))
    (char : ∀ s k m w, ¬ s.take 3 = [34, 34, 34] → ¬ s.take 4 = [92, 34, 34, 34] →
      sourceCharLen s = some k → P (s.drop k) m w → P s (m + k) (s.take k ++ w)) :
    ∀ (f : Nat) (s : List Nat) (n : Nat) (raw : List Nat), blockRest f s = some (n, raw) → P s n raw := by
  intro f
  induction f with
  | zero => intro s n raw h; simp [blockRest] at h
  | succ f0 ih =>
    intro s n raw h
    rw [blockRest_succ] at h
    split at h
    · cases h; exact close s ‹_›
    · split at h
      · cases hr : blockRest f0 (s.drop 4) with
        | none => rw [hr] at h; cases h
        | some mw => rw [hr] at h; cases h; exact esc s _ _ ‹_› ‹_› (ih _ _ _ hr)
      · cases hk : sourceCharLen s with
        | none => rw [hk] at h; cases h
        | some k =>
          rw [hk] at h
          simp only [] at h
          cases hr : blockRest f0 (s.drop k) with
          | none => rw [hr] at h; cases h
          | some mw => rw [hr] at h; cases h; exact char s k _ _ ‹_› ‹_› hk (ih _ _ _ hr)

theorem blockString?_some {u : List Nat} {m : Match} (h : blockString? u = some m) :
    ∃ r n raw, u = 34 :: 34 :: 34 :: r ∧ blockRest r.length r = some (n, raw) ∧
      m = ⟨.blockString, n + 3, some (blockStringValue raw)⟩ := by
  unfold blockString? at h
  split at h
  · next r =>
    cases hb : blockRest r.length r with
    | none => rw [hb] at h; cases h
    | some nraw => rw [hb] at h; cases h; exact ⟨r, _, _, rfl, hb, rfl⟩
  · cases h

theorem consB_consB (a b : Nat) (u v : List Nat) (m : Option (Nat × List Nat)) :
    consB a u (consB b v m) = consB (b + a) (u ++ v) m := by
  cases m with
  | none => rfl
  | some mw => simp [consB, Nat.add_assoc]

/-- A result `r` of the block string loop that stands at `p` with the finished lines `bl` and the
current line `cur`, against `BlockStringCharacter* """` from `p` on. -/
def BlkAgree (r : LexOut (Token × LexState)) (st : LexState) (start p : Nat) (bl : List (List Nat))
    (cur : List Nat) (m : Option (Nat × List Nat)) : Prop :=
  match m with
  | some (n, raw) => ∃ st', r = .ok (mkToken st .blockString start (p + n)
      (some (joinLines (dedentBlockStringLines (bl ++ splitLinesAux cur raw)))), st')
  | none => ∃ e, r = .err e

theorem BlkAgree.step {r : LexOut (Token × LexState)} {st : LexState} {start p k : Nat}
    {bl bl' : List (List Nat)} {cur cur' v : List Nat} {m' : Option (Nat × List Nat)}
    (h : BlkAgree r st start (p + k) bl' cur' m')
    (hlines : ∀ m w, m' = some (m, w) → bl' ++ splitLinesAux cur' w = bl ++ splitLinesAux cur (v ++ w)) :
    BlkAgree r st start p bl cur (consB k v m') := by
  cases hm : m' with
  | none => rw [hm] at h; exact h
  | some mw =>
    obtain ⟨m, w⟩ := mw
    rw [hm] at h
    obtain ⟨st', hst⟩ := h
    exact ⟨st', by rw [hst, hlines m w hm, Nat.add_assoc, Nat.add_comm k m]⟩

theorem blockRest_head (fuel : Nat) (s : List Nat) (m : Nat) (w : List Nat)
    (h : blockRest fuel s = some (m, w)) (hw : w.head? = some 10) : s.head? = some 10 := by
  revert hw
  refine blockRest_induct (P := fun s _ w => w.head? = some 10 → s.head? = some 10)
    (fun s _ hw => nomatch hw) (fun s m w _ _ _ hw => nomatch hw) ?_ fuel s m w h
  intro s k m w _ _ hk _ hw
  obtain ⟨hk1, _⟩ := sourceCharLen_pos hk
  match s, k, hk1, hw with
  | c :: r, k + 1, _, hw => exact hw

theorem slice_of_take {body : List Nat} {a n : Nat} {l : List Nat} (h : (body.drop a).take n = l) :
    slice body a (a + n) = l := by rw [slice_eq_take_drop]; exact h

theorem readBlockStringLoop_agree (body : List Nat) (st : LexState) (start : Nat) :
    ∀ (p fuel cs ls : Nat) (cl : List Nat) (bl : List (List Nat)),
      body.length - p ≤ fuel → cs ≤ p →
      BlkAgree (readBlockStringLoop body st start p cs ls cl bl) st start p bl (cl ++ slice body cs p)
        (blockRest fuel (body.drop p)) := by
  -- by induction on a bound `k` of what is left of the text: at CR LF one step of the loop is two of `blockRest`
  suffices ∀ (k p fuel cs ls : Nat) (cl : List Nat) (bl : List (List Nat)),
      body.length - p ≤ k → body.length - p ≤ fuel → cs ≤ p →
      BlkAgree (readBlockStringLoop body st start p cs ls cl bl) st start p bl (cl ++ slice body cs p)
        (blockRest fuel (body.drop p)) from
    fun p fuel cs ls cl bl => this _ p fuel cs ls cl bl (Nat.le_refl _)
  have hend : ∀ p fuel cs ls cl bl, body.length ≤ p →
      BlkAgree (readBlockStringLoop body st start p cs ls cl bl) st start p bl (cl ++ slice body cs p)
        (blockRest fuel (body.drop p)) := by
    intro p fuel cs ls cl bl h
    rw [List.drop_eq_nil_of_le h, blockRest_nil, readBlockStringLoop, dif_neg (by omega)]
    exact ⟨_, rfl⟩
  intro k
  induction k with
  | zero => intro p fuel cs ls cl bl hk _ _; exact hend _ _ _ _ _ _ (by omega)
  | succ k ih =>
    intro p fuel cs ls cl bl hk hf hcs
    by_cases hlt : p < body.length
    · obtain ⟨f, rfl⟩ : ∃ f, fuel = f + 1 := ⟨fuel - 1, by omega⟩
      have hdrop := List.drop_eq_getElem_cons hlt
      -- the loop's equation at `p` beside `blockRest_succ`, both with the grammar's tests
      rw [readBlockStringLoop, dif_pos hlt, index_ok _ _ hlt, Out.bind_ok, blockRest_succ]
      simp only [take3_iff body p hlt, take4_iff body p hlt]
      by_cases h3 : (body.drop p).take 3 = [34, 34, 34]
      · rw [if_pos h3, if_pos h3]
        exact ⟨_, rfl⟩
      rw [if_neg h3, if_neg h3]
      by_cases h4 : (body.drop p).take 4 = [92, 34, 34, 34]
      · rw [if_pos h4, if_pos h4, List.drop_drop]
        refine (ih (p + 4) f (p + 1) ls _ bl (by omega) (by omega) (by omega)).step fun m w _ => ?_
        rw [((take4_iff body p hlt).mpr h4).2, splitLinesAux_append_plain _ _ _ (by decide)]
      rw [if_neg h4, if_neg h4]
      by_cases hnl : body[p] = 13 ∨ body[p] = 10
      · have hsrc : sourceCharLen (body.drop p) = some 1 := by
          rw [hdrop]; rcases hnl with h | h <;> rw [h] <;> rfl
        rw [if_pos hnl, hsrc, hdrop]
        simp only [List.drop_succ_cons, List.drop_zero, List.take_succ_cons, List.take_zero]
        by_cases hcrlf : body[p] = 13 ∧ charAt body (p + 1) = some 10
        · -- CR LF: two source characters, one line terminator
          rw [if_pos hcrlf]
          obtain ⟨f', rfl⟩ : ∃ f', f = f' + 1 := ⟨f - 1, by have := charAt_some_lt hcrlf.2; omega⟩
          obtain ⟨r, hr⟩ := List.head?_eq_some_iff.mp ((charAt_eq_head body (p + 1)).symm.trans hcrlf.2)
          have hnext : blockRest (f' + 1) (body.drop (p + 1)) =
              consB 1 [10] (blockRest f' (body.drop (p + 2))) := by
            rw [blockRest_succ, show body.drop (p + 2) = (body.drop (p + 1)).drop 1 by rw [List.drop_drop],
              hr, if_neg (by simp), if_neg (by simp)]
            rfl
          rw [hnext, consB_consB, hcrlf.1]
          refine (ih (p + 2) f' (p + 2) (p + 2) [] _ (by omega) (by omega) (by omega)).step fun m w _ => ?_
          rw [slice_self, List.append_nil, List.append_assoc]
          exact congrArg _ (splitLinesAux_crlf _ _).symm
        · rw [if_neg hcrlf]
          refine (ih (p + 1) f (p + 1) (p + 1) [] _ (by omega) (by omega) (by omega)).step fun m w hm => ?_
          rw [slice_self, List.append_nil, List.append_assoc]
          refine congrArg _ (Eq.symm ?_)
          rcases hnl with h13 | h10
          · rw [h13]
            -- a lone CR: the rest of the raw text does not begin with LF, since the text does not
            exact splitLinesAux_cr _ _ fun hw =>
              hcrlf ⟨h13, (charAt_eq_head body (p + 1)).trans (blockRest_head f _ m w hm hw)⟩
          · rw [h10]; exact splitLinesAux_lf _ _
      rw [if_neg hnl, sourceChar_ite body p hlt
        (fun j => readBlockStringLoop body st start (p + j) cs ls cl bl)]
      cases hs : sourceCharLen (body.drop p) with
      | none => exact ⟨_, rfl⟩
      | some j =>
        have hj := sourceCharLen_pos hs
        simp only [List.drop_drop]
        refine (ih (p + j) f cs ls cl bl (by omega) (by omega) (by omega)).step fun m w _ => ?_
        rw [slice_add body j hcs, ← List.append_assoc, splitLinesAux_append_plain _ _ _
          (sourceCharLen_noNL hs fun c hc => by
            rw [hdrop] at hc; cases hc; omega)]
    · exact hend _ _ _ _ _ _ (by omega)

theorem joinLines_eq (ls : List (List Nat)) : joinLines ls = joinLF ls := by
  induction ls with
  | nil => rfl
  | cons a r ih =>
    cases r with
    | nil => rfl
    | cons b r' => simp only [joinLines, joinLF]; rw [ih]

/-- BlockString: `read_block_string` returns exactly the grammar's block string token with the
value `BlockStringValue(raw)`, on every text. -/
theorem blockClassOK (body : List Nat) : BlockClassOK body := by
  intro st pos hlt hq htr
  have h3 : (body.drop pos).take 3 = [34, 34, 34] := (take3_iff body pos hlt).mp ⟨hq, htr⟩
  have hsplit : body.drop pos = [34, 34, 34] ++ body.drop (pos + 3) := by
    have := List.take_append_drop 3 (body.drop pos)
    rw [h3, List.drop_drop] at this
    exact this.symm
  rw [hsplit]
  simp only [List.cons_append, List.nil_append, blockString?]
  have hag := readBlockStringLoop_agree body st pos (pos + 3)
    (body.drop (pos + 3)).length (pos + 3) st.lineStart [] [] (by simp) (Nat.le_refl _)
  unfold readBlockString
  cases hbr : blockRest (body.drop (pos + 3)).length (body.drop (pos + 3)) with
  | none =>
    rw [hbr] at hag
    obtain ⟨e, he⟩ := hag
    rw [he]; rfl
  | some nraw =>
    obtain ⟨n, raw⟩ := nraw
    rw [hbr] at hag
    obtain ⟨st', hst⟩ := hag
    rw [hst]
    refine ⟨_, rfl, ?_, by simp, by simp [mkToken], by simp [mkToken]⟩
    simp only [toSpec, mkToken, kindOf, slice_self, List.nil_append, blockStringValue, splitLines,
      dedent_eq_spec, joinLines_eq]
    congr 1; omega

/-- The lexer against the lexical grammar, for every text and every token class. -/
theorem lexAll_agree_all (body : List Nat) : LexAgree (lexAll body) (specTokenize body) :=
  lexAll_agree body (stringClassOK body) (blockClassOK body)

end Gql.Text
