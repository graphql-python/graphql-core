import Gql.Proofs.LexLeaves
import Gql.Proofs.Parses
/-!
The parser model on the tokens of a printed type: `parse_type_reference` rebuilds the tree.  Also the
passage from a `Parses` fact about an entry point to `parse` of a source text
(`parseSource_of_parses`), used by every entry point.
-/
namespace Gql.Syntax
open Gql Gql.Text

namespace TyP

/-- `T!!` cannot be written: the child of a non-null type is a named or a list type. -/
def isCore : Ty → Bool
  | .nonNull _ => false
  | _ => true

def shaped : Ty → Bool
  | .named _ => true
  | .list t => shaped t
  | .nonNull t => isCore t && shaped t

section
variable (cfg : Cfg) (hm : cfg.maxTokens = none)
include hm

/-- The final `!` check of `parse_type_reference`: a `!` follows (`b`), or the next token is none. -/
theorem parses_bang {N : Nat} (ty : Ast) (b : Bool) (ok : KV → Prop) (hok : b = false → ∀ k, ok k → k.1 ≠ .bang) :
    Parses N (expectOptionalToken cfg .bang >>= fun bang =>
        if bang then pure (mkNode "NonNullTypeNode" [("type", ty)]) else pure ty)
      (if b then [(.bang, none)] else []) (if b then .node "NonNullTypeNode" [("type", ty)] else ty) ok := by
  cases b with
  | true => exact Parses.optTok_yes cfg hm .bang none (by decide) (Parses.result (mkNode_nonNull _) (Parses.pure _ ok))
  | false => exact Parses.optTok_no cfg .bang (Parses.pure _ ok) (fun d hd => hok rfl d hd)

/-- `parse_type_reference` on the tokens of a shaped type; for a named or list type also followed by
whatever the `!` check reads. -/
theorem parses_typeRef (t : Ty) : t.wf = true → shaped t = true →
    (∀ (n : Nat) (ok : KV → Prop), (isCore t = true → ∀ k, ok k → k.1 ≠ .bang) →
      Parses n (typeRef n cfg) t.kvs t.toAst ok) ∧
    (isCore t = true → ∀ (n : Nat) (b : Bool) (ok : KV → Prop), (b = false → ∀ k, ok k → k.1 ≠ .bang) →
      Parses n (typeRef n cfg) (t.kvs ++ if b then [(.bang, none)] else [])
        (if b then .node "NonNullTypeNode" [("type", t.toAst)] else t.toAst) ok) := by
  induction t with
  | named nm =>
    intro hwf _
    have hcore : ∀ (n : Nat) (b : Bool) (ok : KV → Prop), (b = false → ∀ k, ok k → k.1 ≠ .bang) →
        Parses n (typeRef n cfg) ((Ty.named nm).kvs ++ if b then [(.bang, none)] else [])
          (if b then .node "NonNullTypeNode" [("type", (Ty.named nm).toAst)] else (Ty.named nm).toAst) ok := by
      intro n b ok hok
      refine Parses.of_lt fun hn => ?_
      obtain ⟨n, rfl⟩ : ∃ n', n = n' + 1 := ⟨n - 1, by omega⟩
      rw [typeRef]
      refine Parses.optTok_no cfg .bracketL ?_ (fun _ _ => by simp [Ty.kvs])
      simp only [Bool.false_eq_true, ↓reduceIte, parseNamedType]
      exact Parses.bind (ka := [(.name, some nm)])
        (Parses.name cfg hm nm (Parses.result (mkNode_named _) (Parses.pure _ anyKV)))
        (parses_bang cfg hm _ b ok hok) (fun _ _ => trivial)
    exact ⟨fun n ok hok => by simpa using hcore n false ok (fun _ => hok rfl), fun _ => hcore⟩
  | list inner ih =>
    intro hwf hsh
    obtain ⟨ihR, _⟩ := ih hwf hsh
    have hcore : ∀ (n : Nat) (b : Bool) (ok : KV → Prop), (b = false → ∀ k, ok k → k.1 ≠ .bang) →
        Parses n (typeRef n cfg) ((Ty.list inner).kvs ++ if b then [(.bang, none)] else [])
          (if b then .node "NonNullTypeNode" [("type", (Ty.list inner).toAst)] else (Ty.list inner).toAst) ok := by
      intro n b ok hok
      refine Parses.of_lt fun hn => ?_
      obtain ⟨n, rfl⟩ : ∃ n', n = n' + 1 := ⟨n - 1, by omega⟩
      rw [typeRef, show (Ty.list inner).kvs ++ (if b then [(TokKind.bang, none)] else []) =
          (.bracketL, none) :: ((inner.kvs ++ [(.bracketR, none)]) ++ if b then [(.bang, none)] else []) by
        simp [Ty.kvs]]
      refine Parses.optTokS_yes cfg hm .bracketL none (by decide) ?_
      simp only [↓reduceIte]
      refine Parses.bind (ok' := anyKV) ?_ (parses_bang cfg hm _ b ok hok) (fun _ _ => trivial)
      exact Parses.bind (ihR n (fun k => k.1 ≠ .bang) (fun _ _ h => h))
        (Parses.tok cfg hm .bracketR none (by decide) fun _ _ =>
          Parses.result (mkNode_list _) (Parses.pure _ anyKV)) (fun _ _ => by simp)
    exact ⟨fun n ok hok => by simpa using hcore n false ok (fun _ => hok rfl), fun _ => hcore⟩
  | nonNull inner ih =>
    intro hwf hsh
    simp only [shaped, Bool.and_eq_true] at hsh
    obtain ⟨_, hcore⟩ := ih hwf hsh.2
    refine ⟨fun n ok _ => ?_, fun h => by simp [isCore] at h⟩
    simpa [Ty.kvs, Ty.toAst] using hcore hsh.1 n true ok (fun h => by cases h)
end
end TyP
end Gql.Syntax

namespace Gql.Syntax
open Gql Gql.Text

theorem toStream_feed (tks : List Token) (e : Token) (h : NonEof tks) (he : e.kind = .eof) :
    toStream (tks ++ [e]) = feed tks (.eof e.start e.line e.column) := by
  induction tks with
  | nil => simp [toStream, feed, he]
  | cons t ts ih =>
    have ht : t.kind ≠ .eof := h t (by simp)
    simp only [List.cons_append, toStream, ht, ↓reduceIte, feed]
    rw [ih (fun x hx => h x (by simp [hx]))]

theorem feed_length (tks : List Token) (a l c : Nat) : (feed tks (.eof a l c)).length = tks.length := by
  induction tks with
  | nil => rfl
  | cons t ts ih => simp [feed, Stream.length, ih]

/-- **From tokens to source text**: if the text lexes to `ks` and the entry point, run on `<SOF>`,
`ks` and the end of the stream with the fuel `parse` gives it, returns `a`, then `parse` of the text
is `a`. -/
theorem parseSource_of_parses (cfg : Cfg) (e : Entry) (he : e ≠ .schemaCoordinate) {s : Bool} {text : List Nat}
    {ks : List KV} {a : Ast} (hlex : Lexes s text ks)
    (hp : Parses (ks.length + 3) (runEntry e cfg (ks.length + 3)) ((.sof, none) :: ks) a (· = (.eof, none))) :
    parseSource e cfg text = .ok a := by
  obtain ⟨tks, t, hall, hkv, hek, hne⟩ := lexAll_of_lexes hlex
  obtain ⟨c', h⟩ := hp (by simp) (sofToken :: tks) (.eof t.start t.line t.column) 0 (by simp [hkv, Token.kv, sofToken])
    (fun x hx => by rcases List.mem_cons.mp hx with rfl | hx; exact (by decide); exact hne x hx) trivial rfl
  have hlen : tks.length = ks.length := by rw [← hkv]; simp
  unfold parseSource parseStream parseStreamWith
  rw [if_neg he, streamOf_of_lexAll _ _ hall, toStream_feed tks t hne hek, parseFuel, feed_length, hlen]
  exact (by rw [show initState (feed tks (.eof t.start t.line t.column)) =
    PSat 0 (feed (sofToken :: tks) (.eof t.start t.line t.column)) from rfl, h])

/-- **Round trip for types**: parsing the printed text of a well-formed, parser-shaped type with the
parser model (`parse_type`, no `max_tokens`) gives the tree back. -/
theorem parseSource_type_print (cfg : Cfg) (hm : cfg.maxTokens = none) (t : Ty) (hwf : t.wf = true)
    (hsh : TyP.shaped t = true) : parseSource .type cfg t.print = .ok t.toAst := by
  refine parseSource_of_parses cfg .type (by decide) (Lexes.ty t hwf) ?_
  rw [runEntry]
  exact Parses.tok cfg hm .sof none (by decide) fun _ _ =>
    Parses.bind_nil ((TyP.parses_typeRef cfg hm t hwf hsh).1 _ (fun k => k.1 ≠ .bang) (fun _ _ h => h))
      (Parses.eof cfg fun _ => Parses.pure _ _) fun k hk => by rw [hk]; decide

end Gql.Syntax
