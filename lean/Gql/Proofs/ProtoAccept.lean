import Gql.Spec.Protocol

/-!
# Completeness of the protocol validator on well-formed streams (C05)

`StreamOk encl ps` is a declarative, membership-level description of a legal prefix of an
incremental delivery stream (data-free part: `withData = false`).  The theorem
`checkPrefix_of_streamOk` shows that the executable validator `checkPrefix false` accepts
every such stream, i.e. the validator raises no clause on streams that satisfy the declarative
conditions.
-/
namespace Gql.Spec.Protocol

/-- all `pending` entries of a list of payloads -/
def pendEntries (ps : List Payload) : List Pending := ps.flatMap (·.pending)

/-- What one payload `pl` must satisfy, given the payloads `pre` emitted before it. -/
structure PayloadOk (encl : Pending → Pending → Bool) (pre : List Payload) (pl : Payload) : Prop where
  annNodup : (pl.pending.map (·.id)).Nodup
  annFresh : ∀ a ∈ pl.pending, a.id ∉ announcedIds pre ∧ a.id ∉ completedIds pre
  incr : ∀ e ∈ pl.incremental, e.id ∈ announcedIds (pre ++ [pl]) ∧ e.id ∉ completedIds pre
  compNodup : (pl.completed.map (·.id)).Nodup
  comp : ∀ c ∈ pl.completed, c.id ∉ completedIds pre ∧ (c.id ∈ announcedIds (pre ++ [pl]) ∨ c.failed = true)
  nest : ∀ b ∈ pl.pending, ∀ a ∈ pendEntries (pre ++ [pl]),
    a.id ∉ completedIds (pre ++ [pl]) → a.id ≠ b.id → encl a b = false
  last : pl.hasNext = false → ∀ a ∈ pendEntries (pre ++ [pl]), a.id ∈ completedIds (pre ++ [pl])

def StreamOk (encl : Pending → Pending → Bool) (ps : List Payload) : Prop :=
  ∀ pre pl post, ps = pre ++ pl :: post → PayloadOk encl pre pl ∧ (post ≠ [] → pl.hasNext = true)

theorem announcedIds_snoc (pre : List Payload) (pl : Payload) :
    announcedIds (pre ++ [pl]) = announcedIds pre ++ pl.pending.map (·.id) := by
  simp [announcedIds]

theorem completedIds_snoc (pre : List Payload) (pl : Payload) :
    completedIds (pre ++ [pl]) = completedIds pre ++ pl.completed.map (·.id) := by
  simp [completedIds]

theorem pendEntries_snoc (pre : List Payload) (pl : Payload) :
    pendEntries (pre ++ [pl]) = pendEntries pre ++ pl.pending := by
  simp [pendEntries]

theorem announcedIds_eq (ps : List Payload) : announcedIds ps = (pendEntries ps).map (·.id) := by
  simp [announcedIds, pendEntries, List.map_flatMap]

theorem findOpen_none_iff (ps : List Pending) (i : Nat) :
    findOpen ps i = none ↔ ∀ a ∈ ps, a.id ≠ i := by
  simp [findOpen, List.find?_eq_none]

theorem findOpen_some_mem {ps : List Pending} {i : Nat} {q : Pending}
    (h : findOpen ps i = some q) : q ∈ ps ∧ q.id = i :=
  ⟨List.mem_of_find?_eq_some h, by simpa using List.find?_some h⟩

/-- State of the validator when the entries `P` have been announced and the ids `C` completed
(membership level): the invariant of all three phases of `stepPayload`, each of which extends
`P` or `C` by one element at a time. -/
structure VInv (P : List Pending) (C : List Nat) (st : VState) : Prop where
  openP : ∀ a, a ∈ st.openP ↔ a ∈ P ∧ a.id ∉ C
  used : ∀ i, i ∈ st.used ↔ i ∈ P.map (·.id) ∨ i ∈ C
  ann : ∀ i, i ∈ st.announced ↔ i ∈ P.map (·.id)
  fin : st.finished = false

theorem vinv_init (d : J) : VInv [] [] { data := d } := ⟨by simp, by simp, by simp, rfl⟩

theorem VInv.findOpen {P : List Pending} {C : List Nat} {st : VState} (h : VInv P C st) {i : Nat}
    (hi : i ∈ P.map (·.id)) (hc : i ∉ C) : ∃ q, findOpen st.openP i = some q := by
  obtain ⟨a, ha, rfl⟩ := List.mem_map.mp hi
  cases hq : Protocol.findOpen st.openP a.id with
  | some q => exact ⟨q, rfl⟩
  | none => exact absurd rfl ((findOpen_none_iff _ _).1 hq a ((h.openP a).2 ⟨ha, hc⟩))

theorem announce_ok {C : List Nat} (l : List Pending) : ∀ {P : List Pending} {st : VState}, VInv P C st →
    (l.map (·.id)).Nodup → (∀ a ∈ l, a.id ∉ P.map (·.id) ∧ a.id ∉ C) →
    ∃ st', announce st l = .ok st' ∧ VInv (P ++ l) C st' := by
  induction l with
  | nil => intro P st h _ _; exact ⟨st, rfl, by simpa using h⟩
  | cons p r ih =>
    intro P st h hnd hfr
    obtain ⟨hp, hpc⟩ := hfr p (by simp)
    simp only [List.map_cons, List.nodup_cons] at hnd
    have h1 : VInv (P ++ [p]) C
        { st with openP := st.openP ++ [p], used := p.id :: st.used, announced := p.id :: st.announced } := by
      refine ⟨fun a => ?_, fun i => ?_, fun i => ?_, h.fin⟩
      · simp only [List.mem_append, List.mem_singleton, h.openP]
        constructor
        · rintro (⟨h1, h2⟩ | rfl)
          · exact ⟨Or.inl h1, h2⟩
          · exact ⟨Or.inr rfl, hpc⟩
        · rintro ⟨h1 | h1, h2⟩
          · exact Or.inl ⟨h1, h2⟩
          · exact Or.inr h1
      · simp [h.used, or_assoc, or_left_comm]
      · simp [h.ann, or_comm]
    obtain ⟨st', e, h'⟩ := ih h1 hnd.2 (fun a ha => by
      have hne : a.id ≠ p.id := fun e => hnd.1 (e ▸ List.mem_map_of_mem ha)
      simpa [hne] using hfr a (by simp [ha]))
    refine ⟨st', ?_, by simpa using h'⟩
    simp only [announce, mt (h.ann _).1 hp, mt (h.used _).1 (not_or.2 ⟨hp, hpc⟩), if_false]
    exact e

theorem applyIncr_ok {P : List Pending} {C : List Nat} {st : VState} (h : VInv P C st) (l : List Incr)
    (hl : ∀ e ∈ l, e.id ∈ P.map (·.id) ∧ e.id ∉ C) : applyIncr false st l = .ok st := by
  induction l with
  | nil => rfl
  | cons e r ih =>
    obtain ⟨q, hq⟩ := h.findOpen (hl e (by simp)).1 (hl e (by simp)).2
    rw [applyIncr, hq]
    simpa using ih (fun e he => hl e (by simp [he]))

theorem complete_ok {P : List Pending} (l : List Completed) : ∀ {C : List Nat} {st : VState}, VInv P C st →
    (l.map (·.id)).Nodup → (∀ c ∈ l, c.id ∉ C ∧ (c.id ∈ P.map (·.id) ∨ c.failed = true)) →
    ∃ st', complete st l = .ok st' ∧ VInv P (C ++ l.map (·.id)) st' := by
  induction l with
  | nil => intro C st h _ _; exact ⟨st, rfl, by simpa using h⟩
  | cons c r ih =>
    intro C st h hnd hc
    obtain ⟨hcC, hcP⟩ := hc c (by simp)
    simp only [List.map_cons, List.nodup_cons] at hnd
    -- either way the next state satisfies the invariant with `c.id` completed
    have step : ∀ st1, VInv P (C ++ [c.id]) st1 → complete st (c :: r) = complete st1 r →
        ∃ st', complete st (c :: r) = .ok st' ∧ VInv P (C ++ (c :: r).map (·.id)) st' := by
      intro st1 h1 e1
      obtain ⟨st', e, h'⟩ := ih h1 hnd.2 (fun c' hc' => by
        have hne : c'.id ≠ c.id := fun e => hnd.1 (e ▸ List.mem_map_of_mem hc')
        simpa [hne] using hc c' (by simp [hc']))
      exact ⟨st', e1 ▸ e, by simpa using h'⟩
    cases hq : findOpen st.openP c.id with
    | some q =>
      -- `c.id` is the id of an open entry, which leaves `openP`
      obtain ⟨hqm, hqi⟩ := findOpen_some_mem hq
      refine step { st with openP := st.openP.filter (fun p => p.id != c.id) }
        ⟨fun a => ?_, fun i => ?_, h.ann, h.fin⟩ (by rw [complete, hq])
      · simp [h.openP, and_assoc]
      · have : c.id ∈ P.map (·.id) := hqi ▸ List.mem_map_of_mem ((h.openP q).1 hqm).1
        simp only [h.used, List.mem_append, List.mem_singleton]
        exact ⟨fun hi => hi.elim Or.inl (fun hi => Or.inr (Or.inl hi)),
          fun hi => hi.elim Or.inl (fun hi => hi.elim Or.inr (fun hi => Or.inl (hi ▸ this)))⟩
    | none =>
      -- no open entry: `c.id` was never announced, so the completion is a failed one (O1) and marks the id used
      have hno := (findOpen_none_iff _ _).1 hq
      have hnP : c.id ∉ P.map (·.id) := fun hi => by
        obtain ⟨q, hq'⟩ := h.findOpen hi hcC
        rw [hq] at hq'; cases hq'
      refine step { st with used := c.id :: st.used } ⟨fun a => ?_, fun i => ?_, h.ann, h.fin⟩ (by
        rw [complete, hq]
        simp only [mt (h.used _).1 (not_or.2 ⟨hnP, hcC⟩), hcP.resolve_left hnP, if_false, if_true])
      · simp only [h.openP, List.mem_append, List.mem_singleton, not_or]
        exact ⟨fun ⟨h1, h2⟩ => ⟨h1, h2, hno a ((h.openP a).2 ⟨h1, h2⟩)⟩, fun ⟨h1, h2, _⟩ => ⟨h1, h2⟩⟩
      · simp [h.used, or_assoc, or_comm]

theorem nestingOk_ok (encl : Pending → Pending → Bool) (st : VState) (l : List Pending)
    (h : ∀ b ∈ l, st.openP.any (fun a => a.id != b.id && encl a b) = false) :
    nestingOk encl st l = .ok () := by
  induction l with
  | nil => rfl
  | cons b r ih =>
    rw [nestingOk, h b (by simp)]
    simpa using ih (fun b hb => h b (by simp [hb]))

theorem stepPayload_ok (encl : Pending → Pending → Bool) (st s1 s2 s3 : VState) (p : Payload)
    (hf : st.finished = false)
    (h1 : announce st p.pending = .ok s1)
    (h2 : applyIncr false s1 p.incremental = .ok s2)
    (h3 : complete s2 p.completed = .ok s3)
    (h4 : nestingOk encl s3 p.pending = .ok ())
    (h5 : p.hasNext = false → s3.openP = []) :
    ∃ st', stepPayload false encl st p = .ok st' ∧
      (p.hasNext = true → st' = { s3 with index := s3.index + 1 }) := by
  unfold stepPayload
  simp only [hf, h1, h2, h3, h4, bind, Except.bind, pure, Except.pure, throw, throwThe,
    MonadExceptOf.throw]
  cases hn : p.hasNext
  · simp [h5 hn]
  · simp

theorem step_ok (encl : Pending → Pending → Bool) (pre : List Payload) (pl : Payload)
    (st : VState) (hI : VInv (pendEntries pre) (completedIds pre) st) (hP : PayloadOk encl pre pl) :
    ∃ st', stepPayload false encl st pl = .ok st' ∧
      (pl.hasNext = true → VInv (pendEntries (pre ++ [pl])) (completedIds (pre ++ [pl])) st') := by
  have hann := announcedIds_eq (pre ++ [pl])
  rw [pendEntries_snoc] at hann
  obtain ⟨s1, e1, h1⟩ := announce_ok pl.pending hI hP.annNodup (by
    rw [← announcedIds_eq]; exact hP.annFresh)
  have e2 := applyIncr_ok h1 pl.incremental (by rw [← hann]; exact hP.incr)
  obtain ⟨s3, e3, h3⟩ := complete_ok pl.completed h1 hP.compNodup (by rw [← hann]; exact hP.comp)
  rw [← pendEntries_snoc, ← completedIds_snoc] at h3
  have e4 : nestingOk encl s3 pl.pending = .ok () := by
    apply nestingOk_ok
    intro b hb
    rw [List.any_eq_false]
    intro a ha
    obtain ⟨ha1, ha2⟩ := (h3.openP a).1 ha
    by_cases hab : a.id = b.id
    · simp [hab]
    · simp [hP.nest b hb a ha1 ha2 hab]
  have e5 : pl.hasNext = false → s3.openP = [] := by
    intro hn
    rw [List.eq_nil_iff_forall_not_mem]
    intro a ha
    exact ((h3.openP a).1 ha).2 (hP.last hn a ((h3.openP a).1 ha).1)
  obtain ⟨st', est, hst'⟩ := stepPayload_ok encl st s1 s1 s3 pl hI.fin e1 e2 e3 e4 e5
  exact ⟨st', est, fun hn => hst' hn ▸ ⟨h3.openP, h3.used, h3.ann, h3.fin⟩⟩

theorem runPayloads_ok (encl : Pending → Pending → Bool) (ps : List Payload) :
    ∀ (pre : List Payload) (st : VState), VInv (pendEntries pre) (completedIds pre) st → StreamOk encl (pre ++ ps) →
      ∃ st', runPayloads false encl st ps = .ok st' := by
  induction ps with
  | nil => intro pre st _ _; exact ⟨st, rfl⟩
  | cons pl post ih =>
    intro pre st hI hS
    obtain ⟨hP, hN⟩ := hS pre pl post rfl
    obtain ⟨st', est, hst'⟩ := step_ok encl pre pl st hI hP
    rw [runPayloads, est]
    cases hn : pl.hasNext with
    | true =>
      exact ih (pre ++ [pl]) st' (hst' hn) (by simpa using hS)
    | false =>
      have : post = [] := by
        by_cases hp : post = []
        · exact hp
        · rw [hN hp] at hn; cases hn
      subst this
      exact ⟨st', rfl⟩

theorem checkPrefix_of_streamOk (encl : Pending → Pending → Bool) (d : J) (ps : List Payload)
    (h : StreamOk encl ps) : checkPrefix false encl d ps = none := by
  obtain ⟨st', e⟩ := runPayloads_ok encl ps [] { data := d } (vinv_init d) (by simpa using h)
  simp [checkPrefix, e]

/-- A payload with `hasNext = false` that is accepted leaves the validator in the finished state. -/
theorem stepPayload_finished (wd : Bool) (encl : Pending → Pending → Bool) (st st' : VState) (p : Payload)
    (h : stepPayload wd encl st p = .ok st') (hn : p.hasNext = false) : st'.finished = true := by
  unfold stepPayload at h
  simp only [bind, Except.bind, pure, Except.pure, throw, throwThe, MonadExceptOf.throw, hn] at h
  split at h
  · cases h
  · split at h
    · cases h
    · split at h
      · cases h
      · split at h
        · cases h
        · split at h
          · cases h
          · simp only [Bool.not_false, if_true] at h
            split at h
            · cases h
            · cases h; rfl

/-- An accepted stream whose last payload carries `hasNext = false` leaves the validator finished. -/
theorem runPayloads_finished (wd : Bool) (encl : Pending → Pending → Bool) (ps : List Payload) :
    ∀ (st st' : VState), runPayloads wd encl st ps = .ok st' →
      (∃ l, ps.getLast? = some l ∧ l.hasNext = false) → st'.finished = true := by
  induction ps with
  | nil => intro st st' _ ⟨l, hl, _⟩; simp at hl
  | cons pl post ih =>
    intro st st' h ⟨l, hl, hlf⟩
    rw [runPayloads] at h
    cases est : stepPayload wd encl st pl with
    | error v => rw [est] at h; cases h
    | ok s1 =>
      rw [est] at h
      cases post with
      | nil =>
        simp only [List.getLast?_singleton, Option.some.injEq] at hl
        cases h; exact stepPayload_finished wd encl st _ pl est (hl ▸ hlf)
      | cons q r => exact ih s1 st' h ⟨l, by simpa [List.getLast?_cons_cons] using hl, hlf⟩

/-- A legal prefix that ends with `hasNext = false` is a legal complete stream. -/
theorem check_of_checkPrefix (wd : Bool) (encl : Pending → Pending → Bool) (d : J) (ps : List Payload)
    (h : checkPrefix wd encl d ps = none) (hl : ∃ l, ps.getLast? = some l ∧ l.hasNext = false) :
    check wd encl d ps = none := by
  unfold checkPrefix at h
  unfold check
  cases e : runPayloads wd encl { data := d } ps with
  | error v => rw [e] at h; cases h
  | ok st => simp [runPayloads_finished wd encl ps _ st e hl]

example : StreamOk (fun _ _ => false)
    [{ pending := [⟨0, [], none⟩] },
     { incremental := [.defer 0 [] .null], completed := [⟨0, false⟩], hasNext := false }] := by
  intro pre pl post h
  rcases pre with _ | ⟨x, _ | ⟨y, _ | ⟨z, pre⟩⟩⟩
  · simp only [List.nil_append, List.cons.injEq] at h
    obtain ⟨rfl, rfl⟩ := h
    refine ⟨⟨?_, ?_, ?_, ?_, ?_, ?_, ?_⟩, ?_⟩ <;>
      simp [announcedIds, completedIds, pendEntries]
  · simp only [List.cons_append, List.nil_append, List.cons.injEq] at h
    obtain ⟨rfl, rfl, rfl⟩ := h
    refine ⟨⟨?_, ?_, ?_, ?_, ?_, ?_, ?_⟩, ?_⟩ <;>
      simp [announcedIds, completedIds, pendEntries, Incr.id]
  · simp at h
  · simp at h

end Gql.Spec.Protocol
