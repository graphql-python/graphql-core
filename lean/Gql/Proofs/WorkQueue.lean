import Gql.Async.Publisher
import Gql.Proofs.Util.Assoc
/-!
Lemmas about the `WorkQueue` model needed for clause P7: which events the two task handlers emit
(`taskSuccess_evs`, `taskFailure_evs`), no graph-event handler emits the termination event; `settle`
emits it at most once, as the last event of the last batch, and emits nothing once the queue is
stopped.
Before them, association lists and the three principles through which every pass over a handler
loop goes: `foldl_inv`, `foldl_rel`, `foldl_rel1`.
-/
namespace Gql.Async
open Gql.Spec.Protocol

theorem alookup_eq {κ β : Type} [DecidableEq κ] (m : List (κ × β)) (k : κ) :
    alookup m k = m.lookup k := by
  induction m with
  | nil => rfl
  | cons x r ih =>
    obtain ⟨k', v⟩ := x
    rw [alookup, List.lookup_cons_ite, ih]

theorem aset_eq {κ β : Type} [DecidableEq κ] (m : List (κ × β)) (k : κ) (v : β) :
    aset m k v = m.assign k v := by
  induction m with
  | nil => rfl
  | cons x r ih => obtain ⟨k', v'⟩ := x; simp [aset, List.assign, ih]

theorem alookup_aset {κ β : Type} [DecidableEq κ] (m : List (κ × β)) (k k' : κ) (v : β) :
    alookup (aset m k v) k' = if k = k' then some v else alookup m k' := by
  simp [alookup_eq, aset_eq, List.lookup_assign]

theorem alookup_aerase {κ β : Type} [DecidableEq κ] (m : List (κ × β)) (k k' : κ) :
    alookup (aerase m k) k' = if k = k' then none else alookup m k' := by
  rw [alookup_eq, aerase, List.lookup_filter_key (fun a => !decide (a = k)), alookup_eq]
  by_cases h : k = k' <;> simp [h, eq_comm]

theorem alookup_aset_self {κ β : Type} [DecidableEq κ] (m : List (κ × β)) (k : κ) (v : β) :
    alookup (aset m k v) k = some v := by rw [alookup_aset]; simp

theorem alookup_aset_ne {κ β : Type} [DecidableEq κ] (m : List (κ × β)) (k k' : κ) (v : β)
    (h : k ≠ k') : alookup (aset m k v) k' = alookup m k' := by rw [alookup_aset]; simp [h]

theorem alookup_aerase_self {κ β : Type} [DecidableEq κ] (m : List (κ × β)) (k : κ) :
    alookup (aerase m k) k = none := by rw [alookup_aerase]; simp

theorem alookup_aerase_ne {κ β : Type} [DecidableEq κ] (m : List (κ × β)) (k k' : κ)
    (h : k ≠ k') : alookup (aerase m k) k' = alookup m k' := by rw [alookup_aerase]; simp [h]

theorem foldl_inv {α β : Type} (P : β → Prop) (f : β → α → β) (l : List α) (b : β)
    (h0 : P b) (hs : ∀ b a, P b → P (f b a)) : P (l.foldl f b) := by
  induction l generalizing b with
  | nil => exact h0
  | cons a l ih => exact ih _ (hs b a h0)

theorem foldl_rel {α β : Type} (R : β → β → Prop) (refl : ∀ b, R b b)
    (trans : ∀ {a b c}, R a b → R b c → R a c) (f : β → α → β) (l : List α) (b : β)
    (h : ∀ b a, R b (f b a)) : R b (l.foldl f b) := by
  induction l generalizing b with
  | nil => exact refl b
  | cons a l ih => exact trans (h b a) (ih _)

theorem foldl_rel1 {α γ : Type} (R : WQ → WQ → Prop) (refl : ∀ q, R q q)
    (trans : ∀ {a b c}, R a b → R b c → R a c) (f : WQ × γ → α → WQ × γ) (l : List α) (acc : WQ × γ)
    (h : ∀ acc a, R acc.1 (f acc a).1) : R acc.1 (l.foldl f acc).1 :=
  foldl_rel (fun a b => R a.1 b.1) (fun _ => refl _) trans f l acc h

def NoTerm (evs : List WQEvent) : Prop := ∀ e ∈ evs, e.isTerm = false

theorem NoTerm.nil : NoTerm [] := fun _ h => by simp at h

theorem taskSuccess_evs (σ : Static) (q : WQ) (t : Nat) (r : TResult) :
    ∀ e ∈ (taskSuccess σ q t r).2, (∃ g v, e = .groupValues g v) ∨ ∃ g ng ns, e = .groupSuccess g ng ns := by
  unfold taskSuccess
  refine foldl_inv (fun acc : WQ × List WQEvent × List Nat × List Nat => ∀ e ∈ acc.2.1,
    (∃ g v, e = .groupValues g v) ∨ ∃ g ng ns, e = .groupSuccess g ng ns) _ _ _
    (fun _ h => nomatch h) fun acc g h => ?_
  unfold successStep
  split
  · simp only
    split
    · refine List.forall_mem_append.mpr ⟨h, fun e he => ?_⟩
      rcases List.mem_append.mp (show e ∈ groupEvents g _ _ _ from he) with he | he
      · split at he
        · cases he
        · exact Or.inl ⟨_, _, List.mem_singleton.mp he⟩
      · exact Or.inr ⟨_, _, _, List.mem_singleton.mp he⟩
    · exact h
  · exact h

theorem taskFailure_evs (σ : Static) (q : WQ) (t : Nat) :
    ∀ e ∈ (taskFailure σ q t).2, ∃ g, e = .groupFailure g := by
  unfold taskFailure
  refine foldl_inv (fun acc : WQ × List WQEvent => ∀ e ∈ acc.2, ∃ g, e = .groupFailure g) _ _ _
    (fun _ h => nomatch h) fun acc g h => ?_
  unfold failureStep
  split
  · exact List.forall_mem_append.mpr ⟨h, fun e he => ⟨g, List.mem_singleton.mp he⟩⟩
  · exact h

theorem handleGraphEvent_noTerm (σ : Static) (q : WQ) (e : GraphEvent) :
    NoTerm (handleGraphEvent σ q e).2 := by
  cases e with
  | taskSuccess t r =>
    exact fun e he => by rcases taskSuccess_evs σ q t r e he with ⟨_, _, rfl⟩ | ⟨_, _, _, rfl⟩ <;> rfl
  | taskFailure t => exact fun e he => by obtain ⟨_, rfl⟩ := taskFailure_evs σ q t e he; rfl
  | streamItems s items st =>
    simp only [handleGraphEvent, streamItems]
    split <;> intro e he <;> simp at he
    · rcases he with rfl | rfl <;> rfl
    · subst he; rfl
  | streamSuccess s =>
    simp only [handleGraphEvent]
    split <;> intro e he <;> simp at he
    subst he; rfl
  | streamFailure s => intro e he; simp [handleGraphEvent] at he; subst he; rfl
  | stop => exact NoTerm.nil

theorem drain_noTerm (σ : Static) (fuel : Nat) (q : WQ) (acc : List WQEvent) (h : NoTerm acc) :
    NoTerm (drain σ fuel q acc).2 := by
  fun_induction drain σ fuel q acc with
  | case1 | case2 => exact h  -- no fuel, or channel empty
  | case3 _ _ _ _ _ _ _ ih => exact ih (List.forall_mem_append.mpr ⟨h, handleGraphEvent_noTerm σ _ _⟩)

/-- A batch either carries no termination event, or it ends with the only one and stops the queue. -/
theorem batch_spec (σ : Static) (fuel : Nat) (q : WQ) :
    NoTerm (batch σ fuel q).2 ∨
    ((batch σ fuel q).1.stopped = true ∧
      ∃ pre, (batch σ fuel q).2 = pre ++ [.termination] ∧ NoTerm pre) := by
  unfold batch
  have h := drain_noTerm σ fuel q [] NoTerm.nil
  simp only
  split
  · right; exact ⟨rfl, _, rfl, h⟩
  · left; exact h

theorem push_stopped (q : WQ) (e : GraphEvent) : (push q e).stopped = q.stopped := by
  unfold push; split <;> rfl

theorem foldl_push_stopped (q : WQ) (es : List GraphEvent) : (es.foldl push q).stopped = q.stopped := by
  induction es generalizing q with
  | nil => rfl
  | cons e es ih => simp only [List.foldl_cons]; rw [ih, push_stopped]

def AllNoTerm (bs : List (List WQEvent)) : Prop := ∀ b ∈ bs, NoTerm b

/-- The shape of what `settle` appends: batches without termination, optionally followed by one
last batch that ends with the termination event — and then the queue is stopped. -/
def SettleShape (stoppedAfter : Bool) (new : List (List WQEvent)) : Prop :=
  AllNoTerm new ∨
  (stoppedAfter = true ∧ ∃ pre last lastPre, new = pre ++ [last] ∧ AllNoTerm pre ∧
    last = lastPre ++ [.termination] ∧ NoTerm lastPre)

/-- The shape is an invariant of the accumulator `settle` threads, and a stopped queue adds nothing. -/
theorem settle_spec (σ : Static) (fuel n : Nat) (q : WQ) (acc : List (List WQEvent))
    (h : SettleShape q.stopped acc) :
    SettleShape (settle σ fuel n q acc).1.stopped (settle σ fuel n q acc).2 ∧
    (q.stopped = true → (settle σ fuel n q acc).2 = acc ∧ (settle σ fuel n q acc).1.stopped = true) := by
  fun_induction settle σ fuel n q acc with
  | case1 q acc => exact ⟨h, fun hs => ⟨rfl, hs⟩⟩  -- no fuel
  | case2 n q acc hs => exact ⟨h, fun _ => ⟨rfl, hs⟩⟩  -- stopped
  | case3 n q acc hs hc hd => exact ⟨h, fun h' => absurd h' hs⟩  -- idle
  | case4 n q acc hs hc hd ih =>  -- deferred callbacks run
    exact ⟨(ih (by rw [foldl_push_stopped]; exact h)).1, fun h' => absurd h' hs⟩
  | case5 n q acc hs b hc ih =>  -- a batch `b`
    have hall : AllNoTerm acc := h.resolve_right fun h' => hs h'.1
    refine ⟨(ih ?_).1, fun h' => absurd h' hs⟩
    rcases batch_spec σ fuel q with hb | ⟨hst, pre, hpre, hnt⟩
    · -- no termination: whatever follows
      refine Or.inl ?_
      split
      · exact hall
      · exact List.forall_mem_append.mpr ⟨hall, fun _ hx => List.mem_singleton.mp hx ▸ hb⟩
    · -- the termination batch: the queue is stopped
      have he : b.2.isEmpty = false := by show (batch σ fuel q).2.isEmpty = false; rw [hpre]; simp
      rw [he]
      exact Or.inr ⟨hst, acc, b.2, pre, rfl, hall, hpre, hnt⟩

end Gql.Async
