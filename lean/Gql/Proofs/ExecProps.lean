import Gql.Exec.Values
import Gql.Proofs.ExecRefine
import Gql.Proofs.SpecFacts

/-!
C02 — lemmas between the refinement (`ExecRefine.lean`) and the property theorems.
-/

namespace Gql.Exec.Refine
open Gql Gql.Exec

/-- The driver's value layer satisfies the law the refinement needs. -/
theorem concrete_ops_ok : OpsOk Concrete.ops := by
  constructor
  intro s vars t x hx _
  show Concrete.coerceLitN s 8 vars t (.var x) = none
  simp [Concrete.coerceLitN, Concrete.coerceLitCore, hx]

theorem dinv_request_independent {ops : Ops} {s : Schema} {dm : Impl.DMemo} (d1 d2 : Doc)
    (v1 v2 : Vars) (h : DInv (mkCtx ops s d1 v1) dm) : DInv (mkCtx ops s d2 v2) dm := h

theorem runAll_eq (ops : Ops) (hops : OpsOk ops) (s : Schema) :
    ∀ (rs : List Impl.Request) (dm : Impl.DMemo), DInv (mkCtx ops s default default) dm →
      Impl.runAll ops s rs dm =
        rs.map (fun r => .ok (Spec.executeRequest ops s r.doc r.opName r.vars r.root))
  | [], _, _ => rfl
  | r :: rs, dm, hdm => by
    obtain ⟨dm', hdm', h⟩ := executeRequest_refines ops hops s r.doc r.opName r.vars r.root dm
      (dinv_request_independent _ _ _ _ hdm)
    simp only [Impl.runAll, h, List.map_cons]
    rw [runAll_eq ops hops s rs dm' (dinv_request_independent _ _ _ _ hdm')]

theorem spec_calls_ok (ops : Ops) (s : Schema) (doc : Doc) (opName : Option Name) (vars : Vars)
    (root : RVal) :
    ∀ c ∈ (Spec.executeRequest ops s doc opName vars root).log,
      CallOk { ops := ops, schema := s, doc := doc, vars := vars } c := by
  rcases (good_walk _).executeRequest opName root with ⟨k, h⟩ | ⟨rt, groups, r, hg, h⟩ <;> rw [h]
  · simp
  · exact hg.calls

theorem spec_null_has_error (ops : Ops) (s : Schema) (doc : Doc) (opName : Option Name)
    (vars : Vars) (root : RVal) :
    (Spec.executeRequest ops s doc opName vars root).data = .null →
      (Spec.executeRequest ops s doc opName vars root).errors ≠ [] := by
  rcases (good_walk _).executeRequest opName root with ⟨k, h⟩ | ⟨rt, groups, r, hg, h⟩ <;> rw [h]
  · simp
  · cases hout : r.out with
    | none => intro _; exact hg.nonempty hout
    | some kvs => simp

end Gql.Exec.Refine
