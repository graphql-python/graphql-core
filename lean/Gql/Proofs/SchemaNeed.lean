import Gql.Proofs.SchemaValidate
/-!
Lemmas for C20: the fields whose own default value is applied when a literal is coerced
at an input object type (`need`).  Both the default-value circular-reference validator and the
specification's InputObjectDefaultValueHasCycle only traverse the literal to reach these.
-/
namespace Gql.Types
open Gql

/-- an input field reached by the traversal: the field, its named type, its coordinate `T.f` -/
structure DNode where
  f : InputValue
  m : Str
  c : Str

def needObject (s : RawSchema) (tn : Str) (subs : List (Str × (Str → List DNode))) : List DNode :=
  match s.lookup tn with
  | some (.input fields _) =>
    fields.flatMap (fun f =>
      if !s.isInputObject f.type.namedType then []
      else
        match lookupLast subs f.name with
        | some g => g f.type.namedType
        | none => [⟨f, f.type.namedType, dot tn f.name⟩])
  | _ => []

mutual
/-- the fields whose default applies when `lit` is coerced at input object type `tn` -/
def need (s : RawSchema) : Lit → Str → List DNode
  | .list xs, tn => needs s xs tn
  | .obj fs, tn => needObject s tn (needEntries s fs)
  | _, _ => []
def needs (s : RawSchema) : List Lit → Str → List DNode
  | [], _ => []
  | x :: xs, tn => need s x tn ++ needs s xs tn
def needEntries (s : RawSchema) : List (Str × Lit) → List (Str × (Str → List DNode))
  | [] => []
  | e :: rest => (e.1, need s e.2) :: needEntries s rest
end

section
variable (s : RawSchema) (cb : InputValue → Str → Str → DCState → DCState)

def runNodes (ns : List DNode) (st : DCState) : DCState :=
  ns.foldl (fun st n => cb n.f n.m n.c st) st

theorem runNodes_append (a b : List DNode) (st : DCState) :
    runNodes cb (a ++ b) st = runNodes cb b (runNodes cb a st) := by
  simp [runNodes, List.foldl_append]

/-- the detectors of the entries and the needs of the entries go together -/
def DRel : Option (Str → DCState → DCState) → Option (Str → List DNode) → Prop
  | none, none => True
  | some g, some h => ∀ m st, g m st = runNodes cb (h m) st
  | _, _ => False

theorem dcObject_eq (tn : Str) (subsD : List (Str × (Str → DCState → DCState)))
    (subsN : List (Str × (Str → List DNode)))
    (hrel : ∀ k, DRel cb (lookupLast subsD k) (lookupLast subsN k)) (st : DCState) :
    dcObject s cb tn subsD st = runNodes cb (needObject s tn subsN) st := by
  unfold dcObject needObject runNodes
  rcases s.lookup tn with _ | (_ | _ | _ | _ | _ | ⟨fields, o⟩) <;> try rfl
  simp only [List.foldl_flatMap]
  congr 1
  funext st f
  have := hrel f.name
  generalize lookupLast subsD f.name = og at this ⊢
  generalize lookupLast subsN f.name = oh at this ⊢
  cases s.isInputObject f.type.namedType
  · rfl
  · rcases og with _ | g <;> rcases oh with _ | h
    · rfl
    · exact this.elim
    · exact this.elim
    · exact this _ _

mutual
theorem dcLit_eq : ∀ (lit : Lit) (tn : Str) (st : DCState),
    dcLit s cb lit tn st = runNodes cb (need s lit tn) st
  | .list xs, tn, st => by unfold dcLit need; exact dcLits_eq xs tn st
  | .obj fs, tn, st => by
    unfold dcLit need
    exact dcObject_eq s cb tn _ _ (dcEntries_rel fs) st
  | .null, _, _ | .int _, _, _ | .float, _, _ | .str, _, _ | .bool, _, _ | .enum _, _, _ => by
    simp [dcLit, need, runNodes]
theorem dcLits_eq : ∀ (xs : List Lit) (tn : Str) (st : DCState),
    dcLits s cb xs tn st = runNodes cb (needs s xs tn) st
  | [], _, _ => by simp [dcLits, needs, runNodes]
  | x :: xs, tn, st => by
    unfold dcLits needs
    rw [runNodes_append, dcLit_eq x tn st, dcLits_eq xs tn]
theorem dcEntries_rel : ∀ (fs : List (Str × Lit)) (k : Str),
    DRel cb (lookupLast (dcEntries s cb fs) k) (lookupLast (needEntries s fs) k)
  | [], k => by simp [dcEntries, needEntries, lookupLast, DRel]
  | e :: rest, k => by
    unfold dcEntries needEntries
    exact lookupLast_rel (DRel cb) (fun g h => ∀ m st, g m st = runNodes cb (h m) st) trivial
      (fun _ _ h => h) (fun _ => id) (fun _ => id) e.1 k _ _ _ _ (dcEntries_rel rest k)
      fun m st => dcLit_eq e.2 m st
end
end

section
variable (s : RawSchema) (fd : InputValue → Str → Str → Bool)

def anyNode (ns : List DNode) : Bool := ns.any (fun n => fd n.f n.m n.c)

def SRel : Option (Str → Bool) → Option (Str → List DNode) → Prop
  | none, none => True
  | some g, some h => ∀ m, g m = anyNode fd (h m)
  | _, _ => False

theorem objectHasCycle_eq (tn : Str) (subsS : List (Str × (Str → Bool)))
    (subsN : List (Str × (Str → List DNode)))
    (hrel : ∀ k, SRel fd (lookupLast subsS k) (lookupLast subsN k)) :
    Spec.objectHasCycle s fd tn subsS = anyNode fd (needObject s tn subsN) := by
  unfold Spec.objectHasCycle needObject anyNode
  rcases s.lookup tn with _ | (_ | _ | _ | _ | _ | ⟨fields, o⟩) <;> try rfl
  simp only [List.any_flatMap]
  congr 1
  funext f
  have := hrel f.name
  rw [entryOf_eq_lookupLast]
  generalize lookupLast subsS f.name = og at this ⊢
  generalize lookupLast subsN f.name = oh at this ⊢
  cases s.isInputObject f.type.namedType
  · rfl
  · rcases og with _ | g <;> rcases oh with _ | h
    · simp [dot]
    · exact this.elim
    · exact this.elim
    · exact this _

mutual
theorem valueHasCycle_eq : ∀ (lit : Lit) (tn : Str),
    Spec.valueHasCycle s fd lit tn = anyNode fd (need s lit tn)
  | .list xs, tn => by unfold Spec.valueHasCycle need; exact anyHasCycle_eq xs tn
  | .obj fs, tn => by
    unfold Spec.valueHasCycle need
    exact objectHasCycle_eq s fd tn _ _ (entriesHaveCycle_rel fs)
  | .null, _ | .int _, _ | .float, _ | .str, _ | .bool, _ | .enum _, _ => by
    simp [Spec.valueHasCycle, need, anyNode]
theorem anyHasCycle_eq : ∀ (xs : List Lit) (tn : Str),
    Spec.anyHasCycle s fd xs tn = anyNode fd (needs s xs tn)
  | [], _ => by simp [Spec.anyHasCycle, needs, anyNode]
  | x :: xs, tn => by
    unfold Spec.anyHasCycle needs
    rw [valueHasCycle_eq x tn, anyHasCycle_eq xs tn]
    simp [anyNode, List.any_append]
theorem entriesHaveCycle_rel : ∀ (fs : List (Str × Lit)) (k : Str),
    SRel fd (lookupLast (Spec.entriesHaveCycle s fd fs) k) (lookupLast (needEntries s fs) k)
  | [], k => by simp [Spec.entriesHaveCycle, needEntries, lookupLast, SRel]
  | e :: rest, k => by
    unfold Spec.entriesHaveCycle needEntries
    exact lookupLast_rel (SRel fd) (fun g h => ∀ m, g m = anyNode fd (h m)) trivial
      (fun _ _ h => h) (fun _ => id) (fun _ => id) e.1 k _ _ _ _ (entriesHaveCycle_rel rest k)
      fun m => valueHasCycle_eq e.2 m
end
end

end Gql.Types
