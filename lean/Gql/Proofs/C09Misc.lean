import Gql.Text.Strip
import Gql.Proofs.LexRun
/-!
# Token counter of `advance_lexer`, rejection behaviour of `strip_ignored_characters`,
ordering of token spans
-/
open Gql Gql.Text
namespace Gql.Text

/-- Number of significant tokens of a token stream (the tokens before `<EOF>`). -/
def sigCount : List Token → Nat
  | [] => 0
  | t :: rest => if t.kind = .eof then 0 else sigCount rest + 1

theorem advanceAll_none (ts : List Token) (c : Nat) :
    advanceAll none ts c = .ok (c + sigCount ts) := by
  induction ts generalizing c with
  | nil => simp [advanceAll, sigCount]
  | cons t rest ih =>
    simp only [advanceAll, sigCount]
    split
    · simp
    · rw [ih]; congr 1; omega

theorem advanceAll_some_ok (n : Nat) (ts : List Token) (c : Nat) (hc : c ≤ n) :
    (c + sigCount ts ≤ n → advanceAll (some n) ts c = .ok (c + sigCount ts)) ∧
    (n < c + sigCount ts → ∃ p, advanceAll (some n) ts c = .err p) := by
  induction ts generalizing c with
  | nil => simp [advanceAll, sigCount]; omega
  | cons t rest ih =>
    simp only [advanceAll, sigCount]
    split
    · simp; omega
    · by_cases hgt : c + 1 > n
      · simp only [hgt, if_true]
        constructor
        · intro h; omega
        · intro _; exact ⟨_, rfl⟩
      · simp only [hgt, if_false]
        have := ih (c + 1) (by omega)
        constructor
        · intro h; rw [this.1 (by omega)]; congr 1; omega
        · intro h; exact this.2 (by omega)

/-- Token spans in order: each token starts at or after `lo`, is non-empty and inside the text,
the next one starts at or after its end, and the list ends with `<EOF>` at `(len, len)`. -/
def SpanChain (len : Nat) : Nat → List Token → Prop
  | _, [] => False
  | lo, [t] => t.kind = .eof ∧ lo ≤ t.start ∧ t.start = len ∧ t.stop = len
  | lo, t :: rest => t.kind ≠ .eof ∧ t.kind ≠ .comment ∧ lo ≤ t.start ∧ t.start < t.stop ∧ t.stop ≤ len ∧
      SpanChain len t.stop rest

/-- The chain may start later. -/
theorem SpanChain.mono {len : Nat} : ∀ (l : List Token) (a b : Nat), a ≤ b → SpanChain len b l → SpanChain len a l
  | [t'], _, _, hab, hl => ⟨hl.1, by have := hl.2.1; omega, hl.2.2⟩
  | t' :: t'' :: l', _, _, hab, hl => ⟨hl.1, hl.2.1, by have := hl.2.2.1; omega, hl.2.2.2⟩

theorem LexRun.spans {body : List Nat} {fuel : Nat} {st : LexState} {pos : Nat} {ts : List Token}
    (hrun : LexRun body fuel st pos ts) (hp : pos ≤ body.length) : SpanChain body.length pos ts := by
  induction hrun with
  | eof hr he =>
    obtain ⟨h1, h2⟩ := (readNextToken_post body _ _ hp).of_ok hr
    have h2 := h2.resolve_left (fun h => h.1 he)
    exact ⟨he, h1, h2.2.1, h2.2.2⟩
  | comment hr he _ _ ih =>
    obtain ⟨h1, h2⟩ := (readNextToken_post body _ _ hp).of_ok hr
    have h2 := h2.resolve_right (fun h => he h.1)
    exact SpanChain.mono _ _ _ (by have := h2.2.1; dsimp only at h1 this; omega) (ih h2.2.2)
  | @token _ _ _ _ t ts hr he hc hrun ih =>
    obtain ⟨h1, h2⟩ := (readNextToken_post body _ _ hp).of_ok hr
    have h2 := h2.resolve_right (fun h => he h.1)
    have hch := ih h2.2.2
    match ts, hch with
    | t' :: rest', hch => exact ⟨he, hc, h1, h2.2.1, h2.2.2, hch⟩

end Gql.Text
