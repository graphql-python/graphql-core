import Gql.Proofs.SpecKeys
import Gql.Proofs.SpecFacts

/-!
C02 — every resolver invocation of the specification's algorithm happens at its own response
position: the paths of the call log are pairwise distinct (each field position is invoked
exactly once).  `LogOk` for a value or a field, `SibLog` for either sibling loop (the calls of
siblings lie below different child positions), carried over the executor by `logOk_walk`.
-/

namespace Gql.Exec.Refine
open Gql.Exec

/-- the calls logged by a computation at `pos`: distinct paths, all at or below `pos`
(`strict`: properly below) -/
structure LogOk (pos : List PSeg) (strict : Bool) {α : Type} (r : Spec.R α) : Prop where
  nodup : (r.log.map (·.path)).Nodup
  under : ∀ c ∈ r.log, pos <+: c.path ∧ (strict = true → c.path ≠ pos)

theorem LogOk.noLog {pos : List PSeg} {strict : Bool} {α : Type} {r : Spec.R α} (h : r.log = []) :
    LogOk pos strict r := ⟨by simp [h], by simp [h]⟩

theorem LogOk.pure {pos : List PSeg} {strict : Bool} {α : Type} (a : α) :
    LogOk pos strict (Spec.R.pure a) := .noLog rfl

theorem LogOk.of_log {pos : List PSeg} {strict : Bool} {α β : Type} {r : Spec.R α} {r' : Spec.R β}
    (h : LogOk pos strict r) (hl : r'.log = r.log) : LogOk pos strict r' :=
  ⟨by rw [hl]; exact h.nodup, by rw [hl]; exact h.under⟩

theorem absorb_log (t : TypeRef) (r : Spec.R Json) : (Spec.absorb t r).log = r.log := by
  unfold Spec.absorb
  split
  · rfl
  · split <;> rfl

theorem prefix_snoc_inj {pos p : List PSeg} {a b : PSeg} (h1 : (pos ++ [a]) <+: p)
    (h2 : (pos ++ [b]) <+: p) : a = b := by
  obtain ⟨r1, rfl⟩ := h1
  obtain ⟨r2, h2⟩ := h2
  simp only [List.append_assoc, List.singleton_append] at h2
  have := List.append_cancel_left h2
  exact (List.cons.inj this).1.symm

theorem prefix_snoc_ne {pos p : List PSeg} {a : PSeg} (h : (pos ++ [a]) <+: p) : p ≠ pos := by
  intro heq
  subst heq
  have := List.IsPrefix.length_le h
  simp only [List.length_append, List.length_cons, List.length_nil] at this
  omega

/-- the calls of siblings: distinct paths, each below a child position `pos ++ [s]` with `S s` -/
def SibLog (pos : List PSeg) (S : PSeg → Prop) {α : Type} (r : Spec.R α) : Prop :=
  (r.log.map (·.path)).Nodup ∧ ∀ c ∈ r.log, ∃ s, S s ∧ (pos ++ [s]) <+: c.path

theorem SibLog.nil {pos : List PSeg} {S : PSeg → Prop} {α : Type} (a : α) :
    SibLog pos S (Spec.R.pure a) := by
  simp [SibLog, Spec.R.pure]

/-- a head at `pos ++ [s]` before siblings at other segments -/
theorem SibLog.cons {pos : List PSeg} {S S' : PSeg → Prop} {s : PSeg} {strict : Bool} {α β γ : Type}
    {r : Spec.R α} {rs : Spec.R β} (f : α → β → γ) (h1 : LogOk (pos ++ [s]) strict r) (h2 : SibLog pos S rs)
    (hs : ¬ S s) (hS : ∀ x, x = s ∨ S x → S' x) : SibLog pos S' (r.andThen f rs) := by
  have hd : ∀ c ∈ r.log, ∃ x, S' x ∧ (pos ++ [x]) <+: c.path :=
    fun c hc => ⟨s, hS s (.inl rfl), (h1.under c hc).1⟩
  unfold Spec.R.andThen
  split
  · exact ⟨h1.nodup, hd⟩
  · refine ⟨?_, fun c hc => (List.mem_append.1 hc).elim (hd c) fun hc => ?_⟩
    · simp only [List.map_append]
      refine List.nodup_append.2 ⟨h1.nodup, h2.1, ?_⟩
      intro p hp1 q hp2 heq
      subst heq
      obtain ⟨c1, hc1, rfl⟩ := List.mem_map.1 hp1
      obtain ⟨c2, hc2, hpeq⟩ := List.mem_map.1 hp2
      obtain ⟨x, hx, hpre⟩ := h2.2 c2 hc2
      exact hs (prefix_snoc_inj (hpeq ▸ hpre) (h1.under c1 hc1).1 ▸ hx)
    · obtain ⟨x, hx, hpre⟩ := h2.2 c hc
      exact ⟨x, hS x (.inr hx), hpre⟩

/-- from the children to their parent -/
theorem SibLog.up {pos : List PSeg} {S : PSeg → Prop} {α β : Type} {r : Spec.R α} (f : α → β)
    (h : SibLog pos S r) : LogOk pos true (r.mapOut f) :=
  ⟨h.1, fun c hc => by
    obtain ⟨s, _, hpre⟩ := h.2 c hc
    exact ⟨List.IsPrefix.trans (List.prefix_append pos _) hpre, fun _ => prefix_snoc_ne hpre⟩⟩

theorem LogOk.field {pos : List PSeg} {r : Spec.R Json} (t : TypeRef) (h : LogOk pos false r) :
    LogOk pos false ((Spec.absorb t r).mapOut some) :=
  h.of_log (absorb_log t r)

theorem logOk_walk (cx : Spec.Ctx) :
    Walk cx (fun _ _ _ pos r => LogOk pos true r) (fun _ _ _ pos r => LogOk pos false r)
      (fun _ _ gs pos r => SibLog pos (fun s => ∃ k ∈ keys gs, s = .key k) r)
      (fun _ _ _ pos i r => SibLog pos (fun s => ∃ j, i ≤ j ∧ s = .idx j) r) where
  pure _ _ _ _ _ := .noLog rfl
  fail _ := .noLog rfl
  own _ _ _ _ _ := .noLog rfl
  obj _ _ _ _ h := h.up _
  list h := h.up _
  pureF _ _ _ _ _ := .noLog rfl
  failF t _ := (LogOk.noLog rfl).field t
  call := fun {ot _ f _ pos _ a r} _ _ _ h =>
    LogOk.field (r := { r with log := ⟨pos, ot, f.name, a⟩ :: r.log }) _
      ⟨List.nodup_cons.2 ⟨fun hm => by
          obtain ⟨c, hc, hp⟩ := List.mem_map.1 hm
          exact (h.under c hc).2 rfl hp, h.nodup⟩,
        fun c hc => (List.mem_cons.1 hc).elim (fun e => e ▸ ⟨List.prefix_refl _, by simp⟩)
          fun hc => ⟨(h.under c hc).1, by simp⟩⟩
  nilG _ _ _ := .nil _
  consG := fun {_ _ k _ rest _ _ _} hk h1 h2 => h2.cons _ h1 (by simpa using hk) (by
    rintro x (rfl | ⟨k', hk', rfl⟩)
    · exact ⟨k, List.mem_cons_self .., rfl⟩
    · exact ⟨k', List.mem_cons_of_mem _ hk', rfl⟩)
  nilI _ _ _ _ := .nil _
  consI := fun {t _ _ _ _ i _ _} h1 h2 => h2.cons (S' := fun s => ∃ j, i ≤ j ∧ s = .idx j) _
    (h1.of_log (absorb_log t _))
    (by rintro ⟨j, hj, he⟩; cases he; omega) (by
      rintro x (rfl | ⟨j, hj, rfl⟩)
      · exact ⟨i, Nat.le_refl _, rfl⟩
      · exact ⟨j, by omega, rfl⟩)

theorem completeItems_logOk (cx : Spec.Ctx) : (items : List RVal) → ∀ (t : TypeRef)
    (fields : List FieldNode) (pos : List PSeg) (i : Nat),
    ((Spec.completeItems cx t fields pos i items).log.map (·.path)).Nodup ∧
    ∀ c ∈ (Spec.completeItems cx t fields pos i items).log,
      ∃ j, i ≤ j ∧ (pos ++ [PSeg.idx j]) <+: c.path :=
  fun items t fields pos i =>
    have h := (logOk_walk cx).items items t fields pos i
    ⟨h.1, fun c hc => by obtain ⟨_, ⟨j, hj, rfl⟩, hp⟩ := h.2 c hc; exact ⟨j, hj, hp⟩⟩

theorem executeRequest_log_nodup (ops : Ops) (s : Schema) (doc : Doc) (opName : Option Name)
    (vars : Vars) (root : RVal) :
    ((Spec.executeRequest ops s doc opName vars root).log.map (·.path)).Nodup := by
  rcases (logOk_walk _).executeRequest opName root with ⟨k, h⟩ | ⟨rt, groups, r, hg, h⟩ <;> rw [h]
  · simp
  · exact hg.1

end Gql.Exec.Refine
