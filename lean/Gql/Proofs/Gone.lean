import Gql.Proofs.StreamOrder
/-!
A history invariant for P5 at the payload level: every group that was ever announced keeps all
its proper ancestors out of the graph, from the moment it is announced on.
-/
namespace Gql.Async
open Gql.Spec.Protocol

theorem evNew_groupEvents (g : Nat) (v : List GVal) (ng ns : List Nat) :
    (groupEvents g v ng ns).flatMap evNew = nodesOf ng ns := by
  unfold groupEvents
  split <;> simp [evNew]

theorem successStep_ann (σ : Static) (acc : WQ × List WQEvent × List Nat × List Nat) (g : Nat)
    (h : ∀ n ∈ acc.2.1.flatMap evNew, n ∈ nodesOf acc.2.2.1 acc.2.2.2) :
    ∀ n ∈ (successStep σ acc g).2.1.flatMap evNew,
      n ∈ nodesOf (successStep σ acc g).2.2.1 (successStep σ acc g).2.2.2 := by
  unfold successStep
  split
  · simp only
    split
    · intro n hn
      rw [List.flatMap_append, List.mem_append] at hn
      refine (nodesOf_append _ _ _ _ n).mpr (hn.imp (h n) fun hn => ?_)
      have hn : n ∈ (groupEvents g _ _ _).flatMap evNew := hn
      rwa [evNew_groupEvents] at hn
    · exact h
  · exact h

/-- The groups a handler's events announce are root groups afterwards. -/
theorem handle_ann_roots (σ : Static) (q : WQ) (ev : GraphEvent) :
    ∀ b, Node.group b ∈ (handleGraphEvent σ q ev).2.flatMap evNew → b ∈ (handleGraphEvent σ q ev).1.rootGroups := by
  cases ev with
  | taskSuccess t r =>
    -- the events announce nodes that `startNewWork` promotes
    have h := foldl_inv (fun acc : WQ × List WQEvent × List Nat × List Nat =>
        ∀ n ∈ acc.2.1.flatMap evNew, n ∈ nodesOf acc.2.2.1 acc.2.2.2)
      (successStep σ) (σ.tgroups t) ((integrateWork σ (setTaskValue q t r.value) r.work (some t)).1, [], [], [])
      (fun _ h => nomatch h) (successStep_ann σ)
    exact fun b hb => (isRoot_startNewWork σ _ _ _ (.group b)).mpr (Or.inr (h _ hb))
  | taskFailure t =>
    intro b hb
    obtain ⟨e, he, hb⟩ := List.mem_flatMap.mp hb
    obtain ⟨_, rfl⟩ := taskFailure_evs σ q t e he
    cases hb
  | streamItems s items st =>
    have hroot : ∀ b, Node.group b ∈ nodesOf (items.foldl (itemStep σ) (q, [], [], [])).2.2.1
          (items.foldl (itemStep σ) (q, [], [], [])).2.2.2 →
        b ∈ (items.foldl (itemStep σ) (q, [], [], [])).1.rootGroups := fun b hb =>
      (items_dom σ q items (.group b)).mpr (Or.inr hb)
    simp only [handleGraphEvent, streamItems]
    split <;> simpa only [evNew, List.flatMap_cons, List.flatMap_nil, List.append_nil] using hroot
  | streamSuccess s =>
    simp only [handleGraphEvent]
    split <;> exact fun _ h => nomatch h
  | streamFailure s => exact fun _ h => nomatch h
  | stop => exact fun _ h => nomatch h

theorem workOptOk_gfresh {σ : Static} {e : EnvSt} {q : WQ} {pr : Option Nat} {wo : Option Work}
    (h : workOptOk σ e q pr wo = true) : ∀ g ∈ (wo.map (·.groups)).getD [], g ∉ e.introG := by
  cases wo with
  | none => exact fun _ h => nomatch h
  | some w => exact (workOk_of σ e q pr w h).gfresh

theorem eventOk_introG (σ : Static) (e : EnvSt) (q : WQ) (ev : GraphEvent) (e' : EnvSt)
    (hok : eventOk σ e q ev = some e') : ∀ x ∈ e.introG, x ∈ e'.introG := by
  cases ev with
  | taskSuccess t r => rw [(eventOk_taskSuccess hok).2, intro_eq]; exact fun _ => List.mem_append_right _
  | taskFailure t => rw [eventOk_taskFailure hok]; exact fun x hx => hx
  | streamItems s items st =>
    obtain ⟨_, e1, n1, hi, rfl⟩ := eventOk_streamItems hok
    obtain ⟨⟨g, _, _, rfl⟩, _⟩ := itemsOk_eq hi
    exact fun _ => List.mem_append_right g
  | streamSuccess s => rw [eventOk_streamSuccess hok]; exact fun x hx => hx
  | streamFailure s => rw [eventOk_streamFailure hok]; exact fun x hx => hx
  | stop => rw [eventOk_stop hok]; exact fun x hx => hx

theorem itemStep_newnodes (σ : Static) (acc : WQ × List IVal × List Nat × List Nat) (it : IResult) (a : Nat)
    (h : hasNode (itemStep σ acc it).1 a) : a ∈ (it.work.map (·.groups)).getD [] ∨ hasNode acc.1 a :=
  (integrateWork_grow σ acc.1 it.work none).nodes a
    ((pruneEmpty_upd _ _).shrink.sub.hasNode ((startNewWork_graph σ _ _ _).1.sub.hasNode h))

theorem items_newnodes (σ : Static) (qe : WQ) (items : List IResult) :
    ∀ (e : EnvSt) (n0 : Nat) (acc : WQ × List IVal × List Nat × List Nat) (e1 : EnvSt) (n1 : Nat),
      itemsOk σ qe e n0 items = some (e1, n1) →
      ∀ a, hasNode (items.foldl (itemStep σ) acc).1 a → hasNode acc.1 a ∨ a ∉ e.introG := by
  induction items with
  | nil => exact fun _ _ _ _ _ _ _ h => Or.inl h
  | cons it items ih =>
    intro e n0 acc e1 n1 hi a h
    obtain ⟨_, hok, hi'⟩ := itemsOk_cons hi
    rcases ih _ _ _ e1 n1 hi' a h with h1 | h1
    · exact (itemStep_newnodes σ acc it a h1).symm.imp_right (workOptOk_gfresh hok a)
    · exact Or.inr fun hm => h1 (intro_eq e it.work ▸ List.mem_append_right _ hm)

/-- A handler creates nodes only for groups that were not introduced before. -/
theorem handle_newnodes (σ : Static) (e : EnvSt) (q : WQ) (ev : GraphEvent) (e' : EnvSt)
    (hok : eventOk σ e q ev = some e') (a : Nat) (h : hasNode (handleGraphEvent σ q ev).1 a) :
    hasNode q a ∨ a ∉ e.introG := by
  cases ev with
  | taskSuccess t r =>
    simp only [handleGraphEvent, taskSuccess] at h
    have h2 := (foldl_removes _ _ _ (successStep_removes σ)).2.hasNode ((startNewWork_graph σ _ _ _).1.sub.hasNode h)
    rcases (integrateWork_grow σ _ r.work (some t)).nodes a h2 with h3 | h3
    · exact Or.inr (workOptOk_gfresh (eventOk_taskSuccess hok).1 a h3)
    · exact Or.inl ((setTaskValue_upd q t r.value).shrink.sub.hasNode h3)
  | taskFailure t => exact Or.inl ((taskFailure_removes σ q t).2.hasNode h)
  | streamItems s items st =>
    obtain ⟨_, e1, n1, hi, _⟩ := eventOk_streamItems hok
    apply items_newnodes σ q items e _ (q, [], [], []) e1 n1 hi a
    simp only [handleGraphEvent, streamItems] at h
    split at h <;> exact h
  | streamSuccess s =>
    simp only [handleGraphEvent] at h
    split at h <;> exact Or.inl h
  | streamFailure s => exact Or.inl h
  | stop => exact Or.inl h

/-- Everything of `SchedInv`, and: every group announced so far (initially or by an event) was
introduced and has no proper ancestor left in the graph. -/
def GoneInv (σ : Static) (D0 : List Node) (e : EnvSt) (q : WQ) (E : List WQEvent) : Prop :=
  SchedInv σ D0 e q E ∧ ∀ b, Node.group b ∈ D0 ++ E.flatMap evNew → b ∈ e.introG ∧ NoAnc σ q b

theorem goneInv_run (σ : Static) (D0 : List Node) : RunInv σ (GoneInv σ D0) where
  handle := by
    intro e q ev e' E ⟨hp, hg⟩ hst hok
    have hp' := (schedInv_run σ D0).handle e q ev e' E hp hst hok
    refine ⟨hp', ?_⟩
    intro b hb
    rw [List.flatMap_append, ← List.append_assoc] at hb
    rcases List.mem_append.mp hb with hb | hb
    · obtain ⟨hi, hn⟩ := hg b hb
      refine ⟨eventOk_introG σ e q ev e' hok b hi, ?_⟩
      intro a ha hnode
      rcases handle_newnodes σ e q ev e' hok a hnode with h1 | h1
      · exact hn a ha h1
      · exact h1 (hp.sched.closed.anc hi ha)
    · have hr := handle_ann_roots σ q ev b hb
      exact ⟨hp'.sched.good.known.roots b hr, hp'.sched.anti b hr⟩
  chan := fun e q E c ⟨hp, hg⟩ => ⟨(schedInv_run σ D0).chan e q E c hp, hg⟩
  defer := fun e q E d ⟨hp, hg⟩ => ⟨(schedInv_run σ D0).defer e q E d hp, hg⟩
  term := by
    intro e q E ⟨hp, hg⟩ h1 h2
    refine ⟨(schedInv_run σ D0).term e q E hp h1 h2, fun b hb => hg b ?_⟩
    rwa [List.flatMap_append, show [WQEvent.termination].flatMap evNew = [] from rfl, List.append_nil] at hb

end Gql.Async
