import Gql.Types.Introspection
import Gql.Generated.IntrospectionTypes
/-! Lemmas for C18: every value produced by `introspect` conforms to the declared introspection types
(the T1 table `Gql.Generated.introspectionTable`). -/
namespace Gql.Types
open Json Spec Gql.Generated

local notation "T" => introspectionTable

/-- The declared fields of an object type of the meta-schema. -/
def rowOf (n : String) : List (Key × ITy) := (introspectionTable.objects.lookup n).getD []
def valuesOf (n : String) : List (List Nat) := (introspectionTable.enums.lookup n).getD []

/-- A type with a declared field is in the table (so are the enums with a value): the per-key facts `row_*`,
`kindName_mem` … below are all that is evaluated on the generated table. -/
theorem lookup_rowOf {n : String} {k : Key} {ty : ITy} (h : (rowOf n).lookup k = some ty) :
    introspectionTable.objects.lookup n = some (rowOf n) := by
  unfold rowOf at h ⊢
  cases hl : introspectionTable.objects.lookup n with
  | some r => rfl
  | none => simp [hl] at h

theorem conf_enum {n : String} {s : List Nat} (h : s ∈ valuesOf n) : Conforms T (.named n) (.str s) := by
  refine Conforms.enum n _ s ?_ h
  unfold valuesOf at h ⊢
  cases hl : introspectionTable.enums.lookup n with
  | some r => rfl
  | none => simp [hl] at h

/-- Every entry is a declared field whose value conforms to the declared type. -/
def EntriesOK (fields : List (Key × ITy)) (kvs : List (Key × Json)) : Prop :=
  ∀ kv ∈ kvs, ∃ ty, fields.lookup kv.1 = some ty ∧ Conforms T ty kv.2

theorem entriesOK_nil {fields : List (Key × ITy)} : EntriesOK fields [] := by
  intro kv h; simp at h

theorem entriesOK_cons {fields : List (Key × ITy)} {k : Key} {v : Json} {ty : ITy} {rest : List (Key × Json)}
    (hl : fields.lookup k = some ty) (hc : Conforms T ty v) (hr : EntriesOK fields rest) :
    EntriesOK fields ((k, v) :: rest) := by
  intro kv h
  rcases List.mem_cons.mp h with rfl | h
  · exact ⟨ty, hl, hc⟩
  · exact hr kv h

theorem entriesOK_append {fields : List (Key × ITy)} {a b : List (Key × Json)}
    (ha : EntriesOK fields a) (hb : EntriesOK fields b) : EntriesOK fields (a ++ b) := by
  intro kv h
  rcases List.mem_append.mp h with h | h
  · exact ha kv h
  · exact hb kv h

theorem entriesOK_ite {fields : List (Key × ITy)} {c : Bool} {a : List (Key × Json)} (ha : EntriesOK fields a) :
    EntriesOK fields (if c then a else []) := by
  cases c
  · exact entriesOK_nil
  · exact ha

theorem conf_object (n : String) (kvs : List (Key × Json)) {k : Key} {ty : ITy}
    (hrow : (rowOf n).lookup k = some ty) (h : EntriesOK (rowOf n) kvs) :
    Conforms T (.named n) (.obj kvs) := by
  refine Conforms.object n (rowOf n) kvs (lookup_rowOf hrow) ?_ ?_
  · intro kv hkv
    obtain ⟨ty, hty, _⟩ := h kv hkv
    simp [hty]
  · intro kv hkv ty hty
    obtain ⟨ty', hty', hc⟩ := h kv hkv
    rw [hty] at hty'
    cases hty'
    exact hc

theorem conf_optStr (x : Option (List Nat)) : Conforms T (.named "String") (ofOptStr x) := by
  cases x with
  | none => exact Conforms.null _ rfl
  | some s => exact Conforms.string s

theorem conf_str_nn (s : List Nat) : Conforms T (.nonNull (.named "String")) (.str s) :=
  Conforms.nonNull _ _ (by simp) (Conforms.string s)

theorem conf_bool_nn (b : Bool) : Conforms T (.nonNull (.named "Boolean")) (.bool b) :=
  Conforms.nonNull _ _ (by simp) (Conforms.boolean b)

theorem conf_kind (s : List Nat) (h : s ∈ valuesOf "__TypeKind") :
    Conforms T (.nonNull (.named "__TypeKind")) (.str s) :=
  Conforms.nonNull _ _ (by simp) (conf_enum h)

theorem kindName_mem (k : Kind) : k.name ∈ valuesOf "__TypeKind" := by cases k <;> decide
theorem cLIST_mem : cLIST ∈ valuesOf "__TypeKind" := by decide
theorem cNON_NULL_mem : cNON_NULL ∈ valuesOf "__TypeKind" := by decide

/-- The lists of a result are images of the schema's lists, item by item. -/
theorem conf_list_map {α : Type} (t : ITy) (f : α → Json) (xs : List α)
    (h : ∀ a ∈ xs, f a ≠ .null ∧ Conforms T t (f a)) : Conforms T (.list (.nonNull t)) (.arr (xs.map f)) :=
  Conforms.list _ _ fun x hx => by
    obtain ⟨a, ha, rfl⟩ := List.mem_map.mp hx
    exact Conforms.nonNull _ _ (h a ha).1 (h a ha).2

theorem conf_arr_nn {t : ITy} {xs : List Json} (h : Conforms T t (.arr xs)) : Conforms T (.nonNull t) (.arr xs) :=
  Conforms.nonNull _ _ (by simp) h

theorem conf_ite {c : Prop} [Decidable c] {t : ITy} {a b : Json} (ha : Conforms T t a) (hb : Conforms T t b) :
    Conforms T t (if c then a else b) := by
  split <;> assumption

theorem refJson_ne_null (d : Nat) (r : TypeRef) : refJson d r ≠ .null := by
  cases d <;> cases r <;> simp [refJson]

theorem row_Type :
    (rowOf "__Type").lookup .kind = some (.nonNull (.named "__TypeKind")) ∧
    (rowOf "__Type").lookup .name = some (.named "String") ∧
    (rowOf "__Type").lookup .ofType = some (.named "__Type") ∧
    (rowOf "__Type").lookup .description = some (.named "String") ∧
    (rowOf "__Type").lookup .specifiedByURL = some (.named "String") ∧
    (rowOf "__Type").lookup .isOneOf = some (.named "Boolean") ∧
    (rowOf "__Type").lookup .fields = some (.list (.nonNull (.named "__Field"))) ∧
    (rowOf "__Type").lookup .inputFields = some (.list (.nonNull (.named "__InputValue"))) ∧
    (rowOf "__Type").lookup .interfaces = some (.list (.nonNull (.named "__Type"))) ∧
    (rowOf "__Type").lookup .enumValues = some (.list (.nonNull (.named "__EnumValue"))) ∧
    (rowOf "__Type").lookup .possibleTypes = some (.list (.nonNull (.named "__Type"))) := by decide

theorem conf_refJson (r : TypeRef) : ∀ d, Conforms T (.named "__Type") (refJson d r) := by
  obtain ⟨row_kind, row_name, row_ofType, _⟩ := row_Type
  -- every form is `kind`, `name` and, from depth 1 on, `ofType`
  have ref {s : List Nat} {nj : Json} {rest : List (Key × Json)} (hs : s ∈ valuesOf "__TypeKind")
      (hnj : Conforms T (.named "String") nj) (hr : EntriesOK (rowOf "__Type") rest) :
      Conforms T (.named "__Type") (obj ((.kind, str s) :: (.name, nj) :: rest)) :=
    conf_object _ _ row_kind (entriesOK_cons row_kind (conf_kind _ hs) (entriesOK_cons row_name hnj hr))
  induction r with
  | named n k =>
    intro d
    cases d
    · exact ref (kindName_mem k) (.string n) entriesOK_nil
    · exact ref (kindName_mem k) (.string n) (entriesOK_cons row_ofType (.null _ rfl) entriesOK_nil)
  | list r ih =>
    intro d
    cases d
    · exact ref cLIST_mem (.null _ rfl) entriesOK_nil
    · exact ref cLIST_mem (.null _ rfl) (entriesOK_cons row_ofType (ih _) entriesOK_nil)
  | nonNull r ih =>
    intro d
    cases d
    · exact ref cNON_NULL_mem (.null _ rfl) entriesOK_nil
    · exact ref cNON_NULL_mem (.null _ rfl) (entriesOK_cons row_ofType (ih _) entriesOK_nil)

theorem conf_refJson_nn (d : Nat) (r : TypeRef) : Conforms T (.nonNull (.named "__Type")) (refJson d r) :=
  Conforms.nonNull _ _ (refJson_ne_null d r) (conf_refJson r d)

section
variable {V : Type} (printV : V → List Nat)

theorem row_IV :
    (rowOf "__InputValue").lookup .name = some (.nonNull (.named "String")) ∧
    (rowOf "__InputValue").lookup .description = some (.named "String") ∧
    (rowOf "__InputValue").lookup .type = some (.nonNull (.named "__Type")) ∧
    (rowOf "__InputValue").lookup .defaultValue = some (.named "String") ∧
    (rowOf "__InputValue").lookup .isDeprecated = some (.nonNull (.named "Boolean")) ∧
    (rowOf "__InputValue").lookup .deprecationReason = some (.named "String") := by decide

theorem entriesOK_descPart {fields : List (Key × ITy)} (o : Options) (d : Option (List Nat))
    (h : fields.lookup .description = some (.named "String")) : EntriesOK fields (descPart o d) := by
  unfold descPart
  exact entriesOK_ite (entriesOK_cons h (conf_optStr d) entriesOK_nil)

theorem conf_ivJson (o : Options) (iv : InputValue V) :
    Conforms T (.named "__InputValue") (ivJson printV o iv) := by
  obtain ⟨row_IV_name, row_IV_description, row_IV_type, row_IV_defaultValue, row_IV_isDeprecated, row_IV_deprecationReason⟩ := row_IV
  unfold ivJson
  refine conf_object _ _ row_IV_name ?_
  refine entriesOK_append (entriesOK_append (entriesOK_append ?_ ?_) ?_) ?_
  · exact entriesOK_cons row_IV_name (conf_str_nn _) entriesOK_nil
  · exact entriesOK_descPart o _ row_IV_description
  · exact entriesOK_cons row_IV_type (conf_refJson_nn _ _)
      (entriesOK_cons row_IV_defaultValue (conf_optStr _) entriesOK_nil)
  · exact entriesOK_ite (entriesOK_cons row_IV_isDeprecated (conf_bool_nn _)
      (entriesOK_cons row_IV_deprecationReason (conf_optStr _) entriesOK_nil))

theorem ivJson_ne_null (o : Options) (iv : InputValue V) : ivJson printV o iv ≠ .null := by simp [ivJson]

theorem conf_ivsJson_opt (o : Options) (ivs : List (InputValue V)) :
    Conforms T (.list (.nonNull (.named "__InputValue"))) (ivsJson printV o ivs) :=
  conf_list_map _ _ _ fun iv _ => ⟨ivJson_ne_null printV o iv, conf_ivJson printV o iv⟩

theorem conf_ivsJson_nn (o : Options) (ivs : List (InputValue V)) :
    Conforms T (.nonNull (.list (.nonNull (.named "__InputValue")))) (ivsJson printV o ivs) :=
  conf_arr_nn (conf_ivsJson_opt printV o ivs)

theorem row_F :
    (rowOf "__Field").lookup .name = some (.nonNull (.named "String")) ∧
    (rowOf "__Field").lookup .description = some (.named "String") ∧
    (rowOf "__Field").lookup .args = some (.nonNull (.list (.nonNull (.named "__InputValue")))) ∧
    (rowOf "__Field").lookup .type = some (.nonNull (.named "__Type")) ∧
    (rowOf "__Field").lookup .isDeprecated = some (.nonNull (.named "Boolean")) ∧
    (rowOf "__Field").lookup .deprecationReason = some (.named "String") := by decide

theorem conf_fieldJson (o : Options) (f : Field V) : Conforms T (.named "__Field") (fieldJson printV o f) := by
  obtain ⟨row_F_name, row_F_description, row_F_args, row_F_type, row_F_isDeprecated, row_F_deprecationReason⟩ := row_F
  unfold fieldJson
  refine conf_object _ _ row_F_name ?_
  refine entriesOK_append (entriesOK_append ?_ ?_) ?_
  · exact entriesOK_cons row_F_name (conf_str_nn _) entriesOK_nil
  · exact entriesOK_descPart o _ row_F_description
  · exact entriesOK_cons row_F_args (conf_ivsJson_nn printV o f.args)
      (entriesOK_cons row_F_type (conf_refJson_nn _ _)
        (entriesOK_cons row_F_isDeprecated (conf_bool_nn _)
          (entriesOK_cons row_F_deprecationReason (conf_optStr _) entriesOK_nil)))

theorem row_EV :
    (rowOf "__EnumValue").lookup .name = some (.nonNull (.named "String")) ∧
    (rowOf "__EnumValue").lookup .description = some (.named "String") ∧
    (rowOf "__EnumValue").lookup .isDeprecated = some (.nonNull (.named "Boolean")) ∧
    (rowOf "__EnumValue").lookup .deprecationReason = some (.named "String") := by decide

theorem conf_enumValueJson (o : Options) (e : EnumValue) :
    Conforms T (.named "__EnumValue") (enumValueJson o e) := by
  obtain ⟨row_EV_name, row_EV_description, row_EV_isDeprecated, row_EV_deprecationReason⟩ := row_EV
  unfold enumValueJson
  refine conf_object _ _ row_EV_name ?_
  refine entriesOK_append (entriesOK_append ?_ ?_) ?_
  · exact entriesOK_cons row_EV_name (conf_str_nn _) entriesOK_nil
  · exact entriesOK_descPart o _ row_EV_description
  · exact entriesOK_cons row_EV_isDeprecated (conf_bool_nn _)
      (entriesOK_cons row_EV_deprecationReason (conf_optStr _) entriesOK_nil)

theorem conf_refs_opt (d : Nat) (rs : List TypeRef) :
    Conforms T (.list (.nonNull (.named "__Type"))) (.arr (rs.map (refJson d))) :=
  conf_list_map _ _ _ fun r _ => ⟨refJson_ne_null d r, conf_refJson r d⟩

theorem conf_typeJson (types : List (TypeDef V)) (o : Options) (t : TypeDef V) :
    Conforms T (.named "__Type") (typeJson printV types o t) := by
  obtain ⟨row_Type_kind, row_Type_name, row_Type_ofType, row_Type_description, row_Type_specifiedByURL, row_Type_isOneOf, row_Type_fields, row_Type_inputFields, row_Type_interfaces, row_Type_enumValues, row_Type_possibleTypes⟩ := row_Type
  have hnull {t : ITy} : Conforms T (.list t) .null := .null _ rfl
  unfold typeJson
  refine conf_object _ _ row_Type_kind ?_
  refine entriesOK_append (entriesOK_append (entriesOK_append (entriesOK_append ?_ ?_) ?_)
    ?_) ?_
  · exact entriesOK_cons row_Type_kind (conf_kind _ (kindName_mem _))
      (entriesOK_cons row_Type_name (Conforms.string _) entriesOK_nil)
  · exact entriesOK_descPart o _ row_Type_description
  · exact entriesOK_ite (entriesOK_cons row_Type_specifiedByURL (conf_optStr _) entriesOK_nil)
  · exact entriesOK_ite (entriesOK_cons row_Type_isOneOf (conf_ite (.boolean _) (.null _ rfl)) entriesOK_nil)
  · exact entriesOK_cons row_Type_fields
        (conf_ite (conf_list_map _ _ _ fun f _ => ⟨by simp [fieldJson], conf_fieldJson printV o f⟩) hnull)
      (entriesOK_cons row_Type_inputFields (conf_ite (conf_ivsJson_opt printV o _) hnull)
        (entriesOK_cons row_Type_interfaces (conf_ite (conf_refs_opt _ _) hnull)
          (entriesOK_cons row_Type_enumValues
              (conf_ite (conf_list_map _ _ _ fun e _ => ⟨by simp [enumValueJson], conf_enumValueJson o e⟩) hnull)
            (entriesOK_cons row_Type_possibleTypes
              (conf_ite (conf_refs_opt _ _) (conf_ite (conf_refs_opt _ _) hnull)) entriesOK_nil))))

theorem typeJson_ne_null (types : List (TypeDef V)) (o : Options) (t : TypeDef V) :
    typeJson printV types o t ≠ .null := by simp [typeJson]

theorem row_D :
    (rowOf "__Directive").lookup .name = some (.nonNull (.named "String")) ∧
    (rowOf "__Directive").lookup .description = some (.named "String") ∧
    (rowOf "__Directive").lookup .isRepeatable = some (.nonNull (.named "Boolean")) ∧
    (rowOf "__Directive").lookup .locations = some (.nonNull (.list (.nonNull (.named "__DirectiveLocation")))) ∧
    (rowOf "__Directive").lookup .args = some (.nonNull (.list (.nonNull (.named "__InputValue")))) ∧
    (rowOf "__Directive").lookup .isDeprecated = some (.nonNull (.named "Boolean")) ∧
    (rowOf "__Directive").lookup .deprecationReason = some (.named "String") := by decide

theorem conf_directiveJson (o : Options) (d : Directive V)
    (hloc : ∀ l ∈ d.locations, l ∈ valuesOf "__DirectiveLocation") :
    Conforms T (.named "__Directive") (directiveJson printV o d) := by
  obtain ⟨row_D_name, row_D_description, row_D_isRepeatable, row_D_locations, row_D_args, row_D_isDeprecated, row_D_deprecationReason⟩ := row_D
  unfold directiveJson
  refine conf_object _ _ row_D_name ?_
  refine entriesOK_append (entriesOK_append (entriesOK_append (entriesOK_append ?_ ?_) ?_)
    ?_) ?_
  · exact entriesOK_cons row_D_name (conf_str_nn _) entriesOK_nil
  · exact entriesOK_descPart o _ row_D_description
  · exact entriesOK_ite (entriesOK_cons row_D_isRepeatable (conf_bool_nn _) entriesOK_nil)
  · exact entriesOK_ite (entriesOK_cons row_D_isDeprecated (conf_bool_nn _)
      (entriesOK_cons row_D_deprecationReason (conf_optStr _) entriesOK_nil))
  · exact entriesOK_cons row_D_locations
        (conf_arr_nn (conf_list_map _ _ _ fun l hl =>
          ⟨by simp, conf_enum (hloc l hl)⟩))
      (entriesOK_cons row_D_args (conf_ivsJson_nn printV o d.args) entriesOK_nil)

theorem row_S :
    (rowOf "__Schema").lookup .description = some (.named "String") ∧
    (rowOf "__Schema").lookup .types = some (.nonNull (.list (.nonNull (.named "__Type")))) ∧
    (rowOf "__Schema").lookup .queryType = some (.nonNull (.named "__Type")) ∧
    (rowOf "__Schema").lookup .mutationType = some (.named "__Type") ∧
    (rowOf "__Schema").lookup .subscriptionType = some (.named "__Type") ∧
    (rowOf "__Schema").lookup .directives = some (.nonNull (.list (.nonNull (.named "__Directive")))) := by decide

theorem conf_rootJson (r : Option (List Nat × Kind)) : Conforms T (.named "__Type") (rootJson r) := by
  cases r with
  | none => exact Conforms.null _ rfl
  | some nk =>
    obtain ⟨n, k⟩ := nk
    obtain ⟨row_Type_kind, row_Type_name, _⟩ := row_Type
    simp only [rootJson]
    refine conf_object _ _ row_Type_kind ?_
    exact entriesOK_cons row_Type_name (Conforms.string n)
      (entriesOK_cons row_Type_kind (conf_kind _ (kindName_mem k)) entriesOK_nil)

/-- What a `GraphQLSchema` that executes queries guarantees beyond the shape of `Schema V`: it has a query
root, and directive locations are `DirectiveLocation` members (the constructor of `GraphQLDirective`). -/
def Introspectable (s : Schema V) : Prop :=
  s.query.isSome = true ∧ ∀ d ∈ s.directives, ∀ l ∈ d.locations, l ∈ valuesOf "__DirectiveLocation"

theorem conf_schemaJson (s : Schema V) (o : Options) (h : Introspectable s) :
    Conforms T schemaMetaFieldType (schemaJson printV s o) := by
  obtain ⟨hq, hloc⟩ := h
  obtain ⟨row_S_description, row_S_types, row_S_queryType, row_S_mutationType, row_S_subscriptionType, row_S_directives⟩ := row_S
  unfold schemaJson schemaMetaFieldType
  refine Conforms.nonNull _ _ (by simp) (conf_object _ _ row_S_types ?_)
  refine entriesOK_append ?_ ?_
  · exact entriesOK_ite (entriesOK_cons row_S_description (conf_optStr _) entriesOK_nil)
  · refine entriesOK_cons row_S_queryType ?_
      (entriesOK_cons row_S_mutationType (conf_rootJson _)
        (entriesOK_cons row_S_subscriptionType (conf_rootJson _)
          (entriesOK_cons row_S_types ?_
            (entriesOK_cons row_S_directives ?_ entriesOK_nil))))
    · refine Conforms.nonNull _ _ ?_ (conf_rootJson _)
      cases hs : s.query with
      | none => simp [hs] at hq
      | some nk => obtain ⟨n, k⟩ := nk; simp [rootJson]
    · exact conf_arr_nn (conf_list_map _ _ _ fun t _ =>
        ⟨typeJson_ne_null printV _ o t, conf_typeJson printV _ o t⟩)
    · refine conf_arr_nn (conf_list_map _ _ _ fun d hd => ?_)
      have hd' : d ∈ s.directives := by
        unfold visibleDirectives at hd
        split at hd
        · exact hd
        · exact (List.mem_filter.mp hd).1
      exact ⟨by simp [directiveJson], conf_directiveJson printV o d (hloc d hd')⟩

theorem conf_typeLookup (s : Schema V) (o : Options) (n : List Nat) :
    Conforms T typeMetaFieldType (typeLookup printV s o n) := by
  unfold typeLookup typeMetaFieldType
  split
  · exact conf_typeJson printV _ o _
  · exact Conforms.null _ rfl

end

end Gql.Types
