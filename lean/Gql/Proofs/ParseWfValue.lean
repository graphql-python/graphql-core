import Gql.Proofs.ParseWfType
import Gql.Proofs.ValueRoundtrip
/-!
C08, converse direction for the VALUE / CONST VALUE entry points (`parse_wf`): every tree
`parse_value` / `parse_const_value` returns is the tree of a `Val` that is well formed up to verbatim
surrogates (`Val.wfG (ChOk src)`); `Val.wfG` implies `Val.wfP`, and `Val.wf` when the source text
holds no surrogate code point.  Rests on the invariant `VPS` of `Gql.Proofs.ParseWfType`.
-/
namespace Gql.Text
open Gql Gql.Syntax

namespace Val

mutual
  /-- `Val.wf` with the condition on the code points of string values as a parameter. -/
  def wfG (ok : Nat → Prop) (isConst : Bool) : Val → Prop
    | var n => isConst = false ∧ validName n = true
    | int s => IsNum false s
    | float s => IsNum true s
    | str s b => (∀ c ∈ s, ok c) ∧ (b = true → BlockRepresentable s) ∧ Pairs.Paired s
    | bool _ => True
    | null => True
    | enum n => validName n = true ∧ n ≠ S "true" ∧ n ≠ S "false" ∧ n ≠ S "null"
    | list vs => wfGList ok isConst vs
    | obj fs => wfGFields ok isConst fs
  def wfGList (ok : Nat → Prop) (isConst : Bool) : List Val → Prop
    | [] => True
    | v :: vs => wfG ok isConst v ∧ wfGList ok isConst vs
  def wfGFields (ok : Nat → Prop) (isConst : Bool) : List (List Nat × Val) → Prop
    | [] => True
    | (n, v) :: fs => validName n = true ∧ wfG ok isConst v ∧ wfGFields ok isConst fs
end

mutual
  theorem wf_of_wfG (ok : Nat → Prop) (hok : ∀ c, ok c → isScalar c = true) (isConst : Bool) :
      ∀ v : Val, wfG ok isConst v → wf isConst v
    | var n, h => h
    | int s, h => h
    | float s, h => h
    | str s b, h => ⟨fun c hc => hok c (h.1 c hc), h.2.1⟩
    | bool _, _ => trivial
    | null, _ => trivial
    | enum n, h => h
    | list vs, h => by
      simp only [wf]; simp only [wfG] at h
      exact wfList_of_wfG ok hok isConst vs h
    | obj fs, h => by
      simp only [wf]; simp only [wfG] at h
      exact wfFields_of_wfG ok hok isConst fs h
  theorem wfList_of_wfG (ok : Nat → Prop) (hok : ∀ c, ok c → isScalar c = true) (isConst : Bool) :
      ∀ vs : List Val, wfGList ok isConst vs → wfList isConst vs
    | [], _ => trivial
    | v :: vs, h => by
      simp only [wfList]; simp only [wfGList] at h
      exact ⟨wf_of_wfG ok hok isConst v h.1, wfList_of_wfG ok hok isConst vs h.2⟩
  theorem wfFields_of_wfG (ok : Nat → Prop) (hok : ∀ c, ok c → isScalar c = true) (isConst : Bool) :
      ∀ fs : List (List Nat × Val), wfGFields ok isConst fs → wfFields isConst fs
    | [], _ => trivial
    | (n, v) :: fs, h => by
      simp only [wfFields]; simp only [wfGFields] at h
      exact ⟨h.1, wf_of_wfG ok hok isConst v h.2.1, wfFields_of_wfG ok hok isConst fs h.2.2⟩
end

mutual
  /-- What the parser builds is well formed in the sense of the round trip (`Val.wfP`). -/
  theorem wfP_of_wfG (ok : Nat → Prop) (isConst : Bool) : ∀ v : Val, wfG ok isConst v → wfP isConst v
    | var n, h => h
    | int s, h => h
    | float s, h => h
    | str s b, h => ⟨h.2.2, h.2.1⟩
    | bool _, _ => trivial
    | null, _ => trivial
    | enum n, h => h
    | list vs, h => by
      simp only [wfP]; simp only [wfG] at h
      exact wfPList_of_wfG ok isConst vs h
    | obj fs, h => by
      simp only [wfP]; simp only [wfG] at h
      exact wfPFields_of_wfG ok isConst fs h
  theorem wfPList_of_wfG (ok : Nat → Prop) (isConst : Bool) :
      ∀ vs : List Val, wfGList ok isConst vs → wfPList isConst vs
    | [], _ => trivial
    | v :: vs, h => by
      simp only [wfPList]; simp only [wfGList] at h
      exact ⟨wfP_of_wfG ok isConst v h.1, wfPList_of_wfG ok isConst vs h.2⟩
  theorem wfPFields_of_wfG (ok : Nat → Prop) (isConst : Bool) :
      ∀ fs : List (List Nat × Val), wfGFields ok isConst fs → wfPFields isConst fs
    | [], _ => trivial
    | (n, v) :: fs, h => by
      simp only [wfPFields]; simp only [wfGFields] at h
      exact ⟨h.1, wfP_of_wfG ok isConst v h.2.1, wfPFields_of_wfG ok isConst fs h.2.2⟩
end

end Val
end Gql.Text

namespace Gql.Syntax
open Gql Gql.Text

section
variable {body : List Nat} {cfg : Cfg} {s : PS}

/-- A scalar literal method: read the current token, advance, build the node from the token. -/
theorem Wp.curAdv {f : Token → Ast} {R : Ast → Prop} (h : R (f s.cur)) :
    Wp body (P.cur >>= fun t => advanceLexer cfg >>= fun _ => Pure.pure (f t)) s fun a _ => R a :=
  .cur <| advanceLexer_vinv.step fun _ _ _ => .pure h

theorem parseVariable_vinv : Wp body (parseVariable cfg) s fun a _ =>
    ∃ n, validName n = true ∧ a = (Val.var n).toAst :=
  (expectToken_vinv .dollar).step fun _ _ _ => parseName_vinv.step fun _ _ ⟨n', hv, _, e⟩ =>
    .pure ⟨n', hv, by simp [e, mk_var, Val.toAst]⟩

theorem parseStringLiteral_vinv (hk : s.cur.kind = .string ∨ s.cur.kind = .blockString) :
    Wp body (parseStringLiteral cfg) s fun a _ => ∃ sv b, (∀ c ∈ sv, ChOk body c) ∧
      (b = true → BlockRepresentable sv) ∧ Pairs.Paired sv ∧ a = (Val.str sv b).toAst := by
  rw [parseStringLiteral]
  refine .vps fun hg => ?_
  rcases hk with hk | hk
  · obtain ⟨sv, hsv, hch, hpr⟩ := hg.string hk
    exact .curAdv ⟨sv, false, hch, nofun, hpr, by simp [mk_str, tokValOrEmpty, hsv, Val.toAst, hk]⟩
  · obtain ⟨sv, hsv, hch, hrep, hpr⟩ := hg.block hk
    exact .curAdv ⟨sv, true, hch, fun _ => hrep, hpr, by simp [mk_str, tokValOrEmpty, hsv, Val.toAst, hk]⟩

theorem parseNamedValues_vinv (hk : s.cur.kind = .name) (c : Bool) :
    Wp body (parseNamedValues cfg) s fun a _ => ∃ v : Val, Val.wfG (ChOk body) c v ∧ a = v.toAst := by
  rw [parseNamedValues]
  refine .vps fun hg => ?_
  obtain ⟨nv, hnv, hval⟩ := hg.name hk
  refine .cur <| advanceLexer_vinv.step fun _ _ _ => ?_
  refine .ite (fun _ => .pure ⟨.bool true, trivial, by simp [mk_bool, Val.toAst]⟩) fun h1' => ?_
  refine .ite (fun _ => .pure ⟨.bool false, trivial, by simp [mk_bool, Val.toAst]⟩) fun h2' => ?_
  refine .ite (fun _ => .pure ⟨.null, trivial, by simp [mk_null, Val.toAst]⟩) fun h3' => ?_
  exact .pure ⟨.enum nv, ⟨hval, fun e => h1' ((valueIs_iff hnv "true").mpr e),
    fun e => h2' ((valueIs_iff hnv "false").mpr e), fun e => h3' ((valueIs_iff hnv "null").mpr e)⟩,
    by simp [mk_enum, tokValOrEmpty, hnv, Val.toAst]⟩

theorem parseVariableValue_vinv (c : Bool) :
    Wp body (parseVariableValue cfg c) s fun a _ => ∃ v : Val, Val.wfG (ChOk body) c v ∧ a = v.toAst := by
  rw [parseVariableValue]
  exact .ite (fun _ => (expectToken_vinv .dollar).step fun _ _ _ => .cur <| .ite (fun _ => .fail) fun _ => .unexpected)
    fun hc => parseVariable_vinv.mono fun _ _ ⟨n, hv, e⟩ => ⟨.var n, ⟨by simpa using hc, hv⟩, e⟩

end

/-- **`parse_wf` for values**: whatever `parse_value_literal(is_const)` returns from a state whose
tokens carry values of their class is the tree of a `Val` that is well formed up to verbatim
surrogates. -/
theorem valueLit_vinv {body : List Nat} {cfg : Cfg} (c : Bool) : ∀ n : Nat,
    ItemWp body (valueLit n cfg c) fun a => ∃ v : Val, Val.wfG (ChOk body) c v ∧ a = v.toAst
  | 0, _ => .crash
  | n + 1, s => by
    have ih := valueLit_vinv (body := body) (cfg := cfg) c n
    rw [valueLit]
    refine .cur ?_
    cases hm : valueMethodOf s.cur.kind with
    | none => exact .unexpected
    | some m =>
      show Wp body (dispatchValue cfg n c (valueLit n cfg c) m) s _
      rcases valueMethodOf_inv hm with ⟨hk, rfl⟩ | ⟨hk, rfl⟩ | ⟨hk, rfl⟩ | ⟨hk, rfl⟩ | ⟨hk, rfl⟩ | ⟨hk, rfl⟩ |
        ⟨hk, rfl⟩ | ⟨hk, rfl⟩
      · rw [dv_var]; exact parseVariableValue_vinv c
      · rw [dv_int, parseNumber]
        refine .vps fun hg => ?_
        obtain ⟨sv, hsv, hnum⟩ := hg.int hk
        exact .curAdv ⟨.int sv, hnum, by simp [mk_int, tokValOrEmpty, hsv, Val.toAst]⟩
      · rw [dv_float, parseNumber]
        refine .vps fun hg => ?_
        obtain ⟨sv, hsv, hnum⟩ := hg.float hk
        exact .curAdv ⟨.float sv, hnum, by simp [mk_float, tokValOrEmpty, hsv, Val.toAst]⟩
      · rw [dv_string]
        exact (parseStringLiteral_vinv (.inl hk)).mono fun _ _ ⟨sv, b, hch, hrep, hpr, e⟩ =>
          ⟨.str sv b, ⟨hch, hrep, hpr⟩, e⟩
      · rw [dv_string]
        exact (parseStringLiteral_vinv (.inr hk)).mono fun _ _ ⟨sv, b, hch, hrep, hpr, e⟩ =>
          ⟨.str sv b, ⟨hch, hrep, hpr⟩, e⟩
      · rw [dv_named]; exact parseNamedValues_vinv hk c
      · rw [dv_list]
        exact (parseAny_vinv ih n .bracketL .bracketR).step fun xs _ hall => by
          obtain ⟨vs, hvs, rfl⟩ := exists_list_of_forall (Ws := Val.wfGList (ChOk body) c) (asts := Val.toAstList)
            ⟨trivial, rfl⟩ (fun _ _ hb hbs => ⟨⟨hb, hbs⟩, rfl⟩) xs hall
          exact .pure ⟨.list vs, by simp only [Val.wfG]; exact hvs, by simp [mk_list, Val.toAst]⟩
      · rw [dv_object]
        have hitem : ItemWp body (parseObjectField cfg (valueLit n cfg c)) fun a => ∃ f : List Nat × Val,
            (validName f.1 = true ∧ Val.wfG (ChOk body) c f.2) ∧
              a = .node "ObjectFieldNode" [("name", Val.nameNode f.1), ("value", f.2.toAst)] := fun _ =>
          parseName_vinv.step fun _ _ ⟨nm, hnm, _, e1⟩ => (expectToken_vinv .colon).step fun _ _ _ =>
            (ih _).step fun _ _ ⟨v, hv, e3⟩ => .pure ⟨(nm, v), ⟨hnm, hv⟩, by simp [e1, e3, mk_field]⟩
        exact (parseAny_vinv hitem n .braceL .braceR).step fun xs _ hall => by
          obtain ⟨fs, hfs, rfl⟩ := exists_list_of_forall (Ws := Val.wfGFields (ChOk body) c) (asts := Val.toAstFields)
            ⟨trivial, rfl⟩ (fun _ _ hb hbs => ⟨⟨hb.1, hb.2, hbs⟩, rfl⟩) xs hall
          exact .pure ⟨.obj fs, by simp only [Val.wfG]; exact hfs, by simp [mk_obj, Val.toAst]⟩

/-- **`parse_wf` for the VALUE / CONST VALUE entry points**, any source text, any flags, any
`max_tokens`: the tree returned is the tree of a `Val` whose names, number texts and block strings
are well formed and whose string values hold only scalar values and surrogates standing verbatim
in the source text. -/
theorem parseSource_value_wfG (cfg : Cfg) (c : Bool) (src : List Nat) (d : Ast)
    (h : parseSource (if c then .constValue else .value) cfg src = .ok d) :
    ∃ v : Val, Val.wfG (ChOk src) c v ∧ d = v.toAst := by
  cases c
  · exact parseSource_inv cfg .value (by decide) src _ (fun _ => entry_frame_inv cfg src _ _ (valueLit_vinv false _) _) d h
  · exact parseSource_inv cfg .constValue (by decide) src _
      (fun _ => entry_frame_inv cfg src _ _ (valueLit_vinv true _) _) d h

end Gql.Syntax
