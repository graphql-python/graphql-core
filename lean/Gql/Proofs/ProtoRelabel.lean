import Gql.Proofs.ProtoFinal
/-!
Two payload streams whose `pending` entries are built, payload by payload, from the same
(node, id) pairs under two label/path environments, and whose `completed` entries are equal.
-/
namespace Gql.Async
open Gql.Spec.Protocol

/-- Two payloads built from the same (node, id) pairs. -/
structure PlRel (π π' : PubStatic) (N : List (Node × Nat)) (pl pl' : Payload) : Prop where
  pend : pl.pending = N.map (mkEntry π)
  pend' : pl'.pending = N.map (mkEntry π')
  comp : pl.completed = pl'.completed

/-- Two payload streams built from the same (node, id) pairs, payload by payload. -/
inductive PsRel (π π' : PubStatic) : List Payload → List Payload → Prop where
  | nil : PsRel π π' [] []
  | cons {pl pl' : Payload} {ps ps' : List Payload} (N : List (Node × Nat)) :
      PlRel π π' N pl pl' → PsRel π π' ps ps' → PsRel π π' (pl :: ps) (pl' :: ps')

theorem PsRel.length {π π' : PubStatic} {ps ps' : List Payload} (h : PsRel π π' ps ps') :
    ps'.length = ps.length := by
  induction h with
  | nil => rfl
  | cons N _ _ ih => simp [ih]

theorem PsRel.completed {π π' : PubStatic} {ps ps' : List Payload} (h : PsRel π π' ps ps') :
    completedIds ps' = completedIds ps := by
  induction h with
  | nil => rfl
  | cons N r _ ih => simp only [completedIds, List.flatMap_cons] at ih ⊢; rw [ih, r.comp]

end Gql.Async
