import Gql.Proofs.SchemaBuildDefs
/-!
C17: every reference of a well-formed schema resolves, the roots and the schema block, and the
round trip `buildFromDefs (schemaToDefs s) = ok s`.
-/
namespace Gql.Types
open Gql Gql.Generated

theorem not_all_other (s : Schema) (h : s.types ≠ []) : (schemaToDefs s).all Def.isOther = false := by
  cases hts : s.types with
  | nil => exact absurd hts h
  | cons t ts =>
    simp only [schemaToDefs, hts, List.map_cons, List.all_append, List.all_cons, typeToDef_eq, Def.isOther]
    simp

theorem argRefsOk_of_wf (s : Schema) (as : List Arg) (h : wfArgs s as = true) : argRefsOk s as = true := by
  simp only [wfArgs, Bool.and_eq_true, List.all_eq_true] at h
  simp only [argRefsOk, List.all_eq_true]
  intro a ha
  have := h.2 a ha
  simp only [wfArg, Bool.and_eq_true] at this
  exact this.2

theorem typeRefsOk_of_wf (s : Schema) (t : TypeDef) (h : wfType s t = true) : typeRefsOk s t = true := by
  cases t with
  | scalar => rfl
  | enum => rfl
  | union n d ms =>
    simp only [wfType, Bool.and_eq_true] at h
    simpa [typeRefsOk] using h.2
  | input n d o fs =>
    simp only [wfType, Bool.and_eq_true] at h
    exact argRefsOk_of_wf s fs h.2
  | object n d is fs | interface n d is fs =>
    simp only [wfType, Bool.and_eq_true, List.all_eq_true] at h
    simp only [typeRefsOk, Bool.and_eq_true, List.all_eq_true]
    refine ⟨h.1.1.2, ?_⟩
    intro f hf
    have := h.2 f hf
    simp only [wfField, Bool.and_eq_true] at this
    exact ⟨this.1.2, argRefsOk_of_wf s f.args this.2⟩

theorem resolves_congr (s r : Schema) (h : r.types = s.types) (n : Str) : resolves r n = resolves s n := by
  simp [resolves, Schema.hasType, Schema.typeNames, h]

theorem typeRefsOk_congr (s r : Schema) (h : r.types = s.types) (t : TypeDef) :
    typeRefsOk r t = typeRefsOk s t := by
  have hr : resolves r = resolves s := funext (resolves_congr s r h)
  cases t <;> simp [typeRefsOk, argRefsOk, hr]

theorem rootOk_congr (s r : Schema) (h : r.types = s.types) (o : Option Str) : rootOk r o = rootOk s o := by
  cases o <;> simp [rootOk, Schema.hasType, Schema.typeNames, h]

theorem allRefsResolve_of_wf (s : Schema) (h : WFSchema s = true) : allRefsResolve s = true := by
  simp only [WFSchema, Bool.and_eq_true, List.all_eq_true] at h
  obtain ⟨⟨⟨⟨⟨⟨⟨_, htypes⟩, _⟩, hdirs⟩, _⟩, hrq⟩, hrm⟩, hrs⟩ := h
  simp only [allRefsResolve, Bool.and_eq_true, List.all_eq_true]
  refine ⟨⟨⟨⟨fun t ht => typeRefsOk_of_wf s t (htypes t ht), fun d hd => ?_⟩, hrq⟩, hrm⟩, hrs⟩
  have := hdirs d hd
  simp only [wfDirective, Bool.and_eq_true] at this
  exact argRefsOk_of_wf s d.args this.1.1.2

/-- References are looked up among the types only: a schema `r` with the types and directives of `s`
passes the check when its roots are types of `s`. -/
theorem allRefsResolve_congr (s r : Schema) (ht : r.types = s.types) (hd : r.directives = s.directives) :
    allRefsResolve r =
      (s.types.all (typeRefsOk s) && s.directives.all (fun d => argRefsOk s d.args) &&
        rootOk s r.query && rootOk s r.mutation && rootOk s r.subscription) := by
  have ha : argRefsOk r = argRefsOk s := by funext as; simp only [argRefsOk, resolves_congr s r ht]
  rw [allRefsResolve, ht, hd, funext (typeRefsOk_congr s r ht), funext (rootOk_congr s r ht), ha]

theorem allRefsResolve_noRoots (s r : Schema) (ht : r.types = s.types) (hd : r.directives = s.directives)
    (hq : r.query = none) (hm : r.mutation = none) (hs : r.subscription = none)
    (h : allRefsResolve s = true) : allRefsResolve r = true := by
  rw [allRefsResolve_congr s r ht hd, hq, hm, hs]
  simp only [allRefsResolve, Bool.and_eq_true] at h ⊢
  exact ⟨⟨⟨h.1.1.1, rfl⟩, rfl⟩, rfl⟩

theorem types_ne_nil_of_wf (s : Schema) (h : WFSchema s = true) : s.types ≠ [] := by
  simp only [WFSchema, Bool.and_eq_true] at h
  obtain ⟨⟨⟨⟨_, hq⟩, hrq⟩, _⟩, _⟩ := h
  intro hnil
  cases hqq : s.query with
  | none => simp [hqq] at hq
  | some n => simp [hqq, rootOk, Schema.hasType, Schema.typeNames, hnil] at hrq

theorem applyOps_opEntries (s0 : Schema) (q m sub : Option Str)
    (hq : s0.query = none) (hm : s0.mutation = none) (hs : s0.subscription = none) :
    applyOps s0 (opEntry .query q ++ opEntry .mutation m ++ opEntry .subscription sub) =
      { s0 with query := q, mutation := m, subscription := sub } := by
  cases s0
  cases hq; cases hm; cases hs
  cases q <;> cases m <;> cases sub <;> rfl

/-- The schema the core builder yields for the printed definitions: `s` itself when the
schema block was printed, `s` without roots when it was omitted. -/
def coreResult (s : Schema) : Schema :=
  match schemaDefOf s with
  | [] => { s with desc := none, query := none, mutation := none, subscription := none }
  | _ => s

def opsOf (s : Schema) : List (Op × Str) :=
  opEntry .query s.query ++ opEntry .mutation s.mutation ++ opEntry .subscription s.subscription

theorem schemaDefOf_cases (s : Schema) (hq : s.query.isSome = true) :
    (schemaDefOf s = [] ∧ s.desc = none ∧ hasDefaultRoots s = true) ∨
    schemaDefOf s = [.schemaDef (descNode s.desc) [] (opsOf s)] := by
  unfold schemaDefOf opsOf
  cases hqq : s.query with
  | none => simp [hqq] at hq
  | some n =>
    by_cases hd : s.desc.isNone && hasDefaultRoots s
    · left
      simp only [Bool.and_eq_true, Option.isNone_iff_eq_none] at hd
      simp [hd.1, hd.2]
    · right
      simp only [Bool.and_eq_true, Option.isNone_iff_eq_none] at hd
      simp [hd]

theorem roots_desc_schemaToDefs (s : Schema) (hq : s.query.isSome = true) :
    ({ rootsOf (collect (schemaToDefs s))
        { Schema.empty with types := s.types, desc := descOf (collect (schemaToDefs s)) Schema.empty.desc } with
      directives := s.directives } : Schema) = coreResult s := by
  rw [collect_schemaToDefs]
  unfold coreResult rootsOf descOf
  rcases schemaDefOf_cases s hq with ⟨h0, _, _⟩ | h1
  · rw [h0]; simp [Schema.empty]
  · rw [h1]
    simp only [List.foldl_nil, Schema.empty, opsOf]
    rw [applyOps_opEntries _ s.query s.mutation s.subscription rfl rfl rfl]
    cases s with
    | mk desc q m sub dirs types => cases desc <;> simp [descNode]

/-- The core of the round trip, before `build_ast_schema`'s lookup of roots by name. -/
theorem extendCore_schemaToDefs (s : Schema) (h : WFSchema s = true) :
    extendCore Schema.empty (schemaToDefs s) = .ok (coreResult s) := by
  have hwf := h
  simp only [WFSchema, Bool.and_eq_true] at h
  obtain ⟨⟨⟨⟨⟨⟨⟨hnd, htypes⟩, _⟩, hdirs⟩, hq⟩, hrq⟩, hrm⟩, hrs⟩ := h
  have hroots := roots_desc_schemaToDefs s hq
  unfold extendCore stage
  rw [not_all_other s (types_ne_nil_of_wf s hwf), filter_nonreserved s htypes]
  rw [collect_schemaToDefs] at hroots ⊢
  simp only [Schema.empty, Bool.false_eq_true, ↓reduceIte, filter_nonspecified s hdirs, mapMOut_types s htypes,
    mapMOut_directives s hdirs, mapMOut, upsertAll_nil_nodup TypeDef.name s.types hnd, List.nil_append] at hroots ⊢
  rw [hroots]
  unfold finish
  rw [if_pos]
  unfold coreResult
  split
  · exact allRefsResolve_noRoots s _ rfl rfl rfl rfl rfl (allRefsResolve_of_wf s hwf)
  · exact allRefsResolve_of_wf s hwf

theorem autopick_root (s : Schema) (root : Option Str) (conv : Str)
    (h : rootIsConventional s root conv = true) :
    (if s.hasType conv then some conv else none) = root := by
  cases root with
  | none => simp_all [rootIsConventional]
  | some n =>
    simp only [rootIsConventional, Bool.and_eq_true, beq_iff_eq] at h
    simp [h.1, h.2]

/-- **C17 (structural round trip).** Building the definitions `print_schema` emits gives back
exactly the schema content: same types, fields, arguments, defaults, descriptions, deprecations,
directives, interfaces, members, enum values, OneOf, specifiedBy, roots — in the same order. -/
theorem build_schemaToDefs (s : Schema) (h : WFSchema s = true) :
    buildFromDefs (schemaToDefs s) = .ok s := by
  have hq : s.query.isSome = true := by
    simp only [WFSchema, Bool.and_eq_true] at h
    exact h.1.1.1.2
  unfold buildFromDefs
  rw [extendCore_schemaToDefs s h, collect_schemaToDefs]
  unfold coreResult
  rcases schemaDefOf_cases s hq with ⟨h0, hdesc, hroots⟩ | h1
  · rw [h0]
    simp only [Option.isSome_none, Bool.false_eq_true, ↓reduceIte]
    simp only [hasDefaultRoots, Bool.and_eq_true] at hroots
    have e1 := autopick_root s s.query _ hroots.1.1
    have e2 := autopick_root s s.mutation _ hroots.1.2
    have e3 := autopick_root s s.subscription _ hroots.2
    simp only [Schema.hasType, Schema.typeNames] at e1 e2 e3
    cases s
    simp only at e1 e2 e3 hdesc
    subst hdesc
    rw [← e1, ← e2, ← e3]
    rfl
  · rw [h1]; simp

end Gql.Types
