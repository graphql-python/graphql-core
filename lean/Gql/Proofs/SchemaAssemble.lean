import Gql.Proofs.SchemaDefaults
import Gql.Proofs.SchemaInterfaces
/-!
Lemmas for C20: assembling the rule families into
`validateSchema s = .ok [] ↔ Spec.TypeSystemValid s`, with the two circular-reference families
entering through the error lists of the validators threaded over the type map
(`nnThread`, `dcThread`).
-/
namespace Gql.Types
open Gql

/-- the errors of one type that do not depend on the circular-reference validators' memory -/
def localErrs (s : RawSchema) (dflt : RawSchema → InputValue → Str → Out Unit (List Err))
    (t : NamedType) : Out Unit (List Err) :=
  let nameErrs := if isIntrospectionName t.name then [] else validateName t.name
  match t.defn with
  | .scalar _ => .ok nameErrs
  | .object is fs =>
    Out.mapOk (fun e => nameErrs ++ e ++ validateInterfaces s t.name is fs) (validateFields s dflt t.name fs)
  | .interface is fs =>
    Out.mapOk (fun e => nameErrs ++ e ++ validateInterfaces s t.name is fs) (validateFields s dflt t.name fs)
  | .union ms => .ok (nameErrs ++ validateUnion s t.name ms)
  | .enum vs => .ok (nameErrs ++ validateEnum t.name vs)
  | .input fs oneOf => Out.mapOk (fun e => nameErrs ++ e) (validateInputFields s dflt t.name fs oneOf)

/-- the errors of the two circular-reference validators for one type, and their memory after -/
def cycleErrs (s : RawSchema) (t : NamedType) (st : VState) : List Err × VState :=
  match t.defn with
  | .input _ _ =>
    let r1 := runNN s t.name st
    let r2 := runDC s t.name r1.2
    (r1.1 ++ r2.1, r2.2)
  | _ => ([], st)

theorem validateType_eq (s : RawSchema) (dflt : RawSchema → InputValue → Str → Out Unit (List Err))
    (t : NamedType) (st : VState) :
    validateType s dflt t st =
      Out.mapOk (fun e => (e ++ (cycleErrs s t st).1, (cycleErrs s t st).2)) (localErrs s dflt t) := by
  rcases t with ⟨name, defn⟩
  cases defn <;> simp only [validateType, localErrs, cycleErrs]
  · simp [Out.mapOk]
  · cases validateFields s dflt name _ <;> simp [Out.mapOk]
  · cases validateFields s dflt name _ <;> simp [Out.mapOk]
  · simp [Out.mapOk]
  · simp [Out.mapOk]
  · cases validateInputFields s dflt name _ _ <;> simp [Out.mapOk, List.append_assoc]

/-- one round of `validate_types`: the local errors of the type, then those of the two
circular-reference validators, then the rest with their memory -/
theorem validateTypesLoop_cons_ok (s : RawSchema) (dflt : RawSchema → InputValue → Str → Out Unit (List Err))
    (t : NamedType) (ts : List NamedType) (st st' : VState) (es : List Err) :
    validateTypesLoop s dflt (t :: ts) st = .ok (es, st') ↔
      ∃ e es', localErrs s dflt t = .ok e ∧
        validateTypesLoop s dflt ts (cycleErrs s t st).2 = .ok (es', st') ∧
        es = e ++ (cycleErrs s t st).1 ++ es' := by
  rw [validateTypesLoop, validateType_eq]
  cases localErrs s dflt t with
  | ok e =>
    simp only [Out.mapOk]
    cases validateTypesLoop s dflt ts (cycleErrs s t st).2 with
    | ok r' => rcases r' with ⟨es', st2⟩; simp [eq_comm, and_comm, and_assoc]
    | err _ | crash _ => simp
  | err _ | crash _ => simp [Out.mapOk]

/-- errors of `InputObjectNonNullCircularRefsValidator` over the type map, `visited_types` threaded -/
def nnThread (s : RawSchema) : List NamedType → List Str → List Err
  | [], _ => []
  | t :: ts, vis =>
    match t.defn with
    | .input _ _ =>
      (nnCall s (nnFuel s) t.name ⟨vis, [], [], [], false⟩).errs
        ++ nnThread s ts (nnCall s (nnFuel s) t.name ⟨vis, [], [], [], false⟩).visited
    | _ => nnThread s ts vis

/-- errors of `InputObjectDefaultValueCircularRefsValidator` over the type map, `visited_fields`
threaded -/
def dcThread (s : RawSchema) : List NamedType → List Str → List Err
  | [], _ => []
  | t :: ts, vis =>
    match t.defn with
    | .input _ _ =>
      (dcCall s t.name ⟨vis, [], [], [], false⟩).errs
        ++ dcThread s ts (dcCall s t.name ⟨vis, [], [], [], false⟩).visited
    | _ => dcThread s ts vis

/-- one round of the two threads is `cycleErrs` -/
theorem threads_cons (s : RawSchema) (t : NamedType) (ts : List NamedType) (st : VState) :
    nnThread s (t :: ts) st.nnVisited = [] ∧ dcThread s (t :: ts) st.dcVisited = [] ↔
      (cycleErrs s t st).1 = [] ∧ nnThread s ts (cycleErrs s t st).2.nnVisited = [] ∧
        dcThread s ts (cycleErrs s t st).2.dcVisited = [] := by
  rcases t with ⟨name, defn⟩
  cases defn <;> simp only [nnThread, dcThread, cycleErrs, true_and]
  simp only [runNN, runDC, List.append_eq_nil_iff]
  exact ⟨fun ⟨⟨h1, h3⟩, h2, h4⟩ => ⟨⟨h1, h2⟩, h3, h4⟩, fun ⟨⟨h1, h2⟩, h3, h4⟩ => ⟨⟨h1, h3⟩, h2, h4⟩⟩

theorem validateTypesLoop_nil (s : RawSchema)
    (dflt : RawSchema → InputValue → Str → Out Unit (List Err)) :
    ∀ (ts : List NamedType) (st : VState),
      (∃ st', validateTypesLoop s dflt ts st = .ok ([], st')) ↔
        (∀ t ∈ ts, localErrs s dflt t = .ok []) ∧
          nnThread s ts st.nnVisited = [] ∧ dcThread s ts st.dcVisited = []
  | [], st => by simp [validateTypesLoop, nnThread, dcThread]
  | t :: ts, st => by
    have ih := validateTypesLoop_nil s dflt ts (cycleErrs s t st).2
    simp only [validateTypesLoop_cons_ok, threads_cons, List.forall_mem_cons, List.append_eq_nil_iff, List.nil_eq]
    constructor
    · rintro ⟨st', e, es', he, hr, ⟨rfl, hc⟩, rfl⟩
      exact ⟨⟨he, (ih.mp ⟨st', hr⟩).1⟩, hc, (ih.mp ⟨st', hr⟩).2⟩
    · rintro ⟨⟨he, hl⟩, hc, hcs⟩
      obtain ⟨st', hr⟩ := ih.mpr ⟨hl, hcs⟩
      exact ⟨st', [], [], he, hr, ⟨rfl, hc⟩, rfl⟩

/-- the specification's rules for one type except the two circular-reference rules -/
def typeOkLocal (s : RawSchema) (t : NamedType) : Bool :=
  (isIntrospectionName t.name || Spec.nameOk t.name)
  && (match t.defn with
      | .scalar _ => true
      | .object is fs => Spec.fieldsOk s fs && Spec.implementsOk s t.name is fs
      | .interface is fs => Spec.fieldsOk s fs && Spec.implementsOk s t.name is fs
      | .union ms => !ms.isEmpty && ms.Nodup && ms.all s.isObject
      | .enum vs => !vs.isEmpty && vs.all Spec.nameOk
      | .input fs oneOf => !fs.isEmpty && fs.all (Spec.inputFieldOk s oneOf))

theorem typeOk_iff (s : RawSchema) (t : NamedType) :
    Spec.typeOk s t = true ↔
      typeOkLocal s t = true ∧
        ∀ fs o, t.defn = .input fs o →
          Spec.noUnbreakableCycle s t.name = true ∧ Spec.defaultValueHasCycle s t.name = false := by
  rcases t with ⟨name, defn⟩
  cases defn with
  | input fs o =>
    simp only [Spec.typeOk, typeOkLocal, Bool.and_eq_true, Bool.not_eq_true', TypeDef.input.injEq, and_imp,
      forall_apply_eq_imp_iff, forall_eq', and_assoc]
  | _ => exact ⟨fun h => ⟨h, fun _ _ h => nomatch h⟩, fun h => h.1⟩

theorem nameErrs_nil (n : Str) :
    (if isIntrospectionName n = true then [] else validateName n) = [] ↔
      (isIntrospectionName n || Spec.nameOk n) = true := by
  cases isIntrospectionName n <;> simp [validateName_nil]

theorem localErrs_nil (s : RawSchema) (hw : WellTypedInputs s) (hu : UnionsOk s) (t : NamedType) :
    localErrs s validateDefault t = .ok [] ↔ typeOkLocal s t = true := by
  have H := defaultsAgree s hw
  rcases t with ⟨name, defn⟩
  cases defn with
  | scalar k => simp only [localErrs, typeOkLocal, Out.ok.injEq, nameErrs_nil, Bool.and_true]
  | object is fs | interface is fs =>
    simp only [localErrs, typeOkLocal, mapOk_wrap_nil, nameErrs_nil, validateInterfaces_nil s hu,
      validateFields_nil s validateDefault H, Bool.and_eq_true]
  | union ms =>
    simp only [localErrs, typeOkLocal, Out.ok.injEq, List.append_eq_nil_iff, nameErrs_nil,
      validateUnion_nil, Bool.and_eq_true]
  | enum vs =>
    simp only [localErrs, typeOkLocal, Out.ok.injEq, List.append_eq_nil_iff, nameErrs_nil,
      validateEnum_nil, Bool.and_eq_true]
  | input fs o =>
    simp only [localErrs, typeOkLocal, mapOk_append_nil, nameErrs_nil,
      validateInputFields_nil s validateDefault H, Bool.and_eq_true]

theorem sideConditions_of_model (s : RawSchema)
    (h : ∀ t ∈ s.types, localErrs s validateDefault t = .ok []) : WellTypedInputs s ∧ UnionsOk s := by
  constructor
  · rintro ⟨name, _⟩ ht fs o rfl f hf
    have := h _ ht
    simp only [localErrs, validateInputFields, validateInputField, mapOk_append_nil, outFlatMap_eq_ok_nil,
      mapOk_wrap_nil, List.append_eq_nil_iff, ite_singleton_nil] at this
    simpa using (this.2.2 f hf).1.1.2
  · rintro ⟨name, _⟩ ht ms rfl
    have := h _ ht
    simp only [localErrs, Out.ok.injEq, List.append_eq_nil_iff, validateUnion_nil, Bool.and_eq_true] at this
    exact this.2.2

theorem sideConditions_of_spec (s : RawSchema)
    (h : ∀ t ∈ s.types, typeOkLocal s t = true) : WellTypedInputs s ∧ UnionsOk s := by
  constructor
  · rintro ⟨name, _⟩ ht fs o rfl f hf
    have := h _ ht
    simp only [typeOkLocal, Bool.and_eq_true, List.all_eq_true] at this
    have hf' := this.2.2 f hf
    simp only [Spec.inputFieldOk, Spec.inputValueOk, Bool.and_eq_true] at hf'
    exact hf'.1.1.1.2
  · rintro ⟨name, _⟩ ht ms rfl
    have := h _ ht
    simp only [typeOkLocal, Bool.and_eq_true] at this
    exact this.2.2

theorem iff_of_side {A B S : Prop} (ha : A → S) (hb : B → S) (h : S → (A ↔ B)) : A ↔ B :=
  ⟨fun a => (h (ha a)).mp a, fun b => (h (hb b)).mpr b⟩

theorem validateSchema_iff_of_cycles (s : RawSchema)
    (hNN : nnThread s s.types [] = [] ↔
      ∀ t ∈ s.types, ∀ fs o, t.defn = .input fs o → Spec.noUnbreakableCycle s t.name = true)
    (hDC : dcThread s s.types [] = [] ↔
      ∀ t ∈ s.types, ∀ fs o, t.defn = .input fs o → Spec.defaultValueHasCycle s t.name = false) :
    validateSchema s = .ok [] ↔ Spec.TypeSystemValid s = true := by
  rw [validateSchema_nil_iff, validateRootTypes_nil, validateTypesLoop_nil]
  unfold Spec.TypeSystemValid
  simp only [Bool.and_eq_true, List.all_eq_true (l := s.types), typeOk_iff]
  -- either side gives the side conditions, and under them the two agree part by part
  refine iff_of_side (fun h => sideConditions_of_model s h.2.2.1)
    (fun h => sideConditions_of_spec s fun t ht => (h.2 t ht).1) fun ⟨hw, hu⟩ => ?_
  rw [validateDirectives_nil s _ (defaultsAgree s hw), hNN, hDC]
  simp only [localErrs_nil s hw hu, imp_and, forall_and, and_assoc]

end Gql.Types
