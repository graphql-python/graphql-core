import Gql.Async.CollectDefer
import Gql.Proofs.Util.Grouped
/-!
`collect_defer_same_keys`: collecting with live `@defer` yields the same response keys and, per
key, the same set of field nodes as collecting with the directives disabled.

Both are instances of one statement (`collect_spec`): from an empty visited map, the collected
`(key, node)` pairs are exactly `allFields` — the included field nodes of the fully unfolded
selection tree — whatever the defer annotations are.
-/
namespace Gql.Async.Collect

/-- `(k, n)` is collected: node `n` occurs in the field-details list of response key `k` -/
def Has (g : List (Nat × List FD)) (k n : Nat) : Prop :=
  ∃ fds, (k, fds) ∈ g ∧ ∃ fd ∈ fds, fd.node = n

theorem has_cons (k0 : Nat) (fds0 : List FD) (g : List (Nat × List FD)) (k n : Nat) :
    Has ((k0, fds0) :: g) k n ↔ (k = k0 ∧ ∃ fd ∈ fds0, fd.node = n) ∨ Has g k n := by
  simp only [Has, List.mem_cons, Prod.mk.injEq, or_and_right, exists_or]
  constructor
  · rintro (⟨_, ⟨rfl, rfl⟩, h⟩ | h)
    · exact .inl ⟨rfl, h⟩
    · exact .inr h
  · rintro (⟨rfl, h⟩ | h)
    · exact .inl ⟨_, ⟨rfl, rfl⟩, h⟩
    · exact .inr h

theorem has_addField (k : Nat) (fd : FD) (g : List (Nat × List FD)) (k' n : Nat) :
    Has (addField k fd g) k' n ↔ Has g k' n ∨ (k' = k ∧ n = fd.node) := by
  induction g with
  | nil =>
    rw [addField, has_cons]
    simp [Has, eq_comm]
  | cons x rest ih =>
    obtain ⟨k0, fds0⟩ := x
    by_cases hk : k0 = k
    · subst hk
      simp only [addField, if_true, has_cons, List.mem_append, List.mem_singleton, or_and_right,
        exists_or, exists_eq_left]
      grind
    · simp only [addField, hk, if_false, has_cons, ih]
      grind

theorem visitedGet_set (name m : Nat) (b : Bool) (v : List (Nat × Bool)) :
    visitedGet m (visitedSet name b v) = if m = name then some b else visitedGet m v := by
  induction v with
  | nil =>
    simp only [visitedSet, visitedGet]
    by_cases h : name = m
    · simp [h]
    · have : ¬ m = name := fun e => h e.symm
      simp [h, this]
  | cons x rest ih =>
    obtain ⟨n, b'⟩ := x
    by_cases hn : n = name
    · subst hn
      simp only [visitedSet, if_true, visitedGet]
      by_cases hm : n = m
      · simp [hm]
      · have : ¬ m = n := fun e => hm e.symm
        simp [hm, this]
    · simp only [visitedSet, hn, if_false, visitedGet, ih]
      by_cases hm : n = m
      · subst hm
        simp [hn]
      · simp [hm]

mutual
/-- the included field nodes of the fully unfolded tree, as `(key, node)` -/
def fieldsOf : Sel → List (Nat × Nat)
  | .field k n incl => if incl then [(k, n)] else []
  | .inline incl cond _ sels => if incl && cond then allFields sels else []
  | .spread incl cond _ _ body => if incl && cond then allFields body else []
def allFields : List Sel → List (Nat × Nat)
  | [] => []
  | x :: rest => fieldsOf x ++ allFields rest
end

mutual
/-- all fragment names spread anywhere in the tree -/
def namesOf : Sel → List Nat
  | .field _ _ _ => []
  | .inline _ _ _ sels => names sels
  | .spread _ _ name _ body => name :: names body
def names : List Sel → List Nat
  | [] => []
  | x :: rest => namesOf x ++ names rest
end

mutual
/-- every spread of a name carries that fragment's selections -/
def ConsistentSel (table : Nat → List Sel) : Sel → Prop
  | .field _ _ _ => True
  | .inline _ _ _ sels => Consistent table sels
  | .spread _ _ name _ body => body = table name ∧ Consistent table body
def Consistent (table : Nat → List Sel) : List Sel → Prop
  | [] => True
  | x :: rest => ConsistentSel table x ∧ Consistent table rest
end

mutual
/-- no fragment is spread inside its own selections (no fragment cycles) -/
def AcyclicSel : Sel → Prop
  | .field _ _ _ => True
  | .inline _ _ _ sels => Acyclic sels
  | .spread _ _ name _ body => name ∉ names body ∧ Acyclic body
def Acyclic : List Sel → Prop
  | [] => True
  | x :: rest => AcyclicSel x ∧ Acyclic rest
end

/-- fragments that have been visited and are not still being expanded (`X`) are fully collected -/
def Inv (table : Nat → List Sel) (X : List Nat) (s : CState) : Prop :=
  ∀ m, visitedGet m s.visited ≠ none → m ∉ X → ∀ kn ∈ allFields (table m), Has s.grouped kn.1 kn.2

/-- what one step guarantees: the invariant, and exactly the pairs `fs` are added -/
structure Post (table : Nat → List Sel) (X : List Nat) (fs : List (Nat × Nat)) (s s' : CState) :
    Prop where
  inv : Inv table X s'
  has : ∀ k n, Has s'.grouped k n ↔ Has s.grouped k n ∨ (k, n) ∈ fs

theorem Post.refl_nil {table : Nat → List Sel} {X : List Nat} {s : CState} (h : Inv table X s) :
    Post table X [] s s :=
  ⟨h, by simp⟩

theorem Post.trans {table : Nat → List Sel} {X : List Nat} {fs1 fs2 : List (Nat × Nat)}
    {s s1 s2 : CState} (h1 : Post table X fs1 s s1) (h2 : Post table X fs2 s1 s2) :
    Post table X (fs1 ++ fs2) s s2 :=
  ⟨h2.inv, fun k n => by rw [h2.has, h1.has, List.mem_append, or_assoc]⟩

theorem Post.spec {table : Nat → List Sel} {fs : List (Nat × Nat)} {base : Nat} {s' : CState}
    (hp : Post table [] fs (init base) s') (k n : Nat) : Has s'.grouped k n ↔ (k, n) ∈ fs := by
  rw [hp.has]
  exact or_iff_right (by rintro ⟨_, hmem, _⟩; cases hmem)

theorem inv_init (table : Nat → List Sel) (base : Nat) : Inv table [] (init base) :=
  fun m hm => by simp [init, visitedGet] at hm

mutual
theorem collectSel_post (table : Nat → List Sel) : ∀ (x : Sel) (du : Option Nat) (X : List Nat)
    (s : CState), ConsistentSel table x → AcyclicSel x → (∀ m ∈ namesOf x, m ∉ X) →
    Inv table X s → Post table X (fieldsOf x) s (collectSel du x s)
  | .field k n incl, du, X, s, _, _, _, hinv => by
    cases incl with
    | false => simpa [collectSel, fieldsOf] using Post.refl_nil hinv
    | true =>
      simp only [collectSel, fieldsOf, if_true]
      refine ⟨fun m hm hx kn hkn => (has_addField ..).mpr (.inl (hinv m hm hx kn hkn)),
        fun k' n' => ?_⟩
      rw [has_addField, List.mem_singleton, Prod.mk.injEq]
  | .inline incl cond defer sels, du, X, s, hc, ha, hn, hinv => by
    by_cases hic : (incl && cond) = true
    · simp only [collectSel, fieldsOf, hic, Bool.not_true, Bool.false_eq_true, if_false, if_true]
      cases defer with
      | none => exact collectSels_post table sels du X s hc ha hn hinv
      | some label =>
        -- the new defer usage changes neither the groups nor the visited map
        have hp := collectSels_post table sels (some (s.base + s.newUsages.length)) X
          { s with newUsages := s.newUsages ++ [(label, du)] } hc ha hn hinv
        exact ⟨hp.inv, hp.has⟩
    · have hic' : (incl && cond) = false := by simpa using hic
      simpa [collectSel, fieldsOf, hic'] using Post.refl_nil hinv
  | .spread incl cond name defer body, du, X, s, hc, ha, hn, hinv => by
    have hnameX : name ∉ X := hn name (by simp [namesOf])
    have hbodyX : ∀ m ∈ names body, m ∉ name :: X := by
      intro m hm
      simp only [List.mem_cons, not_or]
      exact ⟨fun e => ha.1 (e ▸ hm), hn m (by simp [namesOf, hm])⟩
    -- visiting the body from a state where `name` is marked visited
    have visit : ∀ (du' : Option Nat) (s1 : CState), s1.grouped = s.grouped →
        (∀ m, m ≠ name → visitedGet m s1.visited = visitedGet m s.visited) →
        Post table X (allFields body) s (collectSels du' body s1) := by
      intro du' s1 hg hv
      have hinv1 : Inv table (name :: X) s1 := by
        intro m hm hx kn hkn
        simp only [List.mem_cons, not_or] at hx
        rw [hv m hx.1] at hm
        rw [hg]
        exact hinv m hm hx.2 kn hkn
      have hp := collectSels_post table body du' (name :: X) s1 hc.2 ha.2 hbodyX hinv1
      refine ⟨fun m hm hx kn hkn => ?_, fun k n => hg ▸ hp.has k n⟩
      by_cases hmn : m = name
      · subst hmn
        rw [← hc.1] at hkn
        exact (hp.has ..).mpr (.inr hkn)
      · exact hp.inv m hm (by simp [hmn, hx]) kn hkn
    -- a fragment visited before is collected already
    have skip : visitedGet name s.visited ≠ none → Post table X (allFields body) s s :=
      fun hv => ⟨hinv, fun k n => ⟨.inl, fun h => h.elim id (hinv name hv hnameX (k, n) ∘ (hc.1 ▸ ·))⟩⟩
    cases incl with
    | false => simpa [collectSel, fieldsOf] using Post.refl_nil hinv
    | true =>
      cases cond with
      | false => simpa [collectSel, fieldsOf] using Post.refl_nil hinv
      | true =>
        simp only [collectSel, fieldsOf, Bool.not_true, Bool.false_eq_true, if_false,
          Bool.and_self, if_true]
        cases defer with
        | none =>
          by_cases hv : visitedGet name s.visited = some false
          · simp only [hv, if_true]
            exact skip (by simp [hv])
          · simp only [hv, if_false]
            exact visit du { s with visited := visitedSet name false s.visited } rfl
              (fun m hm => by simp [visitedGet_set, hm])
        | some label =>
          by_cases hv : (visitedGet name s.visited).isSome = true
          · simp only [hv, if_true]
            exact skip (by intro h; simp [h] at hv)
          · simp only [hv, Bool.false_eq_true, if_false]
            exact visit _ { s with visited := visitedSet name true s.visited,
                                   newUsages := s.newUsages ++ [(label, du)] } rfl
              (fun m hm => by simp [visitedGet_set, hm])
theorem collectSels_post (table : Nat → List Sel) : ∀ (xs : List Sel) (du : Option Nat)
    (X : List Nat) (s : CState), Consistent table xs → Acyclic xs → (∀ m ∈ names xs, m ∉ X) →
    Inv table X s → Post table X (allFields xs) s (collectSels du xs s)
  | [], du, X, s, _, _, _, hinv => by simpa [collectSels, allFields] using Post.refl_nil hinv
  | x :: rest, du, X, s, hc, ha, hn, hinv => by
    have h1 := collectSel_post table x du X s hc.1 ha.1 (fun m hm => hn m (by simp [names, hm])) hinv
    have h2 := collectSels_post table rest du X (collectSel du x s) hc.2 ha.2
      (fun m hm => hn m (by simp [names, hm])) h1.inv
    exact h1.trans h2
end

/-- **What `collect_fields` collects**, for any defer annotations: exactly the included field
nodes of the unfolded selection tree. -/
theorem collect_spec (table : Nat → List Sel) (base : Nat) (sels : List Sel)
    (hc : Consistent table sels) (ha : Acyclic sels) (k n : Nat) :
    Has (collectFields base sels).grouped k n ↔ (k, n) ∈ allFields sels :=
  (collectSels_post table sels none [] (init base) hc ha (by simp) (inv_init table base)).spec k n

mutual
theorem fieldsOf_strip : ∀ x : Sel, fieldsOf x.strip = fieldsOf x
  | .field _ _ _ => rfl
  | .inline incl cond _ sels => by simp [Sel.strip, fieldsOf, allFields_strip sels]
  | .spread incl cond _ _ body => by simp [Sel.strip, fieldsOf, allFields_strip body]
theorem allFields_strip : ∀ xs : List Sel, allFields (stripSels xs) = allFields xs
  | [] => rfl
  | x :: rest => by simp [stripSels, allFields, fieldsOf_strip x, allFields_strip rest]
end

mutual
theorem namesOf_strip : ∀ x : Sel, namesOf x.strip = namesOf x
  | .field _ _ _ => rfl
  | .inline _ _ _ sels => by simp [Sel.strip, namesOf, names_strip sels]
  | .spread _ _ _ _ body => by simp [Sel.strip, namesOf, names_strip body]
theorem names_strip : ∀ xs : List Sel, names (stripSels xs) = names xs
  | [] => rfl
  | x :: rest => by simp [stripSels, names, namesOf_strip x, names_strip rest]
end

mutual
theorem consistentSel_strip (table : Nat → List Sel) : ∀ x : Sel, ConsistentSel table x →
    ConsistentSel (fun m => stripSels (table m)) x.strip
  | .field _ _ _, _ => trivial
  | .inline _ _ _ sels, h => consistent_strip table sels h
  | .spread _ _ name _ body, h => ⟨by simp [h.1], consistent_strip table body h.2⟩
theorem consistent_strip (table : Nat → List Sel) : ∀ xs : List Sel, Consistent table xs →
    Consistent (fun m => stripSels (table m)) (stripSels xs)
  | [], _ => trivial
  | x :: rest, h => ⟨consistentSel_strip table x h.1, consistent_strip table rest h.2⟩
end

mutual
theorem acyclicSel_strip : ∀ x : Sel, AcyclicSel x → AcyclicSel x.strip
  | .field _ _ _, _ => trivial
  | .inline _ _ _ sels, h => acyclic_strip sels h
  | .spread _ _ name _ body, h => ⟨by rw [names_strip]; exact h.1, acyclic_strip body h.2⟩
theorem acyclic_strip : ∀ xs : List Sel, Acyclic xs → Acyclic (stripSels xs)
  | [], _ => trivial
  | x :: rest, h => ⟨acyclicSel_strip x h.1, acyclic_strip rest h.2⟩
end

theorem collect_same (table : Nat → List Sel) (base base' : Nat) (sels : List Sel)
    (hc : Consistent table sels) (ha : Acyclic sels) (k n : Nat) :
    Has (collectFields base sels).grouped k n ↔ Has (collectFields base' (stripSels sels)).grouped k n := by
  rw [collect_spec table base sels hc ha,
    collect_spec _ base' (stripSels sels) (consistent_strip table sels hc) (acyclic_strip sels ha),
    allFields_strip]

def allFieldsMany : List (Option Nat × List Sel) → List (Nat × Nat)
  | [] => []
  | (_, sels) :: rest => allFields sels ++ allFieldsMany rest

theorem collectMany_post (table : Nat → List Sel) : ∀ (parts : List (Option Nat × List Sel))
    (s : CState), (∀ p ∈ parts, Consistent table p.2 ∧ Acyclic p.2) → Inv table [] s →
    Post table [] (allFieldsMany parts) s (collectMany parts s)
  | [], s, _, hinv => by simpa [collectMany, allFieldsMany] using Post.refl_nil hinv
  | (du, sels) :: rest, s, h, hinv => by
    have h1 := collectSels_post table sels du [] s (h (du, sels) (by simp)).1 (h (du, sels) (by simp)).2
      (by simp) hinv
    have h2 := collectMany_post table rest (collectSels du sels s)
      (fun p hp => h p (by simp [hp])) h1.inv
    exact h1.trans h2

theorem collectSub_spec (table : Nat → List Sel) (base : Nat) (parts : List (Option Nat × List Sel))
    (h : ∀ p ∈ parts, Consistent table p.2 ∧ Acyclic p.2) (k n : Nat) :
    Has (collectSubfields base parts).grouped k n ↔ (k, n) ∈ allFieldsMany parts :=
  (collectMany_post table parts (init base) h (inv_init table base)).spec k n

def stripParts : List (Option Nat × List Sel) → List (Option Nat × List Sel)
  | [] => []
  | (_, sels) :: rest => (none, stripSels sels) :: stripParts rest

theorem allFieldsMany_strip : ∀ parts, allFieldsMany (stripParts parts) = allFieldsMany parts
  | [] => rfl
  | (_, sels) :: rest => by simp [stripParts, allFieldsMany, allFields_strip, allFieldsMany_strip rest]

theorem stripParts_wf (table : Nat → List Sel) : ∀ parts : List (Option Nat × List Sel),
    (∀ p ∈ parts, Consistent table p.2 ∧ Acyclic p.2) →
    ∀ p ∈ stripParts parts, Consistent (fun m => stripSels (table m)) p.2 ∧ Acyclic p.2
  | [], _ => by simp [stripParts]
  | (du, sels) :: rest, h => by
    intro p hp
    simp only [stripParts, List.mem_cons] at hp
    rcases hp with rfl | hp
    · exact ⟨consistent_strip table sels (h (du, sels) (by simp)).1, acyclic_strip sels (h (du, sels) (by simp)).2⟩
    · exact stripParts_wf table rest (fun q hq => h q (by simp [hq])) p hp

theorem collectSub_same (table : Nat → List Sel) (base base' : Nat)
    (parts : List (Option Nat × List Sel)) (h : ∀ p ∈ parts, Consistent table p.2 ∧ Acyclic p.2)
    (k n : Nat) :
    Has (collectSubfields base parts).grouped k n ↔
      Has (collectSubfields base' (stripParts parts)).grouped k n := by
  rw [collectSub_spec table base parts h,
    collectSub_spec _ base' (stripParts parts) (stripParts_wf table parts h), allFieldsMany_strip]

/-- distinct keys, no empty list -/
def GoodGrouped (g : List (Nat × List FD)) : Prop :=
  (g.map Prod.fst).Nodup ∧ ∀ kv ∈ g, kv.2 ≠ []

theorem addField_eq (k : Nat) (fd : FD) (g : List (Nat × List FD)) :
    addField k fd g = g.extendAt k [fd] := by
  induction g with
  | nil => rfl
  | cons p r ih => simp only [addField, List.extendAt, ih]

theorem good_addField (k : Nat) (fd : FD) (g : List (Nat × List FD)) (h : GoodGrouped g) :
    GoodGrouped (addField k fd g) :=
  addField_eq k fd g ▸ ⟨List.nodup_keys_extendAt k [fd] h.1,
    List.forall_mem_extendAt (G := fun _ fds => fds ≠ []) (fun ha _ => by simp [ha]) h.2 (by simp)⟩

mutual
theorem collectSel_good : ∀ (x : Sel) (du : Option Nat) (s : CState), GoodGrouped s.grouped →
    GoodGrouped (collectSel du x s).grouped
  | .field k n incl, du, s, h => by
    cases incl <;> simp only [collectSel, if_true, Bool.false_eq_true, if_false]
    · exact h
    · exact good_addField _ _ _ h
  | .inline incl cond defer sels, du, s, h => by
    simp only [collectSel]
    split
    · exact h
    · cases defer with
      | none => exact collectSels_good sels du s h
      | some label => exact collectSels_good sels _ _ h
  | .spread incl cond name defer body, du, s, h => by
    simp only [collectSel]
    split
    · exact h
    · split
      · exact h
      · cases defer with
        | none =>
          simp only
          split
          · exact h
          · exact collectSels_good body du _ h
        | some label =>
          simp only
          split
          · exact h
          · exact collectSels_good body _ _ h
theorem collectSels_good : ∀ (xs : List Sel) (du : Option Nat) (s : CState),
    GoodGrouped s.grouped → GoodGrouped (collectSels du xs s).grouped
  | [], _, s, h => by simpa [collectSels] using h
  | x :: rest, du, s, h => by
    simp only [collectSels]
    exact collectSels_good rest du _ (collectSel_good x du s h)
end

theorem collectFields_good (base : Nat) (sels : List Sel) :
    GoodGrouped (collectFields base sels).grouped :=
  collectSels_good sels none (init base) ⟨by simp [init], by simp [init]⟩

theorem mem_keys_iff_has {g : List (Nat × List FD)} (h : GoodGrouped g) (k : Nat) :
    k ∈ g.map Prod.fst ↔ ∃ n, Has g k n := by
  constructor
  · intro hk
    obtain ⟨kv, hkv, rfl⟩ := List.mem_map.mp hk
    obtain ⟨kk, fds⟩ := kv
    cases hf : fds with
    | nil => exact absurd hf (h.2 (kk, fds) hkv)
    | cons fd rest => exact ⟨fd.node, fds, hkv, fd, by simp [hf], rfl⟩
  · rintro ⟨n, fds, hmem, _⟩
    exact List.mem_map.mpr ⟨(k, fds), hmem, rfl⟩

theorem collect_same_keys (table : Nat → List Sel) (base base' : Nat) (sels : List Sel)
    (hc : Consistent table sels) (ha : Acyclic sels) (k : Nat) :
    k ∈ (collectFields base sels).grouped.map Prod.fst ↔
      k ∈ (collectFields base' (stripSels sels)).grouped.map Prod.fst := by
  rw [mem_keys_iff_has (collectFields_good base sels), mem_keys_iff_has (collectFields_good base' _)]
  exact exists_congr (collect_same table base base' sels hc ha k)

end Gql.Async.Collect
