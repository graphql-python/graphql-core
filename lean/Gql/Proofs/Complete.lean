import Gql.Proofs.Roots
/-!
Ingredients of P4b (in a complete stream every announced id has been completed): what a legal
graph event is, constructor by constructor, and what it does to the environment's ghost state
(`intro_eq`, `itemsOk_eq`); the pump bookkeeping (`PumpInv`) through every handler;
the started queue; and the publisher side for any initial groups, streams and batches: announced
ids increase (`initial_ann`), and an announced entry's node stays tracked until the entry's id is
completed (`initial_tied`, hence `initial_all_completed`).
-/
namespace Gql.Async
open Gql.Spec.Protocol

/-- A stream whose pump was started is still a root unless the environment already delivered
its end (success / failure, or a batch with `is_stopped()` true). -/
def PumpInv (e : EnvSt) (q : WQ) : Prop :=
  ∀ s ∈ q.pumps, s ∈ q.rootStreams ∨ s ∈ e.streamDone ∨ s ∈ e.streamPeeked

theorem PumpInv.grow {e : EnvSt} {q q' : WQ} (h : PumpInv e q) (g : StreamGrow q q') : PumpInv e q' := fun s hs =>
  (g.pm s hs).elim (fun h0 => (h s h0).imp_left (g.rs s)) Or.inl

/-- `EnvSt.intro` prepends to the three lists of introduced objects and touches nothing else. -/
theorem intro_eq (e : EnvSt) (w : Option Work) :
    e.intro w = { e with introG := (w.map (·.groups)).getD [] ++ e.introG,
                         introT := (w.map (·.tasks)).getD [] ++ e.introT,
                         introS := (w.map (·.streams)).getD [] ++ e.introS } := by
  cases w <;> rfl

theorem itemsOk_cons {σ : Static} {q : WQ} {e e' : EnvSt} {n n' : Nat} {it : IResult} {r : List IResult}
    (h : itemsOk σ q e n (it :: r) = some (e', n')) :
    idxMatches it.value.idx n = true ∧ workOptOk σ e q none it.work = true ∧
    itemsOk σ q (e.intro it.work) (n + 1) r = some (e', n') := by
  rw [itemsOk] at h
  split at h
  · rename_i hc
    simp only [Bool.and_eq_true] at hc
    exact ⟨hc.1, hc.2, h⟩
  · cases h

/-- What a legal batch of items leaves behind: objects introduced, the index advanced by the number
of items; and (E3) the known source indices are consecutive from `n`. -/
theorem itemsOk_eq {σ : Static} {q : WQ} {items : List IResult} {e e' : EnvSt} {n n' : Nat}
    (h : itemsOk σ q e n items = some (e', n')) :
    (∃ g t s, e' = { e with introG := g ++ e.introG, introT := t ++ e.introT, introS := s ++ e.introS }) ∧
    n' = n + items.length ∧ ∀ (j i : Nat), (items.map (·.value.idx))[j]? = some (some i) → i = n + j := by
  induction items generalizing e n with
  | nil => simp [itemsOk] at h; exact ⟨⟨[], [], [], h.1.symm⟩, h.2.symm, fun _ _ hj => by simp at hj⟩
  | cons it items ih =>
    obtain ⟨hidx, _, h'⟩ := itemsOk_cons h
    obtain ⟨⟨g, t, s, a⟩, b, c⟩ := ih h'
    refine ⟨⟨_, _, _, by rw [a, intro_eq e it.work, ← List.append_assoc, ← List.append_assoc, ← List.append_assoc]⟩,
      by rw [b, List.length_cons]; omega, fun j i hj => ?_⟩
    cases j with
    | zero =>
      rw [List.map_cons, List.getElem?_cons_zero, Option.some.injEq] at hj
      rw [hj] at hidx; exact eq_of_beq hidx
    | succ j => have := c j i (by rwa [List.map_cons, List.getElem?_cons_succ] at hj); omega

theorem eventOk_taskSuccess {σ : Static} {e e' : EnvSt} {q : WQ} {t : Nat} {r : TResult}
    (h : eventOk σ e q (.taskSuccess t r) = some e') :
    workOptOk σ e q (some t) r.work = true ∧ e' = { (e.intro r.work) with settled := t :: e.settled } := by
  simp only [eventOk] at h
  split at h
  · rename_i hc; simp only [Bool.and_eq_true] at hc; cases h; exact ⟨hc.2, rfl⟩
  · cases h

theorem eventOk_taskFailure {σ : Static} {e e' : EnvSt} {q : WQ} {t : Nat}
    (h : eventOk σ e q (.taskFailure t) = some e') : e' = { e with settled := t :: e.settled } := by
  simp only [eventOk] at h
  split at h <;> cases h; rfl

theorem eventOk_streamItems {σ : Static} {e e' : EnvSt} {q : WQ} {s : Nat} {items : List IResult} {st : Bool}
    (h : eventOk σ e q (.streamItems s items st) = some e') :
    (s ∈ q.pumps ∧ s ∉ e.streamDone ∧ s ∉ e.streamPeeked) ∧
    ∃ e1 n1, itemsOk σ q e ((alookup e.streamNext s).getD 0) items = some (e1, n1) ∧
      e' = { e1 with streamNext := aset e1.streamNext s n1,
                     streamPeeked := if st then s :: e1.streamPeeked else e1.streamPeeked } := by
  simp only [eventOk] at h
  split at h
  · rename_i hc
    simp only [Bool.and_eq_true, Bool.not_eq_true', List.contains_eq_mem, decide_eq_true_eq,
      decide_eq_false_iff_not] at hc
    cases hi : itemsOk σ q e ((alookup e.streamNext s).getD 0) items with
    | none => simp [hi] at h
    | some r =>
      simp only [hi, Option.some.injEq] at h
      exact ⟨⟨hc.1.1, hc.1.2, hc.2⟩, r.1, r.2, rfl, h.symm⟩
  · cases h

theorem eventOk_streamSuccess {σ : Static} {e e' : EnvSt} {q : WQ} {s : Nat}
    (h : eventOk σ e q (.streamSuccess s) = some e') : e' = { e with streamDone := s :: e.streamDone } := by
  simp only [eventOk] at h
  split at h <;> cases h; rfl

theorem eventOk_streamFailure {σ : Static} {e e' : EnvSt} {q : WQ} {s : Nat}
    (h : eventOk σ e q (.streamFailure s) = some e') : e' = { e with streamDone := s :: e.streamDone } := by
  simp only [eventOk] at h
  split at h <;> cases h; rfl

theorem eventOk_stop {σ : Static} {e e' : EnvSt} {q : WQ} (h : eventOk σ e q .stop = some e') : e' = e := by
  simp only [eventOk, Option.some.injEq] at h; exact h.symm

/-- The environment records stream `s` as done or peeked, and `s` may leave the roots. -/
theorem PumpInv.retire {e e' : EnvSt} {q q' : WQ} {s : Nat} (h : PumpInv e q) (hp : q'.pumps = q.pumps)
    (hr : q'.rootStreams = q.rootStreams ∨ q'.rootStreams = oerase q.rootStreams s)
    (hd : ∀ x ∈ e.streamDone, x ∈ e'.streamDone) (hk : ∀ x ∈ e.streamPeeked, x ∈ e'.streamPeeked)
    (hs : s ∈ e'.streamDone ∨ s ∈ e'.streamPeeked) : PumpInv e' q' := by
  intro x hx
  rcases h x (hp ▸ hx) with h1 | h1 | h1
  · by_cases hxs : x = s
    · exact Or.inr (hxs ▸ hs)
    · refine Or.inl ?_
      rcases hr with hr | hr <;> rw [hr]
      · exact h1
      · exact (mem_oerase _ s x).mpr ⟨h1, hxs⟩
  · exact Or.inr (Or.inl (hd x h1))
  · exact Or.inr (Or.inr (hk x h1))

theorem pumpInv_handle (σ : Static) (e : EnvSt) (q : WQ) (ev : GraphEvent) (e' : EnvSt)
    (h : PumpInv e q) (hok : eventOk σ e q ev = some e') : PumpInv e' (handleGraphEvent σ q ev).1 := by
  cases ev with
  | taskSuccess t r =>
    obtain ⟨_, rfl⟩ := eventOk_taskSuccess hok
    rw [intro_eq]; exact h.grow (taskSuccess_grow σ q t r)
  | taskFailure t =>
    rw [eventOk_taskFailure hok]
    exact h.grow (.of_frame (taskFailure_removes σ q t).1)
  | streamItems s items st =>
    obtain ⟨_, e1, n1, hi, rfl⟩ := eventOk_streamItems hok
    obtain ⟨⟨_, _, _, rfl⟩, _⟩ := itemsOk_eq hi
    have hg : PumpInv e (items.foldl (itemStep σ) (q, [], [], [])).1 := h.grow (items_grow σ items (q, [], [], []))
    simp only [handleGraphEvent, streamItems]
    cases st with
    | true =>
      exact hg.retire rfl (Or.inr rfl) (fun _ => id) (fun _ => List.mem_cons_of_mem _) (Or.inr List.mem_cons_self)
    | false => exact hg
  | streamSuccess s =>
    rw [eventOk_streamSuccess hok]
    simp only [handleGraphEvent]
    split
    · exact h.retire rfl (Or.inr rfl) (fun _ => List.mem_cons_of_mem _) (fun _ => id) (Or.inl List.mem_cons_self)
    · exact h.retire rfl (Or.inl rfl) (fun _ => List.mem_cons_of_mem _) (fun _ => id) (Or.inl List.mem_cons_self)
  | streamFailure s =>
    rw [eventOk_streamFailure hok]
    exact h.retire rfl (Or.inr rfl) (fun _ => List.mem_cons_of_mem _) (fun _ => id) (Or.inl List.mem_cons_self)
  | stop => rw [eventOk_stop hok]; exact h

theorem streamItems_isRoot (σ : Static) (e : EnvSt) (q : WQ) (s : Nat) (items : List IResult) (st : Bool)
    (e' : EnvSt) (h : PumpInv e q) (hok : eventOk σ e q (.streamItems s items st) = some e') :
    s ∈ q.rootStreams := by
  obtain ⟨⟨h1, h2, h3⟩, _⟩ := eventOk_streamItems hok
  rcases h s h1 with h | h | h
  · exact h
  · exact absurd h h2
  · exact absurd h h3

theorem isRoot_startRoots (σ : Static) (q : WQ) (n : Node) : isRoot (startRoots σ q) n ↔ isRoot q n := by
  obtain ⟨u, hu, e⟩ := startRoots_upd σ q
  rw [e]; exact isRoot_congr hu.frame.rg hu.frame.rs n

theorem startRoots_pumps (σ : Static) (q : WQ) :
    (startRoots σ q).pumps = q.pumps ++ q.rootStreams ∧ (startRoots σ q).stopped = q.stopped := by
  obtain ⟨u, hu, e⟩ := startRoots_upd σ q
  rw [e]; exact ⟨by simp only; rw [hu.frame.pm, hu.frame.rs], hu.frame.st⟩

theorem tracks_start (σ : Static) (work : Option Work) :
    Tracks (startRoots σ (init σ work).1) (nodesOf (init σ work).2.1 (init σ work).2.2) := by
  intro n
  rw [isRoot_startRoots]
  unfold init
  cases n <;> simp [isRoot, mem_foldl_oinsert, mem_nodesOf]

theorem pump_start (σ : Static) (work : Option Work) (e : EnvSt) :
    PumpInv e (startRoots σ (init σ work).1) ∧ (startRoots σ (init σ work).1).stopped = false := by
  have f : RootFrame ({} : WQ) (pruneEmpty (integrateWork σ {} work none).1 (integrateWork σ {} work none).2.1).1 :=
    (integrateWork_grow σ {} work none).frame.trans (pruneEmpty_upd _ _).frame
  have hp : (init σ work).1.pumps = [] := f.pm
  have hst : (init σ work).1.stopped = false := f.st
  obtain ⟨sp, sst⟩ := startRoots_pumps σ (init σ work).1
  refine ⟨?_, by rw [sst, hst]⟩
  intro s hs
  rw [sp, hp, List.nil_append] at hs
  exact Or.inl ((isRoot_startRoots σ _ (.stream s)).mpr hs)

theorem initial_table (π : PubStatic) (gs ss : List Nat) : DomIs (initialPayload π gs ss).1 (nodesOf gs ss) := by
  rw [initialPayload_nodes]
  simpa using (toPendingNodes_spec {} (nodesOf gs ss)).domIs (D := []) (by intro n; simp [alookup])

/-- The initial result followed by the publisher's output on any batches whose announcements are
fresh announces strictly increasing ids. -/
theorem initial_ann (π : PubStatic) (gs ss : List Nat) (bs : List (List WQEvent))
    (hn : (nodesOf gs ss).Nodup) (hf : AnnFresh (nodesOf gs ss) bs.flatten) :
    (announcedIds ((initialPayload π gs ss).2 :: (publish π (initialPayload π gs ss).1 bs).2)).Pairwise (· < ·) := by
  have td := initial_table π gs ss
  have h0 := toPendingNodes_fresh (nodesOf gs ss) {} hn (by intro n _; simp [alookup])
  have hs0 : SortedBelow ((initialPayload π gs ss).2.pending.map (·.id)) (initialPayload π gs ss).1.nextId := by
    have hb : SortedBelow ([] : List Nat) 0 := ⟨List.Pairwise.nil, by simp⟩
    have := hb.append_range (nodesOf gs ss).length
    rw [initialPayload_nodes]
    simpa [mkEntry, Function.comp_def, h0.1, h0.2] using this
  simpa [announcedIds] using (publish_ann π bs (initialPayload π gs ss).1 _ _ td hf hs0).1

/-- The initial result followed by the publisher's output on any batches: every announced entry
carries the label of an announced node, and unless its id has been completed that node is still
in the tracked domain. -/
theorem initial_tied (π : PubStatic) (gs ss : List Nat) (bs : List (List WQEvent)) :
    ∀ a ∈ annEntries ((initialPayload π gs ss).2 :: (publish π (initialPayload π gs ss).1 bs).2),
      ∃ n ∈ nodesOf gs ss ++ bs.flatten.flatMap evNew, a.label = π.label n ∧
        (a.id ∉ completedIds ((initialPayload π gs ss).2 :: (publish π (initialPayload π gs ss).1 bs).2) →
          n ∈ domSteps (nodesOf gs ss) bs.flatten) := by
  have td := initial_table π gs ss
  have tc : (initialPayload π gs ss).2.completed = [] := rfl
  have h0 : Tied π (initialPayload π gs ss).1 (nodesOf gs ss) [] (initialPayload π gs ss).2.pending := by
    rw [initialPayload_nodes]
    simpa using Tied.announce (π := π) (p := {}) (N := []) (R := []) (A := []) (nodesOf gs ss) nofun
  intro a ha
  obtain ⟨n, hn, hlab, hk⟩ := publish_tied π bs _ _ _ _ h0 a (by simpa [annEntries] using ha)
  refine ⟨n, hn, hlab, fun hnc => (publish_dom π bs _ _ td n).mpr ⟨a.id, hk.resolve_left fun h1 => hnc ?_⟩⟩
  simpa [completedIds, tc] using h1

/-- P4b at the publisher, for any batches: when no node is left in the tracked domain, every id
announced by the initial result or later has been completed. -/
theorem initial_all_completed (π : PubStatic) (gs ss : List Nat) (bs : List (List WQEvent))
    (hD : ∀ n, n ∉ domSteps (nodesOf gs ss) bs.flatten) :
    ∀ i ∈ announcedIds ((initialPayload π gs ss).2 :: (publish π (initialPayload π gs ss).1 bs).2),
      i ∈ completedIds ((initialPayload π gs ss).2 :: (publish π (initialPayload π gs ss).1 bs).2) := by
  intro i hi
  obtain ⟨pl, hpl, hi⟩ := List.mem_flatMap.mp hi
  obtain ⟨a, ha, rfl⟩ := List.mem_map.mp hi
  obtain ⟨n, _, _, hk⟩ := initial_tied π gs ss bs a (List.mem_flatMap.mpr ⟨pl, hpl, ha⟩)
  exact Classical.byContradiction fun hnc => hD n (hk hnc)

end Gql.Async
