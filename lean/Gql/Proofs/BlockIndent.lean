import Gql.Proofs.BlockRoundtrip
/-!
Re-indentation.  The printer's `indent` replaces every LF of an already printed child by
LF + two spaces — also inside block strings (nested selections, definitions, wrapped argument
lists), once per nesting level.  `block_indent_roundtrip`: for every `k`, indenting the printed block
string by `k` spaces after every LF does not change the value the lexer reads.  Re-indentation
commutes with `escapeTQ` and keeps a raw text a raw text of the same value (`RawOf.indentLF`), so
the re-indented literal is read like the printed one.
-/
namespace Gql.Text

/-- `s.replace("\n", "\n" + " " * k)` -/
def indentLF (k : Nat) : List Nat → List Nat
  | [] => []
  | c :: r => if c = 10 then 10 :: (List.replicate k 32 ++ indentLF k r) else c :: indentLF k r

theorem indentLF_append (k : Nat) (a b : List Nat) : indentLF k (a ++ b) = indentLF k a ++ indentLF k b := by
  induction a with
  | nil => rfl
  | cons c r ih => by_cases hc : c = 10 <;> simp [indentLF, hc, ih]

theorem indentLF_no10 (k : Nat) (x : List Nat) (h : ∀ c ∈ x, c ≠ 10) : indentLF k x = x := by
  induction x with
  | nil => rfl
  | cons c r ih =>
    have hc : c ≠ 10 := h c (by simp)
    simp [indentLF, hc, ih (fun d hd => h d (by simp [hd]))]

theorem indentLF_indentLF (a b : Nat) (x : List Nat) : indentLF a (indentLF b x) = indentLF (a + b) x := by
  induction x with
  | nil => rfl
  | cons c r ih =>
    by_cases hc : c = 10
    · subst hc
      simp only [indentLF, ↓reduceIte, indentLF_append, ih]
      rw [indentLF_no10 a (List.replicate b 32) (by intro c hc; simp at hc; omega)]
      rw [← List.append_assoc, List.replicate_append_replicate]
    · simp [indentLF, hc, ih]

theorem escapeTQ_replicate_append (k : Nat) (y : List Nat) :
    escapeTQ (List.replicate k 32 ++ y) = List.replicate k 32 ++ escapeTQ y := by
  induction k with
  | zero => simp
  | succ k ih =>
    simp only [List.replicate_succ, List.cons_append]
    rw [escapeTQ_ne _ (by decide), ih]

theorem indentLF_qq {k : Nat} {r r' : List Nat} (h : indentLF k r = 34 :: 34 :: r') :
    ∃ r'', r = 34 :: 34 :: r'' := by
  match r, h with
  | x :: y :: r'', h =>
    by_cases hx : x = 10
    · subst hx; simp [indentLF] at h
    · by_cases hy : y = 10
      · subst hy; simp [indentLF, hx] at h
      · simp [indentLF, hx, hy] at h
        exact ⟨r'', by rw [h.1, h.2.1]⟩
  | [x], h => by_cases hx : x = 10 <;> simp [indentLF, hx] at h
  | [], h => simp [indentLF] at h

theorem indentLF_eq_nil {k : Nat} {r : List Nat} (h : indentLF k r = []) : r = [] := by
  cases r with
  | nil => rfl
  | cons c r => by_cases hc : c = 10 <;> simp [indentLF, hc] at h

theorem escapeTQ_indentLF (k : Nat) (x : List Nat) : escapeTQ (indentLF k x) = indentLF k (escapeTQ x) := by
  induction x using tq_induction with
  | nil => simp [indentLF]
  | qqq r ih => simp [indentLF, escapeTQ_qqq, ih]
  | cons c r ht ih =>
    by_cases hc : c = 10
    · subst hc
      rw [escapeTQ_ne r (by decide)]
      simp only [indentLF, ↓reduceIte]
      rw [escapeTQ_ne _ (by decide), escapeTQ_replicate_append, ih]
    · rw [escapeTQ_cons_nt ht]
      simp only [indentLF, hc, ↓reduceIte]
      rw [escapeTQ_cons_nt (fun ⟨r', h34, h⟩ => (indentLF_qq h).elim fun r'' h' => ht ⟨r'', h34, h'⟩), ih]

/-- Re-indentation neither opens nor closes the end of a raw text. -/
theorem endsOpen_indentLF (k : Nat) (x : List Nat) : endsOpen (indentLF k x) = endsOpen x := by
  induction x using tq_induction with
  | nil => rfl
  | qqq r ih => simp only [indentLF, show (34 : Nat) ≠ 10 by decide, ↓reduceIte]; rw [endsOpen, endsOpen, ih]
  | cons c r ht ih =>
    by_cases hr : r = []
    · subst hr
      by_cases hc : c = 10
      · subst hc
        cases k with
        | zero => rfl
        | succ k =>
          simp only [indentLF, ↓reduceIte, List.append_nil, List.replicate_succ']
          exact endsOpen_append_noq (10 :: List.replicate k 32) [32] (by simp) (by simp)
      · simp [indentLF, hc]
    · have hW : indentLF k r ≠ [] := fun h => hr (indentLF_eq_nil h)
      by_cases hc : c = 10
      · subst hc
        simp only [indentLF, ↓reduceIte]
        rw [← List.cons_append, endsOpen_noq_append _ (by simp) hW, ih, endsOpen_ne _ (by decide) hr]
      · simp only [indentLF, hc, ↓reduceIte]
        rw [endsOpen_cons_nt (fun ⟨r', h34, h⟩ => (indentLF_qq h).elim fun r'' h' => ht ⟨r'', h34, h'⟩) hW, ih,
          endsOpen_cons_nt ht hr]

theorem linesFrom_append_cur (cur y : List Nat) (sp : List Nat) (h : ∀ c ∈ sp, c ≠ 10) :
    linesFrom cur (sp ++ y) = linesFrom (cur ++ sp) y := by
  induction sp generalizing cur with
  | nil => simp
  | cons c r ih =>
    have hc : c ≠ 10 := h c (by simp)
    simp only [List.cons_append, linesFrom, hc, ↓reduceIte]
    rw [ih (cur ++ [c]) (fun d hd => h d (by simp [hd]))]
    simp

theorem linesFrom_indentLF (k : Nat) (x : List Nat) : ∀ cur,
    linesFrom cur (indentLF k x) = padTail k (linesFrom cur x) := by
  induction x with
  | nil => intro cur; simp [indentLF, linesFrom, padTail]
  | cons c r ih =>
    intro cur
    by_cases hc : c = 10
    · subst hc
      simp only [indentLF, ↓reduceIte, linesFrom]
      rw [linesFrom_append_cur [] _ (List.replicate k 32) (by intro c hc; simp at hc; omega)]
      rw [ih, linesFrom_eq r, linesFrom_nil]
      obtain ⟨l, ls, h⟩ := List.exists_cons_of_ne_nil (splitLF_ne_nil r)
      simp [h, padTail]
    · simp only [indentLF, hc, ↓reduceIte, linesFrom]
      exact ih _

open Pairs in
theorem Pairs.Paired.indentLF (k : Nat) {x : List Nat} (h : Paired x) : Paired (indentLF k x) := by
  refine Paired.induct .nil (fun c r h1 _ ih => ?_) (fun a b r h1 h2 _ ih => ?_) h
  · by_cases hc : c = 10
    · simp only [Gql.Text.indentLF, hc, ↓reduceIte]
      exact .cons_scalar (by decide)
        (.append (.of_forall_scalar fun d hd => by obtain rfl := List.eq_of_mem_replicate hd; decide) ih)
    · simp only [Gql.Text.indentLF, hc, ↓reduceIte]
      exact .cons_scalar h1 ih
  · have ha : a ≠ 10 ∧ isScalar a = false := by simp [isLeadSurrogate] at h1; simp [isScalar]; omega
    have hb : b ≠ 10 := by simp [isTrailSurrogate] at h2; omega
    simp only [Gql.Text.indentLF, ha.1, hb, ↓reduceIte]
    exact .append (X := [a, b]) (.pair ha.2 h1 h2) ih

theorem mem_indentLF {k c : Nat} {x : List Nat} (h : c ∈ indentLF k x) : c ∈ x ∨ c = 32 := by
  induction x with
  | nil => cases h
  | cons d r ih =>
    by_cases hd : d = 10 <;> simp only [indentLF, hd, ↓reduceIte, List.mem_cons, List.mem_append] at h
    · rcases h with rfl | h | h
      · exact Or.inl (by simp [hd])
      · exact Or.inr (List.eq_of_mem_replicate h)
      · exact (ih h).imp_left (List.mem_cons_of_mem _)
    · rcases h with rfl | h
      · simp
      · exact (ih h).imp_left (List.mem_cons_of_mem _)

/-- Re-indenting a raw text leaves its value: the end is as closed, and the lines, the first
apart, are those of the raw text padded (`padTail`), which the dedentation removes. -/
theorem RawOf.indentLF (k : Nat) {v V : List Nat} (h : RawOf v V) : RawOf v (indentLF k V) :=
  ⟨h.paired.indentLF k, fun c hc => (mem_indentLF hc).elim (h.no_cr c) (by rintro rfl; decide),
    (endsOpen_indentLF k V).trans h.closed, by rw [linesFrom_indentLF, dedent_padTail, h.value]⟩

/-- The re-indented literal is the escaped form of the re-indented raw text between quotes. -/
theorem indentLF_printed (k w : Nat) (v : List Nat) (m : Bool) :
    indentLF k (printBlockStringW w v m) =
      [34, 34, 34] ++ (escapeTQ (indentLF k (pbsRaw w v m)) ++ [34, 34, 34]) := by
  rw [printed_raw, indentLF_append, indentLF_append, escapeTQ_indentLF]; rfl

/-- **Re-indentation.**  Indenting a printed block string (as the printer's `indent` does, `k`
spaces after every LF, any `k`) does not change the value the lexer reads. -/
theorem indent_printed_roundtrip_loop_at (k w : Nat) (m : Bool) (v body rest : List Nat) (p : Nat)
    (st : LexState) (start ls : Nat) (hbody : body.drop p = indentLF k (printBlockStringW w v m) ++ rest)
    (hv : Pairs.Paired v) (hrep : BlockRepresentable v) :
    tokOf (readBlockStringLoop body st start (p + 3) (p + 3) ls [] []) =
      .ok (mkToken st .blockString start (p + (indentLF k (printBlockStringW w v m)).length) (some v)) := by
  rw [indentLF_printed] at hbody ⊢
  exact scan_raw ((pbsRaw_rawOf w m hv hrep).indentLF k) body st start p ls rest hbody

theorem indent_printed_roundtrip (k w : Nat) (m : Bool) (v rest : List Nat) (st : LexState)
    (hv : Pairs.Paired v) (hrep : BlockRepresentable v) :
    tokOf (readBlockString (indentLF k (printBlockStringW w v m) ++ rest) st 0) =
      .ok (mkToken st .blockString 0 (indentLF k (printBlockStringW w v m)).length (some v)) := by
  unfold readBlockString
  simpa using indent_printed_roundtrip_loop_at k w m v _ rest 0 st 0 st.lineStart rfl hv hrep

end Gql.Text
