import Gql.Proofs.Coerce
import Gql.Proofs.ScalarConforms
/-!
Agreement of `coerceValue` and `validateValue` for *all* well-formed type maps, OneOf input
objects included (C15).
-/
namespace Gql.Values
open Gql

/-- What schema validation guarantees, as far as value coercion/validation agreement needs it. -/
structure TmWF (D : Field → R) (tm : TypeMap) : Prop where
  /-- `coerce_default_value` returns (valid defaults) -/
  defaults : DefaultsTotal D
  /-- OneOf input objects have no field defaults -/
  oneOfNoDefaults : ∀ n fields, tm.find n = some (.inputObject fields true) → ∀ f ∈ fields, D f = .ok .undefined
  /-- the fields of a OneOf input object are nullable -/
  oneOfNullable : ∀ n fields, tm.find n = some (.inputObject fields true) → ∀ f ∈ fields, f.type.isNonNull = false
  /-- no enum has `None` as internal value -/
  enumsNonNull : ∀ n e, tm.find n = some (.enum e) → ∀ k, e.valueOf k ≠ some .none
  /-- field names of an input object are pairwise different (they are dict keys) -/
  fieldsNodup : ∀ n fields o, tm.find n = some (.inputObject fields o) → (fields.map (·.name)).Nodup

theorem TypeMap.find_mem {tm : TypeMap} {n : List Nat} {d : NamedDef} (h : tm.find n = some d) : (n, d) ∈ tm := by
  induction tm with
  | nil => cases h
  | cons hd tl ih =>
    obtain ⟨k, d'⟩ := hd
    unfold TypeMap.find at h
    split at h
    · rename_i hk; cases h; subst hk; exact List.mem_cons_self
    · exact List.mem_cons_of_mem _ (ih h)

theorem dictGet_mem {kvs : List (List Nat × PyVal)} {k : List Nat} {v : PyVal}
    (h : PyVal.dictGet kvs k = some v) : (k, v) ∈ kvs :=
  List.mem_of_lookup (dictGet_eq .. ▸ h)

theorem dictGetDefined_mem {kvs : List (List Nat × PyVal)} {k : List Nat} {v : PyVal}
    (h : dictGetDefined kvs k = some v) : (k, v) ∈ kvs ∧ isDefined v = true := by
  unfold dictGetDefined at h
  split at h
  · simp at h
  · rename_i hne
    refine ⟨dictGet_mem h, ?_⟩
    cases v <;> simp_all [isDefined]

theorem dictGetDefined_of_mem {kvs : List (List Nat × PyVal)} {k : List Nat} {v : PyVal}
    (hnd : (kvs.map (·.1)).Nodup) (h : (k, v) ∈ kvs) (hd : isDefined v = true) :
    dictGetDefined kvs k = some v := by
  have := EnumType.dictGet_of_mem_nodup hnd h
  unfold dictGetDefined
  rw [this]
  cases v <;> simp_all [isDefined]

theorem WFDict_mem {kvs : List (List Nat × PyVal)} {k : List Nat} {v : PyVal}
    (h : PyVal.WFDict kvs) (hm : (k, v) ∈ kvs) : v.WF := by
  induction kvs with
  | nil => simp at hm
  | cons hd tl ih =>
    obtain ⟨k0, v0⟩ := hd
    simp only [PyVal.WFDict] at h
    simp only [List.mem_cons, Prod.mk.injEq] at hm
    rcases hm with ⟨_, rfl⟩ | hm
    · exact h.1
    · exact ih h.2 hm

theorem WFList_mem {xs : List PyVal} {x : PyVal} (h : PyVal.WFList xs) (hm : x ∈ xs) : x.WF := by
  induction xs with
  | nil => simp at hm
  | cons hd tl ih =>
    simp only [PyVal.WFList] at h
    simp only [List.mem_cons] at hm
    rcases hm with rfl | hm
    · exact h.1
    · exact ih h.2 hm

theorem WF_iterItems {v : PyVal} {xs : List PyVal} (h : v.WF) (hit : v.iterItems = some xs) :
    PyVal.WFList xs := by
  cases v <;> cases hit
  all_goals exact h

theorem WF_asDict {v : PyVal} {kvs : List (List Nat × PyVal)} (h : v.WF) (hd : v.asDict = some kvs) :
    (kvs.map (·.1)).Nodup ∧ PyVal.WFDict kvs := by
  cases v <;> cases hd
  exact h

theorem nullish_defined_is_none {v : PyVal} (h1 : v.isNullish = true) (h2 : isDefined v = true) : v = .none := by
  cases v <;> first | rfl | exact absurd h2 Bool.false_ne_true | exact absurd h1 Bool.false_ne_true

theorem nodup_name_eq {fields : List Field} (hnd : (fields.map (·.name)).Nodup) {f g : Field}
    (hf : f ∈ fields) (hg : g ∈ fields) (h : f.name = g.name) : f = g := by
  induction fields with
  | nil => simp at hf
  | cons hd tl ih =>
    simp only [List.map_cons, List.nodup_cons, List.mem_map, not_exists, not_and] at hnd
    simp only [List.mem_cons] at hf hg
    rcases hf with rfl | hf <;> rcases hg with rfl | hg
    · rfl
    · exact absurd h.symm (hnd.1 g hg)
    · exact absurd h (hnd.1 f hf)
    · exact ih hnd.2 hf hg

/-- When `φ` is `none` at every declared field but `f0`, only `f0` is left. -/
theorem filterMap_unique {β : Type} {fields : List Field} (hnd : (fields.map (·.name)).Nodup) {f0 : Field}
    (hf0 : f0 ∈ fields) (φ : Field → Option β) (hne : ∀ f ∈ fields, f.name ≠ f0.name → φ f = none) :
    fields.filterMap φ = (φ f0).toList := by
  induction fields with
  | nil => cases hf0
  | cons hd tl ih =>
    rw [List.filterMap_cons]
    by_cases hname : hd.name = f0.name
    · cases nodup_name_eq hnd List.mem_cons_self hf0 hname
      have htl : tl.filterMap φ = [] := List.filterMap_eq_nil_iff.2 fun f hf =>
        hne f (List.mem_cons_of_mem _ hf) fun hc => (List.nodup_cons.1 hnd).1 (List.mem_map.2 ⟨f, hf, hc⟩)
      rw [htl]; cases φ f0 <;> rfl
    · rw [hne hd List.mem_cons_self hname]
      exact ih (List.nodup_cons.1 hnd).2 ((List.mem_cons.1 hf0).resolve_left fun h => hname (h ▸ rfl))
        fun f hf => hne f (List.mem_cons_of_mem _ hf)

/-- When every declared field but `f0` contributes nothing, the dict holds what `f0` contributes. -/
theorem seqFields_single {fields : List Field} {G : Field → Out Unit FieldRes} {es : List (List Nat × PyVal)}
    (hnames : (fields.map (·.name)).Nodup) (hes : seqFields (fields.map G) = .ok (some es)) {f0 : Field}
    (hf0 : f0 ∈ fields) (hother : ∀ f ∈ fields, f.name ≠ f0.name → entryOf (G f) = none) :
    es = (entryOf (G f0)).toList := by
  rw [(seqFields_some_iff.1 hes).2, List.filterMap_map]
  exact filterMap_unique hnames hf0 _ hother

theorem known_eq_defined {kvs : List (List Nat × PyVal)} {fields : List Field}
    (hunk : hasUnknownDefined kvs fields = false) :
    (kvs.filter fun kv => isDefined kv.2 && fields.any (fun f => f.name = kv.1)) =
      kvs.filter fun kv => isDefined kv.2 := by
  refine List.filter_congr fun kv hkv => ?_
  have := List.any_eq_false.1 hunk kv hkv
  cases hd : isDefined kv.2 <;> simp_all

theorem oneOfValue_of_ne_one {n : Nat} (h : n ≠ 1) (es : List (List Nat × PyVal)) :
    oneOfValue n es = .ok .undefined := by
  unfold oneOfValue; split <;> simp [h]

theorem oneOfValue_one {k : List Nat} {cv : PyVal} (h : cv ≠ .none) :
    oneOfValue 1 [(k, cv)] = .ok (.dict [(k, cv)]) := by
  cases cv <;> first | rfl | exact absurd rfl h

theorem oneOfValueErrors_one (path : Path) {k : List Nat} {v : PyVal} (h : v ≠ .none) :
    oneOfValueErrors path [(k, v)] = [] := by
  cases v <;> first | rfl | exact absurd rfl h

theorem leafValue_ne_none (c : PyConv) {tm : TypeMap}
    (hEN : ∀ n e, tm.find n = some (.enum e) → ∀ k, e.valueOf k ≠ some .none)
    {n : List Nat} {d : NamedDef} {leaf : Leaf} (hf : tm.find n = some d) (hl : d.asLeaf = some leaf) (v : PyVal) :
    leafValue c leaf v ≠ .none := by
  intro hc
  have hu : leafValue c leaf v ≠ .undefined := by rw [hc]; exact PyVal.noConfusion
  have h := leafValue_of_ne hu
  cases d with
  | scalar s => cases hl; exact (scalarConforms_ne_none (Scalar.coerceValue_conforms c s v _ h)).1 hc
  | enum e =>
    cases hl
    obtain ⟨s, _, hw⟩ := EnumType.coerceInputValue_ok h
    exact hEN n e hf s (hc ▸ hw)
  | inputObject _ _ => cases hl

theorem coerceValue_ne_none (c : PyConv) (D : Field → R) (tm : TypeMap)
    (hEN : ∀ n e, tm.find n = some (.enum e) → ∀ k, e.valueOf k ≠ some .none)
    (v : PyVal) (hn : ¬ v.isNullish = true) (t : InType) (cv : PyVal)
    (h : coerceValue c D tm v t = .ok cv) : cv ≠ .none := by
  by_cases hu : cv = .undefined
  · rw [hu]; exact PyVal.noConfusion
  refine coerceValue_accepted c D tm (motive := fun v _ cv => ¬ v.isNullish = true → cv ≠ .none)
    ?_ ?_ ?_ ?_ ?_ ?_ v t h hu hn
  · exact fun _ _ hv _ hn => absurd hv hn
  · exact fun _ _ _ _ _ ih => ih
  · exact fun _ _ _ _ _ _ _ _ _ => PyVal.noConfusion
  · exact fun _ _ _ _ _ _ _ _ _ => PyVal.noConfusion
  · exact fun v _ _ _ _ hf hl _ _ => leafValue_ne_none c hEN hf hl v
  · exact fun _ _ _ _ _ _ _ _ _ _ _ _ _ _ => PyVal.noConfusion

section
variable (c : PyConv) (D : Field → R) (tm : TypeMap)

theorem coerceField_agree (hD : DefaultsTotal D) {kvs : List (List Nat × PyVal)} {path : Path} (f : Field)
    (ih : ∀ fv, dictGetDefined kvs f.name = some fv → ∃ cv, coerceValue c D tm fv f.type = .ok cv ∧
      (validateValue c tm fv f.type (path ++ [.key f.name]) = [] ↔ cv ≠ .undefined)) :
    ∃ x, coerceField c D tm kvs f = .ok x ∧ (x = .invalid → validateField c tm kvs path f ≠ []) ∧
      (x ≠ .invalid → validateField c tm kvs path f = []) := by
  suffices h : ∃ x, coerceField c D tm kvs f = .ok x ∧ (x = .invalid ↔ validateField c tm kvs path f ≠ []) from
    h.imp fun x h => ⟨h.1, h.2.1, fun hx => Classical.not_not.1 (mt h.2.2 hx)⟩
  unfold coerceField validateField
  split
  · rename_i fv hfv
    obtain ⟨cv, hcv, hv⟩ := ih fv hfv
    rw [hfv, Option.map_some, hcv]
    exact fieldRes_provided D f hv
  · rename_i hnone
    obtain ⟨x, hx, hxi⟩ := fieldRes_missing hD f
    refine ⟨x, hnone ▸ hx, ?_⟩
    rw [hxi]
    by_cases hr : f.isRequired = true <;> simp [hr]

/-- A provided value is coerced to `None` only if it is `None`. -/
theorem coerceValue_eq_none_iff (hEN : ∀ n e, tm.find n = some (.enum e) → ∀ k, e.valueOf k ≠ some .none)
    {v : PyVal} {t : InType} {cv : PyVal} (h : coerceValue c D tm v t = .ok cv) (hu : cv ≠ .undefined)
    (hd : isDefined v = true) : cv = .none ↔ v = .none := by
  by_cases hnl : v.isNullish = true
  · rw [coerceValue_nullish c D tm v t hnl] at h
    cases hnn : t.isNonNull <;> simp only [hnn, Bool.false_eq_true, ↓reduceIte, Out.ok.injEq] at h
    · exact ⟨fun _ => nullish_defined_is_none hnl hd, fun _ => h.symm⟩
    · exact absurd h.symm hu
  · exact ⟨fun hcn => absurd hcn (coerceValue_ne_none c D tm hEN v hnl t cv h), fun hv => absurd (hv ▸ rfl) hnl⟩

/-- The OneOf checks of the two sides agree on a dict without undeclared keys whose fields are all valid and have no
defaults: with one defined key, that key's field holds the only entry, which is `None` exactly when the value is. -/
theorem oneOf_agree (hEN : ∀ n e, tm.find n = some (.enum e) → ∀ k, e.valueOf k ≠ some .none)
    {kvs : List (List Nat × PyVal)} {fields : List Field}
    (hkeys : (kvs.map (·.1)).Nodup) (hnames : (fields.map (·.name)).Nodup)
    (hunk : hasUnknownDefined kvs fields = false) (hD : ∀ f ∈ fields, D f = .ok .undefined)
    {es : List (List Nat × PyVal)} (hes : seqFields (fields.map (coerceField c D tm kvs)) = .ok (some es)) (path : Path) :
    ∃ cv, oneOfValue (definedCount kvs) es = .ok cv ∧
      (oneOfValueErrors path (kvs.filter fun kv => isDefined kv.2 && fields.any (fun f => f.name = kv.1)) = [] ↔
        cv ≠ .undefined) := by
  rw [known_eq_defined hunk]
  unfold definedCount
  by_cases hone : (kvs.filter fun kv => isDefined kv.2).length = 1
  case neg => exact ⟨.undefined, oneOfValue_of_ne_one hone _, by simp [oneOfValueErrors, hone]⟩
  obtain ⟨⟨k0, v0⟩, hK⟩ := List.length_eq_one_iff.1 hone
  have hmemK : ∀ {k v}, (k, v) ∈ kvs → isDefined v = true → k = k0 := fun hm hd =>
    (Prod.mk.inj (List.mem_singleton.1 (hK ▸ List.mem_filter.2 ⟨hm, hd⟩))).1
  obtain ⟨hmem, hdef⟩ := List.mem_filter.1 (hK ▸ List.mem_singleton_self _ : (k0, v0) ∈ kvs.filter _)
  rw [hK]
  obtain ⟨f0, hf0, hf0n⟩ : ∃ f0 ∈ fields, f0.name = k0 := by
    simpa [hdef] using List.any_eq_false.1 hunk (k0, v0) hmem
  have hget : dictGetDefined kvs f0.name = some v0 := hf0n ▸ dictGetDefined_of_mem hkeys hmem hdef
  have hother : ∀ f ∈ fields, f.name ≠ f0.name → entryOf (coerceField c D tm kvs f) = none := fun f hf hne => by
    cases hgf : dictGetDefined kvs f.name with
    | none => rw [coerceField, hgf]; exact entryOf_fieldRes_none (hD f hf)
    | some fv => exact absurd ((hmemK (dictGetDefined_mem hgf).1 (dictGetDefined_mem hgf).2).trans hf0n.symm) hne
  have hes' := seqFields_single hnames hes hf0 hother
  obtain ⟨x, hx, hxn⟩ := seqFields_valid hes hf0
  rw [hx] at hes'
  rw [coerceField, hget] at hx
  obtain ⟨cv0, hcv0, hcu, rfl⟩ := fieldRes_some_inv hx hxn
  have hnone0 := coerceValue_eq_none_iff c D tm hEN hcv0 hcu hdef
  subst hes'
  by_cases hn : cv0 = .none
  · cases hn; cases hnone0.1 rfl
    exact ⟨.undefined, by simp [oneOfValue, entryOf], by simp [oneOfValueErrors]⟩
  · exact ⟨_, oneOfValue_one hn, by simp [oneOfValueErrors_one path fun h => hn (hnone0.2 h)]⟩

end

/-- `coerce_input_value` returns (never raises) and its result is a value exactly when
`validate_input_value` is silent.  Valid defaults suffice when no input object is OneOf; the OneOf
post-checks need the type map and the value to be well-formed. -/
theorem coerce_validate_value (c : PyConv) (D : Field → R) (tm : TypeMap)
    (v : PyVal) (t : InType) (path : Path) (hO : (DefaultsTotal D ∧ NoOneOf tm) ∨ (TmWF D tm ∧ v.WF)) :
    ∃ cv, coerceValue c D tm v t = .ok cv ∧ (validateValue c tm v t path = [] ↔ cv ≠ .undefined) := by
  have hD : DefaultsTotal D := hO.elim (·.1) (·.1.defaults)
  -- cases in the order of `validateValue`: 1–2 non-null (nullish or not), 3–5 list (nullish, iterable, single
  -- value), 6 nullish at a named type, 7–8 input object (a dict or not), 9–12 scalar and enum (result defined
  -- or not), 13 unknown type name
  induction v, t, path using validateValue.induct c tm with
  | case1 v path t' hn =>
    rw [coerceValue, validateValue]; simp [hn]
  | case2 v path t' hn ih =>
    rw [coerceValue, validateValue]; simpa [hn] using ih hO
  | case3 v path t' hn =>
    rw [coerceValue, validateValue]; simp [hn]
  | case4 v path t' hn xs hit ih =>
    rw [coerceValue_list_iter c D tm hn hit, validateValue_list_iter c tm hn hit]
    exact items_agree xs (fun x => coerceValue c D tm x t') (fun x i => validateValue c tm x t' (path ++ [.idx i]))
      fun x hx i => ih x hx i (hO.imp_right fun h => ⟨h.1, WFList_mem (WF_iterItems h.2 hit) hx⟩)
  | case5 v path t' hn hit ih =>
    rw [coerceValue_list_single c D tm hn hit, validateValue_list_single c tm hn hit]
    exact listOfOne_agree (ih hO)
  | case6 v path n hn =>
    rw [coerceValue, validateValue]; simp [hn]
  | case7 v path n hn fields oneOf hf kvs hd ih =>
    replace ih := fun f fv h => ih f fv h
      (hO.imp_right fun hw => ⟨hw.1, WFDict_mem (WF_asDict hw.2 hd).2 (dictGetDefined_mem h).1⟩)
    rw [coerceValue_obj c D tm hn hf hd, validateValue_obj c tm hn hf hd]
    refine dictOf_agree path (hasUnknownDefined_iff kvs fields)
      (fun f _ => coerceField_agree c D tm hD (path := path) f (ih f)) fun hunk' es hso hvalid => ?_
    rw [List.flatMap_eq_nil_iff.2 hvalid, List.nil_append]
    cases oneOf with
    | false => exact ⟨.dict es, rfl, by simp⟩
    | true =>
      obtain ⟨hW, hwf⟩ := hO.resolve_left fun hN => Bool.false_ne_true (hN.2 n fields true hf).symm
      exact oneOf_agree c D tm hW.enumsNonNull (WF_asDict hwf hd).1 (hW.fieldsNodup n fields true hf) hunk'
        (hW.oneOfNoDefaults n fields hf) hso path
  | case8 v path n hn fields oneOf hf hd =>
    rw [coerceValue_notobj c D tm hn hf hd, validateValue_notobj c tm hn hf hd]
    exact ⟨.undefined, rfl, by simp⟩
  | case9 v path n hn s hf hdv | case10 v path n hn s hf hdv | case11 v path n hn s hf hdv
  | case12 v path n hn s hf hdv =>
    rw [coerceValue_leaf c D tm hn hf rfl, validateValue_leaf c tm hn hf rfl]
    exact ⟨_, rfl, by rw [← isDefined_iff]; simp [hdv]⟩
  | case13 v path n hn hf =>
    rw [coerceValue, validateValue]
    simp [hn, hf]

theorem coerce_validate_value_full (c : PyConv) (D : Field → R) (tm : TypeMap) (hW : TmWF D tm)
    (v : PyVal) (t : InType) (path : Path) (hwf : v.WF) :
    ∃ cv, coerceValue c D tm v t = .ok cv ∧ (validateValue c tm v t path = [] ↔ cv ≠ .undefined) :=
  coerce_validate_value c D tm v t path (.inr ⟨hW, hwf⟩)

end Gql.Values
