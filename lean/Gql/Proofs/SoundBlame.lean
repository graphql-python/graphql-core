import Gql.Proofs.SoundPlain

/-!
C13 — blame: over arbitrary data, a validated operation never produces a request-attributable
error (argument or directive coercion); every error is attributable to the data (a null, an
ill-typed leaf, a raising resolver, an unresolvable or impossible abstract type, a non-iterable)
or to the schema.  `Blame` is carried over the executor by `blame_walk`: the two
request-attributable branches of `Walk` are closed by `collect_fields` and `GroupWT`.
-/

namespace Gql.Exec.Valid
open Gql.Exec Gql.Exec.Refine

/-- not one of the kinds that are the request's fault -/
def DataKind (k : ErrKind) : Prop := k ≠ .argCoercion ∧ k ≠ .directiveCoercion

def Blame {α : Type} (r : Spec.R α) : Prop := ∀ e ∈ r.errs, DataKind e.kind

theorem Blame.pure {α : Type} (a : α) : Blame (Spec.R.pure a) := by simp [Blame, Spec.R.pure]

theorem Blame.fail {α : Type} (pos : List PSeg) (k : ErrKind) (hk : DataKind k) :
    Blame (Spec.R.fail pos k : Spec.R α) := by
  intro e he
  simp only [Spec.R.fail, List.mem_singleton] at he
  subst he
  exact hk

theorem Blame.absorb {r : Spec.R Json} (t : TypeRef) (h : Blame r) : Blame (Spec.absorb t r) := by
  unfold Spec.absorb
  split
  · exact h
  · split <;> exact h

theorem Blame.andThen {α β γ : Type} {r : Spec.R α} {rs : Spec.R β} (f : α → β → γ) (h1 : Blame r)
    (h2 : Blame rs) : Blame (r.andThen f rs) := by
  unfold Spec.R.andThen
  split
  · exact h1
  · exact fun e he => (List.mem_append.1 he).elim (h1 e) (h2 e)

variable (g : GCtx) (op : Operation) (hvok : VarsOk g.env g.cx.vars) (hval : ValuesOk g)
variable (hfr : FragsOk g) (hyps : SoundHyps g.cx.ops g.cx.schema)
variable {P : Name → List Selection → Prop} (hP : MergeInv g P)

include hvok hval hfr hyps hP in
/-- a request-attributable kind needs a cause, and a selection set or group that execution reaches
offers none -/
theorem blame_walk : Walk g.cx (fun t fs _ _ r => ValueWT g P t fs → Blame r)
    (fun ot _ fs _ r => GroupWT g P ot fs → Blame r)
    (fun ot _ gs _ r => GroupsWT g P ot gs → Blame r)
    (fun t fs _ _ _ r => ValueWT g P t fs → Blame r) where
  pure _ _ _ _ _ _ := .pure _
  fail h hwt := .fail _ _ (Classical.not_not.1 fun hk => by
    obtain ⟨n, nn, rt, rfl, hk, hobj, hsub, hc⟩ := h hk
    obtain ⟨gs, hcol, _⟩ :=
      collect_fields g hvok hval hfr hyps hP hwt (by simpa [isLeaf] using hk) hobj hsub
    rw [hc] at hcol; cases hcol)
  own _ _ _ _ _ _ := fun e he => by simp only [List.mem_singleton] at he; subst he; simp [DataKind]
  obj hk hobj hsub hc hG hwt := by
    obtain ⟨gs, hcol, hgs⟩ :=
      collect_fields g hvok hval hfr hyps hP hwt (by simpa [isLeaf] using hk) hobj hsub
    rw [hc] at hcol; cases hcol
    exact hG hgs
  list h hwt := h ⟨hwt.wt, hwt.reach⟩
  pureF _ _ _ _ _ _ := .pure _
  failF t h hg := (Blame.fail _ _ (Classical.not_not.1 fun hk => by
    obtain ⟨f, rest, fd, rfl, hty, hf, hc⟩ := h hk
    obtain ⟨fd', a, hgf, ha, _⟩ := hg (by simpa using hty)
    rw [hf] at hgf; cases hgf; rw [hc] at ha; cases ha)).absorb t
  call := fun {ot _ f _ pos _ a r} hty hf _ hΦ hg => by
    obtain ⟨fd', a', hgf, ha, hwt⟩ := hg (by simpa using hty)
    rw [hf] at hgf; cases hgf
    exact Blame.absorb (r := { r with log := ⟨pos, ot, f.name, a⟩ :: r.log }) _ (hΦ hwt)
  nilG _ _ _ _ := .pure _
  consG _ hF hG hgs := (hF (hgs _ (.head _))).andThen _ (hG fun p hp => hgs p (.tail _ hp))
  nilI _ _ _ _ _ := .pure _
  consI h1 h2 hwt := ((h1 hwt).absorb _).andThen _ (h2 hwt)

include hvok hval hfr hyps hP in
theorem MergeInv.items_blame : (items : List RVal) → ∀ (t : TypeRef) (fields : List FieldNode)
    (pos : List PSeg) (i : Nat), ValueWT g P t fields →
    Blame (Spec.completeItems g.cx t fields pos i items) :=
  (blame_walk g hvok hval hfr hyps hP).items

section
variable (hmerge : MergeOk g.cx op)

include hvok hval hfr hyps hmerge in
theorem items_blame : (items : List RVal) → ∀ (t : TypeRef) (fields : List FieldNode)
    (pos : List PSeg) (i : Nat), FieldsWT g t fields →
    (∀ rt', g.cx.schema.kind rt' = .object → ReachSel g.cx op rt' (Spec.mergeSelectionSets fields)) →
    Blame (Spec.completeItems g.cx t fields pos i items) :=
  fun items t fields pos i hwt hr =>
    MergeInv.items_blame g hvok hval hfr hyps hmerge.inv items t fields pos i ⟨hwt, fun rt' hk _ => hr rt' hk⟩
end

section
variable (hmerge : MergeOkT g.cx op)

include hvok hval hfr hyps hmerge in
theorem items_blameT : (items : List RVal) → ∀ (t : TypeRef) (fields : List FieldNode)
    (pos : List PSeg) (i : Nat), FieldsWT g t fields →
    ReachAt g op t.baseName fields →
    Blame (Spec.completeItems g.cx t fields pos i items) :=
  fun items t fields pos i hwt hr =>
    MergeInv.items_blame g hvok hval hfr hyps hmerge.inv items t fields pos i ⟨hwt, hr⟩
end

/-- request level: no request-attributable error, whatever the data -/
theorem MergeInv.blame (ops : Ops) (s : Schema) (doc : Doc) (hyps : SoundHyps ops s)
    (op : Operation) (opName : Option Name) (vars : Vars) (root : RVal) (rt : Name)
    (hsel : Spec.getOperation doc.ops opName = some op)
    (hvalid : validOp s doc op = true)
    (hvok : VarsOk op.vars vars) (htyped : VarsTyped s op.vars vars)
    (hops : OpsSoundV ops s op.vars vars)
    (hexc : mayHitNullViaDefault s doc op vars = false)
    {P : Name → List Selection → Prop} (hP : MergeInv (gctxOf ops s doc op vars) P)
    (hp : P rt op.sels)
    (hroot : Spec.rootType s op.kind = some rt) :
    ∀ e ∈ (Spec.executeRequest ops s doc opName vars root).errors, DataKind e.kind := by
  obtain ⟨hsels, hfr⟩ := invariants_of_valid ops s doc op vars rt hroot hvalid hexc
  let g := gctxOf ops s doc op vars
  have hval : ValuesOk g := hops htyped
  obtain ⟨gs, hcol, hgs⟩ := collect_member g hvok hval hfr hyps hP
    hp (rootTypeOf_object hroot) hsels (Or.inl rfl)
  have hb := (blame_walk g hvok hval hfr hyps hP).request root rt gs
    (collectFields_nodup _ _ _ _ hcol) hgs
  simp only [g, gctxOf] at hcol hb
  unfold Spec.executeRequest
  simp only [hsel, hroot, hcol]
  exact hb

end Gql.Exec.Valid
