import Gql.Proofs.SpecKeep
import Gql.Proofs.Util.Assoc
/-!
The number of loop iterations of a non-editing traversal is at most twice the size of the tree
(nodes + tuples + absent attribute slots), for trees that carry exactly the traversed attributes.
-/
namespace Gql.Syntax
open Gql Gql.Syntax.Spec

variable {σ : Type}

def Within {α : Type} (x : Option (Res σ α)) (w : W σ) (k : Nat) : Prop :=
  Post x True (fun w' => w'.iters ≤ w.iters + k) (fun w' _ => w'.iters ≤ w.iters + k)

theorem Within.bind {α β : Type} {x : Option (Res σ α)} {f : W σ → α → Option (Res σ β)} {w : W σ} {k k' : Nat}
    (hx : Within x w k) (hf : ∀ w1 a, Within (f w1 a) w1 k') : Within (Res.bind x f) w (k + k') :=
  have step : ∀ {a c : Nat}, a ≤ w.iters + k → c ≤ a + k' → c ≤ w.iters + (k + k') := by omega
  Post.bind (hx.mono (fun _ h => step h (Nat.le_add_right _ _)) fun _ _ h => h) fun w1 a h1 =>
    (hf w1 a).mono (fun _ h => step h1 h) fun _ _ h => step h1 h

theorem Within.map {α β : Type} {x : Option (Res σ α)} {w : W σ} {k : Nat} (hx : Within x w k) (g : W σ → α → β) :
    Within (Res.bind x fun w a => some (.done w (g w a))) w k :=
  hx.bind (k' := 0) fun w1 _ => Nat.le_refl w1.iters

/-- a stretch entered by one step and left by another (a tuple; a node with its two calls) -/
theorem Within.around {α β : Type} {x : Option (Res σ α)} {f : W σ → α → Option (Res σ β)} {w w1 : W σ} {k : Nat}
    (h1 : w1.iters = w.iters + 1) (hx : Within x w1 k) (hf : ∀ w2 a, Within (f w2 a) w2 1) :
    Within (Res.bind x f) w (2 * 1 + k) := by
  have := hx.bind hf
  simp only [Within, h1] at this ⊢
  exact this.mono (fun _ h => by omega) fun _ _ h => by omega

def BoundRec (vk : String → List String) (rec : Rec σ) : Prop :=
  ∀ w c key parent anc path, c.keyed vk = true → Within (rec w c key parent anc path) w (2 * c.size)

theorem items_bound {vk : String → List String} {rec : Rec σ} (hrec : BoundRec vk rec) (parent : Option Val)
    (anc : List Val) (path : List Key) :
    ∀ (suf : List Node) (w : W σ) (i : Nat), keyedNodes vk suf = true →
      Within (specItems rec parent anc path w suf i) w (2 * sizeNodes suf)
  | [], w, _, _ => Nat.le_refl w.iters
  | c :: suf, w, i, hk => by
    simp only [keyedNodes, Bool.and_eq_true] at hk
    rw [specItems_cons, sizeNodes, Nat.mul_add]
    exact (hrec w c _ _ _ _ hk.1).bind fun w1 _ => (items_bound hrec parent anc path suf w1 (i + 1) hk.2).map _

theorem attr_bound {vk : String → List String} {rec : Rec σ} (hrec : BoundRec vk rec) (m : Node)
    (anc : List Val) (path : List Key) (w : W σ) (k : String) (c : Child) (hattr : m.attr k = c)
    (hc : c.keyed vk = true) : Within (specAttr rec m anc path w k) w (2 * c.size) := by
  rw [specAttr, hattr]
  cases c with
  | absent => exact Nat.le_succ (w.iters + 1)
  | one n => exact (hrec w n _ _ _ _ hc).map _
  | many cs =>
    rw [Child.size, Nat.mul_add]
    exact Within.around rfl (items_bound hrec _ _ _ cs { w with iters := w.iters + 1 } 0 hc) fun w2 _ =>
      Nat.le_refl (w2.iters + 1)

theorem keys_bound {vk : String → List String} {rec : Rec σ} (hrec : BoundRec vk rec) (m : Node)
    (anc : List Val) (path : List Key) (hnd : (m.fields.map Prod.fst).Nodup) :
    ∀ (suf pre : List (String × Child)) (w : W σ), m.fields = pre ++ suf → keyedFields vk suf = true →
      Within (specKeys rec m anc path w (suf.map Prod.fst)) w (2 * sizeFields suf)
  | [], _, w, _, _ => Nat.le_refl w.iters
  | (k, c) :: suf, pre, w, hfs, hk => by
    -- the attributes are listed once each, so `k` names the field at the head of the suffix
    have hattr : m.attr k = c := by
      rw [hfs, List.map_append, List.map_cons] at hnd
      have hnot : k ∉ pre.map Prod.fst := fun hk' => (List.nodup_append.mp hnd).2.2 k hk' k List.mem_cons_self rfl
      simp only [Node.attr, hfs, List.lookup_append_of_not_mem hnot, List.lookup, beq_self_eq_true]
    simp only [keyedFields, Bool.and_eq_true] at hk
    rw [List.map_cons, specKeys_cons, sizeFields, Nat.mul_add]
    exact (attr_bound hrec m anc path w k c hattr hk.1).bind fun w1 _ =>
      (keys_bound hrec m anc path hnd suf (pre ++ [(k, c)]) w1 (by rw [hfs, List.append_assoc]; rfl) hk.2).map _

theorem Within.walk {v : Visitor σ} {rec : Rec σ} {cE cL : Call} {w : W σ} {n : Node} {anc : List Val}
    {path : List Key} {ks : List String} {k : Nat} (hk : ∀ w1, Within (specKeys rec n anc path w1 ks) w1 k) :
    Within (walkNode v rec cE cL w n anc path ks) w (2 * 1 + k) := by
  have h1 : w.iters + 1 ≤ w.iters + (2 * 1 + k) :=
    Nat.add_le_add_left (Nat.le_trans (Nat.le_succ 1) (Nat.le_add_right _ _)) _
  rw [walkNode]
  cases (v w.s cE).1 with
  | brk => exact h1
  | skip => exact h1
  | _ =>
    refine Within.around rfl (hk _) fun w2 _ => ?_
    cases (v w2.s cL).1 <;> exact Nat.le_refl (w2.iters + 1)

theorem node_bound {vk : String → List String} {v : Visitor σ} (hv : NonEditing v) :
    ∀ d, BoundRec vk (specNode vk v d)
  | 0 => fun _ _ _ _ _ _ _ => trivial
  | d + 1 => fun w n key parent anc path hkd => by
    obtain ⟨kd, sr, pl, fs⟩ := n
    simp only [Node.keyed, Bool.and_eq_true, decide_eq_true_eq] at hkd
    obtain ⟨⟨hvk, hnd⟩, hkf⟩ := hkd
    rw [specNode_succ hv, Node.size, Node.kind_mk, hvk, Nat.mul_add]
    exact Within.walk fun w1 => keys_bound (node_bound hv d) (.mk kd sr pl fs) _ _ hnd fs [] w1 rfl hkf

theorem spec_iters_bound {vk : String → List String} {v : Visitor σ} (hv : NonEditing v) (d : Nat)
    (root : Node) (hk : root.keyed vk = true) (s : σ) (out : Outcome σ)
    (h : specVisit vk v d root s = some out) : out.iters ≤ 2 * root.size := by
  obtain ⟨r, hn, rfl⟩ := specVisit_out h
  rw [← Nat.zero_add (2 * root.size)]
  exact Post.ends hn (node_bound (vk := vk) hv d ⟨s, 0, false⟩ root .none none [] [] hk) fun _ h => h

end Gql.Syntax
