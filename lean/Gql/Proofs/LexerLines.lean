import Gql.Text.Lexer
import Gql.Proofs.Location
import Gql.Proofs.LexRun
/-!
Line bookkeeping of the lexer against the specification's line/column (C10-2).

`pre body p` is the prefix scan `scan (body.take p) 0 0`, which `lineCol_eq_scan` ties to
`Spec.lineCol`; `pre_step`/`pre_crlf` say how it moves when the prefix grows by one character or
by a CR LF pair.  `LineAt body st p` says the lexer's `line`/`line_start` agree with it at an offset
`p` that is not inside a CR LF; it is kept over text without line terminator (`LineAt.nonl`: every
one-line token) and moves to the next line over a terminator (`LineAt.newline`, `LineAt.crlf`):
skipping and the block string loop are made of these steps.
-/
namespace Gql.Text
open Spec

theorem scan_one (c n k : Nat) :
    scan [c] n k = if c = 10 ∨ c = 13 then (n + 1, 0) else (n, k + 1) := by
  by_cases h13 : c = 13
  · subst h13; simp [scan]
  · by_cases h10 : c = 10
    · subst h10; simp [scan]
    · simp [scan_other c [] n k h13 h10, scan, h13, h10]

/-- The prefix scan at offset `p`: (number of terminators ending at or before `p`,
distance from the end of the last one) — see `lineCol_eq_pre`. -/
def pre (body : List Nat) (p : Nat) : Nat × Nat := scan (body.take p) 0 0

theorem pre_add (body : List Nat) (p k : Nat) (hin : ¬ insideCRLF body p) :
    pre body (p + k) = scan ((body.drop p).take k) (pre body p).1 (pre body p).2 := by
  unfold pre
  rw [List.take_add, scan_append]
  intro ⟨a, b⟩
  refine noSplit_take_drop body p hin ⟨a, ?_⟩
  rw [List.head?_take] at b
  split at b
  · cases b
  · exact b

theorem pre_step (body : List Nat) (p c : Nat) (h : body[p]? = some c)
    (hin : ¬ insideCRLF body p) :
    pre body (p + 1) =
      if c = 10 ∨ c = 13 then ((pre body p).1 + 1, 0) else ((pre body p).1, (pre body p).2 + 1) := by
  rw [pre_add body p 1 hin, List.take_one, List.head?_drop, h]
  exact scan_one c _ _

theorem pre_crlf (body : List Nat) (p : Nat) (h1 : body[p]? = some 13)
    (h2 : body[p + 1]? = some 10) (hin : ¬ insideCRLF body p) :
    pre body (p + 2) = ((pre body p).1 + 1, 0) := by
  have : (body.drop p).take 2 = [13, 10] := by
    rw [List.take_add_one, List.take_one, List.head?_drop, List.getElem?_drop, h1, h2]; rfl
  rw [pre_add body p 2 hin, this]; rfl

theorem lineCol_eq_pre (body : List Nat) (p : Nat) (hp : p ≤ body.length)
    (hin : ¬ insideCRLF body p) :
    lineCol body p = (1 + (pre body p).1, 1 + (pre body p).2) :=
  lineCol_eq_scan body p hp hin

/-- The lexer's bookkeeping agrees with the prefix scan at offset `p`. -/
def LineInv (body : List Nat) (st : LexState) (p : Nat) : Prop :=
  st.line = 1 + (pre body p).1 ∧ st.lineStart + (pre body p).2 = p

/-- The line state `st` is right at the offset `p`, which is not inside a CR LF. -/
def LineAt (body : List Nat) (st : LexState) (p : Nat) : Prop :=
  LineInv body st p ∧ ¬ insideCRLF body p

theorem LineAt.lineCol {body : List Nat} {st : LexState} {p : Nat} (h : LineAt body st p)
    (hp : p ≤ body.length) : (st.line, 1 + p - st.lineStart) = lineCol body p := by
  rw [lineCol_eq_pre body p hp h.2, h.1.1]
  have := h.1.2
  congr 1; omega

theorem LineAt.plain {body : List Nat} {st : LexState} {p : Nat} (h : LineAt body st p)
    (hl : p < body.length) (hc : body[p] ≠ 10 ∧ body[p] ≠ 13) : LineAt body st (p + 1) := by
  have e := pre_step body p _ (List.getElem?_eq_getElem hl) h.2
  rw [if_neg (fun x => x.elim hc.1 hc.2)] at e
  refine ⟨⟨by rw [e]; exact h.1.1, by rw [e]; have := h.1.2; simp only []; omega⟩, fun ⟨_, x, _⟩ => hc.2 ?_⟩
  rw [Nat.add_sub_cancel, List.getElem?_eq_getElem hl] at x
  exact Option.some.inj x

/-- A token without a line terminator leaves the line state as it is. -/
theorem LineAt.nonl {body : List Nat} {st : LexState} {p : Nat} (h : LineAt body st p) (q : Nat)
    (hpq : p ≤ q) : q ≤ body.length → NoNLIn body p q → LineAt body st q := by
  induction hpq with
  | refl => exact fun _ _ => h
  | @step q hpq ih =>
    intro hl hn
    exact (ih (by omega) fun i a b => hn i a (by omega)).plain hl
      (hn q hpq (Nat.lt_succ_self q) _ (List.getElem?_eq_getElem hl))

theorem LineAt.newline {body : List Nat} {st : LexState} {p : Nat} (h : LineAt body st p)
    (hl : p < body.length) (hc : body[p] = 10 ∨ body[p] = 13)
    (hn : ¬ (body[p] = 13 ∧ body[p + 1]? = some 10)) :
    LineAt body { line := st.line + 1, lineStart := p + 1 } (p + 1) := by
  have e := pre_step body p _ (List.getElem?_eq_getElem hl) h.2
  rw [if_pos hc] at e
  refine ⟨⟨by rw [e]; have := h.1.1; simp only []; omega, by rw [e]; rfl⟩, fun ⟨_, x, y⟩ => hn ⟨?_, y⟩⟩
  rw [Nat.add_sub_cancel, List.getElem?_eq_getElem hl] at x
  exact Option.some.inj x

theorem LineAt.crlf {body : List Nat} {st : LexState} {p : Nat} (h : LineAt body st p)
    (h1 : body[p]? = some 13) (h2 : body[p + 1]? = some 10) :
    LineAt body { line := st.line + 1, lineStart := p + 2 } (p + 2) := by
  have e := pre_crlf body p h1 h2 h.2
  refine ⟨⟨by rw [e]; have := h.1.1; simp only []; omega, by rw [e]; rfl⟩, fun ⟨_, x, _⟩ => ?_⟩
  rw [show p + 2 - 1 = p + 1 by omega, h2] at x
  cases x

def NextLine (body : List Nat) (r : Token × LexState) : Prop :=
  (r.1.line, r.1.column) = lineCol body r.1.start ∧ LineAt body r.2 r.1.stop ∧ r.1.stop ≤ body.length

theorem lineCol_of_inv {body : List Nat} {st : LexState} {start : Nat} {t : Token}
    (h : LineAt body st start) (hs : start ≤ body.length) (ht : TokPost body st start t) :
    (t.line, t.column) = lineCol body t.start := by
  rw [ht.start_eq, ht.line_eq, ht.column_eq]
  exact h.lineCol hs

/-- Loop invariant of `read_block_string`: the line of the token's start plus the lines the block
has seen, and the local `line_start`, are the line state at `pos`. -/
theorem readBlockStringLoop_line (body : List Nat) (st : LexState) (start pos chunkStart lineStart : Nat)
    (curLine : List Nat) (blockLines : List (List Nat)) (hpl : pos ≤ body.length)
    (hinv : LineAt body { line := st.line + blockLines.length, lineStart := lineStart } pos) :
    Post (fun r => LineAt body r.2 r.1.stop)
      (readBlockStringLoop body st start pos chunkStart lineStart curLine blockLines) := by
  fun_induction readBlockStringLoop body st start pos chunkStart lineStart curLine blockLines
  · rename_i pos chunkStart lineStart curLine blockLines hlt ih4 ih3 ih2 ih1
    rw [index_ok _ _ hlt, Out.bind_ok]
    have hget : body[pos]? = some body[pos] := List.getElem?_eq_getElem hlt
    refine Post.ite (fun hq => ?_) (fun _ => ?_)
    · -- closing quotes
      obtain ⟨_, n0⟩ := charAt_eq_nonl body pos 34 (by rw [← hq.1]; exact hget) (by decide)
      obtain ⟨l1, n1⟩ := slice_eq_nonl hq.2 (by simp) (by omega) (by decide)
      show LineAt body { line := st.line + ((blockLines ++ [_]).length - 1), lineStart := lineStart } (pos + 3)
      rw [List.length_append, List.length_singleton, Nat.add_sub_cancel]
      exact hinv.nonl (pos + 3) (by omega) l1 (n0.trans n1)
    refine Post.ite (fun hq => ?_) (fun _ => ?_)
    · -- escaped triple quote
      obtain ⟨_, n0⟩ := charAt_eq_nonl body pos 92 (by rw [← hq.1]; exact hget) (by decide)
      obtain ⟨l1, n1⟩ := slice_eq_nonl hq.2 (by simp) (by omega) (by decide)
      exact ih4 body[pos] l1 (hinv.nonl (pos + 4) (by omega) l1 (n0.trans n1))
    refine Post.ite (fun hnl => ?_) (fun hnl => ?_)
    · -- line terminator inside the block string
      have key := ih3 body[pos]
      have hlen : ∀ x, st.line + (blockLines ++ [x]).length = st.line + blockLines.length + 1 := by
        intro x; rw [List.length_append, List.length_singleton, Nat.add_assoc]
      by_cases hcrlf : body[pos] = 13 ∧ charAt body (pos + 1) = some 10
      · simp only [dif_pos hcrlf, if_pos hcrlf, hlen] at key ⊢
        exact key (charAt_some_lt hcrlf.2) (hinv.crlf (by rw [hget, hcrlf.1]) hcrlf.2)
      · simp only [dif_neg hcrlf, if_neg hcrlf, hlen] at key ⊢
        exact key hlt (hinv.newline hlt hnl.symm hcrlf)
    · have hc : body[pos] ≠ 10 ∧ body[pos] ≠ 13 := ⟨fun e => hnl (Or.inr e), fun e => hnl (Or.inl e)⟩
      refine Post.ite (fun _ => ih2 hlt (hinv.plain hlt hc))
        (fun _ => Post.ite (fun hs => ?_) (fun _ => trivial))
      obtain ⟨_, h2, _, l2⟩ := isSupplementary_spec body pos hs
      exact ih1 h2 ((hinv.plain hlt hc).plain h2 (trail_not_nl _ l2))
  · trivial

theorem lead_not_nl (c : Nat) (h : isLeadSurrogate c = true) : c ≠ 10 ∧ c ≠ 13 := by
  unfold isLeadSurrogate at h
  constructor <;> (intro e; subst e; simp at h)

theorem readBlockString_line (body : List Nat) (st : LexState) (start : Nat)
    (h0 : charAt body start = some 34) (h1 : slice body (start + 1) (start + 3) = [34, 34])
    (h : LineAt body st start) : Post (NextLine body) (readBlockString body st start) := by
  obtain ⟨l0, n0⟩ := charAt_eq_nonl body start 34 h0 (by decide)
  obtain ⟨l1, n1⟩ := slice_eq_nonl h1 (by simp) (by omega) (by decide)
  refine ((readBlockString_post body st start).and (readBlockStringLoop_line body st start (start + 3)
    (start + 3) st.lineStart [] [] l1 (h.nonl (start + 3) (by omega) l1 (n0.trans n1)))).mono fun r hr => ?_
  exact ⟨lineCol_of_inv h (Nat.le_of_lt l0) hr.1.1, hr.2, hr.1.1.le_length⟩

/-- Skipping keeps the line state in step with the prefix scan. -/
theorem Skip.lineAt {body : List Nat} {st st' : LexState} {pos pos' : Nat}
    (hs : Skip body st pos st' pos') (h : LineAt body st pos) : LineAt body st' pos' := by
  induction hs with
  | refl => exact h
  | blank hl hc _ ih => exact ih (h.plain hl (by unfold SkipChar at hc; omega))
  | lf hl hc _ ih => exact ih (h.newline hl (.inl hc) (fun x => by omega))
  | crlf hl hc hn _ ih => exact ih (h.crlf (by rw [List.getElem?_eq_getElem hl, hc]) hn)
  | cr hl hc hn _ ih => exact ih (h.newline hl (.inr hc) (fun x => hn x.2))

theorem readNextToken_line (body : List Nat) (st : LexState) (pos : Nat) (hp : pos ≤ body.length)
    (h : LineAt body st pos) : Post (NextLine body) (readNextToken body st pos) := by
  obtain ⟨st', p, hs, ⟨hl, _, h10, h13, e⟩ | ⟨hl, e⟩⟩ :=
    readNextToken_skip_dispatch body _ st pos (Nat.le_refl _)
  all_goals have h' := hs.lineAt h
  · rw [e]
    have hget : charAt body p = some body[p] := List.getElem?_eq_getElem hl
    by_cases hb : body[p] = 34 ∧ slice body (p + 1) (p + 3) = [34, 34]
    · rw [hb.1, tokenAt_block body st' p hb.2]
      exact readBlockString_line body st' p (by rw [← hb.1]; exact hget) hb.2 h'
    · refine (tokenAt_line body st' p _ hget hb).mono fun r hr => ?_
      obtain ⟨t, s⟩ := r
      obtain rfl : s = st' := hr.2.2
      exact ⟨lineCol_of_inv h' (Nat.le_of_lt hl) hr.1,
        h'.nonl _ (Nat.le_of_lt hr.1.nonempty) hr.1.le_length (hr.2.1.cons hl ⟨h10, h13⟩), hr.1.le_length⟩
  · rw [e]
    obtain rfl : p = body.length := Nat.le_antisymm (hs.le_length hp) hl
    exact ⟨h'.lineCol (Nat.le_refl _), h', Nat.le_refl _⟩

theorem LexRun.line {body : List Nat} {fuel : Nat} {st : LexState} {pos : Nat} {ts : List Token}
    (hrun : LexRun body fuel st pos ts) (hp : pos ≤ body.length) (h : LineAt body st pos) :
    ∀ t ∈ ts, (t.line, t.column) = lineCol body t.start := by
  induction hrun with
  | eof hr _ =>
    obtain ⟨h1, _⟩ := (readNextToken_line body _ _ hp h).of_ok hr
    intro t ht; cases List.mem_singleton.mp ht; exact h1
  | comment hr _ _ _ ih =>
    obtain ⟨_, h2, h3⟩ := (readNextToken_line body _ _ hp h).of_ok hr
    exact ih h3 h2
  | token hr _ _ _ ih =>
    obtain ⟨h1, h2, h3⟩ := (readNextToken_line body _ _ hp h).of_ok hr
    intro t ht
    rcases List.mem_cons.mp ht with rfl | ht
    · exact h1
    · exact ih h3 h2 t ht

/-- C10-2. Every token the lexer returns carries the true line and column of its start. -/
theorem lexAll_line (body : List Nat) (ts : List Token) (h : lexAll body = .ok ts) :
    ∀ t ∈ ts, (t.line, t.column) = lineCol body t.start := by
  refine (lexAll_run h).line (Nat.zero_le _) ⟨?_, fun ⟨h0, _⟩ => Nat.lt_irrefl 0 h0⟩
  constructor <;> simp [pre, scan]

end Gql.Text
