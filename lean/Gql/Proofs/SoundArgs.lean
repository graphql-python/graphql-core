import Gql.Exec.ValidDoc
import Gql.Exec.Shape
import Gql.Proofs.SpecFacts
import Gql.Proofs.Util.Assoc

/-!
C13 — statically valid arguments always coerce (CoerceArgumentValues succeeds), with variables:
under the postcondition of CoerceVariableValues (`VarsOk`), the law `OpsSoundV` of the value
layer, and when the run-time exception of the specification does not apply at the argument
(`excArgs = false`).
-/

namespace Gql.Exec.Valid
open Gql.Exec Gql.Exec.Refine

/-- What CoerceVariableValues guarantees about the variable values it hands to execution: a
variable whose declared type is Non-Null, or that has a default value, has a runtime value. -/
def VarsOk (env : List VarDef) (vars : Vars) : Prop :=
  ∀ vd ∈ env, (vd.type.nonNull = true ∨ vd.default.isSome = true) →
    (vars.lookup vd.name).isSome = true

mutual
/-- a coerced value is of the input type `t` (what CoerceVariableValues produces for a variable
declared with type `t`) -/
def pyConforms (s : Schema) : TypeRef → PyVal → Prop
  | t, .null => t.nonNull = false
  | t, .list xs =>
    match t with
    | .list t' _ => pyConformsL s t' xs
    | .named _ _ => False
  | t, v =>
    match t with
    | .named n _ => s.kind n = .leaf ∨ s.kind n = .input
    | .list _ _ => (match v with | .list _ => True | _ => False)
def pyConformsL (s : Schema) (t : TypeRef) : List PyVal → Prop
  | [] => True
  | x :: xs => pyConforms s t x ∧ pyConformsL s t xs
end

def VarsTyped (s : Schema) (env : List VarDef) (vars : Vars) : Prop :=
  ∀ vd ∈ env, ∀ w, vars.lookup vd.name = some w → pyConforms s vd.type w

/-- What soundness needs from the value layer (C15), for the variable environment `env` and the
variable values `vars` of a request: when the variable values are of their declared types, a
value that passes the static check (ValuesOfCorrectType + VariablesInAllowedPosition) at a
position of type `t`, where the run-time exception does not apply, and that is not itself a
variable without runtime value (CoerceArgumentValues handles that case before coercing), is
coercible.  Missing variables *inside* list and object literals are the value layer's business
(list item → null, object field → absent/default). -/
def OpsSoundV (ops : Ops) (s : Schema) (env : List VarDef) (vars : Vars) : Prop :=
  VarsTyped s env vars →
  ∀ (t : TypeRef) (d : Bool) (v : Value), validValue s env t d v = true →
    excValue s env vars t v = false →
    (∀ x, v = .var x → (vars.lookup x).isSome = true) →
    ops.coerceLiteral s vars t v ≠ none

/-- `OpsSoundV` for closed literals, whatever the variable values -/
def OpsSound (ops : Ops) (s : Schema) : Prop :=
  ∀ (t : TypeRef) (d : Bool) (v : Value), validValue s [] t d v = true →
    ∀ vars : Vars, ops.coerceLiteral s vars t v ≠ none

/-- schema validity as far as arguments go: argument defaults are coercible -/
def DefaultsOk (ops : Ops) (s : Schema) : Prop :=
  ∀ (o f : Name) (fd : FieldDef), s.getField o f = some fd → ∀ a ∈ fd.args, ∀ d, a.default = some d →
    ops.coerceLiteral s [] a.type d ≠ none

theorem lookupArg_eq (args : List (Name × Value)) (n : Name) :
    lookupArg args n = args.reverse.lookup n :=
  (List.lookup_eq_find? _ n).symm

theorem lookupArg_mem {args : List (Name × Value)} {n : Name} {v : Value}
    (h : lookupArg args n = some v) : (n, v) ∈ args :=
  List.mem_reverse.1 (List.mem_of_lookup (lookupArg_eq .. ▸ h))

theorem lookupArg_of_contains {args : List (Name × Value)} {n : Name}
    (h : (args.map (·.1)).contains n = true) : ∃ v, lookupArg args n = some v :=
  Option.ne_none_iff_exists'.mp fun hn =>
    List.lookup_eq_none_iff_not_mem.mp (lookupArg_eq .. ▸ hn)
      (by rw [List.map_reverse]; exact List.mem_reverse.2 (List.contains_iff_mem.1 h))

theorem validValue_var_false (s : Schema) (t : TypeRef) (d : Bool) (x : Name) :
    validValue s [] t d (.var x) = false := by
  unfold validValue
  simp

section
variable {s : Schema} {env : List VarDef} {vars : Vars} {defs : List ArgDef}
  {args : List (Name × Value)} {a : ArgDef} {v : Value}

theorem validArgs_at (hv : validArgs s env defs args = true) (ha : a ∈ defs) :
    (∀ v, lookupArg args a.name = some v → validValue s env a.type a.default.isSome v = true) ∧
      (a.required = true → ∃ v, lookupArg args a.name = some v) := by
  simp only [validArgs, Bool.and_eq_true, List.all_eq_true, Bool.or_eq_true, bne_iff_ne] at hv
  exact ⟨fun v hl => ((hv.1.2 _ (lookupArg_mem hl)).2 a ha).resolve_left fun h => h rfl,
    fun hr => lookupArg_of_contains ((hv.2 a ha).resolve_left (by simp [hr]))⟩

theorem excArgs_given (he : excArgs s env vars defs args = false) (ha : a ∈ defs)
    (hl : lookupArg args a.name = some v) : excValue s env vars a.type v = false := by
  simp only [excArgs, List.any_eq_false, List.any_eq_true, Bool.and_eq_true, beq_iff_eq,
    not_exists, not_and, Bool.not_eq_true] at he
  exact he _ (lookupArg_mem hl) a ha rfl

/-- VariablesInAllowedPosition under the postcondition of CoerceVariableValues: a variable allowed
at a Non-Null position without default has a run-time value -/
theorem var_hasValue (hvok : VarsOk env vars) {t : TypeRef} {x : Name}
    (h : validValue s env t false (.var x) = true) (ht : t.nonNull = true) :
    (vars.lookup x).isSome = true := by
  unfold validValue at h
  cases hf : env.find? (fun vd => vd.name == x) with
  | none => simp [hf] at h
  | some vd =>
    rw [← show vd.name = x by simpa using List.find?_some hf]
    refine hvok vd (List.mem_of_find?_eq_some hf) ?_
    simp only [hf, allowedUsage, ht] at h
    cases hv : vd.type.nonNull with
    | true => exact .inl rfl
    | false => cases hd : vd.default <;> simp [hv, hd] at h ⊢

end

/-- a valid field selection on `S`: the meta field without sub-selections, or a field of `S` with
valid arguments whose sub-selections are empty at a leaf type and valid for the field's type
otherwise -/
theorem validSel_field {cx : VCtx} {S : Name} {alias : Option Name} {name : Name}
    {args : List (Name × Value)} {dirs : List Directive} {sels : List Selection}
    (h : validSel cx S (.field alias name args dirs sels) = true) :
    (name = "__typename" ∧ sels = []) ∨
    (name ≠ "__typename" ∧ ∃ fd, getFieldAny cx.schema S name = some fd ∧
      validArgs cx.schema cx.env fd.args args = true ∧
      (isLeaf cx.schema fd.type.baseName = true → sels = []) ∧
      (isLeaf cx.schema fd.type.baseName = false →
        sels ≠ [] ∧ validSels cx fd.type.baseName sels = true)) := by
  simp only [validSel, Bool.and_eq_true] at h
  have h2 := h.2
  by_cases hty : name = "__typename"
  · simp only [hty, beq_self_eq_true, ↓reduceIte, Bool.and_eq_true, List.isEmpty_iff] at h2
    exact .inl ⟨hty, h2.2⟩
  · simp only [beq_iff_eq, hty, ↓reduceIte] at h2
    cases hfa : getFieldAny cx.schema S name with
    | none => simp [hfa] at h2
    | some fd =>
      simp only [hfa, Bool.and_eq_true] at h2
      exact .inr ⟨hty, fd, rfl, h2.1, fun hl => by simpa [hl] using h2.2,
        fun hl => by simpa [hl] using h2.2⟩

variable (scx : Spec.Ctx) (env : List VarDef)

/-- one argument definition under valid arguments: the specification's verdict is a value or
"no entry", never a field error -/
theorem specHere_ne_none (hvok : VarsOk env scx.vars)
    (hops : ∀ (t : TypeRef) (d : Bool) (v : Value), validValue scx.schema env t d v = true →
      excValue scx.schema env scx.vars t v = false →
      (∀ x, v = .var x → (scx.vars.lookup x).isSome = true) →
      scx.ops.coerceLiteral scx.schema scx.vars t v ≠ none)
    (defs : List ArgDef) (args : List (Name × Value))
    (hv : validArgs scx.schema env defs args = true)
    (hexc : excArgs scx.schema env scx.vars defs args = false)
    (a : ArgDef) (ha : a ∈ defs)
    (hdef : ∀ d, a.default = some d → scx.ops.coerceLiteral scx.schema [] a.type d ≠ none) :
    specHere scx args a ≠ none := by
  cases hv' : hasValue scx.vars (lookupArg args a.name) with
  | true =>
    cases hl : lookupArg args a.name with
    | none => rw [hl] at hv'; cases hv'
    | some v =>
      rw [hl] at hv'
      rw [specHere_present hl hv']
      simpa using hops _ _ _ ((validArgs_at hv ha).1 v hl) (excArgs_given hexc ha hl)
        (fun x hx => by subst hx; simpa [hasValue] using hv')
  | false =>
    rw [specHere_absent hv']
    cases hd : a.default with
    | some d => simpa using hdef d hd
    | none =>
      cases hnn : a.type.nonNull with
      | false => simp
      | true =>
        -- a required argument is given, and a variable given for it has a run-time value
        obtain ⟨v, hl⟩ := (validArgs_at hv ha).2 (by simp [ArgDef.required, hnn, hd])
        rw [hl] at hv'
        obtain ⟨x, rfl, hx⟩ := hasValue_false hv'
        have := var_hasValue hvok (hd ▸ (validArgs_at hv ha).1 _ hl) hnn
        simp [hx] at this

theorem coerceArgumentValues_some {args : List (Name × Value)} : ∀ (defs : List ArgDef),
    (∀ a ∈ defs, specHere scx args a ≠ none) → ∀ acc, ∃ m,
      Spec.coerceArgumentValues scx args defs acc = some m
  | [], _, acc => ⟨acc, rfl⟩
  | a :: rest, h, acc => by
    rw [spec_coerce_cons]
    cases hs : specHere scx args a with
    | none => exact absurd hs (h a (List.mem_cons_self ..))
    | some o =>
      cases o <;> exact coerceArgumentValues_some rest (fun b hb => h b (List.mem_cons_of_mem _ hb)) _

theorem arguments_coerce (hvok : VarsOk env scx.vars)
    (hops : ∀ (t : TypeRef) (d : Bool) (v : Value), validValue scx.schema env t d v = true →
      excValue scx.schema env scx.vars t v = false →
      (∀ x, v = .var x → (scx.vars.lookup x).isSome = true) →
      scx.ops.coerceLiteral scx.schema scx.vars t v ≠ none)
    (defs : List ArgDef) (args : List (Name × Value))
    (hv : validArgs scx.schema env defs args = true)
    (hexc : excArgs scx.schema env scx.vars defs args = false)
    (hdef : ∀ a ∈ defs, ∀ d, a.default = some d → scx.ops.coerceLiteral scx.schema [] a.type d ≠ none) :
    ∃ m, Spec.coerceArgumentValues scx args defs [] = some m :=
  coerceArgumentValues_some scx defs
    (fun a ha => specHere_ne_none scx env hvok hops defs args hv hexc a ha (hdef a ha)) []

mutual
theorem excValue_nil (s : Schema) (vars : Vars) : (v : Value) → ∀ t, excValue s [] vars t v = false
  | .var x, t => by simp [excValue]
  | .int _, t => by cases t <;> simp [excValue]
  | .flt _, t => by cases t <;> simp [excValue]
  | .str _, t => by cases t <;> simp [excValue]
  | .bool _, t => by cases t <;> simp [excValue]
  | .null, t => by cases t <;> simp [excValue]
  | .enum _, t => by cases t <;> simp [excValue]
  | .list vs, t => by
    cases t with
    | named n nn => simp [excValue]
    | list t' nn => simp only [excValue]; exact excItems_nil s vars vs t'
  | .obj fs, t => by
    unfold excValue
    split
    · exact excFields_nil s vars fs _
    · rfl
theorem excItems_nil (s : Schema) (vars : Vars) : (vs : List Value) → ∀ t, excItems s [] vars t vs = false
  | [], t => by simp [excItems]
  | v :: vs, t => by simp [excItems, excValue_nil s vars v t, excItems_nil s vars vs t]
theorem excFields_nil (s : Schema) (vars : Vars) : (fs : List (Name × Value)) → ∀ defs,
    excFields s [] vars defs fs = false
  | [], defs => by simp [excFields]
  | (n, v) :: fs, defs => by
    unfold excFields
    rw [excFields_nil s vars fs defs]
    cases defs.find? (fun d => d.name == n) with
    | none => rfl
    | some d => simp [excValue_nil s vars v d.type]
end

theorem excArgs_nil (s : Schema) (vars : Vars) (defs : List ArgDef) (args : List (Name × Value)) :
    excArgs s [] vars defs args = false := by
  unfold excArgs
  simp [excValue_nil]

theorem excDirs_nil (s : Schema) (vars : Vars) (dirs : List Directive) :
    excDirs s [] vars dirs = false := by
  simp [excDirs, excArgs_nil]

mutual
theorem excSel_nil (s : Schema) (vars : Vars) : (sel : Selection) → ∀ parent,
    excSel s [] vars parent sel = false
  | .field _ name args dirs sels, parent => by
    simp only [excSel, excDirs_nil, Bool.false_or]
    cases getFieldAny s parent name with
    | none => rfl
    | some fd => simp [excArgs_nil, excSels_nil s vars sels]
  | .inline cond dirs sels, parent => by simp [excSel, excDirs_nil, excSels_nil s vars sels]
  | .spread _ dirs, parent => by simp [excSel, excDirs_nil]
theorem excSels_nil (s : Schema) (vars : Vars) : (sels : List Selection) → ∀ parent,
    excSels s [] vars parent sels = false
  | [], _ => by simp [excSels]
  | sel :: rest, parent => by simp [excSels, excSel_nil s vars sel, excSels_nil s vars rest]
end

theorem mayHitNullViaDefault_nil (s : Schema) (doc : Doc) (op : Operation) (vars : Vars)
    (h : op.vars = []) : mayHitNullViaDefault s doc op vars = false := by
  unfold mayHitNullViaDefault
  rw [h]
  cases rootTypeOf s op.kind with
  | none => rfl
  | some root =>
    simp only [excSels_nil, Bool.false_or, List.any_eq_false]
    intro n _
    cases doc.frag n <;> simp

end Gql.Exec.Valid
