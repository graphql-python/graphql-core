import Gql.Proofs.LexerBlock
import Gql.Proofs.BlockForced2
import Gql.Proofs.C09Pairs
import Gql.Proofs.TokenStable
/-!
C08, converse direction (`parse_wf`), lexer inversion for STRING / BLOCK_STRING tokens: the value is
a sequence of Unicode scalar values and leading+trailing surrogate pairs (`Paired`), and every
surrogate in it stands verbatim in the source text (the lexer accepts a leading surrogate
immediately followed by a trailing one as one SourceCharacter; escapes always decode to scalar
values).
-/
namespace Gql.Text
open Gql Gql.Spec.Lex Gql.Text.Pairs

def isSurr (c : Nat) : Bool := 0xD800 ≤ c && c ≤ 0xDFFF

/-- A code point a string value read from `body` can hold: a Unicode scalar value, or a surrogate
copied verbatim from `body`. -/
def ChOk (body : List Nat) (c : Nat) : Prop := isScalar c = true ∨ (isSurr c = true ∧ c ∈ body)

theorem ChOk.scalar {body : List Nat} {c : Nat} (h : Scalar c) : ChOk body c :=
  Or.inl ((isScalar_iff c).2 h)

theorem ChOk.isScalar {body : List Nat} {c : Nat} (hb : ∀ x ∈ body, isSurr x = false) (h : ChOk body c) :
    isScalar c = true := by
  rcases h with h | ⟨hs, hm⟩
  · exact h
  · rw [hb c hm] at hs; cases hs

/-- What a string value read from `body` is made of. -/
def StrOk (body v : List Nat) : Prop := Paired v ∧ ∀ c ∈ v, ChOk body c

theorem StrOk.nil {body : List Nat} : StrOk body [] := ⟨Paired.nil, fun _ h => nomatch h⟩

theorem StrOk.scalar {body : List Nat} {c : Nat} (h : Scalar c) : StrOk body [c] :=
  ⟨Paired.cons_scalar ((isScalar_iff c).mpr h) Paired.nil,
    fun x hx => List.eq_of_mem_singleton hx ▸ ChOk.scalar h⟩

theorem StrOk.append {body X Y : List Nat} (hX : StrOk body X) (hY : StrOk body Y) : StrOk body (X ++ Y) :=
  ⟨hX.1.append hY.1, fun c hc => (List.mem_append.mp hc).elim (hX.2 c) (hY.2 c)⟩

/-- A surrogate of a paired text that comes from `body` stands verbatim in it. -/
theorem StrOk.of_paired {body v : List Nat} (hp : Paired v) (h : ∀ c ∈ v, c ∈ body ∨ isScalar c = true) :
    StrOk body v := by
  refine ⟨hp, ?_⟩
  revert h
  refine Paired.induct (fun _ _ hc => nomatch hc) (fun c r hc _ ih h x hx => ?_) (fun a b r ha hb _ ih h x hx => ?_) hp
  · exact (List.mem_cons.mp hx).elim (· ▸ .inl hc) (ih (fun y hy => h y (by simp [hy])) x)
  · have hs : x = a ∨ x = b → isSurr x = true := by
      simp only [isLeadSurrogate, isTrailSurrogate, Bool.and_eq_true, decide_eq_true_eq] at ha hb
      rintro (rfl | rfl) <;> simp [isSurr] <;> omega
    simp only [List.mem_cons] at hx
    rcases hx with hx | hx | hx
    · exact (h x (by simp [hx])).symm.imp_right fun hm => ⟨hs (.inl hx), hm⟩
    · exact (h x (by simp [hx])).symm.imp_right fun hm => ⟨hs (.inr hx), hm⟩
    · exact ih (fun y hy => h y (by simp [hy])) x hx

theorem escapedCharacter?_scalar {d v : Nat} (h : escapedCharacter? d = some v) : Scalar v := by
  have hv : v ≤ 92 := by
    unfold escapedCharacter? at h
    repeat (rcases ite_some_inv h with ⟨-, rfl⟩ | ⟨-, h⟩; · decide)
    cases h
  exact Or.inl (by omega)

theorem escapedUnicodeBraced?_scalar {r : List Nat} {n : Nat} {v : List Nat}
    (h : escapedUnicodeBraced? r = some (n, v)) : ∃ x, v = [x] ∧ Scalar x := by
  unfold escapedUnicodeBraced? at h
  simp only at h
  split at h
  · rename_i hc
    cases h
    exact ⟨_, rfl, hc.2.2.2⟩
  · cases h

theorem escapedUnicodeFixed?_scalar {r : List Nat} {n : Nat} {v : List Nat}
    (h : escapedUnicodeFixed? r = some (n, v)) : ∃ x, v = [x] ∧ Scalar x := by
  rcases escapedUnicodeFixed?_iff.1 h with ⟨code, _, hs, _, rfl⟩ | ⟨code, trail, _, _, hl, _, ht, _, rfl⟩
  · exact ⟨_, rfl, hs⟩
  · refine ⟨_, rfl, ?_⟩
    have hl1 := hl.1
    unfold LeadSurrogate at hl1
    unfold TrailSurrogate at ht
    unfold Scalar
    omega

theorem stringCharacter?_strOk (body : List Nat) {s : List Nat} {n : Nat} {v : List Nat}
    (hsub : ∀ c ∈ s, c ∈ body) (h : stringCharacter? s = some (n, v)) : StrOk body v := by
  -- an escape decodes to a scalar value; a source character is copied
  cases stringCharacter?_iff.1 h with
  | braced hb => obtain ⟨x, rfl, hx⟩ := escapedUnicodeBraced?_scalar hb; exact .scalar hx
  | fixed _ hf => obtain ⟨x, rfl, hx⟩ := escapedUnicodeFixed?_scalar hf; exact .scalar hx
  | simple _ he => exact .scalar (escapedCharacter?_scalar he)
  | source _ _ _ hk =>
    exact .of_paired (sourceCharLen_paired hk) fun x hx => .inl (hsub x (List.mem_of_mem_take hx))

theorem stringRest_strOk (body : List Nat) (fuel : Nat) (s : List Nat) (n : Nat) (v : List Nat)
    (hsub : ∀ c ∈ s, c ∈ body) (h : stringRest fuel s = some (n, v)) : StrOk body v :=
  stringRest_induct (P := fun s _ v => (∀ c ∈ s, c ∈ body) → StrOk body v) (fun _ _ _ => .nil)
    (fun _ _ _ _ _ _ hc ih hsub =>
      (stringCharacter?_strOk body hsub hc).append (ih fun c hc => hsub c (List.mem_of_mem_drop hc)))
    fuel s n v h hsub

/-- **STRING tokens**: the value of the token `read_string` returns consists of scalar values and
surrogate pairs standing verbatim in the text. -/
theorem readString_strOk (body : List Nat) (st : LexState) (pos : Nat) (hlt : pos < body.length)
    (hq : body[pos] = 34) (htr : slice body (pos + 1) (pos + 3) ≠ [34, 34]) :
    Post (fun t => t.kind = .string ∧ ∃ s, t.value = some s ∧ StrOk body s)
      (readString body st pos) := by
  have hag := stringClassOK body st pos hlt hq htr
  have hpost := readString_post body st pos
  cases hr : readString body st pos with
  | ok t =>
    rw [hr] at hag hpost
    obtain ⟨mm, hm, hspec, _, _, _⟩ := hag
    have hv : t.value = mm.value := by simpa [toSpec] using congrArg SpecToken.value hspec
    rw [List.drop_eq_getElem_cons hlt, hq] at hm
    obtain ⟨_, n, v, hsr, rfl⟩ := (string?_some _ mm).1 hm
    exact ⟨hpost.2, v, hv, stringRest_strOk body _ _ n v (fun c hc => List.mem_of_mem_drop hc) hsr⟩
  | err e => trivial
  | crash c => rw [hr] at hpost; exact hpost.elim

/-- **BLOCK_STRING tokens**: the value is block-representable and consists of scalar values and
surrogate pairs standing verbatim in the text. -/
theorem readBlockString_strOk (body : List Nat) (st : LexState) (pos : Nat) (hlt : pos < body.length)
    (hq : body[pos] = 34) (htr : slice body (pos + 1) (pos + 3) = [34, 34]) :
    Post (fun r => r.1.kind = .blockString ∧
        ∃ s, r.1.value = some s ∧ StrOk body s ∧ BlockRepresentable s)
      (readBlockString body st pos) := by
  have hag := blockClassOK body st pos hlt hq htr
  have hpost := readBlockString_post body st pos
  cases hr : readBlockString body st pos with
  | ok r =>
    rw [hr] at hag hpost
    obtain ⟨mm, hm, hspec, _, _, _⟩ := hag
    obtain ⟨v, hv, hrep, hmem, hp⟩ := blockString?_value hm
    have hvm : r.1.value = mm.value := by simpa [toSpec] using congrArg SpecToken.value hspec
    refine ⟨hpost.2, v, hvm.trans hv, .of_paired hp fun c hc => ?_, hrep⟩
    rcases hmem c hc with h | rfl | rfl
    · exact .inl (List.mem_of_mem_drop h)
    · exact .inr (by decide)
    · exact .inr (by decide)
  | err e => trivial
  | crash c => rw [hr] at hpost; exact hpost.elim

end Gql.Text
