import Gql.Proofs.TokenLex
import Gql.Proofs.NumberGrammar
/-!
What may follow a name, a number or a string in printed text (`Safe`), and what that gives the
grammar's look-aheads; the first code point of an `IntValue` / `FloatValue` text.
-/
namespace Gql.Text

/-- What may follow a name, a number or a string in printed text: not a name character (letters,
digits, `_`), not `.`, not `"`. -/
def safeHead (c : Nat) : Bool := !isNameContinue c && c != 46 && c != 34

def Safe (rest : List Nat) : Prop := ∀ c, rest.head? = some c → safeHead c = true

theorem safeHead_iff (c : Nat) : safeHead c = true ↔ (isNameContinue c = false ∧ c ≠ 46) ∧ c ≠ 34 := by
  simp [safeHead]

theorem Safe.nil : Safe [] := by intro c h; simp at h

theorem Safe.cons {c : Nat} {r : List Nat} (h : safeHead c = true) : Safe (c :: r) := by
  intro d hd; simp at hd; subst hd; exact h

theorem isNameStart_continue {c : Nat} (h : isNameStart c = true) : isNameContinue c = true := by
  simp only [isNameStart, isNameContinue, Bool.or_eq_true] at h ⊢
  rcases h with h | h
  · exact Or.inl (Or.inl h)
  · exact Or.inr h

open Gql.Spec.Lex

theorem Safe.not_nameContinue {rest : List Nat} (hs : Safe rest) : HeadAll (fun d => ¬ NameContinue d) rest := by
  cases rest with
  | nil => trivial
  | cons c r =>
    exact fun h => by simpa [(isNameContinue_iff c).mpr h] using ((safeHead_iff c).mp (hs c rfl)).1.1

theorem safe_lookahead {rest : List Nat} (hs : Safe rest) : numberLookaheadOk rest = true := by
  cases rest with
  | nil => rfl
  | cons c r =>
    have hnc : ¬ NameContinue c := hs.not_nameContinue
    have hd : ¬ Digit c := fun h => hnc (.inr (.inl h))
    have hns : ¬ NameStart c := fun h => hnc (h.elim .inl fun e => .inr (.inr e))
    simp [numberLookaheadOk, hd, ((safeHead_iff c).mp (hs c rfl)).1.2, hns]

theorem isNum_head {fl : Bool} {s : List Nat} (hn : IsNum fl s) :
    ∃ c r, s = c :: r ∧ (isDigit c = true ∨ c = 45) := by
  obtain ⟨⟨sign, ip, fr, ex⟩, ⟨hsign, hip, hfr, hex⟩, rfl, hfl⟩ := hn
  clear hfr hex hfl
  dsimp only at hsign hip
  rcases hsign with rfl | rfl
  · unfold intPartOK at hip
    split at hip
    · exact ⟨48, _, rfl, Or.inl (by decide)⟩
    · next c r _ =>
      simp only [Bool.and_eq_true, decide_eq_true_eq] at hip
      exact ⟨c, _, rfl, Or.inl (by simp [isDigit]; omega)⟩
    · cases hip
  · exact ⟨45, _, rfl, Or.inr rfl⟩

end Gql.Text
