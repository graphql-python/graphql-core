import Gql.Proofs.ValidationParallel
/-!
Lemmas for C12-2: the list `errsTrav` that the unlimited run appends to `errors` (`par_run`) contains, for
every member, what that member's own independent evolution (`Member.trav`) reports — as a subsequence, in
order — and is as a multiset the union of these.  And `validate_sdl()`: a visitor used without
`TypeInfoVisitor` runs as under a `TypeInfoVisitor` whose TypeInfo never changes.
-/
namespace Gql.Validation
variable {τ σ ε : Type}

theorem trav_errs (D : Driver τ) :
    (∀ t (ti : TI τ) (m : Member τ σ ε), (Member.trav D ti m t).errs = m.errs ++ errsTrav D ti [m] t) ∧
    (∀ ts (ti : TI τ) (m : Member τ σ ε), (Member.travList D ti m ts).errs = m.errs ++ errsTravList D ti [m] ts) := by
  apply Tree.induct
  · intro i cs ih ti m
    rw [Member.trav, errsTrav]
    simp only [List.map_cons, List.map_nil, List.flatMap_cons, List.flatMap_nil, List.append_nil]
    rw [Member.leave_errs, ih, Member.enter_errs]
    simp [List.append_assoc]
  · intro ti m; simp [Member.travList, errsTravList]
  · intro t ts iht ihts ti m
    rw [Member.travList, errsTravList]
    simp only [List.map_cons, List.map_nil]
    rw [ihts, iht]
    simp [List.append_assoc]

theorem errsTrav_sublist (D : Driver τ) :
    (∀ t (ti : TI τ) (ms : List (Member τ σ ε)) (m : Member τ σ ε), m ∈ ms → (errsTrav D ti [m] t).Sublist (errsTrav D ti ms t)) ∧
    (∀ ts (ti : TI τ) (ms : List (Member τ σ ε)) (m : Member τ σ ε), m ∈ ms → (errsTravList D ti [m] ts).Sublist (errsTravList D ti ms ts)) := by
  apply Tree.induct
  · intro i cs ih ti ms m hm
    rw [errsTrav, errsTrav]
    simp only [List.map_cons, List.map_nil, List.flatMap_cons, List.flatMap_nil, List.append_nil]
    apply List.Sublist.append
    · apply List.Sublist.append
      · exact List.sublist_flatten_of_mem
          (List.mem_map_of_mem (f := fun m => (Member.enter (D.enter ti i) i m).2) hm)
      · exact ih _ _ _ (List.mem_map_of_mem hm)
    · exact List.sublist_flatten_of_mem (List.mem_map_of_mem
        (f := fun m => (Member.leave (tiTravList D (D.enter ti i) cs) i m).2)
        (List.mem_map_of_mem (List.mem_map_of_mem hm)))
  · intro ti ms m _; simp [errsTravList]
  · intro t ts iht ihts ti ms m hm
    rw [errsTravList, errsTravList]
    simp only [List.map_cons, List.map_nil]
    exact List.Sublist.append (iht _ _ _ hm) (ihts _ _ _ (List.mem_map_of_mem hm))

theorem perm_flatMap_append {α β : Type} (a b : α → List β) (ms : List α) :
    (ms.flatMap a ++ ms.flatMap b).Perm (ms.flatMap (fun m => a m ++ b m)) := by
  induction ms with
  | nil => simp
  | cons m ms ih =>
    simp only [List.flatMap_cons, List.append_assoc]
    refine List.Perm.append_left _ (List.Perm.trans ?_ (List.Perm.append_left _ ih))
    simp only [← List.append_assoc]
    exact List.Perm.append_right _ List.perm_append_comm

theorem errsTrav_perm (D : Driver τ) :
    (∀ t (ti : TI τ) (ms : List (Member τ σ ε)), (errsTrav D ti ms t).Perm (ms.flatMap (fun m => errsTrav D ti [m] t))) ∧
    (∀ ts (ti : TI τ) (ms : List (Member τ σ ε)), (errsTravList D ti ms ts).Perm (ms.flatMap (fun m => errsTravList D ti [m] ts))) := by
  apply Tree.induct
  · intro i cs ih ti ms
    simp only [errsTrav, List.map_cons, List.map_nil, List.flatMap_cons, List.flatMap_nil, List.append_nil]
    refine List.Perm.trans ?_ (perm_flatMap_append _ _ ms)
    refine List.Perm.append (List.Perm.trans ?_ (perm_flatMap_append _ _ ms)) ?_
    · refine List.Perm.append_left _ ((ih _ _).trans ?_)
      rw [List.flatMap_map]
    · rw [List.map_map, List.flatMap_map]; rfl
  · intro ti ms; simp [errsTravList]
  · intro t ts iht ihts ti ms
    simp only [errsTravList, List.map_cons, List.map_nil]
    refine List.Perm.trans (List.Perm.append (iht _ _) ((ihts _ _).trans ?_)) (perm_flatMap_append _ _ ms)
    rw [List.flatMap_map]

theorem enterStep_plain {σ' : Type} (ti0 : TI τ) (v : V τ σ') (s : σ') (i : Info) :
    enterStep (tiVisitor idDriver v) (ti0, s) i =
      ((enterStep (plainVisitor ti0 v) s i).1, (ti0, (enterStep (plainVisitor ti0 v) s i).2)) := by
  rw [tiVisitor_enter]
  exact congrArg (fun x => (_, x, _)) (ite_self _)

theorem leaveRun_plain {σ' : Type} (ti0 : TI τ) (v : V τ σ') (i : Info) (s : σ') :
    leaveRun (tiVisitor idDriver v) i (ti0, s) =
      ((ti0, (leaveRun (plainVisitor ti0 v) i s).1), (leaveRun (plainVisitor ti0 v) i s).2) := by
  rw [tiVisitor_leave]
  rfl

theorem run0_plain {σ' : Type} (ti0 : TI τ) (v : V τ σ') :
    (∀ t (s : σ'), run0 (tiVisitor idDriver v) (ti0, s) t =
      ((ti0, (run0 (plainVisitor ti0 v) s t).1), (run0 (plainVisitor ti0 v) s t).2)) ∧
    (∀ ts (s : σ'), run0List (tiVisitor idDriver v) (ti0, s) ts =
      ((ti0, (run0List (plainVisitor ti0 v) s ts).1), (run0List (plainVisitor ti0 v) s ts).2)) := by
  apply Tree.induct
  · intro i cs ih s
    rw [run0_node, run0_node, enterStep_plain]
    generalize enterStep (plainVisitor ti0 v) s i = r
    obtain ⟨a, s1⟩ := r
    cases a with
    | brk => rfl
    | skip => rfl
    | idle =>
      dsimp only
      rw [ih s1]
      exact andThen_map (Prod.mk ti0) _ (leaveRun_plain ti0 v i)
  · intro s; simp [run0List]
  · intro t ts iht ihts s
    rw [run0List_cons, run0List_cons, iht s]
    exact andThen_map (Prod.mk ti0) _ ihts

theorem run_closed_plain (ti0 : TI τ) (rules : List (Rule τ σ ε × σ)) (doc : Tree) :
    run0 (plainVisitor ti0 (parallel none)) (PState.start rules) doc =
      (⟨(startMembers rules).map (fun m => Member.trav idDriver ti0 m doc),
        ⟨errsTrav idDriver ti0 (startMembers rules) doc, false⟩⟩, false) := by
  have h := run_closed idDriver ti0 rules doc
  rw [(run0_plain ti0 (parallel none)).1] at h
  exact Prod.ext (congrArg (fun x => x.1.2) h) (congrArg (fun x => x.2) h)

theorem validate_closed (tbl : TITable) (L : Lookups τ) (rules : List (Rule τ σ ε × σ)) (doc : Tree) :
    validate tbl L none rules doc =
      (errsTrav (realDriver tbl L) TI.init (startMembers rules) doc).map Reported.error :=
  validate_eq_cut tbl L none rules doc

theorem validate_single_sublist (tbl : TITable) (L : Lookups τ) (rules : List (Rule τ σ ε × σ)) (doc : Tree)
    (r : Rule τ σ ε × σ) (hr : r ∈ rules) :
    (validate tbl L none [r] doc).Sublist (validate tbl L none rules doc) := by
  rw [validate_closed, validate_closed]
  apply List.Sublist.map
  exact (errsTrav_sublist (realDriver tbl L)).1 doc TI.init (startMembers rules) (Member.start r.1 r.2)
    (List.mem_map_of_mem (f := fun r => Member.start r.1 r.2) hr)

theorem validateSdl_closed (ti0 : TI τ) (rules : List (Rule τ σ ε × σ)) (doc : Tree) :
    validateSdl ti0 rules doc = (errsTrav idDriver ti0 (startMembers rules) doc).map Reported.error := by
  simp [validateSdl, run_closed_plain, Sink.result]

theorem errsTrav_union (D : Driver τ) (ti : TI τ) (rules : List (Rule τ σ ε × σ)) (doc : Tree) :
    ((errsTrav D ti (startMembers rules) doc).map Reported.error).Perm
      (rules.flatMap (fun r => (errsTrav D ti (startMembers [r]) doc).map Reported.error)) := by
  refine (((errsTrav_perm D).1 doc ti (startMembers rules)).map _).trans ?_
  rw [startMembers, List.flatMap_map, List.map_flatMap]
  rfl

/-- A list zipped with its own image: a test that holds of every `(a, f a)` holds of every pair (the key tables of
C12-5 are built this way). -/
theorem all_zip_map_self {α β : Type} (l : List α) (f : α → β) (P : α × β → Bool) (h : ∀ a, P (a, f a) = true) :
    (l.zip (l.map f)).all P = true := by
  induction l with
  | nil => rfl
  | cons a l ih => simp [h a, ih]

end Gql.Validation
