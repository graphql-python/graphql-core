import Gql.Proofs.Publisher
/-!
The whole pipeline (`Sys`): clause P7 for every history, as an invariant (`OutShape`) carried
through `Sys.start` / `Sys.tick` / `Sys.run`.
-/
namespace Gql.Async
open Gql.Spec.Protocol

theorem handleEvent_hasNext (π : PubStatic) (p : Pub) (c : PCtx) (e : WQEvent) :
    (handleEvent π p c e).2.hasNext = (c.hasNext && !e.isTerm) := by
  cases e <;> simp [handleEvent, WQEvent.isTerm]
  all_goals (split <;> simp)

theorem handleBatch_fold_hasNext (π : PubStatic) (evs : List WQEvent) (p : Pub) (c : PCtx) :
    (handleEvents π p c evs).2.hasNext =
      (c.hasNext && !evs.any WQEvent.isTerm) := by
  induction evs generalizing p c with
  | nil => simp [handleEvents]
  | cons e evs ih =>
    simp only [handleEvents_cons, List.any_cons]
    rw [ih, handleEvent_hasNext]
    cases c.hasNext <;> cases e.isTerm <;> simp

theorem handleBatch_hasNext (π : PubStatic) (p : Pub) (evs : List WQEvent) :
    (handleBatch π p evs).2.hasNext = !evs.any WQEvent.isTerm := by
  exact (handleBatch_fold_hasNext π evs p {}).trans rfl

theorem publish_hasNext (π : PubStatic) (bs : List (List WQEvent)) (p : Pub) :
    (publish π p bs).2.map (·.hasNext) = bs.map (fun b => !b.any WQEvent.isTerm) := by
  induction bs generalizing p with
  | nil => simp [publish]
  | cons b bs ih =>
    simp only [publish, List.map_cons]
    rw [ih, handleBatch_hasNext]

theorem publish_append (π : PubStatic) (a b : List (List WQEvent)) (p : Pub) :
    publish π p (a ++ b) =
      ((publish π (publish π p a).1 b).1, (publish π p a).2 ++ (publish π (publish π p a).1 b).2) := by
  induction a generalizing p with
  | nil => simp [publish]
  | cons x a ih => simp [publish, ih]

theorem publish_allNext (π : PubStatic) (bs : List (List WQEvent)) (p : Pub) (h : AllNoTerm bs) :
    ∀ pl ∈ (publish π p bs).2, pl.hasNext = true := by
  refine (List.forall_mem_map (f := Payload.hasNext) (P := (· = true))).mp ?_
  rw [publish_hasNext, List.forall_mem_map]
  exact fun b hb => by simpa [NoTerm] using h b hb

/-- Every payload so far has `hasNext = true`, or the queue is stopped and exactly the last
payload has `hasNext = false`. -/
def OutShape (stopped : Bool) (out : List Payload) : Prop :=
  (∀ p ∈ out, p.hasNext = true) ∨
  (stopped = true ∧ ∃ pre last, out = pre ++ [last] ∧ (∀ p ∈ pre, p.hasNext = true) ∧
    last.hasNext = false)

theorem outShape_extend (π : PubStatic) (p : Pub) (stopped0 stopped1 : Bool) (out : List Payload)
    (new : List (List WQEvent)) (h0 : OutShape stopped0 out)
    (hshape : SettleShape stopped1 new)
    (hstop : stopped0 = true → new = [] ∧ stopped1 = true) :
    OutShape stopped1 (out ++ (publish π p new).2) := by
  rcases h0 with h0 | ⟨hs, pre, last, e1, e2, e3⟩
  · rcases hshape with hn | ⟨hst, pre', last', lp, rfl, e2, rfl, e4⟩
    · exact Or.inl (List.forall_mem_append.mpr ⟨h0, publish_allNext π new p hn⟩)
    · refine Or.inr ⟨hst, out ++ (publish π p pre').2, (handleBatch π (publish π p pre').1 (lp ++ [.termination])).2, ?_,
        List.forall_mem_append.mpr ⟨h0, publish_allNext π pre' p e2⟩, ?_⟩
      · rw [publish_append]; simp [publish]
      · rw [handleBatch_hasNext]; simp [WQEvent.isTerm]
  · obtain ⟨rfl, hst⟩ := hstop hs
    exact Or.inr ⟨hst, pre, last, by simp [publish, e1], e2, e3⟩

/-- One run of `settle` from `q`, its batches published after `out`. -/
theorem settle_outShape (σ : Static) (π : PubStatic) (fuel : Nat) (p : Pub) (q : WQ) (out : List Payload)
    (h : OutShape q.stopped out) :
    OutShape (settle σ fuel fuel q []).1.stopped (out ++ (publish π p (settle σ fuel fuel q []).2).2) := by
  obtain ⟨h2, h3⟩ := settle_spec σ fuel fuel q [] (Or.inl nofun)
  exact outShape_extend π p _ _ out _ h h2 h3

theorem start_outShape (σ : Static) (π : PubStatic) (fuel : Nat) (work : Option Work) :
    OutShape (Sys.start σ π fuel work).1.wq.stopped (Sys.start σ π fuel work).1.out := by
  unfold Sys.start
  exact settle_outShape σ π fuel _ _ [_] (Or.inl fun p hp => List.mem_singleton.mp hp ▸ rfl)

theorem tick_outShape (σ : Static) (π : PubStatic) (fuel : Nat) (s : Sys) (t : Tick)
    (h : OutShape s.wq.stopped s.out) :
    OutShape (Sys.tick σ π fuel s t).1.wq.stopped (Sys.tick σ π fuel s t).1.out := by
  unfold Sys.tick
  exact settle_outShape σ π fuel s.pub _ s.out ((foldl_push_stopped s.wq t).symm ▸ h)

theorem run_outShape (σ : Static) (π : PubStatic) (fuel : Nat) (h : List Tick) (s : Sys)
    (hs : OutShape s.wq.stopped s.out) :
    OutShape (Sys.run σ π fuel s h).wq.stopped (Sys.run σ π fuel s h).out := by
  induction h generalizing s with
  | nil => exact hs
  | cons t r ih => exact ih _ (tick_outShape σ π fuel s t hs)

theorem hasNextOk_iff (ps : List Payload) : HasNextOk ps ↔ ∀ p ∈ ps.dropLast, p.hasNext = true := by
  induction ps with
  | nil => simp [HasNextOk]
  | cons a l ih =>
    cases l with
    | nil => simp [HasNextOk]
    | cons b r => simp [HasNextOk, ih]

theorem outShape_hasNextOk (st : Bool) (out : List Payload) (h : OutShape st out) : HasNextOk out := by
  rw [hasNextOk_iff]
  rcases h with h | ⟨_, pre, last, rfl, e2, _⟩
  · exact fun p hp => h p (List.dropLast_subset _ hp)
  · rwa [List.dropLast_concat]

end Gql.Async
