import Gql.Text.Lexer
import Gql.Text.BlockRepr
import Gql.Spec.Lex
/-!
`dedent_block_string_lines` without indices.  The implementation finds `common_indent` and the
first and the last non-blank line in one pass and then slices twice; `dedent_eq_trim` shows that
this is `trim (a :: t.map (cut (cmin none t)))`: cut the least indentation of the non-blank lines
after the first off those lines, then drop the blank lines at both ends.  What the round trip,
re-indentation and forcedness need to know about dedentation is derived from that form.
-/
namespace Gql.Text
open Gql.Spec.Lex (isBlank minOpt WhiteSpace)

theorem lws_le (x : List Nat) : leadingWhiteSpace x ≤ x.length := by
  induction x with
  | nil => simp [leadingWhiteSpace]
  | cons c r ih => simp only [leadingWhiteSpace]; split <;> simp <;> omega

def Blank (x : List Nat) : Prop := leadingWhiteSpace x = x.length

instance : DecidablePred Blank := fun x => by unfold Blank; exact inferInstance

theorem blank_nil : Blank [] := rfl

theorem blank_cons (c : Nat) (r : List Nat) : Blank (c :: r) ↔ (c = 32 ∨ c = 9) ∧ Blank r := by
  unfold Blank
  simp only [leadingWhiteSpace, List.length_cons]
  have := lws_le r
  by_cases h : c = 32 ∨ c = 9
  · rw [if_pos h]; simp [h]
  · rw [if_neg h]; simp [h]

theorem isBlank_iff (x : List Nat) : isBlank x = true ↔ Blank x := by
  induction x with
  | nil => simp [isBlank, Blank, leadingWhiteSpace]
  | cons c r ih =>
    rw [blank_cons, ← ih]
    have hw : decide (WhiteSpace c) = true ↔ (c = 32 ∨ c = 9) := by
      rw [decide_eq_true_iff]; unfold WhiteSpace; omega
    simp only [isBlank, List.all_cons, Bool.and_eq_true, hw]

theorem lws_drop (x : List Nat) : ∀ c, c ≤ leadingWhiteSpace x →
    leadingWhiteSpace (x.drop c) = leadingWhiteSpace x - c := by
  induction x with
  | nil => intro c _; simp [leadingWhiteSpace]
  | cons a r ih =>
    intro c hc
    cases c with
    | zero => simp
    | succ c =>
      simp only [leadingWhiteSpace] at hc ⊢
      by_cases ha : a = 32 ∨ a = 9
      · rw [if_pos ha] at hc ⊢
        rw [List.drop_succ_cons, ih c (by omega)]; omega
      · rw [if_neg ha] at hc; omega

theorem blank_drop_iff {x : List Nat} {c : Nat} (hc : c ≤ leadingWhiteSpace x) :
    Blank (x.drop c) ↔ Blank x := by
  unfold Blank
  rw [lws_drop x c hc, List.length_drop]
  have := lws_le x
  omega

theorem blank_drop (x : List Nat) (c : Nat) (h : Blank x) : Blank (x.drop c) := by
  rcases Nat.le_total c (leadingWhiteSpace x) with hc | hc
  · exact (blank_drop_iff hc).mpr h
  · rw [List.drop_eq_nil_of_le (h ▸ hc)]; rfl

theorem lws_pad (k : Nat) (x : List Nat) :
    leadingWhiteSpace (List.replicate k 32 ++ x) = k + leadingWhiteSpace x := by
  induction k with
  | zero => simp
  | succ k ih => simp [List.replicate_succ, leadingWhiteSpace, ih]; omega

theorem blank_pad (k : Nat) (x : List Nat) : Blank (List.replicate k 32 ++ x) ↔ Blank x := by
  unfold Blank; rw [lws_pad]; simp

def Unindented (x : List Nat) : Prop := ¬ Blank x ∧ leadingWhiteSpace x = 0

theorem startsUnindented_iff (x : List Nat) : startsUnindented x = true ↔ Unindented x := by
  cases x with
  | nil => simp [startsUnindented, Unindented, Blank, leadingWhiteSpace]
  | cons c r =>
    by_cases hc : c = 32 ∨ c = 9
    · have : leadingWhiteSpace (c :: r) = leadingWhiteSpace r + 1 := by simp [leadingWhiteSpace, hc]
      rcases hc with h | h <;> subst h <;> simp [startsUnindented, Unindented, Blank, this]
    · have : leadingWhiteSpace (c :: r) = 0 := by simp [leadingWhiteSpace, hc]
      simp only [not_or] at hc
      simp [startsUnindented, Unindented, Blank, this, hc.1, hc.2]

/-- `BlockRepresentable` by lines: the value is empty, or it has no CR, its first and its last line
are not blank, and it is one line or has a line that is not indented. -/
theorem blockRepresentable_iff (v : List Nat) : BlockRepresentable v ↔ v = [] ∨
    ((∀ c ∈ v, c ≠ 13) ∧ ∃ d0 dl, (splitLF v).head? = some d0 ∧ (splitLF v).getLast? = some dl ∧
      ¬ Blank d0 ∧ ¬ Blank dl ∧ ((splitLF v).length = 1 ∨ ∃ x ∈ splitLF v, Unindented x)) := by
  have h13 : (∀ c ∈ v, c ≠ 13) ↔ 13 ∉ v := ⟨fun h hm => h 13 hm rfl, fun h c hc e => h (e ▸ hc)⟩
  unfold BlockRepresentable blockRepresentable blockRepresentableLines
  cases hh : (splitLF v).head? with
  | none => simp
  | some d0 =>
    cases hl : (splitLF v).getLast? with
    | none => simp
    | some dl => simp [isBlankLine, Blank, and_assoc, startsUnindented_iff, h13]

def rtrim (Y : List (List Nat)) : List (List Nat) := (Y.reverse.dropWhile isBlank).reverse
/-- Remove the blank lines at both ends (specification steps 5 and 6). -/
def trim (X : List (List Nat)) : List (List Nat) := rtrim (X.dropWhile isBlank)

theorem rtrim_nil : rtrim [] = [] := rfl

theorem isBlank_of_blank {A : List (List Nat)} (h : ∀ x ∈ A, Blank x) : ∀ x ∈ A, isBlank x = true :=
  fun x hx => (isBlank_iff x).mpr (h x hx)

theorem trim_allBlank {X : List (List Nat)} (h : ∀ x ∈ X, Blank x) : trim X = [] := by
  have := List.dropWhile_append_of_pos (l₂ := []) (isBlank_of_blank h)
  rw [List.append_nil] at this
  rw [trim, this]; rfl

theorem trim_sandwich {B L A : List (List Nat)} (hB : ∀ x ∈ B, Blank x) (hA : ∀ x ∈ A, Blank x)
    {l0 : List Nat} {M : List (List Nat)} (hL0 : L = l0 :: M) (h0 : ¬ Blank l0)
    {xs : List (List Nat)} {lN : List Nat} (hLN : L = xs ++ [lN]) (hN : ¬ Blank lN) :
    trim (B ++ L ++ A) = L := by
  have hA' : ∀ x ∈ A.reverse, isBlank x = true := fun x hx => isBlank_of_blank hA x (List.mem_reverse.mp hx)
  unfold trim rtrim
  rw [List.append_assoc, List.dropWhile_append_of_pos (isBlank_of_blank hB), hL0, List.cons_append,
    List.dropWhile_cons_of_neg (mt (isBlank_iff l0).mp h0), ← List.cons_append, ← hL0, hLN,
    List.reverse_append, List.dropWhile_append_of_pos hA', List.reverse_append, List.reverse_singleton,
    List.singleton_append, List.dropWhile_cons_of_neg (mt (isBlank_iff lN).mp hN)]
  simp

theorem trim_spec (X : List (List Nat)) :
    ∃ B A, X = B ++ trim X ++ A ∧ (∀ x ∈ B, Blank x) ∧ (∀ x ∈ A, Blank x) ∧
      (∀ l, (trim X).head? = some l → ¬ Blank l) ∧ (∀ l, (trim X).getLast? = some l → ¬ Blank l) := by
  have hX := (List.takeWhile_append_dropWhile (p := isBlank) (l := X)).symm
  have hY := (List.takeWhile_append_dropWhile (p := isBlank) (l := (X.dropWhile isBlank).reverse)).symm
  have hb : ∀ {l : List (List Nat)}, ∀ x ∈ l.takeWhile isBlank, Blank x :=
    fun x hx => (isBlank_iff x).mp (List.all_eq_true.mp List.all_takeWhile x hx)
  have hY' : X.dropWhile isBlank = trim X ++ ((X.dropWhile isBlank).reverse.takeWhile isBlank).reverse := by
    have := congrArg List.reverse hY
    rwa [List.reverse_reverse, List.reverse_append] at this
  refine ⟨X.takeWhile isBlank, ((X.dropWhile isBlank).reverse.takeWhile isBlank).reverse, ?_, hb,
    fun x hx => hb x (List.mem_reverse.mp hx), ?_, ?_⟩
  · rw [List.append_assoc, ← hY']; exact hX
  · intro l hl
    obtain ⟨ys, hys⟩ := List.head?_eq_some_iff.mp hl
    have := List.head?_dropWhile_not isBlank X
    rw [hY', hys] at this
    exact fun h => by simp [(isBlank_iff l).mpr h] at this
  · intro l hl
    have := List.head?_dropWhile_not isBlank (X.dropWhile isBlank).reverse
    rw [← List.getLast?_reverse, show (List.dropWhile isBlank (X.dropWhile isBlank).reverse).reverse = trim X from rfl,
      hl] at this
    exact fun h => by simp [(isBlank_iff l).mpr h] at this

theorem mem_trim {X : List (List Nat)} {x : List Nat} (hx : x ∈ X) (hnb : ¬ Blank x) : x ∈ trim X := by
  obtain ⟨B, A, hX, hB, hA, _⟩ := trim_spec X
  rw [hX] at hx
  rcases List.mem_append.mp hx with h | h
  · rcases List.mem_append.mp h with h | h
    · exact absurd (hB x h) hnb
    · exact h
  · exact absurd (hA x h) hnb

theorem mem_of_mem_trim {X : List (List Nat)} {x : List Nat} (hx : x ∈ trim X) : x ∈ X := by
  obtain ⟨B, A, hX, _⟩ := trim_spec X
  rw [hX]; simp [hx]

theorem trim_cons_allBlank (a : List Nat) (Z : List (List Nat)) (h : ∀ x ∈ Z, Blank x) :
    trim (a :: Z) = if isBlank a then [] else [a] := by
  by_cases ha : isBlank a = true
  · rw [if_pos ha]
    exact trim_allBlank fun x hx => (List.mem_cons.mp hx).elim (fun e => e ▸ (isBlank_iff a).mp ha) (h x)
  · rw [if_neg ha]
    have hnb : ¬ Blank a := mt (isBlank_iff a).mpr ha
    exact trim_sandwich (B := []) (L := [a]) (xs := []) (by simp) h rfl hnb rfl hnb

/-- `common_indent` over the given lines, `none` for `sys.maxsize`. -/
def cmin (ci : Option Nat) (X : List (List Nat)) : Option Nat :=
  X.foldl (fun ci line =>
    if leadingWhiteSpace line < line.length then minOpt ci (leadingWhiteSpace line) else ci) ci

theorem cmin_cons (ci : Option Nat) (a : List Nat) (X : List (List Nat)) :
    cmin ci (a :: X) = cmin (if Blank a then ci else minOpt ci (leadingWhiteSpace a)) X := by
  have := lws_le a
  simp only [cmin, List.foldl_cons]
  by_cases hb : Blank a
  · rw [if_pos hb, if_neg (by unfold Blank at hb; omega)]
  · rw [if_neg hb, if_pos (by unfold Blank at hb; omega)]

theorem cmin_none (X : List (List Nat)) (ci : Option Nat) (h : cmin ci X = none) :
    ci = none ∧ ∀ x ∈ X, Blank x := by
  induction X generalizing ci with
  | nil => exact ⟨h, fun x hx => by simp at hx⟩
  | cons a X ih =>
    rw [cmin_cons] at h
    obtain ⟨h1, h2⟩ := ih _ h
    by_cases hb : Blank a
    · rw [if_pos hb] at h1
      exact ⟨h1, fun x hx => (List.mem_cons.mp hx).elim (fun e => e ▸ hb) (h2 x)⟩
    · rw [if_neg hb] at h1
      cases ci <;> simp [minOpt] at h1

theorem cmin_spec (X : List (List Nat)) (ci : Option Nat) (c : Nat) (h : cmin ci X = some c) :
    (∀ x ∈ X, ¬ Blank x → c ≤ leadingWhiteSpace x) ∧ (∀ c0, ci = some c0 → c ≤ c0) ∧
      (ci = some c ∨ ∃ x ∈ X, ¬ Blank x ∧ leadingWhiteSpace x = c) := by
  induction X generalizing ci with
  | nil => exact ⟨fun x hx => by simp at hx, fun c0 h0 => by rw [h0] at h; cases h; omega, Or.inl h⟩
  | cons a X ih =>
    rw [cmin_cons] at h
    obtain ⟨h1, h2, h3⟩ := ih _ h
    have hmem : ∀ {P : List Nat → Prop}, (∃ x ∈ X, P x) → ∃ x ∈ a :: X, P x :=
      fun ⟨x, hx, hp⟩ => ⟨x, List.mem_cons_of_mem a hx, hp⟩
    by_cases hb : Blank a
    · rw [if_pos hb] at h2 h3
      exact ⟨fun x hx hnb => (List.mem_cons.mp hx).elim (fun e => absurd (e ▸ hb) hnb) (fun hx => h1 x hx hnb),
        h2, h3.imp id hmem⟩
    · rw [if_neg hb] at h2 h3
      have hstep : (∀ m, minOpt ci (leadingWhiteSpace a) = some m →
          m ≤ leadingWhiteSpace a ∧ (∀ c0, ci = some c0 → m ≤ c0) ∧ (m = leadingWhiteSpace a ∨ ci = some m)) := by
        intro m hm
        cases ci with
        | none => cases hm; simp
        | some c1 =>
          simp only [minOpt, Option.some.injEq] at hm
          by_cases hlt : leadingWhiteSpace a < c1
          · rw [if_pos hlt] at hm; subst hm
            exact ⟨Nat.le_refl _, fun c0 h0 => by cases h0; omega, Or.inl rfl⟩
          · rw [if_neg hlt] at hm; subst hm
            exact ⟨by omega, fun c0 h0 => by cases h0; omega, Or.inr rfl⟩
      obtain ⟨m, hm⟩ : ∃ m, minOpt ci (leadingWhiteSpace a) = some m := by cases ci <;> exact ⟨_, rfl⟩
      obtain ⟨s1, s2, s3⟩ := hstep m hm
      have hcm := h2 m hm
      refine ⟨fun x hx hnb => ?_, fun c0 h0 => Nat.le_trans hcm (s2 c0 h0), ?_⟩
      · rcases List.mem_cons.mp hx with rfl | hx
        · omega
        · exact h1 x hx hnb
      · rcases h3 with h3 | h3
        · rw [hm] at h3; cases h3
          exact s3.symm.imp id (fun e => ⟨a, List.mem_cons_self, hb, e.symm⟩)
        · exact Or.inr (hmem h3)

theorem cmin_pad (k : Nat) (X : List (List Nat)) (ci : Option Nat) :
    cmin (ci.map (· + k)) (X.map (fun x => List.replicate k 32 ++ x)) = (cmin ci X).map (· + k) := by
  induction X generalizing ci with
  | nil => rfl
  | cons a X ih =>
    rw [List.map_cons, cmin_cons, cmin_cons, ← ih]
    congr 1
    by_cases hb : Blank a
    · rw [if_pos hb, if_pos ((blank_pad k a).mpr hb)]
    · rw [if_neg hb, if_neg (mt (blank_pad k a).mp hb), lws_pad]
      cases ci with
      | none => simp [minOpt]; omega
      | some c =>
        simp only [minOpt, Option.map_some, Option.some.injEq]
        by_cases hlt : leadingWhiteSpace a < c
        · rw [if_pos hlt, if_pos (by omega)]; omega
        · rw [if_neg hlt, if_neg (by omega)]

/-- `line[common_indent:]` with `common_indent = sys.maxsize` modelled as `none`. -/
def cut (ci : Option Nat) (x : List Nat) : List Nat :=
  match ci with
  | some c => x.drop c
  | none => []

theorem cut_blank_iff (ci : Option Nat) (t : List (List Nat)) (h : cmin none t = ci) :
    ∀ x ∈ t, (Blank (cut ci x) ↔ Blank x) := by
  intro x hx
  cases ci with
  | none => simp [cut, (cmin_none t none h).2 x hx, blank_nil]
  | some c =>
    by_cases hb : Blank x
    · simp [cut, hb, blank_drop x c hb]
    · exact blank_drop_iff ((cmin_spec t none c h).1 x hx hb)

theorem map_cut_nils (ci : Option Nat) {t : List (List Nat)} (h : ∀ x ∈ t, x = []) : t.map (cut ci) = t := by
  conv => rhs; rw [← List.map_id t]
  exact List.map_congr_left fun x hx => by rw [h x hx]; cases ci <;> simp [cut]

theorem map_cut_cmin_of_unindented {t : List (List Nat)} {x : List Nat} (hx : x ∈ t) (hu : Unindented x) :
    t.map (cut (cmin none t)) = t := by
  cases hc : cmin none t with
  | none => exact absurd ((cmin_none t none hc).2 x hx) hu.1
  | some c =>
    have := (cmin_spec t none c hc).1 x hx hu.1
    rw [hu.2] at this
    obtain rfl : c = 0 := by omega
    exact List.map_id'' (fun _ => rfl) t

/-- The second and the third result of the first loop of `dedent_block_string_lines`, separately (the
first is `cmin`). -/
def firstNB : List (List Nat) → Nat → Option Nat
  | [], _ => none
  | x :: rest, i => if Blank x then firstNB rest (i + 1) else some i

def lastNB : List (List Nat) → Nat → Option Nat
  | [], _ => none
  | x :: rest, i =>
    match lastNB rest (i + 1) with
    | some j => some j
    | none => if Blank x then none else some i

theorem dedentScan_eq (lines : List (List Nat)) :
    ∀ (i : Nat) (ci f l : Option Nat), i ≠ 0 →
      dedentScan lines i ci f l =
        (cmin ci lines,
         (match f with | some x => some x | none => firstNB lines i),
         (match lastNB lines i with | some j => some j | none => l)) := by
  induction lines with
  | nil => intro i ci f l _; cases f <;> rfl
  | cons x rest ih =>
    intro i ci f l hi
    rw [cmin_cons]
    -- the implementation tests `indent = len(line)`, which is `Blank x` unfolded
    by_cases hb : Blank x
    · have hb' : leadingWhiteSpace x = x.length := hb
      simp only [dedentScan, hb', firstNB, lastNB, if_pos hb, ↓reduceIte]
      rw [ih _ _ _ _ (by omega)]
      cases lastNB rest (i + 1) <;> rfl
    · have hb' : ¬ leadingWhiteSpace x = x.length := hb
      simp only [dedentScan, hb', firstNB, lastNB, if_neg hb, if_pos hi, ↓reduceIte]
      rw [ih _ _ _ _ (by omega)]
      cases ci with
      | none => cases f <;> cases lastNB rest (i + 1) <;> rfl
      | some c =>
        have hmin : (if leadingWhiteSpace x < c then some (leadingWhiteSpace x) else some c) =
            minOpt (some c) (leadingWhiteSpace x) := by simp only [minOpt]; split <;> rfl
        simp only [hmin]
        cases f <;> cases lastNB rest (i + 1) <;> rfl
theorem firstNB_blank_prefix (B : List (List Nat)) (hB : ∀ x ∈ B, Blank x) (x : List Nat)
    (hx : ¬ Blank x) (rest : List (List Nat)) (i : Nat) :
    firstNB (B ++ x :: rest) i = some (i + B.length) := by
  induction B generalizing i with
  | nil => exact if_neg hx
  | cons b B ih =>
    simp only [List.cons_append, firstNB, List.length_cons]
    rw [if_pos (hB b (by simp)), ih (fun y hy => hB y (by simp [hy]))]
    congr 1; omega

theorem firstNB_allBlank (A : List (List Nat)) (hA : ∀ x ∈ A, Blank x) (i : Nat) : firstNB A i = none := by
  induction A generalizing i with
  | nil => rfl
  | cons a A ih =>
    rw [firstNB, if_pos (hA a (by simp))]
    exact ih (fun y hy => hA y (by simp [hy])) _

theorem lastNB_allBlank (A : List (List Nat)) (hA : ∀ x ∈ A, Blank x) (i : Nat) : lastNB A i = none := by
  induction A generalizing i with
  | nil => rfl
  | cons a A ih =>
    rw [lastNB, ih (fun y hy => hA y (by simp [hy]))]
    exact if_pos (hA a (by simp))

theorem lastNB_suffix (xs : List (List Nat)) (x : List Nat) (hx : ¬ Blank x) (A : List (List Nat))
    (hA : ∀ y ∈ A, Blank y) (i : Nat) : lastNB (xs ++ x :: A) i = some (i + xs.length) := by
  induction xs generalizing i with
  | nil => simp only [List.nil_append, lastNB, lastNB_allBlank A hA]; exact if_neg hx
  | cons y xs ih =>
    simp only [List.cons_append, lastNB, List.length_cons]
    rw [ih]
    simp only [Option.some.injEq]
    omega

/-- The implementation's slice `[first_non_empty_line : last_non_empty_line + 1]`. -/
def idxTrim (X : List (List Nat)) : List (List Nat) :=
  (X.drop (match firstNB X 0 with | some a => a | none => 0)).take
    ((match lastNB X 0 with | some j => j + 1 | none => 0) - (match firstNB X 0 with | some a => a | none => 0))

theorem idxTrim_eq_trim (X : List (List Nat)) : idxTrim X = trim X := by
  obtain ⟨B, A, hX, hB, hA, hhd, hlast⟩ := trim_spec X
  generalize trim X = D at hX hhd hlast
  subst hX
  unfold idxTrim
  cases hl : D.getLast? with
  | none =>
    obtain rfl := List.getLast?_eq_none_iff.mp hl
    have hall : ∀ x ∈ B ++ [] ++ A, Blank x := by
      intro x hx; simp only [List.append_nil, List.mem_append] at hx; exact hx.elim (hB x) (hA x)
    rw [firstNB_allBlank _ hall, lastNB_allBlank _ hall]
    rfl
  | some dN =>
    -- the slice starts after the blank lines in front and ends with the last line of `D`
    obtain ⟨xs, hxs⟩ := List.getLast?_eq_some_iff.mp hl
    obtain ⟨d0, M, hD⟩ := List.exists_cons_of_ne_nil (l := D) (by rw [hxs]; simp)
    have hf : firstNB (B ++ D ++ A) 0 = some B.length := by
      rw [hD, List.append_assoc, List.cons_append]
      simpa using firstNB_blank_prefix B hB d0 (hhd d0 (by rw [hD]; rfl)) (M ++ A) 0
    have hl' : lastNB (B ++ D ++ A) 0 = some (B.length + xs.length) := by
      rw [hxs]
      simpa [List.append_assoc] using lastNB_suffix (B ++ xs) dN (hlast dN hl) A hA 0
    rw [hf, hl']
    simp only []
    rw [List.append_assoc, List.drop_left, List.take_left' (by rw [hxs, List.length_append]; simp; omega)]

theorem firstNB_map (g : List Nat → List Nat) (X : List (List Nat))
    (h : ∀ x ∈ X, (Blank (g x) ↔ Blank x)) (i : Nat) : firstNB (X.map g) i = firstNB X i := by
  induction X generalizing i with
  | nil => rfl
  | cons a X ih =>
    have ha : Blank (g a) ↔ Blank a := h a (by simp)
    simp only [List.map_cons, firstNB]
    rw [ih (fun x hx => h x (by simp [hx])) (i + 1)]
    by_cases hb : Blank a
    · rw [if_pos hb, if_pos (ha.mpr hb)]
    · rw [if_neg hb, if_neg (mt ha.mp hb)]

theorem lastNB_map (g : List Nat → List Nat) (X : List (List Nat))
    (h : ∀ x ∈ X, (Blank (g x) ↔ Blank x)) (i : Nat) : lastNB (X.map g) i = lastNB X i := by
  induction X generalizing i with
  | nil => rfl
  | cons a X ih =>
    have ha : Blank (g a) ↔ Blank a := h a (by simp)
    simp only [List.map_cons, lastNB]
    rw [ih (fun x hx => h x (by simp [hx])) (i + 1)]
    by_cases hb : Blank a
    · rw [if_pos hb, if_pos (ha.mpr hb)]
    · rw [if_neg hb, if_neg (mt ha.mp hb)]

theorem dropIndent_map (ci : Option Nat) (X : List (List Nat)) (i : Nat) (hi : i ≠ 0) :
    dropIndent ci X i = X.map (cut ci) := by
  induction X generalizing i with
  | nil => rfl
  | cons a X ih =>
    simp only [dropIndent, List.map_cons]
    rw [if_pos hi, ih (i + 1) (by omega)]
    rfl

/-- `dedent_block_string_lines`: cut the common indentation of the later lines off them, then
remove the blank lines at both ends. -/
theorem dedent_eq_trim (a : List Nat) (t : List (List Nat)) :
    dedentBlockStringLines (a :: t) = trim (a :: t.map (cut (cmin none t))) := by
  rw [← idxTrim_eq_trim]
  -- the first line does not count for the common indentation
  have hscan : dedentScan (a :: t) 0 none none none =
      (cmin none t, firstNB (a :: t) 0, lastNB (a :: t) 0) := by
    by_cases hb : Blank a
    · have hb' : leadingWhiteSpace a = a.length := hb
      simp only [dedentScan, hb', firstNB, lastNB, if_pos hb, ↓reduceIte]
      rw [dedentScan_eq t 1 _ _ _ (by omega)]
    · have hb' : ¬ leadingWhiteSpace a = a.length := hb
      simp only [dedentScan, hb', firstNB, lastNB, if_neg hb, ne_eq, not_true_eq_false, ↓reduceIte]
      rw [dedentScan_eq t 1 _ _ _ (by omega)]
  have hd : dropIndent (cmin none t) (a :: t) 0 = a :: t.map (cut (cmin none t)) := by
    simp only [dropIndent]
    rw [if_neg (by simp), dropIndent_map _ t 1 (by omega)]
  have hpat := cut_blank_iff (cmin none t) t rfl
  have hf : firstNB (a :: t.map (cut (cmin none t))) 0 = firstNB (a :: t) 0 := by
    simp only [firstNB]; rw [firstNB_map _ _ hpat]
  have hl : lastNB (a :: t.map (cut (cmin none t))) 0 = lastNB (a :: t) 0 := by
    simp only [lastNB]; rw [lastNB_map _ _ hpat]
  unfold dedentBlockStringLines idxTrim
  rw [hscan]
  simp only []
  rw [hd, hf, hl]
  cases firstNB (a :: t) 0 <;> cases lastNB (a :: t) 0 <;> rfl
def padTail (k : Nat) : List (List Nat) → List (List Nat)
  | [] => []
  | l :: ls => l :: ls.map (fun x => List.replicate k 32 ++ x)

theorem dedent_padTail (k : Nat) (X : List (List Nat)) :
    dedentBlockStringLines (padTail k X) = dedentBlockStringLines X := by
  cases X with
  | nil => rfl
  | cons l ls =>
    have hc : cmin none (ls.map (fun x => List.replicate k 32 ++ x)) = (cmin none ls).map (· + k) :=
      cmin_pad k ls none
    rw [padTail, dedent_eq_trim, dedent_eq_trim, hc, List.map_map]
    congr 2
    apply List.map_congr_left
    intro x _
    cases cmin none ls with
    | none => rfl
    | some c =>
      show (List.replicate k 32 ++ x).drop (c + k) = x.drop c
      rw [Nat.add_comm c k, ← List.drop_drop]
      simp

/-!
`dedent_block_string_lines` against steps 2–6 of the specification's `BlockStringValue()`.  The
implementation computes `common_indent` (sys.maxsize when no later line has a non-blank
character), the first and the last non-blank line in one pass, slices every later line and then
slices the list; the specification computes a nullable `commonIndent`, removes it when not null,
and strips blank lines from both ends.  The two agree on every list of lines (the
maxsize-vs-null difference is unobservable: then all later lines are blank, so they are trailing
blank lines and removed).
-/

theorem lws_eq_spec (x : List Nat) : leadingWhiteSpace x = Gql.Spec.Lex.leadingWhiteSpace x := by
  induction x with
  | nil => rfl
  | cons c r ih =>
    unfold Gql.Spec.Lex.leadingWhiteSpace at ih ⊢
    simp only [leadingWhiteSpace, List.takeWhile_cons]
    by_cases h : c = 32 ∨ c = 9
    · have : decide (WhiteSpace c) = true := decide_eq_true (by unfold WhiteSpace; omega)
      rw [if_pos h, this, ih]; rfl
    · have : decide (WhiteSpace c) = false := decide_eq_false (by unfold WhiteSpace; omega)
      rw [if_neg h, this]; rfl

open Gql.Spec.Lex (dedentLines) in
/-- `dedent_block_string_lines` computes steps 2–6 of the specification's `BlockStringValue()`. -/
theorem dedent_eq_spec (lines : List (List Nat)) :
    dedentBlockStringLines lines = dedentLines lines := by
  cases lines with
  | nil => rfl
  | cons a t =>
    have hS : dedentLines (a :: t) =
        trim (match cmin none t with
              | some c => a :: t.map (fun l => l.drop c)
              | none => a :: t) := by
      unfold dedentLines trim rtrim
      simp only [List.tail_cons]
      have : (List.foldl (fun ci line =>
              if Gql.Spec.Lex.leadingWhiteSpace line < line.length then
                minOpt ci (Gql.Spec.Lex.leadingWhiteSpace line) else ci) none t) = cmin none t := by
        unfold cmin
        congr 1; funext ci line; rw [← lws_eq_spec]
      rw [this]
      cases cmin none t <;> rfl
    rw [dedent_eq_trim, hS]
    cases hc : cmin none t with
    | some c => rfl
    | none =>
      have hAll := (cmin_none t none hc).2
      have hAll' : ∀ x ∈ t.map (cut none), Blank x := by
        intro x hx; simp [cut] at hx; rw [hx.2]; rfl
      rw [trim_cons_allBlank a _ hAll', trim_cons_allBlank a _ hAll]
end Gql.Text
