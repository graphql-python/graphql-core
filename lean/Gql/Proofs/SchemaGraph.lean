import Gql.Types.SchemaValidate
import Gql.Proofs.Util.Unmarked
/-!
Lemmas for C20: depth-first search for a cycle with a set of marked nodes that survives from one
call to the next, as both circular-reference validators of validate.py run it.  The graph is
abstract (`Graph`), and of the validators' states only what the argument needs is looked at
(`Dfs`): the marked keys, the keys on the current path, the errors, the budget flag.

The invariant is the usual one: the nodes marked and off the path ("black") are closed
under the edges and contain no cycle (`Safe`), as long as no error has been reported (`Step`).  A call
needs a budget above the number of unmarked nodes and a path whose nodes all reach the node
called (`Ready`); `Step.visit` hands both on to the successors, so a validator's proof only
unfolds its function and applies `Step.refl`, `Step.err` or `Step.visit`.  `thread_spec` is the
induction over the type map, from one top-level call to the next.
-/
namespace Gql.Types
open Gql

inductive RStar {α : Type} (E : α → α → Prop) : α → α → Prop where
  | refl (a : α) : RStar E a a
  | step {a b c : α} : E a b → RStar E b c → RStar E a c

def RPlus {α : Type} (E : α → α → Prop) (a c : α) : Prop := ∃ b, E a b ∧ RStar E b c

theorem RStar.tail {α : Type} {E : α → α → Prop} {a b c : α} (h1 : RStar E a b) (e : E b c) :
    RStar E a c := by
  induction h1 with
  | refl => exact .step e (.refl c)
  | step e1 _ ih => exact .step e1 (ih e)

theorem RPlus.of_star_edge {α : Type} {E : α → α → Prop} {a b c : α} (h1 : RStar E a b) (e : E b c) :
    RPlus E a c := by
  cases h1 with
  | refl => exact ⟨c, e, .refl c⟩
  | step e1 h => exact ⟨_, e1, h.tail e⟩

theorem RPlus.tail {α : Type} {E : α → α → Prop} {a b c : α} (h1 : RPlus E a b) (e : E b c) :
    RPlus E a c := by
  obtain ⟨x, e1, h⟩ := h1; exact ⟨x, e1, h.tail e⟩

theorem mem_keys_of_find {l : List (Str × Nat)} {c : Str} {e : Str × Nat}
    (h : l.find? (fun e => e.1 == c) = some e) : c ∈ l.map (·.1) := by
  have h1 : e.1 = c := by simpa using List.find?_some h
  exact List.mem_map.mpr ⟨e, List.mem_of_find?_eq_some h, h1⟩

theorem not_mem_keys_of_find {l : List (Str × Nat)} {c : Str}
    (h : l.find? (fun e => e.1 == c) = none) : c ∉ l.map (·.1) := by
  intro hm
  obtain ⟨e, he, hem⟩ := List.mem_map.mp hm
  have := List.find?_eq_none.mp h e he
  simp [hem] at this

/-- leaving a node removes its entry, the only one with that key -/
theorem keys_pop {l : List (Str × Nat)} {c : Str} {ks : List Str} (h : l.map (·.1) = c :: ks)
    (hc : c ∉ ks) : (l.filter (fun e => !(e.1 == c))).map (·.1) = ks := by
  have : (l.filter (fun e => !(e.1 == c))).map (·.1) = (l.map (·.1)).filter (fun k => !(k == c)) := by
    rw [List.filter_map]; rfl
  rw [this, h, List.filter_cons]
  simp only [beq_self_eq_true, Bool.not_true, Bool.false_eq_true, ↓reduceIte, List.filter_eq_self]
  intro k hk
  simpa using fun hkc : k = c => hc (hkc ▸ hk)

/-- what the argument sees of a validator's state -/
structure Dfs where
  /-- marked -/
  vis : List Str
  /-- on the current path -/
  keys : List Str
  errs : List Err
  /-- the validator's recursion budget ran out (`outOfFuel`) -/
  oof : Bool

/-- marked and off the path: completely explored -/
def Black (st : Dfs) (c : Str) : Prop := c ∈ st.vis ∧ c ∉ st.keys

theorem black_of_keys_nil {st : Dfs} (h : st.keys = []) (c : Str) : Black st c ↔ c ∈ st.vis := by
  simp [Black, h]

/-- The graph a validator searches.  Nodes are marked by `key`; `OK` are the nodes that exist,
`Live` those a call does not return from at once (only they have successors); `kind` is the
error reported for a cycle. -/
structure Graph (ν : Type) where
  key : ν → Str
  E : ν → ν → Prop
  OK : ν → Prop
  Live : ν → Prop
  kind : Kind
  ok_succ : ∀ {a b}, E a b → OK b
  live_src : ∀ {a b}, E a b → Live a

namespace Graph
variable {ν : Type} (G : Graph ν)

/-- a key names one node -/
def Inj : Prop := ∀ a b, G.OK a → G.OK b → G.key a = G.key b → a = b

/-- the search's invariant of a set of keys: it is closed under the edges to live nodes, and none
of its nodes reaches itself -/
def Safe (P : Str → Prop) : Prop :=
  ∀ a, G.OK a → P (G.key a) → (∀ b, G.E a b → G.Live b → P (G.key b)) ∧ ¬ RPlus G.E a a

/-- a reported error names a node that reaches itself -/
def CycleErr (e : Err) : Prop :=
  e.kind = G.kind ∧ ∃ n, G.OK n ∧ G.Live n ∧ G.key n = e.subj ∧ RPlus G.E n n

variable {G}

theorem Safe.congr {P Q : Str → Prop} (h : ∀ x, P x ↔ Q x) (hs : G.Safe P) : G.Safe Q :=
  fun a ha hq => (hs a ha ((h _).mpr hq)).imp_left fun hc b e hl => (h _).mp (hc b e hl)

theorem rstar_ok {a b : ν} (h : RStar G.E a b) (ha : G.OK a) : G.OK b := by
  induction h with
  | refl => exact ha
  | step e _ ih => exact ih (G.ok_succ e)

theorem rstar_live {a b : ν} (h : RStar G.E a b) (hb : G.Live b) : G.Live a := by
  cases h with
  | refl => exact hb
  | step e _ => exact G.live_src e

theorem Safe.reach {P : Str → Prop} (hs : G.Safe P) {a b : ν} (h : RStar G.E a b) :
    G.OK a → P (G.key a) → G.Live b → P (G.key b) := by
  induction h with
  | refl => exact fun _ hp _ => hp
  | step e hr ih => exact fun hok hp hl => ih (G.ok_succ e) ((hs _ hok hp).1 _ e (rstar_live hr hl)) hl

/-- from a node of the set (if it is live at all) no cycle is reached -/
theorem Safe.no_cycle {P : Str → Prop} (hs : G.Safe P) {x y : ν} (hok : G.OK x)
    (hx : G.Live x → P (G.key x)) (hr : RStar G.E x y) : ¬ RPlus G.E y y := fun hc =>
  have hly : G.Live y := G.live_src hc.choose_spec.1
  (hs y (rstar_ok hr hok) (hs.reach hr hok (hx (rstar_live hr hly)) hly)).2 hc

/-- a node whose live successors are all in the set may join it -/
theorem Safe.insert {P : Str → Prop} (hs : G.Safe P) (hi : G.Inj) {n : ν} (hok : G.OK n)
    (hlive : G.Live n) (hn : ¬ P (G.key n)) (hsucc : ∀ x, G.E n x → G.Live x → P (G.key x)) :
    G.Safe fun x => P x ∨ x = G.key n := by
  rintro a hoka (ha | ha)
  · exact (hs a hoka ha).imp_left fun hc b e hl => Or.inl (hc b e hl)
  · obtain rfl := hi a n hoka hok ha
    -- a cycle through `n` leaves it by a successor, which is in the set, and the set is closed
    exact ⟨fun b e hl => Or.inl (hsucc b e hl), fun ⟨b, e, hr⟩ =>
      hn (hs.reach hr (G.ok_succ e) (hsucc b e (rstar_live hr hlive)) hlive)⟩

variable (G)

/-- What a call (or a loop of calls) does: the path is as before, marks are only added, the
budget sufficed; and if keys name nodes, the new errors are genuine, and without new errors the
invariant is kept and `extra` holds. -/
structure Step (st r : Dfs) (extra : Prop) : Prop where
  keys_eq : r.keys = st.keys
  vis_mono : ∀ x ∈ st.vis, x ∈ r.vis
  oof : r.oof = false
  errs : G.Inj → ∃ new, r.errs = st.errs ++ new ∧ (∀ e ∈ new, G.CycleErr e) ∧
    (new = [] → G.Safe (Black st) → G.Safe (Black r) ∧ extra)

variable {G}

theorem Step.black_mono {st r : Dfs} {e : Prop} (h : G.Step st r e) {x : Str} (hx : Black st x) :
    Black r x := ⟨h.vis_mono x hx.1, h.keys_eq ▸ hx.2⟩

theorem Step.refl {st : Dfs} {e : Prop} (ho : st.oof = false) (he : e) : G.Step st st e :=
  ⟨rfl, fun _ h => h, ho, fun _ => ⟨[], by simp, by simp, fun _ hs => ⟨hs, he⟩⟩⟩

theorem Step.imp {st r : Dfs} {e e' : Prop} (h : G.Step st r e) (he : e → e') : G.Step st r e' :=
  ⟨h.keys_eq, h.vis_mono, h.oof, fun hi => by
    obtain ⟨new, q, c, k⟩ := h.errs hi
    exact ⟨new, q, c, fun hn hs => (k hn hs).imp_right he⟩⟩

theorem Step.trans {a b c : Dfs} {e1 e2 e : Prop} (h1 : G.Step a b e1) (h2 : G.Step b c e2)
    (he : e1 → e2 → e) : G.Step a c e :=
  ⟨h2.keys_eq.trans h1.keys_eq, fun x hx => h2.vis_mono x (h1.vis_mono x hx), h2.oof, fun hi => by
    obtain ⟨n1, q1, c1, k1⟩ := h1.errs hi
    obtain ⟨n2, q2, c2, k2⟩ := h2.errs hi
    refine ⟨n1 ++ n2, by rw [q2, q1, List.append_assoc],
      fun x hx => (List.mem_append.mp hx).elim (c1 x) (c2 x), fun hn hs => ?_⟩
    obtain ⟨hn1, hn2⟩ := List.append_eq_nil_iff.mp hn
    obtain ⟨a1, a2⟩ := k1 hn1 hs
    exact (k2 hn2 a1).imp_right (he a2)⟩

/-- A loop of calls over `items` (of which `tgt` gives the node called, if any), in a validator
state `σ` seen through `snap`: afterwards every live node called is black. -/
theorem Step.foldl {σ ι : Type} (snap : σ → Dfs) (g : σ → ι → σ) (tgt : ι → Option ν) (st0 : σ) :
    ∀ (items : List ι) (acc : σ), G.Step (snap st0) (snap acc) True →
    (∀ i ∈ items, ∀ acc', G.Step (snap st0) (snap acc') True →
      G.Step (snap acc') (snap (g acc' i))
        (∀ x, tgt i = some x → G.Live x → Black (snap (g acc' i)) (G.key x))) →
    G.Step (snap acc) (snap (items.foldl g acc))
      (∀ i ∈ items, ∀ x, tgt i = some x → G.Live x → Black (snap (items.foldl g acc)) (G.key x))
  | [], _, h0, _ => Step.refl h0.oof (by simp)
  | i :: items, acc, h0, H => by
    have h1 := H i List.mem_cons_self acc h0
    have h2 := Step.foldl snap g tgt st0 items (g acc i) (h0.trans h1 fun _ _ => trivial)
      (fun j hj => H j (List.mem_cons_of_mem _ hj))
    refine h1.trans h2 fun e1 e2 j hj x hx hl => ?_
    rcases List.mem_cons.mp hj with rfl | hj
    · exact h2.black_mono (e1 x hx hl)
    · exact e2 j hj x hx hl

/-- The node is on the current path: an error, and the node reaches itself. -/
theorem Step.err {st r : Dfs} {n : ν} {extra : Prop} (hk : r.keys = st.keys) (hv : r.vis = st.vis)
    (ho : r.oof = false) (he : r.errs = st.errs ++ [⟨G.kind, G.key n⟩]) (hok : G.OK n)
    (hl : G.Live n) (hcyc : G.Inj → RPlus G.E n n) : G.Step st r extra :=
  ⟨hk, fun x hx => hv ▸ hx, ho, fun hi => ⟨_, he, fun e h => by
    obtain rfl := List.mem_singleton.mp h
    exact ⟨rfl, n, hok, hl, rfl, hcyc hi⟩, by simp⟩⟩

/-- Entering an unmarked live node `n`, calling its live successors (state `a`) and leaving it:
`n` is black afterwards. -/
theorem Step.node {st a : Dfs} {n : ν} (hok : G.OK n) (hlive : G.Live n)
    (hnv : G.key n ∉ st.vis) (hnk : G.key n ∉ st.keys)
    (hloop : G.Step ⟨G.key n :: st.vis, G.key n :: st.keys, st.errs, st.oof⟩ a
      (∀ x, G.E n x → G.Live x → Black a (G.key x))) :
    G.Step st ⟨a.vis, st.keys, a.errs, a.oof⟩ (Black ⟨a.vis, st.keys, a.errs, a.oof⟩ (G.key n)) := by
  refine ⟨rfl, fun x hx => hloop.vis_mono x (List.mem_cons_of_mem _ hx), hloop.oof, fun hi => ?_⟩
  obtain ⟨new, q, c, k⟩ := hloop.errs hi
  refine ⟨new, q, c, fun hn hs => ?_⟩
  -- entering `n` leaves the black nodes as they are; leaving it adds `n` to them
  have hb1 : ∀ x, Black st x ↔ Black ⟨G.key n :: st.vis, G.key n :: st.keys, st.errs, st.oof⟩ x :=
    fun x => by by_cases hx : x = G.key n <;> simp [Black, hx, hnv]
  obtain ⟨d1, d2⟩ := k hn (hs.congr hb1)
  have hka : a.keys = G.key n :: st.keys := hloop.keys_eq
  have hna : G.key n ∈ a.vis := hloop.vis_mono _ List.mem_cons_self
  have hbr : ∀ x, (Black a x ∨ x = G.key n) ↔ Black ⟨a.vis, st.keys, a.errs, a.oof⟩ x :=
    fun x => by by_cases hx : x = G.key n <;> simp [Black, hka, hx, hna, hnk]
  exact ⟨(d1.insert hi hok hlive (fun hb => hb.2 (hka ▸ List.mem_cons_self)) d2).congr hbr,
    (hbr _).mp (Or.inr rfl)⟩

/-- A call from between two types, where the path is empty and no error is pending: the errors
are genuine, and without errors the marked nodes stay safe. -/
theorem Step.top {st r : Dfs} {extra : Prop} (h : G.Step st r extra) (hi : G.Inj) (hk : st.keys = [])
    (he : st.errs = []) :
    (∀ e ∈ r.errs, G.CycleErr e) ∧
    (r.errs = [] → G.Safe (· ∈ st.vis) → G.Safe (· ∈ r.vis) ∧ extra) := by
  obtain ⟨new, e1, c1, k1⟩ := h.errs hi
  rw [he, List.nil_append] at e1
  refine ⟨e1 ▸ c1, fun hn hs => ?_⟩
  exact (k1 (e1 ▸ hn) (hs.congr fun x => (black_of_keys_nil hk x).symm)).imp_left
    (·.congr (black_of_keys_nil (h.keys_eq.trans hk)))

/-- Top-level calls threaded over a list with the marks handed on (`thread` gives the errors,
`r` is the state after one round): the errors are genuine, and without errors every item has the
property `P` that its round establishes of safe marks. -/
theorem thread_spec {τ : Type} (hi : G.Inj) (thread : List τ → List Str → List Err) (P : τ → Prop)
    (hnil : ∀ v, thread [] v = [])
    (hcons : ∀ t ts v, ∃ r : Dfs, thread (t :: ts) v = r.errs ++ thread ts r.vis ∧
      G.Step ⟨v, [], [], false⟩ r (G.Safe (· ∈ r.vis) → P t)) :
    ∀ ts v, (∀ e ∈ thread ts v, G.CycleErr e) ∧ (thread ts v = [] → G.Safe (· ∈ v) → ∀ t ∈ ts, P t)
  | [], v => by simp [hnil]
  | t :: ts, v => by
    obtain ⟨r, q, h⟩ := hcons t ts v
    obtain ⟨c, k⟩ := h.top hi rfl rfl
    have ih := thread_spec hi thread P hnil hcons ts r.vis
    rw [q]
    refine ⟨fun e he => (List.mem_append.mp he).elim (c e) (ih.1 e), fun hn hs => ?_⟩
    obtain ⟨hn1, hn2⟩ := List.append_eq_nil_iff.mp hn
    obtain ⟨d1, d2⟩ := k hn1 hs
    exact List.forall_mem_cons.mpr ⟨d2 d1, ih.2 hn2 d1⟩

variable (G)

/-- The state is fit for a call of `n` with budget `fuel`: the budget exceeds the number of
members of `U` still unmarked, and every node on the path reaches `n`. -/
structure Ready (U : List Str) (fuel : Nat) (st : Dfs) (n : ν) : Prop where
  ok : G.OK n
  fuel : Unmarked.count U st.vis < fuel
  oof : st.oof = false
  path : ∀ c ∈ st.keys, ∃ n0, G.OK n0 ∧ G.key n0 = c ∧ RPlus G.E n0 n

variable {G}

/-- between two top-level calls the path is empty -/
theorem Ready.of_keys_nil {U : List Str} {fuel : Nat} {st : Dfs} {n : ν} (hok : G.OK n)
    (hf : Unmarked.count U st.vis < fuel) (ho : st.oof = false) (hk : st.keys = []) : G.Ready U fuel st n :=
  ⟨hok, hf, ho, by simp [hk]⟩

/-- The visit of an unmarked live node `n ∈ U` by a validator with states `σ` (seen through
`snap`): `n` is entered (state `st1`), a loop `g` runs over `items`, which cover the successors of
`n` (`tgt`), and `n` is left (state `r`).  Every state of the loop is fit for a call of any
successor with one unit of budget less, and that is all the loop's body may assume.  The loop's
result has a name of its own (`a`, `ha`) so that a validator's proof can generalise its fold
first: checking `r` against the fold term itself is slow. -/
theorem Step.visit {σ ι : Type} (snap : σ → Dfs) (g : σ → ι → σ) (tgt : ι → Option ν)
    {U : List Str} {fuel : Nat} {n : ν} {st st1 a : σ} {items : List ι} {r : Dfs}
    (hpre : G.Ready U (fuel + 1) (snap st) n) (hlive : G.Live n) (hU : G.key n ∈ U)
    (hnv : G.key n ∉ (snap st).vis) (hnk : G.key n ∉ (snap st).keys)
    (h1 : snap st1 = ⟨G.key n :: (snap st).vis, G.key n :: (snap st).keys, (snap st).errs, (snap st).oof⟩)
    (hsucc : ∀ x, G.E n x → ∃ i ∈ items, tgt i = some x)
    (hitem : ∀ i ∈ items, ∀ acc, (snap acc).oof = false →
      (∀ x, G.E n x → G.Ready U fuel (snap acc) x) → G.Step (snap acc) (snap (g acc i))
        (∀ x, tgt i = some x → G.Live x → Black (snap (g acc i)) (G.key x)))
    (ha : items.foldl g st1 = a)
    (hr : (snap a).keys = G.key n :: (snap st).keys →
      r = ⟨(snap a).vis, (snap st).keys, (snap a).errs, (snap a).oof⟩) :
    G.Step (snap st) r (Black r (G.key n)) := by
  have hloop := Step.foldl (G := G) snap g tgt st1 items st1
    (.refl (by rw [h1]; exact hpre.oof) trivial) fun i hi acc hacc => hitem i hi acc hacc.oof fun x e => by
      rw [h1] at hacc
      have hke : (snap acc).keys = G.key n :: (snap st).keys := hacc.keys_eq
      refine ⟨G.ok_succ e, ?_, hacc.oof, fun c hc => ?_⟩
      · have := Unmarked.count_lt (U := U) (fun x hx => hacc.vis_mono x (List.mem_cons_of_mem _ hx)) hU hnv
          (hacc.vis_mono _ List.mem_cons_self)
        have := hpre.fuel
        omega
      · rcases List.mem_cons.mp (hke ▸ hc) with rfl | h
        · exact ⟨n, hpre.ok, rfl, x, e, .refl x⟩
        · obtain ⟨n0, a, b, p⟩ := hpre.path c h
          exact ⟨n0, a, b, p.tail e⟩
  rw [ha, h1] at hloop
  rw [hr hloop.keys_eq]
  refine Step.node hpre.ok hlive hnv hnk (hloop.imp fun h x e hx => ?_)
  obtain ⟨i, hi, ht⟩ := hsucc x e
  exact h i hi x ht hx

end Graph

end Gql.Types
