import Gql.Proofs.RulesSpreads
import Gql.Proofs.RulesFuel
/-!
C12 — `get_recursively_referenced_fragments` (`refsLoop`): one round in closed form (`newNames`, `refsInner_eq`); the
fuel #fragment definitions + 1 is never used up (`refsLoop_fuel`); the loop computes reachability in the spread graph
of the document (`refsLoop_spec`, `getRecFrags_mem_iff`).
-/
namespace Gql.Validation.Rules

namespace Spec
/-- Reachability in the spread graph of the document: the fragment name `n` is reachable from the selection set
`root` if a spread of `root` names it, or a spread of the selection set of the fragment called `m` names it for a
reachable `m` ("the fragment called `m`" is `get_fragment(m)`: the last definition of that name in
`document.definitions`; a name without definition has no outgoing edges). -/
inductive Reaches (doc root : ATree) : String → Prop
  | base {sp : ATree} {n : String} : SpreadIn root sp → sp.nameValue = some n → Reaches doc root n
  | step {m : String} {g ss sp : ATree} {n : String} : Reaches doc root m → getFragment doc m = some g →
      g.kid "selection_set" = some ss → SpreadIn ss sp → sp.nameValue = some n → Reaches doc root n
end Spec
open Spec

/-- The names the spreads `sps` mention and `names` does not hold, each once, in order of first mention: what one
round appends to `collected_names`. -/
def newNames : List ATree → List String → List String
  | [], _ => []
  | sp :: rest, names =>
    match sp.nameValue with
    | none => newNames rest names
    | some n => if names.contains n then newNames rest names else n :: newNames rest (names ++ [n])

/-- `get_fragment(n).selection_set` -/
def fragSelSet (doc : ATree) (n : String) : Option ATree := (getFragment doc n).bind (·.kid "selection_set")

theorem refsInner_eq (doc : ATree) (sps : List ATree) (names : List String) : ∀ frs sets : List ATree,
    refsInner doc sps names frs sets = (names ++ newNames sps names,
      frs ++ (newNames sps names).filterMap (getFragment doc),
      sets ++ (newNames sps names).filterMap (fragSelSet doc)) := by
  fun_induction newNames sps names with
  | case1 => simp only [refsInner, List.append_nil, List.filterMap_nil, implies_true]
  | case2 sp rest names hn ih => simpa only [refsInner, hn] using ih
  | case3 sp rest names n hn hc ih => simpa only [refsInner, hn, if_pos hc] using ih
  | case4 sp rest names n hn hc ih =>
    intro frs sets
    rw [refsInner]
    simp only [hn, if_neg hc, List.filterMap_cons, fragSelSet]
    cases getFragment doc n with
    | none => simp [ih]
    | some f => cases hk : f.kid "selection_set" <;> simp [ih, hk]

theorem mem_append_newNames {n : String} (sps : List ATree) (names : List String) :
    n ∈ names ++ newNames sps names ↔ n ∈ names ∨ ∃ sp ∈ sps, sp.nameValue = some n := by
  fun_induction newNames sps names with
  | case1 => simp only [List.append_nil, List.not_mem_nil, false_and, exists_const, or_false]
  | case2 sp rest names hn ih => simp only [ih, List.mem_cons, exists_eq_or_imp, hn, reduceCtorEq, false_or]
  | case3 sp rest names m hn hc ih =>
    simp only [ih, List.mem_cons, exists_eq_or_imp, hn, Option.some.injEq]
    exact ⟨Or.imp_right Or.inr, fun h => h.elim Or.inl fun h => h.elim
      (fun e => Or.inl (e ▸ List.contains_iff_mem.mp hc)) Or.inr⟩
  | case4 sp rest names m hn hc ih =>
    rw [List.append_cons, ih]
    simp only [List.mem_append, List.mem_cons, List.not_mem_nil, or_false, exists_eq_or_imp, hn,
      Option.some.injEq, or_assoc, @eq_comm _ m n]

theorem newNames_cover (doc : ATree) (sps : List ATree) (names : List String) : ∀ L, Cover doc L names →
    ∃ L', Cover doc L' (names ++ newNames sps names) ∧
      ((newNames sps names).filterMap (fragSelSet doc)).length + L'.length ≤ L.length := by
  fun_induction newNames sps names with
  | case1 => intro L h; exact ⟨L, by simpa using h, by simp⟩
  | case2 sp rest names hn ih => exact ih
  | case3 sp rest names n hn hc ih => exact ih
  | case4 sp rest names n hn hc ih =>
    intro L h
    rw [List.append_cons, List.filterMap_cons]
    cases hs : fragSelSet doc n with
    | none => exact ih L (h.mono fun x hx => List.mem_append_left _ hx)
    | some ss =>
      have hd : (getFragment doc n).isSome = true := by
        cases hg : getFragment doc n <;> simp [fragSelSet, hg] at hs ⊢
      obtain ⟨L1, c1, l1⟩ := h.strike hd (by simpa using hc)
      obtain ⟨L', h1, h2⟩ := ih L1 c1
      exact ⟨L', h1, by simp only [List.length_cons] at h2 ⊢; omega⟩

theorem refsLoop_nil (doc : ATree) (fuel : Nat) (names : List String) (frs : List ATree) :
    refsLoop doc fuel [] names frs = (frs, false) := by
  cases fuel <;> rfl

theorem refsLoop_fuel (doc : ATree) : ∀ (fuel : Nat) (stack : List ATree) (names : List String) (frs : List ATree)
    (L : List String), Cover doc L names → stack.length + L.length ≤ fuel →
    (refsLoop doc fuel stack names frs).2 = false := by
  intro fuel
  induction fuel with
  | zero => intro stack _ _ _ _ hl; cases stack with | nil => rfl | cons s st => simp at hl
  | succ fuel ih =>
    intro stack names frs L hc hl
    cases stack with
    | nil => rfl
    | cons s st =>
      obtain ⟨L', h1, h2⟩ := newNames_cover doc (getSpreads s).1 names L hc
      simp only [refsLoop, refsInner_eq, spreads_fuel_enough, Bool.or_false]
      refine ih _ _ _ L' h1 ?_
      simp only [List.length_cons, List.nil_append, List.length_append, List.length_reverse] at hl h2 ⊢
      omega

theorem recFrags_fuel_enough (doc op : ATree) : (getRecFrags doc op).2 = false := by
  unfold getRecFrags
  split
  · exact refsLoop_fuel doc _ _ _ _ (fragNames doc) (cover_fragNames doc []) (by
      have := fragNames_length_le doc; simp; omega)
  · rfl

/-- every fragment name a spread of the selection set `ss` mentions satisfies `p` -/
def SpreadNames (ss : ATree) (p : String → Prop) : Prop :=
  ∀ sp, SpreadIn ss sp → ∀ n, sp.nameValue = some n → p n

/-- the selection sets the loop has to look at, given the collected names: the root and those of their fragments -/
def Src (doc root : ATree) (names : List String) (ss : ATree) : Prop :=
  ss = root ∨ ∃ n ∈ names, fragSelSet doc n = some ss

theorem fragSelSet_eq_some {doc ss : ATree} {n : String} :
    fragSelSet doc n = some ss ↔ ∃ g, getFragment doc n = some g ∧ g.kid "selection_set" = some ss :=
  Option.bind_eq_some_iff

theorem Spec.Reaches.selSet {doc root ss : ATree} {m : String} (hm : Reaches doc root m)
    (e : fragSelSet doc m = some ss) : SpreadNames ss (Reaches doc root) :=
  have ⟨_, hg, hk⟩ := fragSelSet_eq_some.mp e
  fun _ hsp _ hsn => .step hm hg hk hsp hsn

theorem Reaches.iff_mem_of_closed {doc root : ATree} {names : List String} (hn : ∀ n ∈ names, Reaches doc root n)
    (h : ∀ ss, Src doc root names ss → SpreadNames ss (· ∈ names)) (n : String) :
    n ∈ names ↔ Reaches doc root n := by
  refine ⟨hn n, fun hr => ?_⟩
  induction hr with
  | base hsp hn => exact h _ (.inl rfl) _ hsp _ hn
  | step _ hg hk hsp hn ih => exact h _ (.inr ⟨_, ih, fragSelSet_eq_some.mpr ⟨_, hg, hk⟩⟩) _ hsp _ hn

/-- The worklist loop, when it does not run out of fuel, appends the fragments of the names it newly collects, and
ends with exactly the reachable names collected.  Invariant: the collected names are reachable, the stacked sets
mention reachable names only, and every source of collected names is stacked or has all the names it mentions
collected. -/
theorem refsLoop_spec (doc root : ATree) : ∀ (fuel : Nat) (stack : List ATree) (names : List String)
    (frs : List ATree), (refsLoop doc fuel stack names frs).2 = false → (∀ n ∈ names, Reaches doc root n) →
    (∀ s ∈ stack, SpreadNames s (Reaches doc root)) →
    (∀ ss, Src doc root names ss → ss ∈ stack ∨ SpreadNames ss (· ∈ names)) →
    ∃ new, (refsLoop doc fuel stack names frs).1 = frs ++ new.filterMap (getFragment doc) ∧
      ∀ n, n ∈ names ++ new ↔ Reaches doc root n := by
  intro fuel
  induction fuel with
  | zero =>
    intro stack names frs hfl hn _ hc
    cases stack with
    | nil => exact ⟨[], by simp only [refsLoop_nil, List.filterMap_nil, List.append_nil], by
        simpa only [List.append_nil] using
          Reaches.iff_mem_of_closed hn fun ss h => (hc ss h).resolve_left List.not_mem_nil⟩
    | cons s st => exact Bool.noConfusion hfl
  | succ fuel ih =>
    intro stack names frs hfl hn hs hc
    cases stack with
    | nil => exact ⟨[], by simp only [refsLoop_nil, List.filterMap_nil, List.append_nil], by
        simpa only [List.append_nil] using
          Reaches.iff_mem_of_closed hn fun ss h => (hc ss h).resolve_left List.not_mem_nil⟩
    | cons s st =>
      simp only [refsLoop, refsInner_eq, Bool.or_eq_false_iff, List.nil_append] at hfl ⊢
      have hnew : ∀ n, n ∈ names ++ newNames (getSpreads s).1 names ↔
          n ∈ names ∨ ∃ sp, SpreadIn s sp ∧ sp.nameValue = some n := by
        simp only [mem_append_newNames, getSpreads_mem_iff, implies_true]
      have hn' : ∀ n ∈ names ++ newNames (getSpreads s).1 names, Reaches doc root n := fun n h =>
        ((hnew n).mp h).elim (hn n) fun ⟨sp, hsp, hsn⟩ => hs s List.mem_cons_self sp hsp n hsn
      obtain ⟨new, e, h⟩ := ih _ _ _ hfl.1 hn'
        (fun s' h => (List.mem_append.mp h).elim
          (fun h =>
            have ⟨n, hm, e⟩ := List.mem_filterMap.mp (List.mem_reverse.mp h)
            (hn' n (List.mem_append_right _ hm)).selSet e)
          fun h => hs s' (List.mem_cons_of_mem _ h))
        (by
          intro ss hss
          have hss : Src doc root names ss ∨
              ∃ n ∈ newNames (getSpreads s).1 names, fragSelSet doc n = some ss := by
            rcases hss with rfl | ⟨n, hn', e⟩
            · exact .inl (.inl rfl)
            · exact (List.mem_append.mp hn').elim (fun h => .inl (.inr ⟨n, h, e⟩)) fun h => .inr ⟨n, h, e⟩
          rcases hss with hss | ⟨n, hn', e⟩
          · rcases hc ss hss with h | h
            · rcases List.mem_cons.mp h with rfl | h
              · exact .inr fun sp hsp n hsn => (hnew n).mpr (.inr ⟨sp, hsp, hsn⟩)
              · exact .inl (List.mem_append_right _ h)
            · exact .inr fun sp hsp n hsn => List.mem_append_left _ (h sp hsp n hsn)
          · exact .inl (List.mem_append_left _ (List.mem_reverse.mpr (List.mem_filterMap.mpr ⟨n, hn', e⟩))))
      exact ⟨newNames (getSpreads s).1 names ++ new, by simp only [e, List.append_assoc, List.filterMap_append],
        by simpa only [List.append_assoc] using h⟩

/-- `get_recursively_referenced_fragments(op)` returns exactly the fragments (as `get_fragment` resolves names) of the
names reachable from the operation's selection set; nothing if it has none. -/
theorem getRecFrags_mem_iff (doc op f : ATree) : f ∈ (getRecFrags doc op).1 ↔
    ∃ ss, op.kid "selection_set" = some ss ∧ ∃ n, Spec.Reaches doc ss n ∧ getFragment doc n = some f := by
  have hfl := recFrags_fuel_enough doc op
  unfold getRecFrags at hfl ⊢
  cases hss : op.kid "selection_set" with
  | none => simp
  | some ss =>
    rw [hss] at hfl
    obtain ⟨new, e, h⟩ := refsLoop_spec doc ss _ [ss] [] [] hfl nofun
      (fun s hs _ hsp _ hsn => .base (List.mem_singleton.mp hs ▸ hsp) hsn)
      (fun s hs => .inl (by simpa [Src] using hs))
    simp only [e, List.nil_append, List.mem_filterMap, ← h, Option.some.injEq, exists_eq_left']

end Gql.Validation.Rules
