import Gql.Proofs.ProtoAccept
import Gql.Proofs.ProtoPub
/-!
Assembly: the per-clause facts about the payload stream (P1 … P7, each proved separately) give
`StreamOk`, hence acceptance by the executable validator (`checkPrefix_of_streamOk`).
-/
namespace Gql.Async
open Gql.Spec.Protocol

theorem hasNextOk_split (pre : List Payload) (pl : Payload) (post : List Payload)
    (h : HasNextOk (pre ++ pl :: post)) (hp : post ≠ []) : pl.hasNext = true :=
  (hasNextOk_iff _).mp h pl (by simp [List.dropLast_append_of_ne_nil, List.dropLast_cons_of_ne_nil hp])

/-- In a duplicate-free concatenation the part of one element is duplicate-free and disjoint from
what comes before. -/
theorem nodup_flatMap_mid {α β : Type} (f : α → List β) (pre : List α) (x : α) (post : List α)
    (h : ((pre ++ x :: post).flatMap f).Nodup) : (f x).Nodup ∧ ∀ b ∈ f x, b ∉ pre.flatMap f := by
  rw [List.flatMap_append, List.flatMap_cons, ← List.append_assoc] at h
  obtain ⟨_, h2, hd⟩ := List.nodup_append.mp (List.nodup_append.mp h).1
  exact ⟨h2, fun b hb hb1 => hd b hb1 b hb rfl⟩

theorem streamOk_of_facts (encl : Pending → Pending → Bool) (ps : List Payload)
    (hann : (announcedIds ps).Nodup) (hreuse : NoReuse [] ps) (hlate : NoLateData [] ps)
    (hcomp : (completedIds ps).Nodup) (hdata : DataAnnounced [] ps) (hnext : HasNextOk ps)
    (hnest : ∀ k, k < ps.length → ∀ a ∈ pendEntries (ps.take (k + 1)), ∀ b ∈ pendEntries (ps.take (k + 1)),
      a.id ∉ completedIds (ps.take (k + 1)) → encl a b = false)
    (hlast : ∀ p ∈ ps, p.hasNext = false → ∀ i ∈ announcedIds ps, i ∈ completedIds ps) :
    StreamOk encl ps := by
  intro pre pl post hsplit
  subst hsplit
  have htake : (pre ++ pl :: post).take (pre.length + 1) = pre ++ [pl] := by
    have : pre ++ pl :: post = (pre ++ [pl]) ++ post := by simp
    rw [this, List.take_left' (by simp)]
  refine ⟨⟨?_, ?_, ?_, ?_, ?_, ?_, ?_⟩, hasNextOk_split pre pl post hnext⟩
  · exact (nodup_flatMap_mid _ pre pl post hann).1
  · intro a ha
    constructor
    · exact (nodup_flatMap_mid _ pre pl post hann).2 a.id (List.mem_map_of_mem ha)
    · have := ((noReuse_append [] pre (pl :: post)).mp hreuse).2
      simp only [NoReuse, List.nil_append] at this
      exact this.1 a ha
  · intro e he
    constructor
    · have := (hdata.split pre pl post rfl).1 e he
      simpa using this
    · have := ((noLateData_append [] pre (pl :: post)).mp hlate).2
      simp only [NoLateData, List.nil_append] at this
      exact this.1 e he
  · exact (nodup_flatMap_mid _ pre pl post hcomp).1
  · intro c hc
    constructor
    · exact (nodup_flatMap_mid _ pre pl post hcomp).2 c.id (List.mem_map_of_mem hc)
    · have := (hdata.split pre pl post rfl).2 c hc
      simpa using this
  · intro b hb a ha hnc _
    have hk : pre.length < (pre ++ pl :: post).length := by simp
    have hb' : b ∈ pendEntries (pre ++ [pl]) := by
      simp only [pendEntries, List.flatMap_append, List.mem_append]
      right; simpa using hb
    have := hnest pre.length hk
    rw [htake] at this
    exact this a ha b hb' hnc
  · intro hn a ha
    have hpost : post = [] := by
      cases post with
      | nil => rfl
      | cons q r =>
        have := hasNextOk_split pre pl (q :: r) hnext (by simp)
        rw [hn] at this; cases this
    subst hpost
    exact hlast pl (by simp) hn a.id (announcedIds_eq _ ▸ List.mem_map_of_mem ha)

theorem ancestorLabel_anc (σ : Static) (parents : List (Nat × Nat))
    (hpar : ∀ g p, σ.parent g = some p ↔ (g, p) ∈ parents) :
    ∀ fuel a b, ancestorLabel parents fuel a b = true → Anc σ a b := by
  intro fuel
  induction fuel with
  | zero => intro a b h; simp [ancestorLabel] at h
  | succ n ih =>
    intro a b h
    unfold ancestorLabel at h
    split at h
    · cases h
    · rename_i k p hf
      have hk : k = b := by
        have := List.find?_some hf
        simpa using this
      have hm : (k, p) ∈ parents := List.mem_of_find?_eq_some hf
      subst hk
      have hp : σ.parent k = some p := (hpar k p).mpr hm
      simp only [Bool.or_eq_true, beq_iff_eq] at h
      rcases h with h | h
      · subst h; exact Anc.parent hp
      · exact Anc.step hp (ih a p h)

theorem enclByLabels_anc (σ : Static) (parents : List (Nat × Nat))
    (hpar : ∀ g p, σ.parent g = some p ↔ (g, p) ∈ parents) (a b : Pending)
    (h : enclByLabels parents a b = true) : ∃ ga gb, a.label = some ga ∧ b.label = some gb ∧ Anc σ ga gb := by
  unfold enclByLabels at h
  split at h
  · rename_i la lb ha hb
    simp only [Bool.and_eq_true] at h
    exact ⟨la, lb, ha, hb, ancestorLabel_anc σ parents hpar _ _ _ h.1⟩
  · cases h

/-- `DataAnnounced` for the whole payload stream of a well-formed history. -/
theorem payloads_dataAnnounced (σ : Static) (π : PubStatic) (fuel : Nat) (work : Option Work)
    (h : List Tick) (hok : envOk σ fuel work h = true) :
    DataAnnounced [] (payloads σ π fuel work h) := by
  rw [(payloads_eq σ π fuel work h).1]
  obtain ⟨_, _, inv⟩ := schedInv_final σ fuel work h hok
  exact initial_dataAnnounced π _ _ _ inv.pre

end Gql.Async
