import Gql.Proofs.ParseWfExec
import Gql.Proofs.ExecDocParse
/-!
C08, converse direction (`parse_wf`), second layer of the document grammar: descriptions, variable
definitions, operation definitions and fragment definitions (no `experimental_fragment_arguments`).
Whatever `parse_operation_definition` / `parse_fragment_definition` return from a parser state over
the tokens of a source text without surrogates is the tree of a well-formed `XDef`.
-/
namespace Gql.Syntax
open Gql Gql.Text

section
variable {body : List Nat} (hsrc : ∀ x ∈ body, isSurr x = false) {cfg : Cfg} {s : PS}

theorem parseOperationType_vinv : Wp body (parseOperationType cfg) s fun a _ =>
    ∃ ot : List Nat, Exec.isOpType ot ∧ a = .str ot :=
  .vps fun hg => (expectToken_vinv .name).step fun _ _ ⟨e, hk⟩ => by
    subst e
    obtain ⟨nv, hnv, _⟩ := hg.name hk
    refine .ite (fun hany => .pure ⟨nv, ?_, by simp [tokVal, hnv]⟩) fun _ => .unexpected
    simp only [Gql.Generated.ParserTables.operationTypes, List.any_cons, List.any_nil, Bool.or_false,
      Bool.or_eq_true, valueIs_iff hnv] at hany
    exact hany

theorem expectKeyword_vinv (v : String) : Wp body (expectKeyword cfg v) s fun _ _ => True := by
  rw [expectKeyword]
  exact .cur <| .ite (fun _ => advanceLexer_vinv) fun _ => .fail

include hsrc

theorem parseDescription_vinv : Wp body (parseDescription cfg) s fun a _ =>
    ∃ d : Desc, Exec.descWf d ∧ a = Exec.descAst d := by
  -- `peek_description` reads the kind of the current token and leaves the state as it is
  show Wp body (if (s.cur.kind == .string || s.cur.kind == .blockString) = true then parseStringLiteral cfg
    else pure .none) s _
  refine .ite (fun hk => ?_) fun _ => .pure ⟨none, trivial, rfl⟩
  simp only [Bool.or_eq_true, beq_iff_eq] at hk
  exact (parseStringLiteral_vinv hk).mono fun _ _ ⟨sv, b, hch, hrep, _, e⟩ =>
    ⟨some (sv, b), ⟨fun c hc => ChOk.isScalar hsrc (hch c hc), hrep⟩, by simp [e, Val.toAst, Exec.descAst]⟩

theorem parseVariableDefinition_vinv (n : Nat) : Wp body (parseVariableDefinition cfg n) s fun a _ =>
    ∃ vd : VarDef, Exec.varDefWf vd ∧ a = Exec.varDefAst vd :=
  (parseDescription_vinv hsrc).step fun _ _ ⟨desc, hdesc, e1⟩ =>
  parseVariable_vinv.step fun _ _ ⟨vn, hvn, e2⟩ =>
  (expectToken_vinv .colon).step fun _ _ _ =>
  (typeRef_vinv n _).step fun _ _ ⟨ty, htw, hts, e4⟩ =>
  (expectOptionalToken_vinv .equals).step fun hasDefault s5 _ => by
    have hd : Wp body (if hasDefault = true then valueLit n cfg true else pure .none) s5 fun dflt _ =>
        ∃ dv : Option Val, (match dv with | none => True | some v => Val.wf true v) ∧ dflt = Exec.dfltAst dv :=
      .ite (fun _ => (valueLit_vwf hsrc true n s5).mono fun _ _ ⟨v, hv, e⟩ => ⟨some v, hv, e⟩)
        fun _ => .pure ⟨none, trivial, rfl⟩
    exact hd.step fun _ _ ⟨dv, hdv, e6⟩ => (parseDirectives_vinv hsrc n true).step
      fun _ _ ⟨ds, hds, hod⟩ => .pure ⟨⟨desc, vn, ty, dv, ds⟩, ⟨hdesc, hvn, htw, hts, hdv, hds⟩,
        by rw [mk_varDefNode, hod, e1, e2, e4, e6]; simp only [Exec.varDefAst, Val.toAst]⟩

theorem parseVariableDefinitions_vinv (n : Nat) : Wp body (parseVariableDefinitions cfg n) s fun o _ =>
    ∃ vds : List VarDef, Exec.varDefsWf vds ∧ optListO o = optL (vds.map Exec.varDefAst) :=
  (parseOptionalMany_vinv (fun _ => parseVariableDefinition_vinv hsrc n) n .parenL .parenR).mono
    fun o _ ⟨xs, hall, e⟩ => by
      obtain ⟨vds, hvds, rfl⟩ := exists_list_of_forall (Ws := Exec.varDefsWf) (asts := List.map Exec.varDefAst)
        ⟨trivial, rfl⟩ (fun _ _ hb hbs => ⟨⟨hb, hbs⟩, rfl⟩) xs hall
      exact ⟨vds, hvds, e⟩

/-- **`parse_wf` for operation definitions** (no `experimental_fragment_arguments`). -/
theorem parseOperationDefinition_vinv (hfa : cfg.fragArgs = false) (n : Nat) :
    Wp body (parseOperationDefinition cfg n) s fun a _ => ∃ x : XDef, Exec.xdefWf false x ∧ a = Exec.xdefAst false x := by
  rw [parseOperationDefinition]
  refine .peek <| .ite (fun _ => (selectionSet_vinv hsrc hfa n s).step fun _ _ ⟨sels, hsw, hne, e⟩ =>
    .pure ⟨.op none (S "query") [] [] [] sels, ⟨trivial, Or.inl rfl, Or.inl rfl, trivial, trivial, hne, hsw⟩,
      by rw [mk_opNode, e]; simp [Exec.xdefAst, Exec.descAst, optName, optL, Exec.dirsAst, strCps, S]⟩) fun _ => ?_
  refine (parseDescription_vinv hsrc).step fun _ _ ⟨desc, hdesc, e1⟩ => ?_
  refine parseOperationType_vinv.step fun _ s2 ⟨ot, hot, e2⟩ => .peek ?_
  have hn : Wp body (if (s2.cur.kind == TokKind.name) = true then parseName cfg else pure .none) s2 fun nm _ =>
      ∃ on : List Nat, (on = [] ∨ validName on = true) ∧ nm = optName on :=
    .ite (fun _ => parseName_vinv.mono fun _ _ ⟨on, hon, _, e⟩ => ⟨on, .inr hon, by rw [e, optName_of_valid hon]⟩)
      fun _ => .pure ⟨[], .inl rfl, by simp [optName]⟩
  refine hn.step fun _ _ ⟨on, hon, e4⟩ => ?_
  refine (parseVariableDefinitions_vinv hsrc n).step fun _ _ ⟨vds, hvds, hov⟩ => ?_
  refine (parseDirectives_vinv hsrc n false).step fun _ s6 ⟨ds, hds, hod⟩ => ?_
  exact (selectionSet_vinv hsrc hfa n s6).step fun _ _ ⟨sels, hsw, hne, e7⟩ =>
    .pure ⟨.op desc ot on vds ds sels, ⟨hdesc, hot, hon, hvds, hds, hne, hsw⟩,
      by rw [mk_opNode, hov, hod, e1, e2, e4, e7]; simp only [Exec.xdefAst]⟩

/-- **`parse_wf` for fragment definitions** (no `experimental_fragment_arguments`). -/
theorem parseFragmentDefinition_vinv (hfa : cfg.fragArgs = false) (n : Nat) :
    Wp body (parseFragmentDefinition cfg n) s fun a _ => ∃ x : XDef, Exec.xdefWf false x ∧ a = Exec.xdefAst false x := by
  rw [parseFragmentDefinition]
  refine (parseDescription_vinv hsrc).step fun _ _ ⟨desc, hdesc, e1⟩ => ?_
  refine (expectKeyword_vinv "fragment").step fun _ _ _ => ?_
  refine parseFragmentName_vinv.step fun _ _ ⟨fn, hfn, hon, e3⟩ => ?_
  simp only [hfa, Bool.false_eq_true, ↓reduceIte]
  refine .pureBind ?_
  refine Wp.step ((expectKeyword_vinv "on").step fun _ _ _ => parseNamedType_vinv) fun _ _ ⟨tn, htn, e5⟩ => ?_
  refine (parseDirectives_vinv hsrc n false).step fun _ s6 ⟨ds, hds, hod⟩ => ?_
  exact (selectionSet_vinv hsrc hfa n s6).step fun _ _ ⟨sels, hsw, hne, e7⟩ =>
    .pure ⟨.frag desc fn [] tn ds sels, ⟨hdesc, hfn, hon, Or.inl rfl, trivial, htn, hds, hne, hsw⟩,
      by rw [mk_fragNode, hod, e1, e3, e5, e7]; simp [Exec.xdefAst]⟩

end

end Gql.Syntax
