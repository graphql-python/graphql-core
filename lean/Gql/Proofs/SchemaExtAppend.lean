import Gql.Proofs.SchemaBuildSchema
/-!
C19: sequencing in `Out` (`andThen`) and `mapMOut` under it; the append laws — applying extension
nodes `e1` then `e2` is applying `e1 ++ e2`, per kind of type, for new types, for directives and
for directive definitions; `collect (A ++ B)`; what extending keeps (names, kinds).
-/
namespace Gql.Types
open Gql Gql.Generated

/-- Sequencing in `Out` (explicit, to state the merge laws). -/
def andThen {α β : Type} (x : B α) (f : α → B β) : B β :=
  match x with
  | .ok a => f a
  | .err e => .err e
  | .crash c => .crash c

@[simp] theorem andThen_ok {α β : Type} (a : α) (f : α → B β) : andThen (.ok a) f = f a := rfl
@[simp] theorem andThen_err {α β : Type} (e : BErr) (f : α → B β) : andThen (.err e) f = .err e := rfl
@[simp] theorem andThen_crash {α β : Type} (c : String) (f : α → B β) : andThen (.crash c) f = .crash c := rfl

theorem andThen_eq_ok {α β : Type} {x : B α} {f : α → B β} {b : β} :
    andThen x f = .ok b ↔ ∃ a, x = .ok a ∧ f a = .ok b := by
  cases x <;> simp

theorem andThen_assoc {α β γ : Type} (x : B α) (f : α → B β) (g : β → B γ) :
    andThen (andThen x f) g = andThen x (fun a => andThen (f a) g) := by
  cases x <;> rfl

theorem andThen_congr {α β : Type} {x : B α} {f g : α → B β} (h : ∀ a, x = .ok a → f a = g a) :
    andThen x f = andThen x g := by
  cases x with
  | ok a => exact h a rfl
  | err _ | crash _ => rfl

theorem mapMOut_cons {α β : Type} (f : α → B β) (x : α) (xs : List α) :
    mapMOut f (x :: xs) = andThen (f x) fun y => andThen (mapMOut f xs) fun ys => .ok (y :: ys) := by
  rw [mapMOut]
  cases f x <;> try rfl
  cases mapMOut f xs <;> rfl

theorem mapMOut_append {α β : Type} (f : α → B β) (xs ys : List α) :
    mapMOut f (xs ++ ys) =
      andThen (mapMOut f xs) (fun a => andThen (mapMOut f ys) (fun b => .ok (a ++ b))) := by
  induction xs with
  | nil => cases h : mapMOut f ys <;> simp [mapMOut, h]
  | cons x xs ih => simp only [List.cons_append, mapMOut_cons, ih, andThen_assoc, andThen_ok]

theorem mapMOut_congr {α β : Type} (f g : α → B β) (xs : List α) (h : ∀ x ∈ xs, f x = g x) :
    mapMOut f xs = mapMOut g xs := by
  induction xs with
  | nil => rfl
  | cons x xs ih =>
    simp only [mapMOut]
    rw [h x (by simp), ih (fun y hy => h y (by simp [hy]))]

theorem mapMOut_cons_ok {α β : Type} {f : α → B β} {x : α} {xs : List α} {ys : List β}
    (h : mapMOut f (x :: xs) = .ok ys) :
    ∃ y ys', f x = .ok y ∧ mapMOut f xs = .ok ys' ∧ ys = y :: ys' := by
  simp only [mapMOut_cons, andThen_eq_ok, Out.ok.injEq] at h
  obtain ⟨y, hx, ys', hxs, rfl⟩ := h
  exact ⟨y, ys', hx, hxs, rfl⟩

theorem mapMOut_andThen {α β γ : Type} {f : α → B β} {g : β → B γ} {h : α → B γ} {xs : List α} {ys : List β}
    (hf : mapMOut f xs = .ok ys) (hh : ∀ x ∈ xs, h x = andThen (f x) g) : mapMOut h xs = mapMOut g ys := by
  induction xs generalizing ys with
  | nil => cases hf; rfl
  | cons x xs ih =>
    obtain ⟨y, ys', hx, hxs, rfl⟩ := mapMOut_cons_ok hf
    simp only [mapMOut_cons, hh x List.mem_cons_self, hx, andThen_ok,
      ih hxs fun z hz => hh z (List.mem_cons_of_mem _ hz)]

theorem mapMOut_keys {α β : Type} (f : α → B β) (k1 : α → Str) (k2 : β → Str) (xs : List α) (ys : List β)
    (hf : mapMOut f xs = .ok ys) (hk : ∀ x ∈ xs, ∀ y, f x = .ok y → k2 y = k1 x) :
    ys.map k2 = xs.map k1 := by
  induction xs generalizing ys with
  | nil => cases hf; rfl
  | cons x xs ih =>
    obtain ⟨y, ys', hx, hxs, rfl⟩ := mapMOut_cons_ok hf
    simp only [List.map_cons, hk x List.mem_cons_self y hx,
      ih ys' hxs fun z hz => hk z (List.mem_cons_of_mem _ hz)]

theorem upsertAll_upsertAll {α : Type} (key : α → Str) (xs ys zs : List α) :
    upsertAll key (upsertAll key xs ys) zs = upsertAll key xs (ys ++ zs) := by
  simp [upsertAll, List.foldl_append]

theorem mem_upsert_keys {α : Type} (key : α → Str) (ys : List α) (x : α) (c : Str) :
    c ∈ (upsert key ys x).map key ↔ c ∈ ys.map key ∨ c = key x := by
  induction ys with
  | nil => simp [upsert]
  | cons y ys ih =>
    simp only [upsert]
    split
    · rename_i h
      simp only [List.map_cons, List.mem_cons, h]
      rw [or_right_comm, or_self]
    · simp only [List.map_cons, List.mem_cons, ih, or_assoc]

theorem mem_upsertAll_keys {α : Type} (key : α → Str) (xs ys : List α) (c : Str) :
    c ∈ (upsertAll key xs ys).map key ↔ c ∈ xs.map key ∨ c ∈ ys.map key := by
  induction ys generalizing xs with
  | nil => simp [upsertAll]
  | cons y ys ih =>
    rw [show upsertAll key xs (y :: ys) = upsertAll key (upsert key xs y) ys from rfl, ih, mem_upsert_keys]
    simp only [List.map_cons, List.mem_cons, or_assoc]

theorem foldSpecifiedBy_append (u : Option Str) (e1 e2 : List TypeNode) :
    foldSpecifiedBy u (e1 ++ e2) = andThen (foldSpecifiedBy u e1) (fun u' => foldSpecifiedBy u' e2) := by
  induction e1 generalizing u with
  | nil => simp [foldSpecifiedBy, andThen]
  | cons e es ih =>
    simp only [List.cons_append, foldSpecifiedBy]
    cases h : specifiedByOf e.dirs with
    | ok v =>
      cases v with
      | none => simp only []; exact ih u
      | some w =>
        simp only []
        split
        · exact ih u
        · exact ih (some w)
    | err x => simp [andThen]
    | crash c => simp [andThen]

/-- **Per-kind merge law** (`object_mapper`, `interface_mapper`, `union_mapper`, `enum_mapper`,
`input_object_mapper`, `scalar_mapper`): applying the extension nodes `e1` and then `e2` to a type
is applying `e1 ++ e2` at once. -/
theorem extendType_append (t : TypeDef) (e1 e2 : List TypeNode) :
    extendType t (e1 ++ e2) = andThen (extendType t e1) (fun t' => extendType t' e2) := by
  cases t with
  | scalar n d u =>
    simp only [extendType, foldSpecifiedBy_append]
    cases foldSpecifiedBy u e1 <;> simp [andThen]
  | union n d ms => simp [extendType, andThen, List.flatMap_append]
  | object | interface | enum | input =>
    simp only [extendType, List.flatMap_append, mapMOut_append]
    cases mapMOut _ (e1.flatMap _) with
    | err | crash => rfl
    | ok a =>
      simp only [andThen_ok]
      cases mapMOut _ (e2.flatMap _) <;> simp [upsertAll_upsertAll, List.append_assoc]

/-- A new type built with extensions `e1 ++ e2` is the type built with `e1`, then extended by `e2`
(`build_named_type` with its extension nodes vs. building first and extending later). -/
theorem buildNamedType_append (desc : Option DescNode) (node : TypeNode) (e1 e2 : List TypeNode) :
    buildNamedType desc node (e1 ++ e2) =
      andThen (buildNamedType desc node e1) (fun t => extendType t e2) := by
  unfold buildNamedType
  cases hb : node.body with
  | scalar =>
    simp only []
    cases specifiedByOf node.dirs with
    | ok u => exact extendType_append _ e1 e2
    | err _ | crash _ => rfl
  | object _ _ | interface _ _ | union _ | enum _ | input _ =>
    simp only []; rw [← List.cons_append]; exact extendType_append _ _ e2

theorem extsFor_append (k : Nat) (n : Str) (e1 e2 : List TypeNode) :
    extsFor k n (e1 ++ e2) = extsFor k n e1 ++ extsFor k n e2 := by
  simp [extsFor]

theorem firstExtReason_append (n : Str) (x1 x2 : List (Str × List DirApp)) :
    firstExtReason n (x1 ++ x2) =
      andThen (firstExtReason n x1) (fun r => match r with
        | some v => .ok (some v)
        | none => firstExtReason n x2) := by
  induction x1 with
  | nil => simp [firstExtReason, andThen]
  | cons p ps ih =>
    obtain ⟨m, ds⟩ := p
    simp only [List.cons_append, firstExtReason]
    split
    · cases deprecationOf ds with
      | ok r => cases r <;> simp [andThen, ih]
      | err e => simp [andThen]
      | crash c => simp [andThen]
    · exact ih

/-- Directive extensions (`extend_directive`): applying the extension nodes `x1` and then `x2`
is applying `x1 ++ x2`. -/
theorem extendDirective_append (x1 x2 : List (Str × List DirApp)) (d : Directive) :
    extendDirective (x1 ++ x2) d = andThen (extendDirective x1 d) (extendDirective x2) := by
  unfold extendDirective
  cases hd : d.depr with
  | some r => simp [andThen, hd]
  | none =>
    simp only [firstExtReason_append]
    cases firstExtReason d.name x1 with
    | ok r =>
      cases r with
      | none => simp [andThen]
      | some v => simp [andThen]
    | err e => simp [andThen]
    | crash c => simp [andThen]

theorem firstExtReason_skip (n : Str) (x1 x2 : List (Str × List DirApp)) (h : ∀ x ∈ x1, x.1 ≠ n) :
    firstExtReason n (x1 ++ x2) = firstExtReason n x2 := by
  induction x1 with
  | nil => rfl
  | cons p ps ih =>
    obtain ⟨m, ds⟩ := p
    have hm : m ≠ n := h (m, ds) (by simp)
    simp only [List.cons_append, firstExtReason, hm, ↓reduceIte]
    exact ih (fun x hx => h x (by simp [hx]))

def Def.directiveName : Def → Str
  | .directiveDef _ n .. => n
  | _ => []

theorem buildDirective_skip (x1 x2 : List (Str × List DirApp)) (d : Def)
    (h : ∀ x ∈ x1, x.1 ≠ d.directiveName) : buildDirective (x1 ++ x2) d = buildDirective x2 d := by
  cases d with
  | directiveDef desc name args dirs rep locs =>
    simp only [buildDirective, extendDirective, firstExtReason_skip name x1 x2 h]
  | _ => rfl

theorem buildDirective_append (x1 x2 : List (Str × List DirApp)) (d : Def) :
    buildDirective (x1 ++ x2) d = andThen (buildDirective x1 d) (extendDirective x2) := by
  cases d with
  | directiveDef desc name args dirs rep locs =>
    simp only [buildDirective, extendDirective_append]
    split
    · cases deprecationOf dirs with
      | ok r => cases buildArgs args <;> rfl
      | err | crash => rfl
    · rfl
  | _ => rfl

/-- Componentwise concatenation of what two documents contribute; a later schema definition wins. -/
def Parts.merge (p q : Parts) : Parts :=
  { typeDefs := p.typeDefs ++ q.typeDefs
    typeExts := p.typeExts ++ q.typeExts
    dirDefs := p.dirDefs ++ q.dirDefs
    dirExts := p.dirExts ++ q.dirExts
    schemaDef := match q.schemaDef with
      | some d => some d
      | none => p.schemaDef
    schemaExts := p.schemaExts ++ q.schemaExts }

theorem merge_empty (q : Parts) : Parts.merge {} q = q := by
  cases q with
  | mk a b c d e f => cases e <;> simp [Parts.merge]

theorem merge_assoc (p q r : Parts) : (p.merge q).merge r = p.merge (q.merge r) := by
  cases h : r.schemaDef <;> simp [Parts.merge, h, List.append_assoc]

theorem collectStep_eq_merge (p : Parts) (d : Def) : collectStep p d = p.merge (collectStep {} d) := by
  cases d <;> simp [collectStep, Parts.merge]

theorem foldl_collectStep (p : Parts) (ds : List Def) :
    ds.foldl collectStep p = Parts.merge p (collect ds) := by
  induction ds generalizing p with
  | nil => cases p with
    | mk a b c d e f => simp [collect, Parts.merge]
  | cons d ds ih =>
    simp only [List.foldl_cons, collect]
    rw [ih (collectStep p d), ih (collectStep {} d), collectStep_eq_merge, merge_assoc]

/-- `extend_schema_args` collects from `A ++ B` what it collects from `A` and from `B`. -/
theorem collect_append (A B : List Def) : collect (A ++ B) = Parts.merge (collect A) (collect B) := by
  unfold collect
  rw [List.foldl_append]
  exact foldl_collectStep _ B

theorem extendType_name_kind (t t' : TypeDef) (e : List TypeNode) (h : extendType t e = .ok t') :
    t'.name = t.name ∧ t'.kind = t.kind := by
  cases t <;> simp only [extendType] at h <;> (try split at h) <;> cases h <;> exact ⟨rfl, rfl⟩

theorem buildNamedType_name_kind (d : Option DescNode) (node : TypeNode) (e : List TypeNode) (t : TypeDef)
    (h : buildNamedType d node e = .ok t) : t.name = node.name ∧ t.kind = node.body.kind := by
  unfold buildNamedType at h
  cases hb : node.body <;> rw [hb] at h <;> simp only [] at h
  · split at h
    · exact extendType_name_kind _ _ _ h
    · cases h
    · cases h
  all_goals exact extendType_name_kind _ _ _ h

theorem extendDirective_name (x : List (Str × List DirApp)) (d d' : Directive) (h : extendDirective x d = .ok d') :
    d'.name = d.name := by
  unfold extendDirective at h
  split at h <;> (try split at h) <;> cases h <;> rfl

end Gql.Types
