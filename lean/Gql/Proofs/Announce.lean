import Gql.Proofs.RootNodes
import Gql.Proofs.Complete
/-!
Every handler of a legal graph event keeps the scheduler-graph invariant `Sched` (`Good`, the
introduced groups closed under `parent`, no ancestor of a root in the graph, every root with its
node), announces only nodes that are not in the publisher's table (`AnnFresh`) and keeps the tracked
domain of that table equal to the roots.  Here: the invariant; what it says of a root (`GFit`, `SFit`:
what a group or stream must satisfy to be made one; `PruneOut.fit`: what `prune` promotes does); the
one rule by which it survives a change of graph and roots (`Sched.regraft`, with the instances
`Sched.of_eq`, `upd`, `finish`, `grow`); and the loops of `_task_success` and `_task_failure`.
`_stream_items`, the other handlers and the run invariant are in AnnounceRun.lean.
-/
namespace Gql.Async
open Gql.Spec.Protocol

theorem Good.congr {σ : Static} {e e' : EnvSt} {q : WQ} (g : Good σ e q)
    (hg : e'.introG = e.introG) (hs : e'.introS = e.introS) : Good σ e' q :=
  ⟨g.forest, hg ▸ g.known, g.sforest, hs ▸ g.sknown⟩

theorem annFresh_noNew (D : List Node) (evs : List WQEvent) (h : ∀ e ∈ evs, evNew e = []) :
    AnnFresh D evs := by
  induction evs generalizing D with
  | nil => trivial
  | cons e evs ih =>
    refine ⟨⟨by rw [h e (by simp)]; exact List.nodup_nil, by rw [h e (by simp)]; simp⟩, ?_⟩
    exact ih _ (fun x hx => h x (List.mem_cons_of_mem _ hx))

theorem nodup_map_inj {α β : Type} (f : α → β) (hf : ∀ a b, f a = f b → a = b) (l : List α)
    (h : l.Nodup) : (l.map f).Nodup :=
  List.Pairwise.map f (fun a b hab e => hab (hf a b e)) h

theorem nodesOf_nodup (gs ss : List Nat) (hg : gs.Nodup) (hs : ss.Nodup) : (nodesOf gs ss).Nodup := by
  unfold nodesOf
  rw [List.nodup_append]
  refine ⟨?_, ?_, ?_⟩
  · exact nodup_map_inj _ (fun a b h => by cases h; rfl) _ hg
  · exact nodup_map_inj _ (fun a b h => by cases h; rfl) _ hs
  · intro a ha b hb e
    obtain ⟨x, _, rfl⟩ := List.mem_map.mp ha
    obtain ⟨y, _, rfl⟩ := List.mem_map.mp hb
    cases e

theorem group_mem_nodesOf {gs ss : List Nat} {x : Nat} : Node.group x ∈ nodesOf gs ss ↔ x ∈ gs := by
  simp [nodesOf]

theorem stream_mem_nodesOf {gs ss : List Nat} {x : Nat} : Node.stream x ∈ nodesOf gs ss ↔ x ∈ ss := by
  simp [nodesOf]

/-- The events of a finished group announce fresh nodes when the promoted nodes are distinct
and not in the tracked domain. -/
theorem annFresh_groupEvents (D : List Node) (g : Nat) (v : List GVal) (ng ns : List Nat)
    (hn : (nodesOf ng ns).Nodup) (hf : ∀ n ∈ nodesOf ng ns, n ∉ D) :
    AnnFresh D (groupEvents g v ng ns) := by
  unfold groupEvents
  split
  · exact ⟨⟨hn, fun n hn' hm => hf n hn' (List.mem_filter.mp hm).1⟩, trivial⟩
  · refine ⟨⟨List.nodup_nil, by simp [evNew]⟩, ⟨hn, fun n hn' hm => ?_⟩, trivial⟩
    have ⟨h1, h2⟩ := List.mem_filter.mp hm
    exact ((mem_domStep_GV D g v n).mp h1).elim (by simpa using h2) (hf n hn')

/-- The scheduler-graph invariant: `Good`, and P5 as a state invariant. -/
structure Sched (σ : Static) (e : EnvSt) (q : WQ) : Prop where
  good : Good σ e q
  closed : Closed σ e
  anti : Anti σ q
  nodes : RootsHaveNodes q

/-- What `Sched` says of a root group `x`.  A group of which it holds is fit to become a root. -/
structure GFit (σ : Static) (e : EnvSt) (q : WQ) (x : Nat) : Prop where
  known : x ∈ e.introG
  det : Detached q x
  noAnc : NoAnc σ q x
  node : hasNode q x

/-- The same for a root stream. -/
structure SFit (e : EnvSt) (q : WQ) (s : Nat) : Prop where
  known : s ∈ e.introS
  absent : ∀ t tn, alookup q.taskNodes t = some tn → s ∉ tn.childStreams

theorem GFit.sub {σ : Static} {e : EnvSt} {q q' : WQ} {x : Nat} (h : GFit σ e q x) (s : SubGraph q q')
    (k : hasNode q' x) : GFit σ e q' x :=
  ⟨h.known, h.det.sub s, h.noAnc.sub s, k⟩

theorem SFit.sub {e : EnvSt} {q q' : WQ} {s : Nat} (h : SFit e q s) (t : TSub q q') : SFit e q' s :=
  ⟨h.known, t.absent h.absent⟩

/-- What `prune` promotes is fit, when the groups it starts from are: a promoted group is one of them or
a known child of a deleted node, and has its ancestors deleted (`prune_noAnc`). -/
theorem PruneOut.fit {σ : Static} {e : EnvSt} {qin qout : WQ} {gs new : List Nat} (po : PruneOut qin gs qout new)
    (good : Good σ e qin) (hgs : ∀ y ∈ gs, y ∈ e.introG ∧ Detached qin y ∧ NoAnc σ qin y) :
    ∀ x ∈ new, GFit σ e qout x := fun x hx =>
  have tl := good.forest.treeLike
  ⟨(po.src x hx).elim (fun h => (hgs x h).1) fun ⟨p, hp, _⟩ => good.known.children p x hp,
    (po.src x hx).elim (fun h => (hgs x h).2.1.sub po.sub) fun ⟨_, hp, hn⟩ => tl.detached_of_gone po.sub hp hn,
    prune_noAnc σ _ _ _ _ po tl (fun y hy => (hgs y hy).2.2) x (.inl hx), po.kept x hx⟩

theorem Sched.rootGroup {σ : Static} {e : EnvSt} {q : WQ} (s : Sched σ e q) {x : Nat} (h : x ∈ q.rootGroups) :
    GFit σ e q x :=
  ⟨(s.good.rootGroup h).1, (s.good.rootGroup h).2, s.anti x h, s.nodes x h⟩

theorem Sched.rootStream {σ : Static} {e : EnvSt} {q : WQ} (s : Sched σ e q) {x : Nat} (h : x ∈ q.rootStreams) :
    SFit e q x :=
  ⟨(s.good.rootStream h).1, (s.good.rootStream h).2⟩

/-- The graph shrinks and the roots change (`Good.regraft`): the invariant is kept when the new roots were
fit in the old graph and the root groups still have their node.  The lemmas below are its instances. -/
theorem Sched.regraft {σ : Static} {e : EnvSt} {q q' : WQ} (s : Sched σ e q) (sh : Shrink q q')
    (hg : ∀ x ∈ q'.rootGroups, GFit σ e q x ∧ hasNode q' x) (hs : ∀ x ∈ q'.rootStreams, SFit e q x) :
    Sched σ e q' :=
  ⟨s.good.regraft sh (fun x hx => ⟨(hg x hx).1.known, (hg x hx).1.det⟩)
      (fun x hx => ⟨(hs x hx).known, (hs x hx).absent⟩),
    s.closed, fun r hr => (hg r hr).1.noAnc.sub sh.sub, fun r hr => (hg r hr).2⟩

/-- It does not look outside the graph, and survives dropping roots. -/
theorem Sched.of_eq {σ : Static} {e : EnvSt} {q q' : WQ} (s : Sched σ e q)
    (hg : q'.groupNodes = q.groupNodes) (ht : q'.taskNodes = q.taskNodes)
    (hrg : ∀ x, x ∈ q'.rootGroups → x ∈ q.rootGroups)
    (hrs : ∀ x, x ∈ q'.rootStreams → x ∈ q.rootStreams) : Sched σ e q' :=
  s.regraft (shrink_of_eq hg ht)
    (fun x hx => ⟨s.rootGroup (hrg x hx), nodesKept_of_eq hg x (s.nodes x (hrg x hx))⟩)
    (fun x hx => s.rootStream (hrs x hx))

theorem Sched.upd {σ : Static} {e : EnvSt} {q q' : WQ} (s : Sched σ e q) (h : Upd true q q') : Sched σ e q' :=
  s.regraft h.shrink
    (fun x hx => ⟨s.rootGroup (h.frame.rg ▸ hx), h.kept rfl x (s.nodes x (h.frame.rg ▸ hx))⟩)
    (fun _ hx => s.rootStream (h.frame.rs ▸ hx))

/-- A root group `g` finishes: nodes go, but none that is neither `g` nor listed as a child, and `g`
leaves the roots. -/
theorem Sched.finish {σ : Static} {e : EnvSt} {q q' : WQ} {g : Nat} (s : Sched σ e q) (sh : Shrink q q')
    (rg : q'.rootGroups = oerase q.rootGroups g) (rs : q'.rootStreams = q.rootStreams)
    (keeps : ∀ k, hasNode q k → k ≠ g → Detached q k → hasNode q' k) : Sched σ e q' :=
  s.regraft sh
    (fun x hx =>
      have ⟨hr, hne⟩ := (mem_oerase _ _ _).mp (rg ▸ hx)
      ⟨s.rootGroup hr, keeps x (s.nodes x hr) hne (s.rootGroup hr).det⟩)
    (fun _ hx => s.rootStream (rs ▸ hx))

theorem Sched.congr {σ : Static} {e e' : EnvSt} {q : WQ} (s : Sched σ e q)
    (hg : e'.introG = e.introG) (hs : e'.introS = e.introS) : Sched σ e' q :=
  ⟨s.good.congr hg hs, by unfold Closed; rw [hg]; exact s.closed, s.anti, s.nodes⟩

/-- Growing the roots by groups and streams that are fit. -/
theorem Sched.grow {σ : Static} {e : EnvSt} {q q' : WQ} (s : Sched σ e q) (sh : Shrink q q')
    (k : NodesKept q q') (ngs nss : List Nat)
    (rg : ∀ x, x ∈ q'.rootGroups → x ∈ q.rootGroups ∨ x ∈ ngs)
    (rs : ∀ x, x ∈ q'.rootStreams → x ∈ q.rootStreams ∨ x ∈ nss)
    (hg : ∀ x ∈ ngs, GFit σ e q x) (hs : ∀ s ∈ nss, SFit e q s) : Sched σ e q' :=
  s.regraft sh
    (fun x hx => have f := (rg x hx).elim s.rootGroup (hg x); ⟨f, k x f.node⟩)
    (fun x hx => (rs x hx).elim s.rootStream (hs x))

theorem Sched.startNewWork {σ : Static} {e : EnvSt} {q : WQ} (s : Sched σ e q) (ngs nss : List Nat)
    (hg : ∀ x ∈ ngs, GFit σ e q x) (hs : ∀ s ∈ nss, SFit e q s) :
    Sched σ e (Gql.Async.startNewWork σ q ngs nss) := by
  obtain ⟨rg, rs, _, _⟩ := startNewWork_roots σ q ngs nss
  exact s.grow (startNewWork_graph σ q ngs nss).1 (startNewWork_graph σ q ngs nss).2 ngs nss
    (fun x hx => by rw [rg, mem_foldl_oinsert] at hx; exact hx)
    (fun x hx => by rw [rs, mem_foldl_oinsert] at hx; exact hx) hg hs

/-- The loop invariant of `_task_success`; `acc.2.2` are the groups and streams to be promoted: they
are fit to become roots (`Sched.grow`), and the groups are no roots yet. -/
structure SuccAll (σ : Static) (e : EnvSt) (D : List Node)
    (acc : WQ × List WQEvent × List Nat × List Nat) : Prop where
  sched : Sched σ e acc.1
  dom : SuccInv D acc
  fresh : AnnFresh D acc.2.1
  gnew : ∀ x ∈ acc.2.2.1, GFit σ e acc.1 x ∧ x ∉ acc.1.rootGroups
  snew : ∀ s ∈ acc.2.2.2, SFit e acc.1 s

theorem SuccAll.setNode {σ : Static} {e : EnvSt} {D : List Node}
    {acc : WQ × List WQEvent × List Nat × List Nat} (h : SuccAll σ e D acc) {g : Nat} {n : GroupNode}
    (hl : alookup acc.1.groupNodes g = some n) (n' : GroupNode) (hc : n'.children = n.children) :
    SuccAll σ e D ({ acc.1 with groupNodes := aset acc.1.groupNodes g n' }, acc.2) := by
  have u := Upd.setGroup acc.1 n' hl hc
  have er := isRoot_congr (q := acc.1) (q' := { acc.1 with groupNodes := aset acc.1.groupNodes g n' }) rfl rfl
  refine ⟨h.sched.upd u, ⟨fun m => (h.dom.1 m).trans (by rw [er m]), h.dom.2⟩, h.fresh,
    fun x hx => ?_, fun s hs => (h.snew s hs).sub u.shrink.tsub⟩
  exact ⟨(h.gnew x hx).1.sub u.shrink.sub (u.kept rfl x (h.gnew x hx).1.node), (h.gnew x hx).2⟩

/-- A root group whose node is `n` finishes: `_finish_group_success` keeps the loop invariant. -/
theorem SuccAll.finish {σ : Static} {e : EnvSt} {D : List Node} {q : WQ} {evs : List WQEvent}
    {ngs nss : List Nat} (h : SuccAll σ e D (q, evs, ngs, nss)) {g : Nat} {n : GroupNode}
    (hl : alookup q.groupNodes g = some n) (hroot : g ∈ q.rootGroups) :
    SuccAll σ e D ((finishGroupSuccess σ q g n).1, evs ++ (finishGroupSuccess σ q g n).2.1,
      ngs ++ (finishGroupSuccess σ q g n).2.2.1, nss ++ (finishGroupSuccess σ q g n).2.2.2) := by
  have good : Good σ e q := h.sched.good
  have fo := finishGroupSuccess_out σ e q g n good hl
  have fit := (finish_prune σ q g n good.forest.treeLike hl).fit good fun y hy =>
    have r := h.sched.rootGroup hroot
    List.mem_singleton.mp hy ▸ ⟨r.known, r.det, r.noAnc⟩
  have sub := fo.shrink.sub
  -- only `g` and listed children lose their node
  have keeps : ∀ k, hasNode q k → k ≠ g → Detached q k → hasNode (finishGroupSuccess σ q g n).1 k :=
    fun k hk hne hd => Classical.byContradiction fun hno => (fo.del k hk hno).elim hne fun ⟨p, hp⟩ => hd p hp
  -- what is promoted now waited in the graph: it is no root and was not promoted before
  have gwait : ∀ x ∈ (finishGroupSuccess σ q g n).2.2.1, x ∉ q.rootGroups ∧ x ∉ ngs := fun x hx =>
    have ⟨p, hp, _⟩ := fo.gsrc x hx
    ⟨good.forest.notRoot p x hp, fun hold => (h.gnew x hold).1.det p hp⟩
  have swait : ∀ s ∈ (finishGroupSuccess σ q g n).2.2.2, s ∉ q.rootStreams ∧ s ∉ nss := fun s hs =>
    have ⟨t, tn, ht, hst⟩ := fo.ssrc s hs
    ⟨good.sforest.notRoot t tn s ht hst, fun hold => (h.snew s hold).absent t tn ht hst⟩
  obtain ⟨v, hev⟩ := fo.events
  refine ⟨h.sched.finish fo.shrink fo.rg fo.sframe.rs keeps,
    h.dom.finish σ n hroot fun hx => (h.gnew g hx).2 hroot, ?_, ?_, ?_⟩
  · refine (annFresh_append _ _ _).mpr ⟨h.fresh, hev ▸ annFresh_groupEvents _ g v _ _
      (nodesOf_nodup _ _ fo.gnodup fo.snodup) fun m hm hD => ?_⟩
    rcases (mem_nodesOf _ _ m).mp hm with ⟨x, hx, rfl⟩ | ⟨s, hs, rfl⟩
    · exact ((h.dom.1 _).mp hD).elim (gwait x hx).1 fun hp => (gwait x hx).2 (group_mem_nodesOf.mp hp)
    · exact ((h.dom.1 _).mp hD).elim (swait s hs).1 fun hp => (swait s hs).2 (stream_mem_nodesOf.mp hp)
  · intro x hx
    show _ ∧ x ∉ (finishGroupSuccess σ q g n).1.rootGroups
    rw [fo.rg, mem_oerase]
    rcases List.mem_append.mp hx with hx | hx
    · obtain ⟨f, r⟩ := h.gnew x hx
      exact ⟨f.sub sub (keeps x f.node (fun e => r (e ▸ hroot)) f.det), fun hh => r hh.1⟩
    · exact ⟨fit x hx, fun hh => (gwait x hx).1 hh.1⟩
  · intro s hs
    rcases List.mem_append.mp hs with hs | hs
    · exact (h.snew s hs).sub fo.shrink.tsub
    · obtain ⟨t, tn, ht, hst⟩ := fo.ssrc s hs
      exact ⟨good.sknown.children t tn s ht hst, fo.sgone s hs⟩

theorem successStep_all (σ : Static) (e : EnvSt) (D : List Node)
    (acc : WQ × List WQEvent × List Nat × List Nat) (g : Nat) (h : SuccAll σ e D acc) :
    SuccAll σ e D (successStep σ acc g) := by
  unfold successStep
  cases hl : alookup acc.1.groupNodes g with
  | none => simpa [hl] using h
  | some n =>
    simp only [hl]
    have h1 := h.setNode hl { n with pending := n.pending - 1 } rfl
    split
    · rename_i hfin
      exact h1.finish (alookup_aset_self _ _ _) hfin.1
    · exact h1

theorem integrateWork_none (σ : Static) (q : WQ) (pt : Option Nat) :
    integrateWork σ q none pt = (q, [], []) := rfl

/-- `_maybe_integrate_work` with a legal work, or none, keeps the invariant. -/
theorem integrateWork_sched (σ : Static) (e : EnvSt) (q qe : WQ) (pr : Option Nat) (wo : Option Work)
    (pt : Option Nat) (s : Sched σ e q) (hw : workOptOk σ e qe pr wo = true) :
    Sched σ (e.intro wo) (integrateWork σ q wo pt).1 := by
  have c' := closed_intro σ e qe pr wo s.closed hw
  cases wo with
  | none => exact s
  | some w =>
    have ok := workOk_of σ e qe pr w hw
    have gr := integrateWork_grow σ q (some w) pt
    exact ⟨(integrateWork_good σ e q w pt s.good ok).1, c', integrateWork_anti σ e q w pt s.good s.closed ok s.anti,
      s.nodes.kept gr.kept fun _ hx => gr.frame.rg ▸ hx⟩

theorem taskSuccess_all (σ : Static) (e : EnvSt) (q : WQ) (t : Nat) (r : TResult) (D : List Node)
    (s : Sched σ e q) (hok : workOptOk σ e q (some t) r.work = true) (hD : Tracks q D) :
    Sched σ (e.intro r.work) (taskSuccess σ q t r).1 ∧ AnnFresh D (taskSuccess σ q t r).2 ∧
    Tracks (taskSuccess σ q t r).1 (domSteps D (taskSuccess σ q t r).2) ∧ EvsPre D (taskSuccess σ q t r).2 := by
  have u := setTaskValue_upd q t r.value
  have f12 := u.frame.trans (integrateWork_grow σ (setTaskValue q t r.value) r.work (some t)).frame
  have hfold := foldl_inv (SuccAll σ (e.intro r.work) D) (successStep σ) (σ.tgroups t)
    ((integrateWork σ (setTaskValue q t r.value) r.work (some t)).1, [], [], [])
    ⟨integrateWork_sched σ e _ q (some t) r.work (some t) (s.upd u) hok,
      ⟨fun n => (hD n).trans (by rw [isRoot_of_frame f12]; simp [nodesOf]), trivial⟩, trivial, by simp, by simp⟩
    (fun acc x ha => successStep_all σ _ D acc x ha)
  exact ⟨hfold.sched.startNewWork _ _ (fun x hx => (hfold.gnew x hx).1) hfold.snew,
    hfold.fresh, fun n => (hfold.dom.1 n).trans (isRoot_startNewWork σ _ _ _ n).symm, hfold.dom.2⟩

theorem failureStep_all (σ : Static) (e : EnvSt) (acc : WQ × List WQEvent) (g : Nat)
    (h : Sched σ e acc.1) : Sched σ e (failureStep σ acc g).1 := by
  unfold failureStep
  cases hl : alookup acc.1.groupNodes g with
  | none => simpa [hl] using h
  | some n =>
    obtain ⟨rg, sf, sh, _⟩ := finishGroupFailure_roots σ acc.1 g n
    exact h.finish sh rg sf.rs (removeGroup_keeps σ _ acc.1 g n hl)

theorem taskFailure_all (σ : Static) (e : EnvSt) (q : WQ) (t : Nat) (D : List Node) (s : Sched σ e q) :
    Sched σ e (taskFailure σ q t).1 ∧ AnnFresh D (taskFailure σ q t).2 :=
  ⟨foldl_inv (fun acc : WQ × List WQEvent => Sched σ e acc.1) (failureStep σ) (σ.tgroups t)
      (({ q with taskNodes := aerase q.taskNodes t } : WQ), [])
      (s.upd (.eraseTask q _ t rfl rfl ⟨rfl, rfl, rfl, rfl⟩)) (failureStep_all σ e),
    annFresh_noNew D _ fun ev he => by obtain ⟨_, rfl⟩ := taskFailure_evs σ q t ev he; rfl⟩

end Gql.Async
