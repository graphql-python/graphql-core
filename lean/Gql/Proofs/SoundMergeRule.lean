import Gql.Exec.ValidMerge
import Gql.Proofs.SoundRequest

/-!
C13 — field merging derived from the static rule: the expanded set of a selection set as a
relation (`InSet`), soundness of the bounded quantifier `allFields` for it, what CollectFields
collects for a runtime object type in terms of it (`collectFields_in`), and `MergeOkT` from
`validOp` and `specMergeable` (`mergeOkT_of_specMergeable`).
-/

namespace Gql.Exec.Valid
open Gql.Exec Gql.Exec.Refine

/-- `InSet doc S sels P f`: the field `f` with parent type `P` belongs to "the fields of the set
`sels` selected on `S`, visiting fragments and inline fragments" -/
inductive InSet (doc : Doc) : Name → List Selection → Name → FieldNode → Prop
  | here (S : Name) (alias : Option Name) (name : Name) (args : List (Name × Value))
      (dirs : List Directive) (sels rest : List Selection) :
      InSet doc S (.field alias name args dirs sels :: rest) S
        { alias := alias, name := name, args := args, dirs := dirs, sels := sels }
  | inlineNone {S : Name} {dirs : List Directive} {sels rest : List Selection} {P : Name}
      {f : FieldNode} : InSet doc S sels P f → InSet doc S (.inline none dirs sels :: rest) P f
  | inlineSome {S c : Name} {dirs : List Directive} {sels rest : List Selection} {P : Name}
      {f : FieldNode} : InSet doc c sels P f → InSet doc S (.inline (some c) dirs sels :: rest) P f
  | spread {S n : Name} {dirs : List Directive} {rest : List Selection} {fr : FragDef} {P : Name}
      {f : FieldNode} : doc.frag n = some fr → InSet doc fr.cond fr.sels P f →
      InSet doc S (.spread n dirs :: rest) P f
  | tail {S : Name} {sel : Selection} {rest : List Selection} {P : Name} {f : FieldNode} :
      InSet doc S rest P f → InSet doc S (sel :: rest) P f

theorem InSet.not_nil {doc : Doc} {S P : Name} {f : FieldNode} : ¬ InSet doc S [] P f := by
  intro h; cases h

theorem InSet.of_append {doc : Doc} {S P : Name} {f : FieldNode} :
    ∀ {a b : List Selection}, InSet doc S (a ++ b) P f → InSet doc S a P f ∨ InSet doc S b P f
  | [], b, h => Or.inr h
  | sel :: a, b, h => by
    have h' : InSet doc S (sel :: (a ++ b)) P f := h
    cases h' with
    | here => exact Or.inl (InSet.here ..)
    | inlineNone h1 => exact Or.inl (InSet.inlineNone h1)
    | inlineSome h1 => exact Or.inl (InSet.inlineSome h1)
    | spread hf h1 => exact Or.inl (InSet.spread hf h1)
    | tail h1 =>
      rcases InSet.of_append h1 with h2 | h2
      · exact Or.inl (InSet.tail h2)
      · exact Or.inr h2

theorem InSet.of_merge {doc : Doc} {S P : Name} {x : FieldNode} :
    ∀ {fs : List FieldNode}, InSet doc S (Spec.mergeSelectionSets fs) P x →
      ∃ f ∈ fs, InSet doc S f.sels P x
  | [], h => by simp [Spec.mergeSelectionSets] at h; exact absurd h InSet.not_nil
  | f :: rest, h => by
    have h' : InSet doc S (f.sels ++ Spec.mergeSelectionSets rest) P x := by
      simpa [Spec.mergeSelectionSets] using h
    rcases InSet.of_append h' with h1 | h1
    · exact ⟨f, List.mem_cons_self .., h1⟩
    · obtain ⟨f', hf', h2⟩ := InSet.of_merge h1
      exact ⟨f', List.mem_cons_of_mem _ hf', h2⟩

/-- on a non-empty set the bounded quantifier has fuel left and looks at the head and at the rest -/
theorem allFieldsFuel_cons {doc : Doc} {p : Name → FieldNode → Bool} {n : Nat} {S : Name}
    {sel : Selection} {rest : List Selection} (h : allFieldsFuel doc p n S (sel :: rest) = true) :
    ∃ m, n = m + 1 ∧ allFieldsSel doc (allFieldsFuel doc p m) p S sel = true ∧
      allFieldsFuel doc p (m + 1) S rest = true := by
  cases n with
  | zero => simp [allFieldsFuel] at h
  | succ m => exact ⟨m, rfl, by simpa [allFieldsFuel, allFieldsSels] using h⟩

/-- the bounded quantifier is sound for the relation: if it answers `true`, every field of the
expanded set satisfies `p` (whatever the fuel) -/
theorem allFieldsFuel_sound (doc : Doc) (p : Name → FieldNode → Bool) {S : Name}
    {sels : List Selection} {P : Name} {f : FieldNode} (h : InSet doc S sels P f) :
    ∀ n, allFieldsFuel doc p n S sels = true → p P f = true := by
  induction h with
  | here =>
    intro n hn
    obtain ⟨m, rfl, h1, _⟩ := allFieldsFuel_cons hn
    exact h1
  | inlineNone _ ih =>
    intro n hn
    obtain ⟨m, rfl, h1, _⟩ := allFieldsFuel_cons hn
    exact ih (m + 1) h1
  | inlineSome _ ih =>
    intro n hn
    obtain ⟨m, rfl, h1, _⟩ := allFieldsFuel_cons hn
    exact ih (m + 1) h1
  | spread hfr _ ih =>
    intro n hn
    obtain ⟨m, rfl, h1, _⟩ := allFieldsFuel_cons hn
    simp only [allFieldsSel, hfr] at h1
    exact ih m h1
  | tail _ ih =>
    intro n hn
    obtain ⟨m, rfl, _, h2⟩ := allFieldsFuel_cons hn
    exact ih (m + 1) h2

theorem allFields_sound {doc : Doc} {p : Name → FieldNode → Bool} {S : Name}
    {sels : List Selection} (h : allFields doc S sels p = true) {P : Name} {f : FieldNode}
    (hin : InSet doc S sels P f) : p P f = true :=
  allFieldsFuel_sound doc p hin _ h

theorem allMergedPairs_sound {doc : Doc} {ta tb : Name} {A B : List Selection}
    {p : Name → FieldNode → Name → FieldNode → Bool}
    (h : allMergedPairs doc ta A tb B p = true) {P1 P2 : Name} {x y : FieldNode}
    (hx : InSet doc ta A P1 x ∨ InSet doc tb B P1 x) (hy : InSet doc ta A P2 y ∨ InSet doc tb B P2 y) :
    p P1 x P2 y = true := by
  unfold allMergedPairs allMerged at h
  simp only [Bool.and_eq_true] at h
  have h1 : (allFields doc ta A (fun p2 y => p P1 x p2 y) && allFields doc tb B (fun p2 y => p P1 x p2 y)) = true := by
    rcases hx with hx | hx
    · exact allFields_sound h.1 hx
    · exact allFields_sound h.2 hx
  simp only [Bool.and_eq_true] at h1
  rcases hy with hy | hy
  · exact allFields_sound h1.1 hy
  · exact allFields_sound h1.2 hy

/-- a collected field: it sits under its own response key; it is a field of the expanded set
(`Q`), with a parent type that contains the runtime type, valid on that parent type -/
def FieldIn (g : GCtx) (rt : Name) (Q : Name → FieldNode → Prop) (k : Name) (f : FieldNode) : Prop :=
  k = f.key ∧ ∃ P, Q P f ∧ Sub g.cx.schema rt P ∧
    validSel g.vcx P (.field f.alias f.name f.args f.dirs f.sels) = true ∧
    ∀ n ∈ spreadsIn f.sels, n ∈ g.reach

def OutK (R : Name → FieldNode → Prop) : Out ErrKind (Spec.Groups × List Name) → Prop
  | .ok (gs, _) => AllK R gs
  | _ => True

theorem outK_iff {R : Name → FieldNode → Prop} {x : Out ErrKind (Spec.Groups × List Name)} :
    OutK R x ↔ OutI (AllK R) True x := by
  cases x with
  | ok r => exact Iff.rfl
  | err e => exact Iff.rfl
  | crash c => exact Iff.rfl

variable (g : GCtx) (hfr : FragsV g) (rt : Name) (Q : Name → FieldNode → Prop)

include hfr in
theorem inInv : CollectInv g.cx rt
    (fun sels => ∃ S, SelsV g S sels ∧ Sub g.cx.schema rt S ∧ ∀ P f, InSet g.cx.doc S sels P f → Q P f)
    (AllK (FieldIn g rt Q)) True where
  nil := AllK.nil _
  merge := AllK.mergeGroups
  dirs := fun _ _ => trivial
  tail := fun ⟨S, hv, hsub, hq⟩ => ⟨S, (selsV_cons hv).2, hsub, fun P f h => hq P f (.tail h)⟩
  spread := fun ⟨S, hv, _, hq⟩ hf happ =>
    ⟨_, hfr _ ((selsV_cons hv).1.2 _ (by simp [spreadsInSel])) _ hf, sub_of_applies happ,
      fun P f h => hq P f (.spread hf h)⟩
  field := by
    rintro alias name args dirs sels rest acc ⟨S, hv, hsub, hq⟩ hacc
    refine hacc.appendGroups _ _ fun f hf => ?_
    rw [List.mem_singleton] at hf
    subst hf
    exact ⟨rfl, S, hq _ _ (.here ..), hsub, (selsV_cons hv).1.1,
      by simpa [spreadsInSel] using (selsV_cons hv).1.2⟩
  inline := by
    rintro cond dirs sels rest ⟨S, hv, hsub, hq⟩ happ
    obtain ⟨⟨hv1, hs⟩, _⟩ := selsV_cons hv
    simp only [validSel, Bool.and_eq_true] at hv1
    have hsp : ∀ n ∈ spreadsIn sels, n ∈ g.reach := by simpa [spreadsInSel] using hs
    cases cond with
    | none => exact ⟨S, ⟨hv1.2, hsp⟩, hsub, fun P f h => hq P f (.inlineNone h)⟩
    | some c =>
      simp only [Bool.and_eq_true] at hv1
      exact ⟨c, ⟨hv1.2.2, hsp⟩, sub_of_applies (happ c rfl), fun P f h => hq P f (.inlineSome h)⟩

theorem InSet.of_head {doc : Doc} {S P : Name} {sel : Selection} {rest : List Selection}
    {f : FieldNode} (h : InSet doc S [sel] P f) : InSet doc S (sel :: rest) P f := by
  cases h with
  | here => exact .here ..
  | inlineNone h1 => exact .inlineNone h1
  | inlineSome h1 => exact .inlineSome h1
  | spread hf h1 => exact .spread hf h1
  | tail h1 => exact absurd h1 InSet.not_nil

variable (srecur : List Selection → List Name → Out ErrKind (Spec.Groups × List Name))
variable (hrec : ∀ sels vis S, SelsV g S sels → Sub g.cx.schema rt S →
  (∀ P f, InSet g.cx.doc S sels P f → Q P f) → OutK (FieldIn g rt Q) (srecur sels vis))

include hfr hrec in
theorem collectOne_in : (sel : Selection) → ∀ (rest : List Selection) (S : Name)
    (acc : Spec.Groups) (vis : List Name),
    validSel g.vcx S sel = true → (∀ n ∈ spreadsInSel sel, n ∈ g.reach) → Sub g.cx.schema rt S →
    (∀ P f, InSet g.cx.doc S (sel :: rest) P f → Q P f) → AllK (FieldIn g rt Q) acc →
    OutK (FieldIn g rt Q) (Spec.collectOne g.cx rt srecur sel acc vis) :=
  fun sel rest S acc vis hv hs hsub hq hacc =>
    outK_iff.2 <| collectOne_inv (inInv g hfr rt Q) srecur
      (fun sels vis ⟨S, h1, h2, h3⟩ => outK_iff.1 (hrec sels vis S h1 h2 h3)) sel [] acc vis
      ⟨S, ⟨by simp [validSels, hv], by simpa [spreadsIn] using hs⟩, hsub,
        fun P f h => hq P f h.of_head⟩ hacc

include hfr in
/-- every field CollectFields puts into a group for the runtime type `rt` is a field of the
expanded set of `sels` on `S` whose parent type contains `rt` -/
theorem collectFields_in (sels : List Selection) (S : Name) (hok : SelsV g S sels)
    (hsub : Sub g.cx.schema rt S) (gs : Spec.Groups) (h : Spec.collectFields g.cx rt sels = .ok gs) :
    AllK (FieldIn g rt (InSet g.cx.doc S sels)) gs := by
  simpa [h] using collectFields_inv (inInv g hfr rt (InSet g.cx.doc S sels)) ⟨S, hok, hsub, fun _ _ h => h⟩

end Gql.Exec.Valid

namespace Gql.Exec.Valid
open Gql.Exec Gql.Exec.Refine

/-- FieldsInSetCanMerge holds of the set `sels` on `S`, for some remaining depth -/
def MergeableAt (g : GCtx) (S : Name) (sels : List Selection) : Prop :=
  ∃ d, ∀ P1 x P2 y, InSet g.cx.doc S sels P1 x → InSet g.cx.doc S sels P2 y →
    pairCanMerge g.cx.schema g.cx.doc d P1 x P2 y = true

/-- what holds of every selection set execution reaches -/
def InvT (g : GCtx) (rt : Name) (sels : List Selection) : Prop :=
  g.cx.schema.kind rt = .object ∧ ∃ S, Sub g.cx.schema rt S ∧ SelsV g S sels ∧ MergeableAt g S sels

theorem kind_of_isSubType {s : Schema} {a o : Name} (h : s.isSubType a o = true) :
    s.kind a = .abstract := by
  unfold Schema.isSubType at h
  unfold Schema.kind
  cases hl : s.lookup a with
  | none => simp [hl] at h
  | some d => cases d <;> simp_all

/-- two parent types that both contain one runtime object type are "equal or not both object
types" -/
theorem parentsOverlap_of_sub {s : Schema} {rt P1 P2 : Name} (h1 : Sub s rt P1) (h2 : Sub s rt P2) :
    parentsOverlap s P1 P2 = true := by
  unfold parentsOverlap
  rcases h1 with rfl | h1
  · rcases h2 with rfl | h2
    · simp
    · simp [kind_of_isSubType h2]
  · simp [kind_of_isSubType h1]

theorem pairCanMerge_overlap {s : Schema} {doc : Doc} {d : Nat} {pa pb : Name} {a b : FieldNode}
    (h : pairCanMerge s doc d pa a pb b = true) (hk : a.key = b.key)
    (ho : parentsOverlap s pa pb = true) :
    a.name = b.name ∧
    allMergedPairs doc (subParent s pa a.name) a.sels (subParent s pb b.name) b.sels
      (fun p1 x p2 y => pairCanMerge s doc (d - 1) p1 x p2 y) = true := by
  cases d with
  | zero => simp [pairCanMerge] at h
  | succ d =>
    unfold pairCanMerge at h
    simp only [hk, bne_self_eq_false, Bool.false_or, Bool.and_eq_true, ho, Bool.not_true,
      beq_iff_eq] at h
    exact ⟨h.2.1.1, h.2.2⟩

variable (g : GCtx) (hfr : FragsV g) (hyps : SoundHyps g.cx.ops g.cx.schema)

include hfr in
theorem uniform_of_inv {rt : Name} {sels : List Selection} (hinv : InvT g rt sels)
    {gs : Spec.Groups} (hcol : Spec.collectFields g.cx rt sels = .ok gs) : Uniform gs := by
  obtain ⟨_, S, hsub, hv, d, hm⟩ := hinv
  have hin := collectFields_in g hfr rt sels S hv hsub gs hcol
  intro p hp f hf f' hf'
  obtain ⟨hk, P, hq, hs, _, _⟩ := hin p hp f hf
  obtain ⟨hk', P', hq', hs', _, _⟩ := hin p hp f' hf'
  exact (pairCanMerge_overlap (hm P f P' f' hq hq') (hk.symm.trans hk')
    (parentsOverlap_of_sub hs hs')).1

include hyps in
/-- sub-selections of a valid field are valid on the field's return type (as found on the
runtime type) -/
theorem sub_of_fieldValid {rt P : Name} {f : FieldNode} {fd : FieldDef}
    (hrt : g.cx.schema.kind rt = .object) (hs : Sub g.cx.schema rt P)
    (hv : validSel g.vcx P (.field f.alias f.name f.args f.dirs f.sels) = true)
    (hgf : g.cx.schema.getField rt f.name = some fd) :
    validSels g.vcx fd.type.baseName f.sels = true ∧
      (f.sels ≠ [] → subParent g.cx.schema P f.name = fd.type.baseName) := by
  have hnil : f.sels = [] → validSels g.vcx fd.type.baseName f.sels = true ∧
      (f.sels ≠ [] → subParent g.cx.schema P f.name = fd.type.baseName) :=
    fun h0 => ⟨by simp [h0, validSels], fun h => absurd h0 h⟩
  rcases validSel_field hv with ⟨_, h0⟩ | ⟨hty, fd', hfa, _, hleaf, hsels⟩
  · exact hnil h0
  · replace hfa : getFieldAny g.cx.schema P f.name = some fd' := hfa
    have hag := fieldsAgree_of_sub hyps hs hrt f.name fd' hfa
    rw [hgf] at hag
    cases hag
    cases hl : isLeaf g.cx.schema fd.type.baseName with
    | true => exact hnil (hleaf hl)
    | false => exact ⟨(hsels hl).2, fun _ => by simp [subParent, fieldTypeOf, hty, hfa]⟩

include hfr hyps in
/-- the invariant passes to the merged sub-selections of a group, on every object type of the
field's return type -/
theorem inv_step {rt : Name} {sels : List Selection} (hinv : InvT g rt sels)
    {gs : Spec.Groups} (hcol : Spec.collectFields g.cx rt sels = .ok gs)
    {k : Name} {f0 : FieldNode} {rest : List FieldNode} (hmem : (k, f0 :: rest) ∈ gs)
    {fd : FieldDef} (hgf : g.cx.schema.getField rt f0.name = some fd)
    {rt' : Name} (hk' : g.cx.schema.kind rt' = .object) (hsub' : Sub g.cx.schema rt' fd.type.baseName) :
    InvT g rt' (Spec.mergeSelectionSets (f0 :: rest)) := by
  have huni := uniform_of_inv g hfr hinv hcol
  obtain ⟨hrt, S, hsub, hv, d, hm⟩ := hinv
  have hin := collectFields_in g hfr rt sels S hv hsub gs hcol
  -- every field of the group selects `fd`: where it stands in the expanded set, and its sub-selections
  have hall : ∀ f ∈ f0 :: rest, k = f.key ∧ ∃ P, InSet g.cx.doc S sels P f ∧ Sub g.cx.schema rt P ∧
      validSels g.vcx fd.type.baseName f.sels = true ∧
      (f.sels ≠ [] → subParent g.cx.schema P f.name = fd.type.baseName) ∧
      ∀ n ∈ spreadsIn f.sels, n ∈ g.reach := fun f hf => by
    obtain ⟨hkf, P, hq, hs, hfv, hsp⟩ := hin (k, f0 :: rest) hmem f hf
    have hsub := sub_of_fieldValid g hyps hrt hs hfv
      ((huni (k, f0 :: rest) hmem f hf f0 (List.mem_cons_self ..)).symm ▸ hgf)
    exact ⟨hkf, P, hq, hs, hsub.1, hsub.2, hsp⟩
  refine ⟨hk', fd.type.baseName, hsub', ?_, d - 1, ?_⟩
  · exact selsV_merge fun f hf => by
      obtain ⟨_, _, _, _, hfv, _, hsp⟩ := hall f hf
      exact ⟨hfv, hsp⟩
  · intro P1 x P2 y hx hy
    obtain ⟨f, hf, hxf⟩ := InSet.of_merge hx
    obtain ⟨f', hf', hyf⟩ := InSet.of_merge hy
    obtain ⟨hkf, P, hq, hs, _, hp1, _⟩ := hall f hf
    obtain ⟨hkf', P', hq', hs', _, hp2, _⟩ := hall f' hf'
    have hpair := (pairCanMerge_overlap (hm P f P' f' hq hq') (hkf.symm.trans hkf')
      (parentsOverlap_of_sub hs hs')).2
    rw [hp1 fun h => InSet.not_nil (h ▸ hxf), hp2 fun h => InSet.not_nil (h ▸ hyf)] at hpair
    exact allMergedPairs_sound hpair (Or.inl hxf) (Or.inr hyf)

include hfr hyps in
theorem inv_of_reach (op : Operation)
    (hroot : ∀ rt, Spec.rootType g.cx.schema op.kind = some rt → InvT g rt op.sels) :
    ∀ rt sels, ReachSelT g.cx op rt sels → InvT g rt sels := by
  intro rt sels h
  induction h with
  | root h => exact hroot _ h
  | step _ hcol hmem hgf hk hsub ih => exact inv_step g hfr hyps ih hcol hmem hgf hk hsub

end Gql.Exec.Valid

namespace Gql.Exec.Valid
open Gql.Exec Gql.Exec.Refine

/-- **Field merging from the static rule.**  For an operation accepted by the rules (`validOp`)
whose selection sets satisfy FieldsInSetCanMerge (`specMergeable`), over a schema in which an
object type implements its interfaces' fields with identical definitions (`SoundHyps.ifaceOk`),
the fields execution groups under one response key always select the same field.

At run time all fields collected under one response key for an object type `T` come from scopes
whose type condition contains `T` (`collectFields_in`); two parent types that both contain `T` are
equal or not both object types (`parentsOverlap_of_sub`), so FieldsInSetCanMerge requires the same
field name and a mergeable merged set, which is the set execution goes on with (`inv_step`). -/
theorem mergeOkT_of_specMergeable (ops : Ops) (s : Schema) (doc : Doc) (hyps : SoundHyps ops s)
    (op : Operation) (vars : Vars)
    (hvalid : validOp s doc op = true) (hmerge : specMergeable s doc op = true) :
    MergeOkT { ops := ops, schema := s, doc := doc, vars := vars } op := by
  let g := gctxOf ops s doc op vars
  have hinv0 : ∀ rt, Spec.rootType s op.kind = some rt → InvT g rt op.sels := by
    intro rt hroot
    have hrt : rootTypeOf s op.kind = some rt := hroot
    obtain ⟨hsv, _⟩ := invariantsV_of_valid ops s doc op vars rt hrt hvalid
    refine ⟨rootTypeOf_object hrt, rt, Or.inl rfl, hsv, depthFuel doc, ?_⟩
    unfold specMergeable at hmerge
    simp only [hrt, Bool.and_eq_true] at hmerge
    have hm := hmerge.1
    unfold fieldsInSetCanMerge at hm
    intro P1 x P2 y hx hy
    exact allMergedPairs_sound hm (Or.inl hx) (Or.inl hy)
  cases hr : rootTypeOf s op.kind with
  | none =>
    unfold specMergeable at hmerge
    simp [hr] at hmerge
  | some rt0 =>
    obtain ⟨_, hfr⟩ := invariantsV_of_valid ops s doc op vars rt0 hr hvalid
    intro rt sels hreach gs hcol
    have hinv := inv_of_reach g hfr hyps op hinv0 rt sels hreach
    exact uniform_of_inv g hfr hinv hcol

end Gql.Exec.Valid
