import Gql.Syntax.Printer
import Gql.Proofs.PrintFieldsAttr
/-!
How `pr` prints a node whose fields are given as an explicit list, and what the field getters of `leave` read
from the printed fields.

A node is treated in three steps: its fields print (`pr_node`, `prFields_cons`); `leave` selects the method of the
class (`leave_<Class>`, one equation per class); the getters read the printed fields back (`simp only [printed_fields, …]`).

What the visitor leaves in an optional field is kept in one of the forms `optT t`, `optTs ts`, `Printed.opt o`;
`optText` / `optTexts` read them back as `t`, `ts`, `o.getD []` whether or not the child is there, so no proof has
to split on the emptiness of an optional component.
-/
namespace Gql.Syntax
open Gql Gql.Text

/-- The field of an optional child that is absent exactly when its text `t` is empty. -/
def optT (t : List Nat) : Printed := if t = [] then .none else .text t

/-- The field of an optional tuple of children: `None` when there are none. -/
def optTs (ts : List (List Nat)) : Printed := if ts = [] then .none else .texts ts

/-- The field of an optional child. -/
def Printed.opt : Option (List Nat) → Printed
  | Option.none => Printed.none
  | some t => .text t

theorem wrap_nil (s e : List Nat) : wrap s [] e = [] := rfl
theorem join_nil (sep : List Nat) : join [] sep = [] := rfl

theorem baseClass_of_not_const {cls : String} (h : cls.startsWith "Const" = false) : baseClass cls = cls := by
  simp only [baseClass, h, Bool.false_eq_true, ↓reduceIte]

/-! The methods of `leave`, one equation for each class the typed trees use. `leave.match_1.eq_k` is the equation of
the class `match` of `leave` (Gql/Syntax/Printer.lean) at its k-th alternative, counted in the order of the source
(`eq_8`–`eq_10` are the three classes of one alternative); the number follows the text of `leave`, and a wrong one
fails to unify here, in this block, and nowhere else. Closing the goal by `rfl` instead would make the elaborator
compare the class name with every pattern before it. What `decide +kernel` is left with is
`"<Class>".startsWith "Const" = false`, the hypothesis of `baseClass_of_not_const`. -/

/-- `desc` of `leave`: the description with its line break. -/
@[reducible] def descOf (fs : List (String × Printed)) : POut (List Nat) := do
  let d ← optText fs "description"; pure (wrap [] d [10])

/-- `dirs` of `leave`: the directives, separated by blanks. -/
@[reducible] def dirsOf (fs : List (String × Printed)) : POut (List Nat) := do
  let ds ← optTexts fs "directives"; pure (join ds [32])

section
variable (w : Widths) (fs : List (String × Printed))

theorem leave_NameNode : leave w "NameNode" fs = reqRaw fs "value" := by
  rw [leave, baseClass_of_not_const, leave.match_1.eq_1]
  decide +kernel

theorem leave_VariableNode : leave w "VariableNode" fs = (do let n ← reqText fs "name"; pure (36 :: n)) := by
  rw [leave, baseClass_of_not_const, leave.match_1.eq_2]
  decide +kernel

theorem leave_DocumentNode : leave w "DocumentNode" fs = (do
    let ds ← optTexts fs "definitions"
    pure (join (documentDefs Option.none ds) [10, 10])) := by
  rw [leave, baseClass_of_not_const, leave.match_1.eq_3]
  decide +kernel

theorem leave_OperationDefinitionNode : leave w "OperationDefinitionNode" fs = (do
    let vds ← optTexts fs "variable_definitions"
    let varDefs :=
      if hasMultilineItems vds then wrap [40, 10] (join vds [10]) [10, 41]
      else wrap [40] (join vds [44, 32]) [41]
    let op ← reqRaw fs "operation"
    let name ← optText fs "name"
    let pre := (← descOf fs) ++ join [op, join [name, varDefs], ← dirsOf fs] [32]
    let ss ← reqText fs "selection_set"
    pure ((if pre = S "query" then [] else pre ++ [32]) ++ ss)) := by
  rw [leave, baseClass_of_not_const, leave.match_1.eq_4]
  decide +kernel

theorem leave_VariableDefinitionNode : leave w "VariableDefinitionNode" fs = (do
    let v ← reqText fs "variable"
    let t ← reqText fs "type"
    let dv ← optText fs "default_value"
    pure ((← descOf fs) ++ v ++ S ": " ++ t ++ wrap (S " = ") dv ++ wrap [32] (← dirsOf fs))) := by
  rw [leave, baseClass_of_not_const, leave.match_1.eq_5]
  decide +kernel

theorem leave_SelectionSetNode : leave w "SelectionSetNode" fs = (do let ss ← optTexts fs "selections"; pure (block ss)) := by
  rw [leave, baseClass_of_not_const, leave.match_1.eq_6]
  decide +kernel

theorem leave_FieldNode : leave w "FieldNode" fs = (do
    let alias ← optText fs "alias"
    let name ← reqText fs "name"
    let pre := join [wrap [] alias (S ": "), name]
    let args ← optTexts fs "arguments"
    let ss ← optText fs "selection_set"
    pure (join [wrappedLineAndArgs w pre args, wrap [32] (← dirsOf fs), wrap [32] ss])) := by
  rw [leave, baseClass_of_not_const, leave.match_1.eq_7]
  decide +kernel

theorem leave_ArgumentNode : leave w "ArgumentNode" fs = (do
    let n ← reqText fs "name"
    let v ← reqText fs "value"
    pure (n ++ S ": " ++ v)) := by
  rw [leave, baseClass_of_not_const, leave.match_1.eq_8]
  decide +kernel

theorem leave_ObjectFieldNode : leave w "ObjectFieldNode" fs = (do
    let n ← reqText fs "name"
    let v ← reqText fs "value"
    pure (n ++ S ": " ++ v)) := by
  rw [leave, baseClass_of_not_const, leave.match_1.eq_10]
  decide +kernel

theorem leave_FragmentSpreadNode : leave w "FragmentSpreadNode" fs = (do
    let n ← reqText fs "name"
    let args ← optTexts fs "arguments"
    pure (wrappedLineAndArgs w (S "..." ++ n) args ++ wrap [32] (← dirsOf fs))) := by
  rw [leave, baseClass_of_not_const, leave.match_1.eq_11]
  decide +kernel

theorem leave_InlineFragmentNode : leave w "InlineFragmentNode" fs = (do
    let tc ← optText fs "type_condition"
    let ss ← reqText fs "selection_set"
    pure (join [S "...", wrap (S "on ") tc, ← dirsOf fs, ss] [32])) := by
  rw [leave, baseClass_of_not_const, leave.match_1.eq_12]
  decide +kernel

theorem leave_FragmentDefinitionNode : leave w "FragmentDefinitionNode" fs = (do
    let n ← reqText fs "name"
    let vds ← optTexts fs "variable_definitions"
    let tc ← reqText fs "type_condition"
    let ss ← reqText fs "selection_set"
    pure ((← descOf fs) ++ S "fragment " ++ n ++ wrap [40] (join vds [44, 32]) [41] ++ S " on " ++ tc
      ++ [32] ++ wrap [] (← dirsOf fs) [32] ++ ss)) := by
  rw [leave, baseClass_of_not_const, leave.match_1.eq_13]
  decide +kernel

theorem leave_IntValueNode : leave w "IntValueNode" fs = reqRaw fs "value" := by
  rw [leave, baseClass_of_not_const, leave.match_1.eq_14]
  decide +kernel

theorem leave_FloatValueNode : leave w "FloatValueNode" fs = reqRaw fs "value" := by
  rw [leave, baseClass_of_not_const, leave.match_1.eq_15]
  decide +kernel

theorem leave_EnumValueNode : leave w "EnumValueNode" fs = reqRaw fs "value" := by
  rw [leave, baseClass_of_not_const, leave.match_1.eq_16]
  decide +kernel

theorem leave_StringValueNode : leave w "StringValueNode" fs = (do
    let v ← reqRaw fs "value"
    let b ← optBool fs "block"
    pure (if b then printBlockStringW w.block v false else printString v)) := by
  rw [leave, baseClass_of_not_const, leave.match_1.eq_17]
  decide +kernel

theorem leave_BooleanValueNode : leave w "BooleanValueNode" fs = (do
    let b ← reqBool fs "value"
    pure (if b then S "true" else S "false")) := by
  rw [leave, baseClass_of_not_const, leave.match_1.eq_18]
  decide +kernel

theorem leave_NullValueNode : leave w "NullValueNode" fs = pure (S "null") := by
  rw [leave, baseClass_of_not_const, leave.match_1.eq_19]
  decide +kernel

theorem leave_ListValueNode : leave w "ListValueNode" fs = (do
    let vs ← optTexts fs "values"
    let line := [91] ++ join vs [44, 32] ++ [93]
    pure (if line.length > w.list then [91] ++ [10] ++ indent (join vs [10]) ++ [10] ++ [93] else line)) := by
  rw [leave, baseClass_of_not_const, leave.match_1.eq_20]
  decide +kernel

theorem leave_ObjectValueNode : leave w "ObjectValueNode" fs = (do
    let fields ← optTexts fs "fields"
    let line := [123, 32] ++ join fields [44, 32] ++ [32, 125]
    pure (if line.length > w.object then block fields else line)) := by
  rw [leave, baseClass_of_not_const, leave.match_1.eq_21]
  decide +kernel

theorem leave_DirectiveNode : leave w "DirectiveNode" fs = (do
    let n ← reqText fs "name"
    let args ← optTexts fs "arguments"
    pure (64 :: n ++ wrap [40] (join args [44, 32]) [41])) := by
  rw [leave, baseClass_of_not_const, leave.match_1.eq_22]
  decide +kernel

theorem leave_NamedTypeNode : leave w "NamedTypeNode" fs = reqText fs "name" := by
  rw [leave, baseClass_of_not_const, leave.match_1.eq_23]
  decide +kernel

theorem leave_ListTypeNode : leave w "ListTypeNode" fs = (do let t ← reqText fs "type"; pure ([91] ++ t ++ [93])) := by
  rw [leave, baseClass_of_not_const, leave.match_1.eq_24]
  decide +kernel

theorem leave_NonNullTypeNode : leave w "NonNullTypeNode" fs = (do let t ← reqText fs "type"; pure (t ++ [33])) := by
  rw [leave, baseClass_of_not_const, leave.match_1.eq_25]
  decide +kernel

theorem leave_SchemaDefinitionNode : leave w "SchemaDefinitionNode" fs = (do
    let ots ← optTexts fs "operation_types"
    pure ((← descOf fs) ++ join [S "schema", ← dirsOf fs, block ots] [32])) := by
  rw [leave, baseClass_of_not_const, leave.match_1.eq_26]
  decide +kernel

theorem leave_OperationTypeDefinitionNode : leave w "OperationTypeDefinitionNode" fs = (do
    let op ← reqRaw fs "operation"
    let t ← reqText fs "type"
    pure (op ++ S ": " ++ t)) := by
  rw [leave, baseClass_of_not_const, leave.match_1.eq_27]
  decide +kernel

theorem leave_ScalarTypeDefinitionNode : leave w "ScalarTypeDefinitionNode" fs = (do
    let n ← reqText fs "name"
    pure ((← descOf fs) ++ join [S "scalar", n, ← dirsOf fs] [32])) := by
  rw [leave, baseClass_of_not_const, leave.match_1.eq_28]
  decide +kernel

theorem leave_ObjectTypeDefinitionNode : leave w "ObjectTypeDefinitionNode" fs = (do
    let n ← reqText fs "name"
    let ifs ← optTexts fs "interfaces"
    let fields ← optTexts fs "fields"
    pure ((← descOf fs) ++ join [S "type", n, wrap (S "implements ") (join ifs (S " & ")), ← dirsOf fs, block fields] [32])) := by
  rw [leave, baseClass_of_not_const, leave.match_1.eq_29]
  decide +kernel

theorem leave_InterfaceTypeDefinitionNode : leave w "InterfaceTypeDefinitionNode" fs = (do
    let n ← reqText fs "name"
    let ifs ← optTexts fs "interfaces"
    let fields ← optTexts fs "fields"
    pure ((← descOf fs) ++ join [S "interface", n, wrap (S "implements ") (join ifs (S " & ")), ← dirsOf fs, block fields] [32])) := by
  rw [leave, baseClass_of_not_const, leave.match_1.eq_30]
  decide +kernel

theorem leave_FieldDefinitionNode : leave w "FieldDefinitionNode" fs = (do
    let n ← reqText fs "name"
    let args ← optTexts fs "arguments"
    let t ← reqText fs "type"
    pure ((← descOf fs) ++ n ++ argDefs args ++ S ": " ++ t ++ wrap [32] (← dirsOf fs))) := by
  rw [leave, baseClass_of_not_const, leave.match_1.eq_31]
  decide +kernel

theorem leave_InputValueDefinitionNode : leave w "InputValueDefinitionNode" fs = (do
    let n ← reqText fs "name"
    let t ← reqText fs "type"
    let dv ← optText fs "default_value"
    pure ((← descOf fs) ++ join [n ++ S ": " ++ t, wrap (S "= ") dv, ← dirsOf fs] [32])) := by
  rw [leave, baseClass_of_not_const, leave.match_1.eq_32]
  decide +kernel

theorem leave_UnionTypeDefinitionNode : leave w "UnionTypeDefinitionNode" fs = (do
    let n ← reqText fs "name"
    let types ← optTexts fs "types"
    pure ((← descOf fs) ++ join [S "union", n, ← dirsOf fs, wrap (S "= ") (join types (S " | "))] [32])) := by
  rw [leave, baseClass_of_not_const, leave.match_1.eq_33]
  decide +kernel

theorem leave_EnumTypeDefinitionNode : leave w "EnumTypeDefinitionNode" fs = (do
    let n ← reqText fs "name"
    let vs ← optTexts fs "values"
    pure ((← descOf fs) ++ join [S "enum", n, ← dirsOf fs, block vs] [32])) := by
  rw [leave, baseClass_of_not_const, leave.match_1.eq_34]
  decide +kernel

theorem leave_EnumValueDefinitionNode : leave w "EnumValueDefinitionNode" fs = (do
    let n ← reqText fs "name"
    pure ((← descOf fs) ++ join [n, ← dirsOf fs] [32])) := by
  rw [leave, baseClass_of_not_const, leave.match_1.eq_35]
  decide +kernel

theorem leave_InputObjectTypeDefinitionNode : leave w "InputObjectTypeDefinitionNode" fs = (do
    let n ← reqText fs "name"
    let fields ← optTexts fs "fields"
    pure ((← descOf fs) ++ join [S "input", n, ← dirsOf fs, block fields] [32])) := by
  rw [leave, baseClass_of_not_const, leave.match_1.eq_36]
  decide +kernel

theorem leave_DirectiveDefinitionNode : leave w "DirectiveDefinitionNode" fs = (do
    let n ← reqText fs "name"
    let args ← optTexts fs "arguments"
    let rep ← optBool fs "repeatable"
    let locs ← optTexts fs "locations"
    pure ((← descOf fs) ++ S "directive @" ++ n ++ argDefs args ++ wrap [32] (← dirsOf fs)
      ++ (if rep then S " repeatable" else []) ++ S " on " ++ join locs (S " | "))) := by
  rw [leave, baseClass_of_not_const, leave.match_1.eq_37]
  decide +kernel

theorem leave_SchemaExtensionNode : leave w "SchemaExtensionNode" fs = (do
    let ots ← optTexts fs "operation_types"
    pure (join [S "extend schema", ← dirsOf fs, block ots] [32])) := by
  rw [leave, baseClass_of_not_const, leave.match_1.eq_38]
  decide +kernel

theorem leave_ScalarTypeExtensionNode : leave w "ScalarTypeExtensionNode" fs = (do
    let n ← reqText fs "name"
    pure (join [S "extend scalar", n, ← dirsOf fs] [32])) := by
  rw [leave, baseClass_of_not_const, leave.match_1.eq_40]
  decide +kernel

theorem leave_ObjectTypeExtensionNode : leave w "ObjectTypeExtensionNode" fs = (do
    let n ← reqText fs "name"
    let ifs ← optTexts fs "interfaces"
    let fields ← optTexts fs "fields"
    pure (join [S "extend type", n, wrap (S "implements ") (join ifs (S " & ")), ← dirsOf fs, block fields] [32])) := by
  rw [leave, baseClass_of_not_const, leave.match_1.eq_41]
  decide +kernel

theorem leave_InterfaceTypeExtensionNode : leave w "InterfaceTypeExtensionNode" fs = (do
    let n ← reqText fs "name"
    let ifs ← optTexts fs "interfaces"
    let fields ← optTexts fs "fields"
    pure (join [S "extend interface", n, wrap (S "implements ") (join ifs (S " & ")), ← dirsOf fs, block fields] [32])) := by
  rw [leave, baseClass_of_not_const, leave.match_1.eq_42]
  decide +kernel

theorem leave_UnionTypeExtensionNode : leave w "UnionTypeExtensionNode" fs = (do
    let n ← reqText fs "name"
    let types ← optTexts fs "types"
    pure (join [S "extend union", n, ← dirsOf fs, wrap (S "= ") (join types (S " | "))] [32])) := by
  rw [leave, baseClass_of_not_const, leave.match_1.eq_43]
  decide +kernel

theorem leave_EnumTypeExtensionNode : leave w "EnumTypeExtensionNode" fs = (do
    let n ← reqText fs "name"
    let vs ← optTexts fs "values"
    pure (join [S "extend enum", n, ← dirsOf fs, block vs] [32])) := by
  rw [leave, baseClass_of_not_const, leave.match_1.eq_44]
  decide +kernel

theorem leave_InputObjectTypeExtensionNode : leave w "InputObjectTypeExtensionNode" fs = (do
    let n ← reqText fs "name"
    let fields ← optTexts fs "fields"
    pure (join [S "extend input", n, ← dirsOf fs, block fields] [32])) := by
  rw [leave, baseClass_of_not_const, leave.match_1.eq_45]
  decide +kernel

end

section getters
variable {k k' : String} {p : Printed} {fs : List (String × Printed)}

theorem fld_cons_self : fld ((k, p) :: fs) k = some p := by simp [fld]
theorem fld_cons_ne (h : k' ≠ k) : fld ((k', p) :: fs) k = fld fs k := by simp [fld, h]

@[printed_fields] theorem reqText_cons_ne (h : k' ≠ k) : reqText ((k', p) :: fs) k = reqText fs k := by
  simp only [reqText, fld_cons_ne h]
@[printed_fields] theorem optText_cons_ne (h : k' ≠ k) : optText ((k', p) :: fs) k = optText fs k := by
  simp only [optText, fld_cons_ne h]
@[printed_fields] theorem optTexts_cons_ne (h : k' ≠ k) : optTexts ((k', p) :: fs) k = optTexts fs k := by
  simp only [optTexts, fld_cons_ne h]
@[printed_fields] theorem reqRaw_cons_ne (h : k' ≠ k) : reqRaw ((k', p) :: fs) k = reqRaw fs k := by
  simp only [reqRaw, fld_cons_ne h]
@[printed_fields] theorem optBool_cons_ne (h : k' ≠ k) : optBool ((k', p) :: fs) k = optBool fs k := by
  simp only [optBool, fld_cons_ne h]

@[printed_fields] theorem reqText_cons_self {t} : reqText ((k, .text t) :: fs) k = .ok t := by simp only [reqText, fld_cons_self]
@[printed_fields] theorem reqRaw_cons_self {t} : reqRaw ((k, .raw t) :: fs) k = .ok t := by simp only [reqRaw, fld_cons_self]
@[printed_fields] theorem optBool_cons_self {b} : optBool ((k, .bool b) :: fs) k = .ok b := by simp only [optBool, fld_cons_self]
@[printed_fields] theorem reqBool_cons_self {b} : reqBool ((k, .bool b) :: fs) k = .ok b := by simp only [reqBool, fld_cons_self]
@[printed_fields] theorem optText_cons_text {t} : optText ((k, .text t) :: fs) k = .ok t := by simp only [optText, fld_cons_self]
@[printed_fields] theorem optText_cons_none : optText ((k, .none) :: fs) k = .ok [] := by simp only [optText, fld_cons_self]
@[printed_fields] theorem optTexts_cons_texts {ts} : optTexts ((k, .texts ts) :: fs) k = .ok ts := by
  simp only [optTexts, fld_cons_self]
@[printed_fields] theorem optTexts_cons_none : optTexts ((k, .none) :: fs) k = .ok [] := by simp only [optTexts, fld_cons_self]

@[printed_fields] theorem optText_cons_optT {t} : optText ((k, optT t) :: fs) k = .ok t := by
  unfold optT
  split
  · subst_vars; exact optText_cons_none
  · exact optText_cons_text

@[printed_fields] theorem optText_cons_opt {o} : optText ((k, .opt o) :: fs) k = .ok (o.getD []) := by
  cases o
  · exact optText_cons_none
  · exact optText_cons_text

@[printed_fields] theorem optTexts_cons_optTs {ts} : optTexts ((k, optTs ts) :: fs) k = .ok ts := by
  unfold optTs
  split
  · subst_vars; exact optTexts_cons_none
  · exact optTexts_cons_texts

end getters

attribute [printed_fields] descOf dirsOf ne_eq not_false_eq_true Out.bind_ok Out.pure_eq

variable {w : Widths}

theorem pr_node {cls fs pfs t} (hf : prFields w fs = .ok pfs) (hl : leave w cls pfs = .ok t) :
    pr w (.node cls fs) = .ok (.text t) := by
  simp only [pr, hf, hl, Out.bind_ok, Out.pure_eq]

theorem prFields_nil : prFields w [] = .ok [] := by simp only [prFields, Out.pure_eq]

theorem prFields_cons {k a p rest ps} (h : pr w a = .ok p) (hr : prFields w rest = .ok ps) :
    prFields w ((k, a) :: rest) = .ok ((k, p) :: ps) := by
  simp only [prFields, h, hr, Out.bind_ok, Out.pure_eq]

theorem pr_none : pr w .none = .ok .none := by simp only [pr, Out.pure_eq]
theorem pr_str (s : List Nat) : pr w (.str s) = .ok (.raw s) := by simp only [pr, Out.pure_eq]
theorem pr_bool (b : Bool) : pr w (.bool b) = .ok (.bool b) := by simp only [pr, Out.pure_eq]

/-- The classes whose `leave` method returns the string `value` as it stands (`NameNode`, `IntValueNode`, …). -/
theorem pr_rawValue {cls : String} (h : ∀ fs, leave w cls fs = reqRaw fs "value") (s : List Nat) :
    pr w (.node cls [("value", .str s)]) = .ok (.text s) :=
  pr_node (prFields_cons (pr_str s) prFields_nil) (by rw [h, reqRaw_cons_self])

theorem prList_nil : prList w [] = .ok [] := by simp only [prList, Out.pure_eq]

theorem prList_cons {a t xs ts} (h : pr w a = .ok (.text t)) (hr : prList w xs = .ok ts) :
    prList w (a :: xs) = .ok (t :: ts) := by
  simp only [prList, h, hr, Out.bind_ok, Out.pure_eq]

theorem pr_list {xs ts} (h : prList w xs = .ok ts) : pr w (.list xs) = .ok (.texts ts) := by
  simp only [pr, h, Out.bind_ok, Out.pure_eq]

theorem prList_map {α : Type} {f : α → Ast} {g : α → List Nat} {xs : List α}
    (h : ∀ a ∈ xs, pr w (f a) = .ok (.text (g a))) : prList w (xs.map f) = .ok (xs.map g) := by
  induction xs with
  | nil => exact prList_nil
  | cons a r ih => exact prList_cons (h a List.mem_cons_self) (ih fun b hb => h b (List.mem_cons_of_mem a hb))

theorem pr_list_map {α : Type} {f : α → Ast} {g : α → List Nat} {xs : List α}
    (h : ∀ a ∈ xs, pr w (f a) = .ok (.text (g a))) : pr w (.list (xs.map f)) = .ok (.texts (xs.map g)) :=
  pr_list (prList_map h)

theorem printAst_of_pr {a : Ast} {t} (h : pr w a = .ok (.text t)) : printAst w a = .ok t := by
  simp only [printAst, h, Out.bind_ok, Out.pure_eq]

theorem printAst_document {α : Type} {f : α → Ast} {g : α → List Nat} {xs : List α}
    (h : ∀ a ∈ xs, pr w (f a) = .ok (.text (g a))) :
    printAst w (.node "DocumentNode" [("definitions", .list (xs.map f))]) =
      .ok (join (documentDefs none (xs.map g)) [10, 10]) := by
  refine printAst_of_pr (pr_node (prFields_cons (pr_list_map h) prFields_nil) ?_)
  simp only [printed_fields, leave_DocumentNode]

end Gql.Syntax
