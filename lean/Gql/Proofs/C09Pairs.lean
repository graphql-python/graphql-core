import Gql.Proofs.BlockRoundtrip
import Gql.Proofs.BlockForced2
/-!
# Texts with verbatim surrogate pairs (C09, `strip_ignored_characters`)

The lexer accepts, inside strings, block strings and comments, a leading surrogate immediately
followed by a trailing surrogate (`is_supplementary_code_point`).  `Paired l` (`Gql.Proofs.StringRoundtrip`) says that
`l` is a sequence of Unicode scalar values and such pairs.  This file shows that the value of a
block string token is `Paired` (`blockRest_paired`, `blockStringValue_paired`): neither the line split nor the
dedentation separates a pair.  With that, `blockString?_value` says all that is known of such a value:
`Paired`, block-representable, made of code points of the text, `"` and LF.  So the round trip of `Gql.Proofs.BlockRoundtrip`, here as
`printBlockStringW_roundtrip_paired`, covers everything the lexer can produce.

The `Paired` lemmas live in the namespace `Gql.Text.Pairs` (opened by `StripProofs` and `Props/C09`).
-/
namespace Gql.Text.Pairs
open Gql.Spec.Lex

/-- `print_block_string` followed by `read_block_string` is the identity on block-representable
values made of Unicode scalar values and verbatim surrogate pairs (any width, both settings of
`minimize`). -/
theorem printBlockStringW_roundtrip_paired (w : Nat) (v : List Nat) (m : Bool) (rest : List Nat)
    (st : LexState) (hs : Paired v) (hrep : BlockRepresentable v) :
    tokOf (readBlockString (printBlockStringW w v m ++ rest) st 0) =
      .ok (mkToken st .blockString 0 (printBlockStringW w v m).length (some v)) := by
  unfold readBlockString
  simpa using printBlockStringW_roundtrip_loop_at w v m _ rest 0 st 0 st.lineStart rfl hs hrep

theorem sourceCharLen_paired {s : List Nat} {k : Nat} (h : sourceCharLen s = some k) :
    Paired (s.take k) := by
  rcases sourceCharLen_eq_some.1 h with ⟨c, r, rfl, hs, rfl⟩ | ⟨c, d, r, rfl, hs, hp, rfl⟩
  · exact Paired.cons_scalar ((isScalar_iff c).mpr hs) Paired.nil
  · exact Paired.pair (Bool.eq_false_iff.mpr (mt (isScalar_iff c).mp hs)) ((isLeadSurrogate_iff c).mpr hp.1)
      ((isTrailSurrogate_iff d).mpr hp.2)

theorem blockRest_paired (f : Nat) (s : List Nat) (n : Nat) (raw : List Nat)
    (h : blockRest f s = some (n, raw)) : Paired raw :=
  blockRest_induct (P := fun _ _ raw => Paired raw) (fun _ _ => Paired.nil)
    (fun _ _ _ _ _ ih => Paired.append (by decide) ih)
    (fun _ _ _ _ _ _ hk ih => Paired.append (sourceCharLen_paired hk) ih) f s n raw h

theorem prun_snoc {cur : List Nat} {s s' : Bool} {c : Nat} (hc : prun false cur = some s)
    (hp : pstep s c = some s') : prun false (cur ++ [c]) = some s' := by
  rw [prun_append, hc]
  simp [prun, hp]

/-- Splitting at line terminators never separates a pair. -/
theorem splitLinesAux_paired (cur raw : List Nat) : ∀ (s : Bool),
    prun false cur = some s → prun s raw = some false → ∀ l ∈ splitLinesAux cur raw, Paired l := by
  -- a line terminator is a scalar value: no trailing surrogate is due where it stands
  have hcons : ∀ {cur rest : List Nat} {s : Bool}, prun false cur = some s → s = false →
      (∀ l ∈ splitLinesAux [] rest, Paired l) → ∀ l ∈ cur :: splitLinesAux [] rest, Paired l :=
    fun hc hs ih l hl => (List.mem_cons.mp hl).elim (fun e => e ▸ (hs ▸ hc : prun false _ = some false)) (ih l)
  induction cur, raw using Gql.Spec.Lex.splitLinesAux.induct with
  | case1 cur =>
    intro s hc hr
    simp only [prun, Option.some.injEq] at hr
    simpa [splitLinesAux, hr, Paired] using hc
  | case2 cur rest ih =>
    intro s hc hr
    obtain ⟨hs, hr1⟩ := prun_scalar_cons (by decide) hr
    rw [splitLinesAux_crlf]
    exact hcons hc hs (ih false rfl (prun_scalar_cons (by decide) hr1).2)
  | case3 cur rest hr10 ih =>
    intro s hc hr
    obtain ⟨hs, hr1⟩ := prun_scalar_cons (by decide) hr
    rw [splitLinesAux_cr _ _ fun h => (List.head?_eq_some_iff.mp h).elim fun r e => hr10 r e]
    exact hcons hc hs (ih false rfl hr1)
  | case4 cur rest ih =>
    intro s hc hr
    obtain ⟨hs, hr1⟩ := prun_scalar_cons (by decide) hr
    rw [splitLinesAux_lf]
    exact hcons hc hs (ih false rfl hr1)
  | case5 cur c rest _ h13 h10 ih =>
    intro s hc hr
    rw [splitLinesAux_plain _ _ _ h10 h13]
    simp only [prun] at hr
    cases hp : pstep s c with
    | none => rw [hp] at hr; simp at hr
    | some s' => rw [hp] at hr; exact ih s' (prun_snoc hc hp) hr

theorem paired_of_blank (x : List Nat) (h : Blank x) : Paired x := by
  induction x with
  | nil => exact Paired.nil
  | cons c r ih =>
    obtain ⟨hc, hr⟩ := (blank_cons c r).mp h
    exact Paired.cons_scalar (by rcases hc with rfl | rfl <;> decide) (ih hr)

theorem paired_drop_lws : ∀ (l : List Nat) (n : Nat), Paired l → n ≤ leadingWhiteSpace l →
    Paired (l.drop n) := by
  intro l
  induction l with
  | nil => intro n h _; simpa using h
  | cons c r ih =>
    intro n h hn
    cases n with
    | zero => simpa using h
    | succ n' =>
      simp only [leadingWhiteSpace] at hn
      by_cases hc : c = 32 ∨ c = 9
      · rw [if_pos hc] at hn
        have hsc : isScalar c = true := by rcases hc with rfl | rfl <;> decide
        simp only [List.drop_succ_cons]
        exact ih n' (h.tail_of_scalar hsc) (by omega)
      · rw [if_neg hc] at hn; omega

theorem joinLF_paired (ls : List (List Nat)) (h : ∀ l ∈ ls, Paired l) : Paired (joinLF ls) := by
  fun_induction joinLF ls
  · exact Paired.nil
  · exact h _ (by simp)
  · rename_i l rest hne ih
    exact Paired.append (Paired.append (h l (by simp)) (by decide)) (ih (fun l' hl' => h l' (by simp [hl'])))

/-- Each line of `dedentLines lines` is a line of `lines` without some of its leading white space,
or a blank remainder of one. -/
theorem dedentLines_line (lines : List (List Nat)) :
    ∀ l' ∈ dedentLines lines, ∃ l ∈ lines, ∃ n, l' = l.drop n ∧ (n ≤ leadingWhiteSpace l ∨ Blank l') := by
  intro l' hl'
  unfold dedentLines at hl'
  simp only [] at hl'
  -- trimming blank lines at both ends only removes lines
  have h4 := (List.dropWhile_sublist _).subset (List.mem_reverse.mp
    ((List.dropWhile_sublist _).subset (List.mem_reverse.mp hl')))
  revert h4
  split
  · rename_i ci first rest hci
    intro h4
    rcases List.mem_cons.mp h4 with rfl | hh
    · exact ⟨l', by simp, 0, rfl, .inl (Nat.zero_le _)⟩
    · obtain ⟨l, hl, rfl⟩ := List.mem_map.mp hh
      have hcm : cmin none rest = some ci := by
        rw [← hci]
        unfold cmin
        simp only [List.tail_cons]
        congr 1; funext ci line; rw [← lws_eq_spec]
      refine ⟨l, by simp [hl], ci, rfl, ?_⟩
      by_cases hb : leadingWhiteSpace l = l.length
      · exact .inr (blank_drop l ci hb)
      · exact .inl ((cmin_spec rest none ci hcm).1 l hl hb)
  · intro h4; exact ⟨l', h4, 0, rfl, .inl (Nat.zero_le _)⟩

theorem dedentLines_paired (lines : List (List Nat)) (h : ∀ l ∈ lines, Paired l) :
    ∀ l' ∈ dedentLines lines, Paired l' := by
  intro l' hl'
  obtain ⟨l, hl, n, rfl, hn | hb⟩ := dedentLines_line lines l' hl'
  · exact paired_drop_lws l n (h l hl) hn
  · exact paired_of_blank _ hb

theorem blockStringValue_paired (raw : List Nat) (h : Paired raw) : Paired (blockStringValue raw) := by
  unfold blockStringValue
  apply joinLF_paired
  apply dedentLines_paired
  unfold splitLines
  exact splitLinesAux_paired [] raw false rfl h

end Gql.Text.Pairs

namespace Gql.Text
open Gql.Spec.Lex Gql.Text.Pairs

theorem blockRest_mem (f : Nat) (s : List Nat) (n : Nat) (raw : List Nat)
    (h : blockRest f s = some (n, raw)) : ∀ c ∈ raw, c ∈ s ∨ c = 34 := by
  refine blockRest_induct (P := fun s _ raw => ∀ c ∈ raw, c ∈ s ∨ c = 34) (fun _ _ c hc => nomatch hc)
    ?_ ?_ f s n raw h
  · intro s m w _ _ ih c hc
    rcases List.mem_append.mp hc with h1 | h1
    · right; simp at h1; exact h1
    · exact (ih c h1).imp_left List.mem_of_mem_drop
  · intro s k m w _ _ _ ih c hc
    rcases List.mem_append.mp hc with h1 | h1
    · exact Or.inl (List.mem_of_mem_take h1)
    · exact (ih c h1).imp_left List.mem_of_mem_drop

theorem splitLinesAux_mem (cur raw : List Nat) :
    ∀ l ∈ splitLinesAux cur raw, ∀ c ∈ l, c ∈ cur ∨ c ∈ raw := by
  fun_induction splitLinesAux cur raw
  · intro l hl c hc; simp at hl; subst hl; exact Or.inl hc
  all_goals
    rename_i ih
    intro l hl c hc
    first
    | (rcases List.mem_cons.mp hl with h | h
       · subst h; exact Or.inl hc
       · rcases ih l h c hc with h2 | h2
         · simp at h2
         · exact Or.inr (by simp [h2]))
    | (rcases ih l hl c hc with h2 | h2
       · rcases List.mem_append.mp h2 with h3 | h3
         · exact Or.inl h3
         · simp at h3; exact Or.inr (by simp [h3])
       · exact Or.inr (by simp [h2]))

theorem joinLF_mem (ls : List (List Nat)) : ∀ c ∈ joinLF ls, c = 10 ∨ ∃ l ∈ ls, c ∈ l := by
  fun_induction joinLF ls
  · intro c hc; simp at hc
  · intro c hc; exact Or.inr ⟨_, by simp, hc⟩
  · rename_i l rest hne ih
    intro c hc
    simp only [List.mem_append] at hc
    rcases hc with (h | h) | h
    · exact Or.inr ⟨l, by simp, h⟩
    · simp at h; exact Or.inl h
    · rcases ih c h with h2 | ⟨l', hl', hc'⟩
      · exact Or.inl h2
      · exact Or.inr ⟨l', by simp [hl'], hc'⟩

theorem blockStringValue_mem (raw : List Nat) : ∀ c ∈ blockStringValue raw, c ∈ raw ∨ c = 10 := by
  intro c hc
  unfold blockStringValue at hc
  rcases joinLF_mem _ c hc with h | ⟨l', hl', hc'⟩
  · exact Or.inr h
  · obtain ⟨l, hl, n, rfl, _⟩ := dedentLines_line _ l' hl'
    rcases splitLinesAux_mem [] raw l hl c (List.mem_of_mem_drop hc') with h | h
    · simp at h
    · exact Or.inl h

/-- A block string token of the grammar: its value is block-representable, made of code
points of the text, `"` or LF, and consists of Unicode scalar values and surrogate pairs. -/
theorem blockString?_value {u : List Nat} {m : Match} (h : blockString? u = some m) :
    ∃ v, m.value = some v ∧ BlockRepresentable v ∧ (∀ c ∈ v, c ∈ u ∨ c = 34 ∨ c = 10) ∧ Paired v := by
  obtain ⟨r, n, raw, rfl, hb, rfl⟩ := blockString?_some h
  refine ⟨_, rfl, blockStringValue_representable raw, fun c hc => ?_,
    blockStringValue_paired raw (blockRest_paired _ _ _ _ hb)⟩
  rcases blockStringValue_mem raw c hc with h1 | h1
  · exact (blockRest_mem _ _ _ _ hb c h1).imp (fun h => by simp [h]) .inl
  · exact .inr (.inr h1)

theorem Pairs.blockString?_value_paired {u : List Nat} {m : Match} (h : blockString? u = some m) :
    ∀ v, m.value = some v → Paired v := by
  obtain ⟨v, hv, _, _, hp⟩ := blockString?_value h
  intro w hw
  rw [hv] at hw
  exact Option.some.inj hw ▸ hp

end Gql.Text
