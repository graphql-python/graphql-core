import Gql.Async.Subscribe
/-! Lemmas for C07: the invariant of the subscription transition system. -/
namespace Gql.Async.Subscribe
variable {Ev R X : Type}

@[simp] theorem responsesOf_append (a b : List (Delivered R X)) :
    responsesOf (a ++ b) = responsesOf a ++ responsesOf b := by
  induction a with
  | nil => rfl
  | cons d a ih => cases d <;> simp [responsesOf, ih]

@[simp] theorem responsesOf_replicate_done (j : Nat) :
    responsesOf (List.replicate j (Delivered.done : Delivered R X)) = [] := by
  induction j with
  | zero => rfl
  | succ j ih => simp [List.replicate_succ, responsesOf, ih]

theorem responsesOf_map_resp (exec : Ev → R) (evs : List Ev) :
    responsesOf (evs.map (fun e => (Delivered.resp (exec e) : Delivered R X))) = evs.map exec := by
  induction evs with
  | nil => rfl
  | cons e evs ih => simp [responsesOf, ih]

theorem map_outOf_items (exec : Ev → R) (src : Source Ev X) :
    src.items.map (outOf exec) = expected exec src := by
  unfold Source.items expected
  cases h : src.term <;> simp [Term.item, outOf, List.map_map, Function.comp_def]

theorem responsesOf_expected (exec : Ev → R) (src : Source Ev X) :
    responsesOf (expected exec src) = src.events.map exec := by
  unfold expected
  rw [responsesOf_append, responsesOf_map_resp]
  cases src.term <;> simp [responsesOf]

/-- An item that is not an event. -/
def Item.isTerm : Item Ev X → Prop
  | .ev _ => False
  | _ => True

theorem term_item_isTerm (t : Term X) : (t.item : Item Ev X).isTerm := by
  cases t <;> simp [Term.item, Item.isTerm]

theorem term_is_last {src : Source Ev X} {pre rest : List (Item Ev X)} {it : Item Ev X}
    (h : pre ++ it :: rest = src.items) (hit : it.isTerm) : rest = [] := by
  rcases List.eq_nil_or_concat rest with rfl | ⟨r, l, rfl⟩
  · rfl
  · -- otherwise `it` is among the events
    rw [List.concat_eq_append, ← List.cons_append, ← List.append_assoc, Source.items] at h
    have hm : it ∈ src.events.map Item.ev := (List.append_singleton_inj.1 h).1 ▸ by simp
    obtain ⟨e, -, rfl⟩ := List.mem_map.1 hm
    exact hit.elim

/-- The invariant tying a state to its source. -/
structure Inv (exec : Ev → R) (src : Source Ev X) (s : St Ev R X) : Prop where
  ex : ∃ (consumed : List (Item Ev X)) (j : Nat),
    consumed ++ s.queue ++ s.pending = src.items ∧
    s.out = consumed.map (outOf exec) ++ List.replicate j Delivered.done ∧
    (s.finished = false → j = 0 ∧ ∃ evs : List Ev, consumed = evs.map Item.ev) ∧
    (s.finished = true → s.closedEarly = false → s.queue = [] ∧ s.pending = [])
  waitingQ : s.waiting = true → s.queue = [] ∧ s.finished = false ∧ s.started = true
  closed : s.srcClosed = if s.finished && s.started then 1 else 0
  closedEarlyFin : s.closedEarly = true → s.finished = true

theorem inv_init (exec : Ev → R) (src : Source Ev X) : Inv exec src (init src) := by
  refine ⟨⟨[], 0, ?_, ?_, ?_, ?_⟩, ?_, ?_, ?_⟩ <;> simp [init]

theorem deliver_term (exec : Ev → R) (s : St Ev R X) {it : Item Ev X} (hit : it.isTerm) :
    deliver exec s it = { s with out := s.out ++ [outOf exec it], waiting := false, finished := true,
                                 srcClosed := s.srcClosed + 1 } := by
  cases it <;> first | exact hit.elim | rfl

theorem Inv.running {exec : Ev → R} {src : Source Ev X} {s : St Ev R X} (h : Inv exec src s)
    (hfin : s.finished = false) :
    ∃ evs : List Ev, evs.map Item.ev ++ s.queue ++ s.pending = src.items ∧
      s.out = evs.map (fun e => Delivered.resp (exec e)) ∧ s.srcClosed = 0 ∧ s.closedEarly = false := by
  obtain ⟨⟨_, _, hsplit, hout, hnf, -⟩, -, hcl, hce⟩ := h
  obtain ⟨rfl, evs, rfl⟩ := hnf hfin
  exact ⟨evs, hsplit, by simpa [Function.comp_def, outOf] using hout, by simpa [hfin] using hcl,
    eq_false_of_ne_true fun h => by rw [hce h] at hfin; cases hfin⟩

theorem inv_deliver (exec : Ev → R) (src : Source Ev X) (s : St Ev R X) (it : Item Ev X)
    (evs : List Ev) (hsplit : evs.map Item.ev ++ it :: (s.queue ++ s.pending) = src.items)
    (hout : s.out = evs.map (fun e => Delivered.resp (exec e)))
    (hfin : s.finished = false) (hstarted : s.started = true) (hclosed : s.srcClosed = 0)
    (hce : s.closedEarly = false) :
    Inv exec src (deliver exec s it) := by
  -- a terminator is the last item of the source: nothing is left queued or pending
  have term : it.isTerm → Inv exec src (deliver exec s it) := fun hit => by
    have hq : s.queue = [] ∧ s.pending = [] := by simpa using term_is_last hsplit hit
    rw [deliver_term exec s hit]
    exact ⟨⟨evs.map Item.ev ++ [it], 0, by simpa using hsplit,
      by simp [hout, Function.comp_def, outOf], fun h => (by cases h),
      fun _ _ => hq⟩, fun h => (by cases h), by simp [hstarted, hclosed], fun _ => rfl⟩
  cases it with
  | ev e =>
    refine ⟨⟨(evs ++ [e]).map Item.ev, 0, ?_, ?_, ?_, ?_⟩, ?_, ?_, ?_⟩
    · simpa [deliver] using hsplit
    · simp [deliver, hout, Function.comp_def, outOf]
    · intro _; exact ⟨rfl, _, rfl⟩
    · intro h; simp [deliver, hfin] at h
    · intro h; simp [deliver] at h
    · simp [deliver, hfin, hclosed]
    · intro h; simp [deliver, hce] at h
  | stop => exact term trivial
  | fail x => exact term trivial

/-- The moves of `step`: an operation that is not enabled changes nothing except that a `close`
may end the stream; the others are a delivery (by a push to a waiting consumer or by a pull from
the queue), an enqueueing push, a pull on a finished stream, a pull that starts to wait. -/
theorem step_ind (exec : Ev → R) (s : St Ev R X) (op : Op) {motive : St Ev R X → Prop}
    (noop : enabled s op = false → motive s)
    (pushWait : ∀ it rest, s.pending = it :: rest → s.waiting = true →
      motive (deliver exec { s with pending := rest } it))
    (pushQueue : ∀ it rest, s.pending = it :: rest → s.waiting = false →
      motive { s with pending := rest, queue := s.queue ++ [it] })
    (pullFin : s.finished = true → motive { s with out := s.out ++ [Delivered.done] })
    (pullEmpty : s.finished = false → s.waiting = false → s.queue = [] →
      motive { s with waiting := true, started := true })
    (pullItem : ∀ it q, s.finished = false → s.waiting = false → s.queue = it :: q →
      motive (deliver exec { s with queue := q, started := true } it))
    (close : op = .close → s.finished = false → s.waiting = false →
      motive { s with finished := true, closedEarly := true,
                      srcClosed := if s.started then s.srcClosed + 1 else s.srcClosed }) :
    motive (step exec s op) := by
  cases op with
  | push =>
    cases hp : s.pending with
    | nil => simpa [step, hp] using noop (by simp [enabled, hp])
    | cons it rest =>
      cases hw : s.waiting with
      | true => simpa [step, hp, hw] using pushWait it rest hp hw
      | false => simpa [step, hp, hw] using pushQueue it rest hp hw
  | pull =>
    cases hfin : s.finished with
    | true => simpa [step, hfin] using pullFin hfin
    | false =>
      cases hw : s.waiting with
      | true => simpa [step, hfin, hw] using noop (by simp [enabled, hfin, hw])
      | false =>
        cases hq : s.queue with
        | nil => simpa [step, hfin, hw, hq] using pullEmpty hfin hw hq
        | cons it q => simpa [step, hfin, hw, hq] using pullItem it q hfin hw hq
  | close =>
    cases hfin : s.finished with
    | true => simpa [step, hfin] using noop rfl
    | false =>
      cases hw : s.waiting with
      | true => simpa [step, hfin, hw] using noop rfl
      | false => simpa [step, hfin, hw] using close rfl hfin hw

theorem inv_step (exec : Ev → R) (src : Source Ev X) (s : St Ev R X) (op : Op)
    (h : Inv exec src s) : Inv exec src (step exec s op) := by
  have h0 := h
  obtain ⟨⟨consumed, j, hsplit, hout, hnf, hfc⟩, hw, hcl, hce⟩ := h
  refine step_ind exec s op (motive := Inv exec src) (fun _ => h0) ?_ ?_ ?_ ?_ ?_ ?_
  · intro it rest hp hwt
    obtain ⟨hq, hfin, hst⟩ := hw hwt
    obtain ⟨evs, hsplit, hout, hc0, hce0⟩ := h0.running hfin
    exact inv_deliver exec src _ it evs (by simpa [hq, hp] using hsplit) hout hfin hst hc0 hce0
  · intro it rest hp hwt
    exact ⟨⟨consumed, j, by simpa [hp] using hsplit, hout, hnf,
      fun hf hc => (by have := (hfc hf hc).2; rw [hp] at this; cases this)⟩,
      fun h => (by rw [hwt] at h; cases h), hcl, hce⟩
  · intro hfin
    exact ⟨⟨consumed, j + 1, hsplit, by simp [hout, List.replicate_succ', List.append_assoc],
      fun h => (by rw [hfin] at h; cases h), hfc⟩, hw, hcl, hce⟩
  · intro hfin hwt hq
    exact ⟨⟨consumed, j, hsplit, hout, hnf, hfc⟩, fun _ => ⟨hq, hfin, rfl⟩, by simp [hfin, hcl], hce⟩
  · intro it q hfin hwt hq
    obtain ⟨evs, hsplit, hout, hc0, hce0⟩ := h0.running hfin
    exact inv_deliver exec src _ it evs (by simpa [hq] using hsplit) hout hfin rfl hc0 hce0
  · intro _ hfin hwt
    obtain ⟨-, -, -, hc0, -⟩ := h0.running hfin
    exact ⟨⟨consumed, j, hsplit, hout, fun h => (by cases h), fun _ h => (by cases h)⟩,
      fun h => (by rw [hwt] at h; cases h), by cases hs : s.started <;> simp [hc0], fun _ => rfl⟩

theorem inv_run (exec : Ev → R) (src : Source Ev X) (ops : List Op) (s : St Ev R X)
    (h : Inv exec src s) : Inv exec src (run exec s ops) := by
  induction ops generalizing s with
  | nil => exact h
  | cons op ops ih => exact ih _ (inv_step exec src s op h)

theorem inv_reach (exec : Ev → R) (src : Source Ev X) (ops : List Op) :
    Inv exec src (run exec (init src) ops) :=
  inv_run exec src ops _ (inv_init exec src)

instance decEnabledRun (exec : Ev → R) :
    (s : St Ev R X) → (ops : List Op) → Decidable (EnabledRun exec s ops)
  | _, [] => isTrue trivial
  | s, op :: ops =>
    have := decEnabledRun exec (step exec s op) ops
    (inferInstance : Decidable (enabled s op = true ∧ EnabledRun exec (step exec s op) ops))

/-- What a delivery does to the fields the progress argument looks at. -/
theorem deliver_progress (exec : Ev → R) (s : St Ev R X) (it : Item Ev X) :
    (deliver exec s it).closedEarly = s.closedEarly ∧
    (s.finished = true → (deliver exec s it).finished = true) ∧
    ((deliver exec s it).finished = true ∨
      fuel (deliver exec s it) = 2 * s.pending.length + s.queue.length + 1) := by
  cases it <;> simp [deliver, fuel]

theorem finished_step (exec : Ev → R) (s : St Ev R X) (op : Op) (h : s.finished = true) :
    (step exec s op).finished = true :=
  step_ind exec s op (motive := fun s' => s'.finished = true) (fun _ => h)
    (fun it _ _ _ => (deliver_progress exec _ it).2.1 h) (fun _ _ _ _ => h) (fun _ => h)
    (fun _ _ _ => h) (fun it _ _ _ _ => (deliver_progress exec _ it).2.1 h) (fun _ _ _ => rfl)

theorem finished_run (exec : Ev → R) (ops : List Op) (s : St Ev R X) (h : s.finished = true) :
    (run exec s ops).finished = true := by
  induction ops generalizing s with
  | nil => exact h
  | cons op ops ih => exact ih _ (finished_step exec s op h)

theorem fuel_pos (exec : Ev → R) (src : Source Ev X) (s : St Ev R X) (h : Inv exec src s)
    (hfin : s.finished = false) : 0 < fuel s := by
  unfold fuel
  cases hwt : s.waiting with
  | false => simp
  | true =>
    cases hp : s.pending with
    | cons it rest => simp; omega
    | nil =>
      -- nothing queued, nothing pending: the terminator would be among the events consumed
      obtain ⟨evs, hsplit, -⟩ := h.running hfin
      have hm : src.term.item ∈ src.items := by simp [Source.items]
      simp only [← hsplit, (h.waitingQ hwt).1, hp, List.append_nil, List.mem_map] at hm
      obtain ⟨e, -, he⟩ := hm
      exact (he ▸ term_item_isTerm src.term : (Item.ev e).isTerm).elim

theorem step_progress (exec : Ev → R) (s : St Ev R X) (op : Op)
    (hfin : s.finished = false) (hen : enabled s op = true) :
    (step exec s op).finished = true ∨ fuel (step exec s op) < fuel s := by
  refine step_ind exec s op (motive := fun s' => s'.finished = true ∨ fuel s' < fuel s)
    (fun h' => by rw [h'] at hen; cases hen) ?_ ?_ (fun h' => by rw [h'] at hfin; cases hfin) ?_ ?_
    (fun h' => by rw [h'] at hen; cases hen)
  · intro it rest hp hwt
    refine (deliver_progress exec _ it).2.2.imp id fun h' => ?_
    rw [h']; simp [fuel, hp, hwt]; omega
  · intro it rest hp hwt
    right; unfold fuel; simp [hp, hwt]; omega
  · intro _ hwt hq
    right; unfold fuel; simp [hq, hwt]
  · intro it q _ hwt hq
    refine (deliver_progress exec _ it).2.2.imp id fun h' => ?_
    rw [h']; simp [fuel, hq, hwt]

theorem enabled_run_finishes (exec : Ev → R) (src : Source Ev X) (ops : List Op) (s : St Ev R X)
    (h : Inv exec src s) (hen : EnabledRun exec s ops) (hlen : fuel s ≤ ops.length) :
    (run exec s ops).finished = true := by
  induction ops generalizing s with
  | nil =>
    cases hfin : s.finished with
    | true => exact hfin
    | false => have := fuel_pos exec src s h hfin; simp at hlen; omega
  | cons op ops ih =>
    cases hfin : s.finished with
    | true => exact finished_run exec (op :: ops) s hfin
    | false =>
      rcases step_progress exec s op hfin hen.1 with hd | hlt
      · exact finished_run exec ops _ hd
      · apply ih _ (inv_step exec src s op h) hen.2
        simp at hlen; omega

theorem closedEarly_step (exec : Ev → R) (s : St Ev R X) (op : Op) (hop : op ≠ .close)
    (h : s.closedEarly = false) : (step exec s op).closedEarly = false :=
  step_ind exec s op (motive := fun s' => s'.closedEarly = false) (fun _ => h)
    (fun it _ _ _ => (deliver_progress exec _ it).1.trans h) (fun _ _ _ _ => h) (fun _ => h)
    (fun _ _ _ => h) (fun it _ _ _ _ => (deliver_progress exec _ it).1.trans h)
    (fun hc => absurd hc hop)

theorem closedEarly_run (exec : Ev → R) (ops : List Op) (s : St Ev R X) (hops : Op.close ∉ ops)
    (h : s.closedEarly = false) : (run exec s ops).closedEarly = false := by
  induction ops generalizing s with
  | nil => exact h
  | cons op ops ih =>
    simp at hops
    exact ih _ hops.2 (closedEarly_step exec s op (fun e => hops.1 e.symm) h)

end Gql.Async.Subscribe
