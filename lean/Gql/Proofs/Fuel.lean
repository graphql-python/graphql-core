import Gql.Proofs.Attach
import Gql.Proofs.Util.Unmarked
/-!
Fuel bounds: the fuel the model passes to `prune` (`_prune_empty_groups`), `removeGroup`
(`_remove_group`) and `addGroup` (`_add_group`) is never exhausted.  One shape for the three: above
the measure (group nodes for the first two, which no `Upd` step increases, `Upd.len`; unvisited
groups of the list for the third) one more unit of fuel changes nothing; Props/C05 iterates that by
`Unmarked.stable`.
-/
namespace Gql.Async

theorem aerase_length_lt {β : Type} (m : List (Nat × β)) (k : Nat) (v : β)
    (h : alookup m k = some v) : (aerase m k).length < m.length :=
  List.length_filter_lt_length_iff_exists.mpr ⟨(k, v), List.mem_of_lookup (alookup_eq m k ▸ h), by simp⟩

theorem foldl_agree {β : Type} (m : β → Nat) (L : Nat) (f1 f2 : β → Nat → β) (gs : List Nat) (b : β)
    (hL : m b ≤ L) (hag : ∀ b g, m b ≤ L → f1 b g = f2 b g) (hle : ∀ b g, m (f1 b g) ≤ m b) :
    gs.foldl f1 b = gs.foldl f2 b := by
  induction gs generalizing b with
  | nil => rfl
  | cons g gs ih =>
    simp only [List.foldl_cons]
    rw [← hag b g hL]
    exact ih _ (Nat.le_trans (hle b g) hL)

theorem prune_fuel (fuel : Nat) : ∀ (gs : List Nat) (st : WQ × List Nat),
    st.1.groupNodes.length < fuel → prune fuel gs st = prune (fuel + 1) gs st := by
  induction fuel with
  | zero => intro gs st h; exact absurd h (Nat.not_lt_zero _)
  | succ f ih =>
    intro gs st h
    conv => lhs; unfold prune
    conv => rhs; unfold prune
    apply foldl_agree (fun st => st.1.groupNodes.length) st.1.groupNodes.length _ _ gs st (Nat.le_refl _)
    · intro st' g hl
      cases hg : alookup st'.1.groupNodes g with
      | none => rfl
      | some n =>
        simp only
        split
        · rfl
        · apply ih
          simp only
          have := aerase_length_lt st'.1.groupNodes g n hg
          omega
    · -- one step of the loop is `prune (f + 1) [g]`
      exact fun st' g => (prune_upd (f + 1) [g] st').len

/-- `_finish_group_failure` passes `|group nodes| + 1`, on a group that has a node. -/
theorem removeGroup_fuel (σ : Static) (fuel : Nat) : ∀ (q : WQ) (g : Nat) (n : GroupNode),
    alookup q.groupNodes g = some n → q.groupNodes.length < fuel →
    removeGroup σ fuel q g n = removeGroup σ (fuel + 1) q g n := by
  induction fuel with
  | zero => intro q g n _ h; exact absurd h (Nat.not_lt_zero _)
  | succ f ih =>
    intro q g n hm hl
    conv => lhs; unfold removeGroup
    conv => rhs; unfold removeGroup
    simp only
    have hlen : (n.tasks.foldl (dropOrphanTask σ) { q with groupNodes := aerase q.groupNodes g }).groupNodes.length < f := by
      have h1 := (dropOrphans_upd σ n.tasks { q with groupNodes := aerase q.groupNodes g }).len
      have := aerase_length_lt q.groupNodes g n hm
      simp only at h1; omega
    apply foldl_agree (fun q => q.groupNodes.length) _ _ _ n.children _ (Nat.le_refl _)
    · intro q' c hl'
      cases hc : alookup q'.groupNodes c with
      | none => rfl
      | some cn => exact ih q' c cn hc (Nat.lt_of_le_of_lt hl' hlen)
    · intro q' c
      split
      · exact (removeGroup_upd σ _ _ _ _).len
      · exact Nat.le_refl _

/-- `_add_groups` passes `len(groups) + 1`, on a group of the list. -/
theorem addGroup_fuel (σ : Static) (gs : List Nat) (hpt : Bool) (fuel : Nat) :
    ∀ (g : Nat) (acc : WQ × List Nat × List Nat), g ∈ gs → Unmarked.count gs acc.2.2 < fuel →
    addGroup σ gs hpt fuel g acc = addGroup σ gs hpt (fuel + 1) g acc := by
  induction fuel with
  | zero => intro g acc _ h; exact absurd h (Nat.not_lt_zero _)
  | succ f ih =>
    intro g acc hg hu
    by_cases hv : g ∈ acc.2.2
    · rw [addGroup_visited σ gs hpt f g acc hv, addGroup_visited σ gs hpt (f + 1) g acc hv]
    · by_cases hrecur : ∃ p, σ.parent g = some p ∧ p ∈ gs
      · obtain ⟨p, hp, hpg⟩ := hrecur
        rw [addGroup_rec σ gs hpt f g p acc hv hp hpg, addGroup_rec σ gs hpt (f + 1) g p acc hv hp hpg]
        have hlt := Unmarked.count_cons_lt hg hv
        rw [ih p (acc.1, acc.2.1, g :: acc.2.2) hpg (by simp only; omega)]
      · rw [addGroup_leaf σ gs hpt f g acc hv (fun p hp hpg => hrecur ⟨p, hp, hpg⟩),
          addGroup_leaf σ gs hpt (f + 1) g acc hv (fun p hp hpg => hrecur ⟨p, hp, hpg⟩)]

end Gql.Async
