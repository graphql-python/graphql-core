import Gql.Proofs.ParserGood
import Gql.Proofs.ParserTablesOk
/-
Totality and fuel irrelevance of the parser model: every parse function agrees with itself at
any two amounts of fuel (`Agree`, see `Gql/Proofs/ParserGood.lean`); each proof follows the `do` block
of the function and names the step that consumes.  The `getattr` dispatch never falls through given the
generated tables.  Therefore every entry point on every crash-free stream returns a node or a syntax
error, the same for every fuel above the stream length.
-/
namespace Gql.Syntax
open Gql Gql.Text

variable {cfg : Cfg} {n m : Nat}

theorem parseArgument_agree {cls : String} {isConst : Bool} :
    Agree true (min n m) (parseArgument cfg n cls isConst) (parseArgument cfg m cls isConst) :=
  .bindL parseName_goodC fun _ => expectToken_good.bind fun _ =>
    (valueLit_agree _ _ _ _).bind fun _ => Good.pure

theorem parseArguments_agree {isConst : Bool} :
    Agree false (min n m) (parseArguments cfg n isConst) (parseArguments cfg m isConst) :=
  parseOptionalMany_agree parseArgument_agree

theorem parseFragmentArguments_agree :
    Agree false (min n m) (parseFragmentArguments cfg n) (parseFragmentArguments cfg m) :=
  parseOptionalMany_agree parseArgument_agree

theorem parseDirective_agree {isConst : Bool} :
    Agree true (min n m) (parseDirective cfg n isConst) (parseDirective cfg m isConst) :=
  .bindL expectToken_goodC fun _ => parseName_goodC.bind fun _ =>
    parseArguments_agree.bind fun _ => Good.pure

theorem directivesLoop_agree (cfg : Cfg) (n m : Nat) (isConst : Bool) :
    ∀ (j j' : Nat) (acc : List Ast),
      Agree true (min j j') (parseDirective cfg n isConst) (parseDirective cfg m isConst) →
      Agree false (min j j') (directivesLoop cfg n isConst j acc) (directivesLoop cfg m isConst j' acc)
  | 0, _, _, _ => .zero_min
  | _ + 1, 0, _, _ => .zero
  | j + 1, j' + 1, _, hd => by
    rw [Nat.succ_min_succ] at hd ⊢
    exact peek_good.bind fun _ => .ite
      (hd.step fun _ => directivesLoop_agree cfg n m isConst j j' _ (hd.anti (Nat.le_succ _))).weak
      Good.pure

theorem parseDirectives_agree {isConst : Bool} :
    Agree false (min n m) (parseDirectives cfg n isConst) (parseDirectives cfg m isConst) :=
  (directivesLoop_agree cfg n m isConst n m [] parseDirective_agree).bind fun _ => Good.pure

theorem parseVariableDefinition_agree :
    Agree true (min n m) (parseVariableDefinition cfg n) (parseVariableDefinition cfg m) :=
  .bindR parseDescription_good fun _ => .bindL parseVariable_goodC fun _ =>
    expectToken_good.bind fun _ => (typeRef_agree _ _ _).bind fun _ =>
    expectOptionalToken_good.bind fun _ => (Agree.ite (valueLit_agree _ _ _ _).weak Good.pure).bind fun _ =>
    parseDirectives_agree.bind fun _ => Good.pure

theorem parseVariableDefinitions_agree :
    Agree false (min n m) (parseVariableDefinitions cfg n) (parseVariableDefinitions cfg m) :=
  parseOptionalMany_agree parseVariableDefinition_agree

theorem parseFragmentName_goodC {k : Nat} : GoodC k (parseFragmentName cfg) :=
  .bindR cur_good fun _ => .ite unexpected_good parseName_goodC

section
variable {c : Bool} {ss ss' : P Ast} (hss : Agree c (min n m) ss ss')
include hss

theorem parseField_agree : Agree true (min n m) (parseField cfg n ss) (parseField cfg m ss') :=
  .bindL parseName_goodC fun _ => expectOptionalToken_good.bind fun _ =>
    (Agree.ite parseName_goodC.weak Good.pure).bind fun _ => parseArguments_agree.bind fun _ =>
    parseDirectives_agree.bind fun _ => peek_good.bind fun _ =>
    (Agree.ite hss.weak Good.pure).bind fun _ => Good.pure

theorem parseFragment_agree : Agree true (min n m) (parseFragment cfg n ss) (parseFragment cfg m ss') :=
  .bindL expectToken_goodC fun _ => expectOptionalKeyword_good.bind fun _ => peek_good.bind fun _ =>
    .ite
      (parseFragmentName_goodC.bind fun _ => peek_good.bind fun _ => .ite
        (parseFragmentArguments_agree.bind fun _ => parseDirectives_agree.bind fun _ => Good.pure)
        (parseDirectives_agree.bind fun _ => Good.pure))
      ((Agree.ite parseNamedType_goodC.weak Good.pure).bind fun _ => parseDirectives_agree.bind fun _ =>
        hss.bind fun _ => Good.pure)

theorem parseSelection_agree :
    Agree true (min n m) (parseSelection cfg n ss) (parseSelection cfg m ss') :=
  .bindR peek_good fun _ => .ite (parseFragment_agree hss) (parseField_agree hss)

end

theorem selectionSet_agree (cfg : Cfg) :
    ∀ n m : Nat, Agree true (min n m) (selectionSet n cfg) (selectionSet m cfg)
  | 0, _ => .zero_min
  | _ + 1, 0 => .zero
  | n + 1, m + 1 => by
    rw [Nat.succ_min_succ]
    exact (parseMany_agree_step (parseSelection_agree (selectionSet_agree cfg n m))).bindL
      fun _ => Good.pure

theorem parseOperationType_goodC {k : Nat} : GoodC k (parseOperationType cfg) :=
  .bindL expectToken_goodC fun _ => .ite Good.pure unexpected_good

theorem parseOperationDefinition_agree :
    Agree true (min n m) (parseOperationDefinition cfg n) (parseOperationDefinition cfg m) :=
  .bindR peek_good fun _ => .ite
    ((selectionSet_agree _ _ _).bindL fun _ => Good.pure)
    (.bindR parseDescription_good fun _ => .bindL parseOperationType_goodC fun _ =>
      peek_good.bind fun _ => (Agree.ite parseName_goodC.weak Good.pure).bind fun _ =>
      parseVariableDefinitions_agree.bind fun _ => parseDirectives_agree.bind fun _ =>
      (selectionSet_agree _ _ _).bind fun _ => Good.pure)

theorem parseTypeCondition_goodC {k : Nat} : GoodC k (parseTypeCondition cfg) :=
  .bindL expectKeyword_goodC fun _ => parseNamedType_goodC

theorem parseFragmentDefinition_agree :
    Agree true (min n m) (parseFragmentDefinition cfg n) (parseFragmentDefinition cfg m) :=
  .bindR parseDescription_good fun _ => .bindL expectKeyword_goodC fun _ =>
    parseFragmentName_goodC.bind fun _ =>
    (Agree.ite (parseVariableDefinitions_agree.bind fun _ => Good.pure) Good.pure).bind fun _ =>
    parseTypeCondition_goodC.bind fun _ => parseDirectives_agree.bind fun _ =>
    (selectionSet_agree _ _ _).bind fun _ => Good.pure

theorem parseOperationTypeDefinition_goodC {k : Nat} : GoodC k (parseOperationTypeDefinition cfg) :=
  .bindL parseOperationType_goodC fun _ => expectToken_good.bind fun _ =>
    parseNamedType_goodC.bind fun _ => Good.pure

theorem parseSchemaDefinition_agree :
    Agree true (min n m) (parseSchemaDefinition cfg n) (parseSchemaDefinition cfg m) :=
  .bindR parseDescription_good fun _ => .bindL expectKeyword_goodC fun _ =>
    parseDirectives_agree.bind fun _ =>
    (parseMany_agree parseOperationTypeDefinition_goodC).bind fun _ => Good.pure

theorem parseScalarTypeDefinition_agree :
    Agree true (min n m) (parseScalarTypeDefinition cfg n) (parseScalarTypeDefinition cfg m) :=
  .bindR parseDescription_good fun _ => .bindL expectKeyword_goodC fun _ =>
    parseName_goodC.bind fun _ => parseDirectives_agree.bind fun _ => Good.pure

theorem parseImplementsInterfaces_agree :
    Agree false (min n m) (parseImplementsInterfaces cfg n) (parseImplementsInterfaces cfg m) :=
  expectOptionalKeyword_good.bind fun _ => .ite
    ((parseDelimitedMany_agree parseNamedType_goodC).bind fun _ => Good.pure) Good.pure

theorem parseInputValueDef_agree :
    Agree true (min n m) (parseInputValueDef cfg n) (parseInputValueDef cfg m) :=
  .bindR parseDescription_good fun _ => .bindL parseName_goodC fun _ =>
    expectToken_good.bind fun _ => (typeRef_agree _ _ _).bind fun _ =>
    expectOptionalToken_good.bind fun _ => (Agree.ite (valueLit_agree _ _ _ _).weak Good.pure).bind fun _ =>
    parseDirectives_agree.bind fun _ => Good.pure

theorem parseArgumentDefs_agree :
    Agree false (min n m) (parseArgumentDefs cfg n) (parseArgumentDefs cfg m) :=
  parseOptionalMany_agree parseInputValueDef_agree

theorem parseFieldDefinition_agree :
    Agree true (min n m) (parseFieldDefinition cfg n) (parseFieldDefinition cfg m) :=
  .bindR parseDescription_good fun _ => .bindL parseName_goodC fun _ =>
    parseArgumentDefs_agree.bind fun _ => expectToken_good.bind fun _ =>
    (typeRef_agree _ _ _).bind fun _ => parseDirectives_agree.bind fun _ => Good.pure

theorem parseFieldsDefinition_agree :
    Agree false (min n m) (parseFieldsDefinition cfg n) (parseFieldsDefinition cfg m) :=
  parseOptionalMany_agree parseFieldDefinition_agree

theorem parseObjectLikeDefinition_agree {kw cls : String} :
    Agree true (min n m) (parseObjectLikeDefinition cfg n kw cls)
      (parseObjectLikeDefinition cfg m kw cls) :=
  .bindR parseDescription_good fun _ => .bindL expectKeyword_goodC fun _ =>
    parseName_goodC.bind fun _ => parseImplementsInterfaces_agree.bind fun _ =>
    parseDirectives_agree.bind fun _ => parseFieldsDefinition_agree.bind fun _ => Good.pure

theorem parseUnionMemberTypes_agree :
    Agree false (min n m) (parseUnionMemberTypes cfg n) (parseUnionMemberTypes cfg m) :=
  expectOptionalToken_good.bind fun _ => .ite
    ((parseDelimitedMany_agree parseNamedType_goodC).bind fun _ => Good.pure) Good.pure

theorem parseUnionTypeDefinition_agree :
    Agree true (min n m) (parseUnionTypeDefinition cfg n) (parseUnionTypeDefinition cfg m) :=
  .bindR parseDescription_good fun _ => .bindL expectKeyword_goodC fun _ =>
    parseName_goodC.bind fun _ => parseDirectives_agree.bind fun _ =>
    parseUnionMemberTypes_agree.bind fun _ => Good.pure

theorem parseEnumValueName_goodC {k : Nat} : GoodC k (parseEnumValueName cfg) :=
  .bindR cur_good fun _ => .ite Agree.fail parseName_goodC

theorem parseEnumValueDefinition_agree :
    Agree true (min n m) (parseEnumValueDefinition cfg n) (parseEnumValueDefinition cfg m) :=
  .bindR parseDescription_good fun _ => .bindL parseEnumValueName_goodC fun _ =>
    parseDirectives_agree.bind fun _ => Good.pure

theorem parseEnumValuesDefinition_agree :
    Agree false (min n m) (parseEnumValuesDefinition cfg n) (parseEnumValuesDefinition cfg m) :=
  parseOptionalMany_agree parseEnumValueDefinition_agree

theorem parseEnumTypeDefinition_agree :
    Agree true (min n m) (parseEnumTypeDefinition cfg n) (parseEnumTypeDefinition cfg m) :=
  .bindR parseDescription_good fun _ => .bindL expectKeyword_goodC fun _ =>
    parseName_goodC.bind fun _ => parseDirectives_agree.bind fun _ =>
    parseEnumValuesDefinition_agree.bind fun _ => Good.pure

theorem parseInputFieldsDefinition_agree :
    Agree false (min n m) (parseInputFieldsDefinition cfg n) (parseInputFieldsDefinition cfg m) :=
  parseOptionalMany_agree parseInputValueDef_agree

theorem parseInputObjectTypeDefinition_agree :
    Agree true (min n m) (parseInputObjectTypeDefinition cfg n)
      (parseInputObjectTypeDefinition cfg m) :=
  .bindR parseDescription_good fun _ => .bindL expectKeyword_goodC fun _ =>
    parseName_goodC.bind fun _ => parseDirectives_agree.bind fun _ =>
    parseInputFieldsDefinition_agree.bind fun _ => Good.pure

theorem parseDirectiveLocation_goodC {k : Nat} : GoodC k (parseDirectiveLocation cfg) :=
  .bindR cur_good fun _ => .bindL parseName_goodC fun _ => .ite Good.pure unexpected_good

theorem parseDirectiveDefinition_agree :
    Agree true (min n m) (parseDirectiveDefinition cfg n) (parseDirectiveDefinition cfg m) :=
  .bindR parseDescription_good fun _ => .bindL expectKeyword_goodC fun _ =>
    expectToken_good.bind fun _ => parseName_goodC.bind fun _ => parseArgumentDefs_agree.bind fun _ =>
    (Agree.ite parseDirectives_agree Good.pure).bind fun _ => expectOptionalKeyword_good.bind fun _ =>
    expectKeyword_goodC.bind fun _ =>
    (parseDelimitedMany_agree parseDirectiveLocation_goodC).bind fun _ => Good.pure

theorem parseSchemaExtension_agree :
    Agree true (min n m) (parseSchemaExtension cfg n) (parseSchemaExtension cfg m) :=
  .bindL expectKeyword_goodC fun _ => expectKeyword_goodC.bind fun _ =>
    parseDirectives_agree.bind fun _ =>
    (parseOptionalMany_agree parseOperationTypeDefinition_goodC).bind fun _ =>
    .ite unexpected_good Good.pure

theorem parseScalarTypeExtension_agree :
    Agree true (min n m) (parseScalarTypeExtension cfg n) (parseScalarTypeExtension cfg m) :=
  .bindL expectKeyword_goodC fun _ => expectKeyword_goodC.bind fun _ => parseName_goodC.bind fun _ =>
    parseDirectives_agree.bind fun _ => .ite unexpected_good Good.pure

theorem parseObjectLikeExtension_agree {kw cls : String} :
    Agree true (min n m) (parseObjectLikeExtension cfg n kw cls)
      (parseObjectLikeExtension cfg m kw cls) :=
  .bindL expectKeyword_goodC fun _ => expectKeyword_goodC.bind fun _ => parseName_goodC.bind fun _ =>
    parseImplementsInterfaces_agree.bind fun _ => parseDirectives_agree.bind fun _ =>
    parseFieldsDefinition_agree.bind fun _ => .ite unexpected_good Good.pure

theorem parseUnionTypeExtension_agree :
    Agree true (min n m) (parseUnionTypeExtension cfg n) (parseUnionTypeExtension cfg m) :=
  .bindL expectKeyword_goodC fun _ => expectKeyword_goodC.bind fun _ => parseName_goodC.bind fun _ =>
    parseDirectives_agree.bind fun _ => parseUnionMemberTypes_agree.bind fun _ =>
    .ite unexpected_good Good.pure

theorem parseEnumTypeExtension_agree :
    Agree true (min n m) (parseEnumTypeExtension cfg n) (parseEnumTypeExtension cfg m) :=
  .bindL expectKeyword_goodC fun _ => expectKeyword_goodC.bind fun _ => parseName_goodC.bind fun _ =>
    parseDirectives_agree.bind fun _ => parseEnumValuesDefinition_agree.bind fun _ =>
    .ite unexpected_good Good.pure

theorem parseInputObjectTypeExtension_agree :
    Agree true (min n m) (parseInputObjectTypeExtension cfg n) (parseInputObjectTypeExtension cfg m) :=
  .bindL expectKeyword_goodC fun _ => expectKeyword_goodC.bind fun _ => parseName_goodC.bind fun _ =>
    parseDirectives_agree.bind fun _ => parseInputFieldsDefinition_agree.bind fun _ =>
    .ite unexpected_good Good.pure

theorem parseDirectiveDefinitionExtension_agree :
    Agree true (min n m) (parseDirectiveDefinitionExtension cfg n)
      (parseDirectiveDefinitionExtension cfg m) :=
  .bindL expectKeyword_goodC fun _ => expectKeyword_goodC.bind fun _ => expectToken_good.bind fun _ =>
    parseName_goodC.bind fun _ => parseDirectives_agree.bind fun _ => .ite unexpected_good Good.pure

theorem lookupKw_mem {tbl : List (String × String)} {v : Option (List Nat)} {mth : String}
    (h : lookupKw tbl v = some mth) : mth ∈ tbl.map (·.2) := by
  unfold lookupKw at h
  cases v with
  | none => simp at h
  | some v =>
    simp only [Option.map_eq_some_iff] at h
    obtain ⟨p, hp, rfl⟩ := h
    exact List.mem_map.mpr ⟨p, List.mem_of_find?_eq_some hp, rfl⟩

theorem methodFor_mem {tbl : List (String × String)} {v : Option (List Nat)} {mth : String}
    (h : methodFor tbl v = some mth) : mth ∈ tbl.map (·.2) := by
  unfold methodFor at h
  split at h
  · next m' hm' =>
    split at h
    · simp at h
    · simp only [Option.some.injEq] at h; subst h; exact lookupKw_mem hm'
  · simp at h

/-- the `if` chain of the dispatcher falls through only for a method it does not know -/
theorem dispatchExtension_agree {mth : String} (hm : mth ∈ knownExtensionMethods) :
    Agree true (min n m) (dispatchExtension cfg n mth) (dispatchExtension cfg m mth) :=
  .dite (fun _ => parseSchemaExtension_agree) fun _ =>
  .dite (fun _ => parseScalarTypeExtension_agree) fun _ =>
  .dite (fun _ => parseObjectLikeExtension_agree) fun _ =>
  .dite (fun _ => parseObjectLikeExtension_agree) fun _ =>
  .dite (fun _ => parseUnionTypeExtension_agree) fun _ =>
  .dite (fun _ => parseEnumTypeExtension_agree) fun _ =>
  .dite (fun _ => parseInputObjectTypeExtension_agree) fun _ =>
  absurd hm (by simp [knownExtensionMethods, *])

theorem parseTypeSystemExtension_agree :
    Agree true (min n m) (parseTypeSystemExtension cfg n) (parseTypeSystemExtension cfg m) := by
  refine .bindR lookahead_good fun kwTok => .ite ?_ unexpected_good
  split
  · next h => exact dispatchExtension_agree (extensionTable_ok _ (methodFor_mem h)).2
  · exact .ite parseDirectiveDefinitionExtension_agree unexpected_good

theorem dispatchDefinition_agree {mth : String} (hm : mth ∈ knownDefinitionMethods) :
    Agree true (min n m) (dispatchDefinition cfg n mth) (dispatchDefinition cfg m mth) :=
  .dite (fun _ => parseSchemaDefinition_agree) fun _ =>
  .dite (fun _ => parseScalarTypeDefinition_agree) fun _ =>
  .dite (fun _ => parseObjectLikeDefinition_agree) fun _ =>
  .dite (fun _ => parseObjectLikeDefinition_agree) fun _ =>
  .dite (fun _ => parseUnionTypeDefinition_agree) fun _ =>
  .dite (fun _ => parseEnumTypeDefinition_agree) fun _ =>
  .dite (fun _ => parseInputObjectTypeDefinition_agree) fun _ =>
  .dite (fun _ => parseDirectiveDefinition_agree) fun _ =>
  .dite (fun _ => parseOperationDefinition_agree) fun _ =>
  .dite (fun _ => parseFragmentDefinition_agree) fun _ =>
  .dite (fun _ => parseTypeSystemExtension_agree) fun _ =>
  absurd hm (by simp [knownDefinitionMethods, *])

open Generated.ParserTables in
theorem dispatchDefinition_tbl {tbl : List (String × String)} {v : Option (List Nat)} {mth : String}
    (htbl : tbl ∈ [typeSystemDefinitionMethods, executableDefinitionMethods, otherDefinitionMethods])
    (h : methodFor tbl v = some mth) :
    Agree true (min n m) (dispatchDefinition cfg n mth) (dispatchDefinition cfg m mth) := by
  refine dispatchDefinition_agree (definitionTables_ok mth ?_).2
  have := methodFor_mem h
  simp only [List.mem_cons, List.not_mem_nil, or_false] at htbl
  simp only [List.map_append, List.mem_append]
  rcases htbl with rfl | rfl | rfl
  · exact .inl (.inl this)
  · exact .inl (.inr this)
  · exact .inr this

theorem parseDefinition_agree :
    Agree true (min n m) (parseDefinition cfg n) (parseDefinition cfg m) := by
  refine .bindR peek_good fun _ => .ite parseOperationDefinition_agree ?_
  refine .bindR (cur_good.bind fun _ => Good.pure) fun _ => .bindR cur_good fun _ =>
    .bindR (Agree.ite lookahead_good Good.pure) fun _ => .ite Agree.fail (.ite ?_ unexpected_good)
  split
  · next h => exact dispatchDefinition_tbl (by simp) h
  · split
    · next h => exact dispatchDefinition_tbl (by simp) h
    · refine .ite Agree.fail ?_
      split
      · next h => exact dispatchDefinition_tbl (by simp) h
      · exact unexpected_good

theorem parseDocument_agree : Agree false (min n m) (parseDocument cfg n) (parseDocument cfg m) :=
  (parseMany_agree parseDefinition_agree).bind fun _ => Good.pure

theorem parseSchemaCoordinateBody_good {k : Nat} : Good k (parseSchemaCoordinateBody cfg) :=
  expectOptionalToken_good.bind fun _ => parseName_goodC.bind fun _ =>
    (Agree.ite Good.pure expectOptionalToken_good).bind fun _ =>
    (Agree.ite (parseName_goodC.bind fun _ => Good.pure) Good.pure).bind fun member =>
    (Agree.ite expectOptionalToken_good Good.pure).bind fun _ =>
    (Agree.ite (parseName_goodC.bind fun _ => expectToken_good.bind fun _ =>
      expectToken_good.bind fun _ => Good.pure) Good.pure).bind fun argName =>
    .ite (by cases argName <;> exact Good.pure)
      (by cases member <;> cases argName <;> exact Good.pure)

theorem runEntry_agree (e : Entry) (cfg : Cfg) (n m : Nat) :
    Agree false (min n m) (runEntry e cfg n) (runEntry e cfg m) := by
  cases e
  · exact parseDocument_agree
  · exact expectToken_good.bind fun _ => (valueLit_agree _ _ _ _).bind fun _ =>
      expectToken_good.bind fun _ => Good.pure
  · exact expectToken_good.bind fun _ => (valueLit_agree _ _ _ _).bind fun _ =>
      expectToken_good.bind fun _ => Good.pure
  · exact expectToken_good.bind fun _ => (typeRef_agree _ _ _).bind fun _ =>
      expectToken_good.bind fun _ => Good.pure
  · exact expectToken_good.bind fun _ => parseSchemaCoordinateBody_good.bind fun _ =>
      expectToken_good.bind fun _ => Good.pure

theorem size_initState (strm : Stream) : size (initState strm) = strm.length + 1 := rfl

/-- **Totality of the parser model.**  On a stream that holds no lexer crash and with fuel above
`Stream.length + 1` every entry point returns a node or a syntax error: no crash of any class, in
particular no exhausted fuel. -/
theorem parseStreamWith_total (e : Entry) (cfg : Cfg) (strm : Stream) (fuel : Nat)
    (hs : strm.NoCrash) (hf : strm.length + 2 ≤ fuel) :
    ¬ (parseStreamWith e cfg strm fuel).isCrash = true := by
  have h := (runEntry_agree e cfg fuel fuel (initState strm) hs (by rw [size_initState]; omega)).2
  unfold parseStreamWith
  cases hr : runEntry e cfg fuel (initState strm) with
  | ok x => obtain ⟨a, s⟩ := x; simp [Out.isCrash]
  | err x => simp [Out.isCrash]
  | crash c => rw [hr] at h; exact h.elim

/-- **Fuel irrelevance.**  Above the bound `Stream.length + 2` the outcome of every entry point is the
same for every amount of fuel: the fuel is a device of the model (CPython's recursion limit), not
part of the answer. -/
theorem parseStreamWith_fuel_irrelevant (e : Entry) (cfg : Cfg) (strm : Stream) (f1 f2 : Nat)
    (hs : strm.NoCrash) (h1 : strm.length + 2 ≤ f1) (h2 : strm.length + 2 ≤ f2) :
    parseStreamWith e cfg strm f1 = parseStreamWith e cfg strm f2 := by
  unfold parseStreamWith
  rw [(runEntry_agree e cfg f1 f2 (initState strm) hs (by rw [size_initState]; omega)).1]

end Gql.Syntax
