import Gql.Proofs.Attach
import Gql.Proofs.Sys
/-!
The scheduler's run separated from the publisher, and a generic induction principle: a
predicate on (environment ghost state, queue, events emitted so far) that every handled graph
event preserves holds at the end of every well-formed history, and held at every batch boundary
on the way (`AtPrefixes`).  It is carried through `drain`, `settle` and the run as an invariant of
the accumulator each of them threads.  Before it, the passes over the handlers that need no
hypothesis: the loops of `_task_success` and `_task_failure` leave root streams, pump log and flag
alone and only remove group nodes (`successStep_removes`, `failureStep_removes`); across every handler
root streams only grow, newly pumped streams are roots, `stopped` stays (`StreamGrow`).  The
induction uses the flag, `PumpInv` (Complete.lean) the rest, Gone.lean the `SubGraph` half.
-/
namespace Gql.Async
open Gql.Spec.Protocol

def wqStart (σ : Static) (fuel : Nat) (work : Option Work) : WQ × List (List WQEvent) :=
  settle σ fuel fuel (startRoots σ (init σ work).1) []

def wqTick (σ : Static) (fuel : Nat) (q : WQ) (t : Tick) : WQ × List (List WQEvent) :=
  settle σ fuel fuel (t.foldl push q) []

/-- `(final queue, all batches emitted, oldest first)` -/
def wqRun (σ : Static) (fuel : Nat) : WQ × List (List WQEvent) → List Tick → WQ × List (List WQEvent)
  | st, [] => st
  | st, t :: r => wqRun σ fuel ((wqTick σ fuel st.1 t).1, st.2 ++ (wqTick σ fuel st.1 t).2) r

theorem sysRun_eq (σ : Static) (π : PubStatic) (fuel : Nat) (h : List Tick) (s : Sys) (bs : List (List WQEvent))
    (p0 : Pub) (pl0 : Payload)
    (hp : s.pub = (publish π p0 bs).1) (ho : s.out = pl0 :: (publish π p0 bs).2) :
    (Sys.run σ π fuel s h).wq = (wqRun σ fuel (s.wq, bs) h).1 ∧
    (Sys.run σ π fuel s h).pub = (publish π p0 (wqRun σ fuel (s.wq, bs) h).2).1 ∧
    (Sys.run σ π fuel s h).out = pl0 :: (publish π p0 (wqRun σ fuel (s.wq, bs) h).2).2 := by
  induction h generalizing s bs with
  | nil => exact ⟨rfl, hp, ho⟩
  | cons t r ih =>
    simp only [Sys.run, wqRun]
    apply ih
    · simp only [Sys.tick, wqTick]
      rw [publish_append, hp]
    · simp only [Sys.tick, wqTick]
      rw [publish_append, ho, hp]; simp

/-- The payload stream is the initial payload followed by the publisher's output on all the
batches the scheduler emits. -/
theorem payloads_eq (σ : Static) (π : PubStatic) (fuel : Nat) (work : Option Work) (h : List Tick) :
    payloads σ π fuel work h =
      (initialPayload π (init σ work).2.1 (init σ work).2.2).2 ::
        (publish π (initialPayload π (init σ work).2.1 (init σ work).2.2).1
          (wqRun σ fuel (wqStart σ fuel work) h).2).2 ∧
    (Sys.run σ π fuel (Sys.start σ π fuel work).1 h).wq = (wqRun σ fuel (wqStart σ fuel work) h).1 := by
  have := sysRun_eq σ π fuel h (Sys.start σ π fuel work).1 (wqStart σ fuel work).2
    (initialPayload π (init σ work).2.1 (init σ work).2.2).1
    (initialPayload π (init σ work).2.1 (init σ work).2.2).2
    -- a bare `rfl` unfolds the publisher before `Sys.start` and is slow to check
    (by unfold Sys.start wqStart; rfl) (by unfold Sys.start wqStart; rfl)
  exact ⟨this.2.2, this.1⟩

/-- Root streams only grow, a stream whose pump is started is a root, and the flag stays. -/
structure StreamGrow (q q' : WQ) : Prop where
  rs : ∀ s ∈ q.rootStreams, s ∈ q'.rootStreams
  pm : ∀ s ∈ q'.pumps, s ∈ q.pumps ∨ s ∈ q'.rootStreams
  st : q'.stopped = q.stopped

theorem StreamGrow.of_frame {q q' : WQ} (h : StreamFrame q q') : StreamGrow q q' :=
  ⟨fun _ hs => h.rs ▸ hs, fun _ hs => Or.inl (h.pm ▸ hs), h.st⟩

theorem StreamGrow.trans {a b c : WQ} (h1 : StreamGrow a b) (h2 : StreamGrow b c) : StreamGrow a c :=
  ⟨fun s hs => h2.rs s (h1.rs s hs), fun s hs => (h2.pm s hs).elim (fun h => (h1.pm s h).imp_right (h2.rs s)) Or.inr,
    h2.st.trans h1.st⟩

theorem startNewWork_grow (σ : Static) (q : WQ) (ngs nss : List Nat) :
    StreamGrow q (startNewWork σ q ngs nss) := by
  obtain ⟨_, rs, st, pm⟩ := startNewWork_roots σ q ngs nss
  refine ⟨fun s hs => ?_, fun s hs => ?_, st⟩ <;> rw [rs, mem_foldl_oinsert]
  · exact Or.inl hs
  · exact (List.mem_append.mp (pm ▸ hs)).imp_right Or.inr

/-- One iteration of the loop of `_task_success`, whatever it emits: root streams, pump log and flag
stay, and group nodes go or keep their children. -/
theorem successStep_removes (σ : Static) (acc : WQ × List WQEvent × List Nat × List Nat) (g : Nat) :
    StreamFrame acc.1 (successStep σ acc g).1 ∧ SubGraph acc.1 (successStep σ acc g).1 := by
  unfold successStep
  cases hl : alookup acc.1.groupNodes g with
  | none => exact ⟨.refl _, .refl _⟩
  | some n =>
    simp only
    have s0 := subGraph_aset acc.1 g n { n with pending := n.pending - 1 } hl rfl
    split
    · obtain ⟨_, sf, sh⟩ := finishGroupSuccess_roots σ { acc.1 with groupNodes := aset acc.1.groupNodes g _ } g
        { n with pending := n.pending - 1 }
      exact ⟨⟨sf.rs, sf.st, sf.pm⟩, s0.trans sh.sub⟩
    · exact ⟨⟨rfl, rfl, rfl⟩, s0⟩

theorem failureStep_removes (σ : Static) (acc : WQ × List WQEvent) (g : Nat) :
    StreamFrame acc.1 (failureStep σ acc g).1 ∧ SubGraph acc.1 (failureStep σ acc g).1 := by
  unfold failureStep
  split
  · exact ⟨(finishGroupFailure_roots σ acc.1 g _).2.1, (finishGroupFailure_roots σ acc.1 g _).2.2.1.sub⟩
  · exact ⟨.refl _, .refl _⟩

theorem foldl_removes {α γ : Type} (f : WQ × γ → α → WQ × γ) (l : List α) (acc : WQ × γ)
    (h : ∀ acc a, StreamFrame acc.1 (f acc a).1 ∧ SubGraph acc.1 (f acc a).1) :
    StreamFrame acc.1 (l.foldl f acc).1 ∧ SubGraph acc.1 (l.foldl f acc).1 :=
  foldl_rel1 (fun a b => StreamFrame a b ∧ SubGraph a b) (fun _ => ⟨.refl _, .refl _⟩)
    (fun h1 h2 => ⟨h1.1.trans h2.1, h1.2.trans h2.2⟩) f l acc h

theorem taskSuccess_grow (σ : Static) (q : WQ) (t : Nat) (r : TResult) :
    StreamGrow q (taskSuccess σ q t r).1 := by
  unfold taskSuccess
  simp only
  have f1 : StreamFrame q (integrateWork σ (setTaskValue q t r.value) r.work (some t)).1 :=
    ((setTaskValue_upd q t r.value).frame.trans (integrateWork_grow σ _ _ _).frame).toStream
  have f2 := (foldl_removes (successStep σ) (σ.tgroups t)
    ((integrateWork σ (setTaskValue q t r.value) r.work (some t)).1, [], [], []) (successStep_removes σ)).1
  exact (StreamGrow.of_frame (f1.trans f2)).trans (startNewWork_grow σ _ _ _)

theorem taskFailure_removes (σ : Static) (q : WQ) (t : Nat) :
    StreamFrame q (taskFailure σ q t).1 ∧ SubGraph q (taskFailure σ q t).1 :=
  have h := foldl_removes (failureStep σ) (σ.tgroups t)
    (({ q with taskNodes := aerase q.taskNodes t } : WQ), ([] : List WQEvent)) (failureStep_removes σ)
  ⟨⟨h.1.rs, h.1.st, h.1.pm⟩, h.2⟩

theorem itemStep_grow (σ : Static) (acc : WQ × List IVal × List Nat × List Nat) (it : IResult) :
    StreamGrow acc.1 (itemStep σ acc it).1 := by
  unfold itemStep
  simp only
  exact (StreamGrow.of_frame ((integrateWork_grow σ acc.1 it.work none).frame.trans
    (pruneEmpty_upd _ _).frame).toStream).trans (startNewWork_grow σ _ _ _)

theorem items_grow (σ : Static) (items : List IResult) (acc : WQ × List IVal × List Nat × List Nat) :
    StreamGrow acc.1 (items.foldl (itemStep σ) acc).1 :=
  foldl_rel1 StreamGrow (fun _ => .of_frame (.refl _)) .trans _ items acc (itemStep_grow σ)

theorem handleGraphEvent_stopped (σ : Static) (q : WQ) (ev : GraphEvent) :
    (handleGraphEvent σ q ev).1.stopped = q.stopped := by
  cases ev with
  | taskSuccess t r => exact (taskSuccess_grow σ q t r).st
  | taskFailure t => exact (taskFailure_removes σ q t).1.st
  | streamItems s items st =>
    simp only [handleGraphEvent, streamItems]
    have h := (items_grow σ items (q, [], [], [])).st
    split <;> exact h
  | streamSuccess s => simp only [handleGraphEvent]; split <;> rfl
  | streamFailure s => rfl
  | stop => rfl

/-- A run invariant: a predicate on (environment ghost, queue, flattened events so far). -/
structure RunInv (σ : Static) (I : EnvSt → WQ → List WQEvent → Prop) : Prop where
  /-- handling a legal graph event preserves it and appends the emitted events -/
  handle : ∀ e q ev e' E, I e q E → q.stopped = false → eventOk σ e q ev = some e' →
    I e' (handleGraphEvent σ q ev).1 (E ++ (handleGraphEvent σ q ev).2)
  /-- it does not look at the channel, the deferred queue … -/
  chan : ∀ e q E c, I e q E → I e { q with channel := c } E
  defer : ∀ e q E d, I e q E → I e { q with deferred := d } E
  /-- … and survives the termination step of `events()` -/
  term : ∀ e q E, I e q E → q.rootGroups.isEmpty = true → q.rootStreams.isEmpty = true →
    I e { q with stopped := true } (E ++ [.termination])

theorem RunInv.pushes {σ : Static} {I : EnvSt → WQ → List WQEvent → Prop} (ri : RunInv σ I)
    (e : EnvSt) (E : List WQEvent) (evs : List GraphEvent) (q : WQ) (h : I e q E) :
    I e (evs.foldl Gql.Async.push q) E := by
  induction evs generalizing q with
  | nil => exact h
  | cons ev evs ih =>
    refine ih _ ?_
    unfold Gql.Async.push
    split
    · exact h
    · exact ri.chan e q E _ h

theorem RunInv.drain {σ : Static} {I : EnvSt → WQ → List WQEvent → Prop} (ri : RunInv σ I)
    (fuel : Nat) (e : EnvSt) (q : WQ) (E acc : List WQEvent) (e' : EnvSt) (q' : WQ)
    (h : I e q (E ++ acc)) (hst : q.stopped = false) (hok : drainOk σ fuel e q = some (e', q')) :
    q' = (Gql.Async.drain σ fuel q acc).1 ∧ I e' q' (E ++ (Gql.Async.drain σ fuel q acc).2) := by
  fun_induction drainOk σ fuel e q generalizing acc with
  | case1 e q => cases hok; simpa [Gql.Async.drain] using h  -- no fuel
  | case2 n e q hc => cases hok; simpa [Gql.Async.drain, hc] using h  -- channel empty
  | case3 n e q ev rest hc hev => cases hok  -- illegal event
  | case4 n e q ev rest hc e1 hev ih =>
    have h1 := ri.handle e _ ev e1 _ (ri.chan e q _ rest h) hst hev
    rw [List.append_assoc] at h1
    simpa [Gql.Async.drain, hc] using ih _ h1 (by rw [handleGraphEvent_stopped]; exact hst) hok

theorem RunInv.batch {σ : Static} {I : EnvSt → WQ → List WQEvent → Prop} (ri : RunInv σ I)
    (fuel : Nat) (e : EnvSt) (q : WQ) (E : List WQEvent) (e' : EnvSt) (q' : WQ)
    (h : I e q E) (hst : q.stopped = false) (hok : drainOk σ fuel e q = some (e', q')) :
    I e' (Gql.Async.batch σ fuel q).1 (E ++ (Gql.Async.batch σ fuel q).2) := by
  obtain ⟨rfl, b⟩ := ri.drain fuel e q E [] e' q' (by simpa using h) hst hok
  unfold Gql.Async.batch
  simp only
  split
  · rename_i hr
    simpa [List.append_assoc] using ri.term e' _ _ b hr.1 hr.2
  · exact b

/-- At every batch boundary the invariant held, for some ghost state and queue. -/
def AtPrefixes (I : EnvSt → WQ → List WQEvent → Prop) (bs : List (List WQEvent)) : Prop :=
  ∀ k, k ≤ bs.length → ∃ e q, I e q (bs.take k).flatten

theorem AtPrefixes.nil {I : EnvSt → WQ → List WQEvent → Prop} {e : EnvSt} {q : WQ} (h : I e q []) :
    AtPrefixes I [] := fun k _ => ⟨e, q, by simpa using h⟩

theorem AtPrefixes.snoc {I : EnvSt → WQ → List WQEvent → Prop} {bs : List (List WQEvent)} {b : List WQEvent}
    {e : EnvSt} {q : WQ} (hp : AtPrefixes I bs) (h : I e q (bs ++ [b]).flatten) : AtPrefixes I (bs ++ [b]) := by
  intro k hk
  by_cases hle : k ≤ bs.length
  · rw [List.take_append_of_le_length hle]; exact hp k hle
  · rw [List.take_of_length_le (by simp; omega)]; exact ⟨e, q, h⟩

theorem RunInv.settle {σ : Static} {I : EnvSt → WQ → List WQEvent → Prop} (ri : RunInv σ I)
    (fuel n : Nat) (e : EnvSt) (q : WQ) (pre acc : List (List WQEvent)) (e' : EnvSt) (q' : WQ)
    (h : I e q (pre ++ acc).flatten) (hp : AtPrefixes I (pre ++ acc)) (hok : settleOk σ fuel n e q = some (e', q')) :
    q' = (Gql.Async.settle σ fuel n q acc).1 ∧ I e' q' (pre ++ (Gql.Async.settle σ fuel n q acc).2).flatten ∧
      AtPrefixes I (pre ++ (Gql.Async.settle σ fuel n q acc).2) := by
  fun_induction Gql.Async.settle σ fuel n q acc generalizing e with
  | case1 q acc =>  -- no fuel
    simp [settleOk] at hok; obtain ⟨rfl, rfl⟩ := hok
    exact ⟨rfl, h, hp⟩
  | case2 n q acc hs =>  -- stopped
    unfold settleOk at hok; rw [if_pos hs] at hok; cases hok
    exact ⟨rfl, ri.chan _ _ _ [] (ri.defer _ _ _ [] h), hp⟩
  | case3 n q acc hs hc hd =>  -- idle
    simp [settleOk, hs, hc, hd] at hok; obtain ⟨rfl, rfl⟩ := hok
    exact ⟨rfl, h, hp⟩
  | case4 n q acc hs hc hd ih =>  -- deferred callbacks run
    obtain ⟨d, ds, hd'⟩ := List.exists_cons_of_ne_nil hd
    exact ih e (ri.pushes e _ _ _ (ri.defer e q _ [] h)) hp (by simpa [settleOk, hs, hc, hd'] using hok)
  | case5 n q acc hs b hc ih =>  -- a batch `b`
    obtain ⟨ev, rest, hc'⟩ := List.exists_cons_of_ne_nil hc
    cases hdo : drainOk σ fuel e q with
    | none => simp [settleOk, hs, hc', hdo] at hok
    | some r =>
      obtain ⟨e1, q1⟩ := r
      have hok' : settleOk σ fuel n e1 b.1 = some (e', q') := by simpa [settleOk, hs, hc', hdo] using hok
      have hb : I e1 b.1 ((pre ++ acc).flatten ++ b.2) := ri.batch fuel e q _ e1 q1 h (by simpa using hs) hdo
      cases he : b.2.isEmpty with
      | true =>
        simp only [he, if_true] at ih ⊢
        have hnil : b.2 = [] := by simpa using he
        exact ih e1 (by simpa [hnil] using hb) hp hok'
      | false =>
        simp only [he, Bool.false_eq_true, if_false, ← List.append_assoc] at ih ⊢
        have hb' : I e1 b.1 (pre ++ acc ++ [b.2]).flatten := by simpa using hb
        exact ih e1 hb' (hp.snoc hb') hok'

theorem RunInv.run {σ : Static} {I : EnvSt → WQ → List WQEvent → Prop} (ri : RunInv σ I)
    (fuel : Nat) (h : List Tick) (e : EnvSt) (q : WQ) (bs : List (List WQEvent))
    (hI : I e q bs.flatten) (hp : AtPrefixes I bs) (hok : runOk σ fuel e q h = true) :
    (∃ e', I e' (wqRun σ fuel (q, bs) h).1 (wqRun σ fuel (q, bs) h).2.flatten) ∧
    AtPrefixes I (wqRun σ fuel (q, bs) h).2 := by
  induction h generalizing e q bs with
  | nil => exact ⟨⟨e, hI⟩, hp⟩
  | cons t r ih =>
    unfold runOk at hok
    cases hs : settleOk σ fuel fuel e (t.foldl Gql.Async.push q) with
    | none => simp [hs] at hok
    | some x =>
      obtain ⟨e1, q1⟩ := x
      simp only [hs] at hok
      obtain ⟨a1, a2, a3⟩ := ri.settle fuel fuel e _ bs [] e1 q1 (by simpa using ri.pushes e _ t q hI)
        (by simpa using hp) hs
      simp only [wqRun, wqTick]
      rw [← a1]
      exact ih e1 q1 _ a2 a3 hok

/-- The principle: an invariant that holds for the started queue holds at the end of every
well-formed history, for the queue and the flattened stream of all emitted events, and (for some
ghost state and queue) at every batch boundary on the way. -/
theorem RunInv.envOk {σ : Static} {I : EnvSt → WQ → List WQEvent → Prop} (ri : RunInv σ I)
    (fuel : Nat) (work : Option Work) (h : List Tick)
    (h0 : I (({} : EnvSt).intro work) (startRoots σ (init σ work).1) [])
    (hok : Gql.Async.envOk σ fuel work h = true) :
    (∃ e', I e' (wqRun σ fuel (wqStart σ fuel work) h).1 (wqRun σ fuel (wqStart σ fuel work) h).2.flatten) ∧
    AtPrefixes I (wqRun σ fuel (wqStart σ fuel work) h).2 := by
  unfold Gql.Async.envOk at hok
  simp only [Bool.and_eq_true] at hok
  -- the start is a tick without events
  have hw : wqRun σ fuel (startRoots σ (init σ work).1, []) ([] :: h) = wqRun σ fuel (wqStart σ fuel work) h := by
    simp only [wqRun, wqTick, wqStart, List.foldl_nil, List.nil_append]
  rw [← hw]
  exact ri.run fuel ([] :: h) _ _ [] h0 (.nil h0) hok.2

end Gql.Async
