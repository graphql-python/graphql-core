import Gql.Proofs.ValidationParallel
/-!
Lemmas for C12-3 (`typeinfo_balanced`): under `TypeInfoVisitor`, for every inner visitor (skipping or
not), after a sub-traversal that was not stopped by BREAK every TypeInfo stack is what it was before,
and every register is unchanged or `None` — provided the enter/leave table is balanced (checked by
`decide` on the table generated from type_info.py).
-/
namespace Gql.Validation
variable {τ σ ε : Type}

/-- every kind pops each stack as often as it pushes it -/
def TITable.Balanced (tbl : TITable) : Prop := ∀ row ∈ tbl, ∀ s, row.pushes.count s = row.pops.count s

def TITable.balancedB (tbl : TITable) : Bool :=
  tbl.all (fun row => (row.pushes ++ row.pops).all (fun s => row.pushes.count s == row.pops.count s))

theorem TITable.balanced_of_balancedB (tbl : TITable) (h : tbl.balancedB = true) : tbl.Balanced := by
  intro row hrow s
  have h1 := List.all_eq_true.mp h row hrow
  by_cases hs : s ∈ row.pushes ++ row.pops
  · have := List.all_eq_true.mp h1 s hs
    simpa using this
  · have h2 : s ∉ row.pushes := fun h => hs (List.mem_append_left _ h)
    have h3 : s ∉ row.pops := fun h => hs (List.mem_append_right _ h)
    rw [List.count_eq_zero_of_not_mem h2, List.count_eq_zero_of_not_mem h3]

/-- every register a kind assigns on enter is reset to `None` by its leave -/
def TITable.RegsReset (tbl : TITable) : Prop := ∀ row ∈ tbl, ∀ r ∈ row.sets, r ∈ row.resets

theorem TITable.row_mem (tbl : TITable) (k : String) (row : TIRow) (h : tbl.row k = some row) : row ∈ tbl :=
  List.mem_of_find?_eq_some h

theorem TITable.RegsReset.sub {tbl : TITable} (hr : tbl.RegsReset) {k r : String} (h : r ∈ tbl.setsOf k) :
    r ∈ tbl.resetsOf k := by
  unfold TITable.setsOf at h
  unfold TITable.resetsOf
  cases hrow : tbl.row k with
  | none => rw [hrow] at h; cases h
  | some row => rw [hrow] at h; exact hr row (TITable.row_mem tbl _ _ hrow) r h

namespace TI

theorem foldl_setReg_stacks (rs : List String) (f : String → Option τ) (ti : TI τ) :
    (rs.foldl (fun acc r => acc.setReg r (f r)) ti).stacks = ti.stacks :=
  rs.foldlRecOn (motive := (stacks · = ti.stacks)) _ rfl fun _ h _ _ => h

theorem foldl_push_regs (ps : List String) (f : String → Option τ) (ti : TI τ) :
    (ps.foldl (fun acc s => acc.push s (f s)) ti).regs = ti.regs :=
  ps.foldlRecOn (motive := (regs · = ti.regs)) _ rfl fun _ h _ _ => h

theorem foldl_pop_regs (ps : List String) (ti : TI τ) :
    (ps.foldl (fun acc s => acc.pop s) ti).regs = ti.regs :=
  ps.foldlRecOn (motive := (regs · = ti.regs)) _ rfl fun _ h _ _ => h

theorem foldl_push_stack (ps : List String) (f : String → Option τ) (ti : TI τ) (s : String) :
    ((ps.foldl (fun acc s => acc.push s (f s)) ti).stacks s).drop (ps.count s) = ti.stacks s := by
  induction ps generalizing ti with
  | nil => rfl
  | cons p ps ih =>
    rw [List.foldl_cons, List.count_cons, ← List.drop_drop, ih]
    by_cases hp : p = s <;> simp [push, hp, Ne.symm]

theorem foldl_pop_stack (ps : List String) (ti : TI τ) (s : String) :
    (ps.foldl (fun acc s => acc.pop s) ti).stacks s = (ti.stacks s).drop (ps.count s) := by
  induction ps generalizing ti with
  | nil => simp
  | cons p ps ih =>
    simp only [List.foldl_cons]
    rw [ih]
    by_cases hp : p = s
    · subst hp
      simp [pop, List.drop_tail]
    · simp [pop, Ne.symm hp, hp]

theorem foldl_setReg_reg (rs : List String) (f : String → Option τ) (ti : TI τ) (r : String) :
    (rs.foldl (fun acc r => acc.setReg r (f r)) ti).regs r = if r ∈ rs then f r else ti.regs r := by
  induction rs generalizing ti with
  | nil => simp
  | cons q rs ih =>
    simp only [List.foldl_cons]
    rw [ih]
    by_cases hq : r = q
    · subst hq
      by_cases hr : r ∈ rs <;> simp [hr, setReg]
    · by_cases hr : r ∈ rs <;> simp [hr, hq, setReg]

theorem leave_enter_stacks (tbl : TITable) (hb : tbl.Balanced) (L : Lookups τ) (ti mid : TI τ) (i : Info)
    (h : mid.stacks = (ti.enter tbl L i).stacks) : (mid.leave tbl i).stacks = ti.stacks := by
  revert h
  unfold leave enter
  cases hrow : tbl.row i.kind with
  | none => exact id
  | some row =>
    intro h
    funext s
    simp only at h ⊢
    rw [foldl_pop_stack, foldl_setReg_stacks, h, ← hb row (TITable.row_mem tbl _ _ hrow) s, foldl_push_stack,
      foldl_setReg_stacks]

theorem enter_reg (tbl : TITable) (L : Lookups τ) (ti : TI τ) (i : Info) (r : String) :
    (ti.enter tbl L i).regs r = if r ∈ tbl.setsOf i.kind then L.regVal r i ti else ti.regs r := by
  unfold enter TITable.setsOf
  cases tbl.row i.kind with
  | none => rfl
  | some row => simp only; rw [foldl_push_regs, foldl_setReg_reg]

theorem leave_reg (tbl : TITable) (ti : TI τ) (i : Info) (r : String) :
    (ti.leave tbl i).regs r = if r ∈ tbl.resetsOf i.kind then none else ti.regs r := by
  unfold leave TITable.resetsOf
  cases tbl.row i.kind with
  | none => rfl
  | some row => simp only; rw [foldl_pop_regs, foldl_setReg_reg]

end TI

/-- Statement of balance for one sub-traversal: stacks restored, registers unchanged or `None`. -/
def Restored (before after : TI τ) : Prop :=
  after.stacks = before.stacks ∧ ∀ r, after.regs r = before.regs r ∨ after.regs r = none

theorem Restored.refl (ti : TI τ) : Restored ti ti := ⟨rfl, fun _ => Or.inl rfl⟩

theorem Restored.trans {a b c : TI τ} (h1 : Restored a b) (h2 : Restored b c) : Restored a c := by
  refine ⟨h2.1.trans h1.1, fun r => ?_⟩
  rcases h2.2 r with h | h
  · rcases h1.2 r with h' | h'
    · exact Or.inl (h.trans h')
    · exact Or.inr (h.trans h')
  · exact Or.inr h

theorem restored_around (tbl : TITable) (hb : tbl.Balanced) (hr : tbl.RegsReset) (L : Lookups τ) (ti mid : TI τ) (i : Info)
    (h : Restored (ti.enter tbl L i) mid) : Restored ti (mid.leave tbl i) := by
  constructor
  · exact TI.leave_enter_stacks tbl hb L ti mid i h.1
  · intro r
    rw [TI.leave_reg]
    by_cases hres : r ∈ tbl.resetsOf i.kind
    · exact .inr (if_pos hres)
    · -- a register the kind does not reset it does not set either: `enter` has left it alone
      have he : (ti.enter tbl L i).regs r = ti.regs r := by rw [TI.enter_reg, if_neg fun hs => hres (hr.sub hs)]
      rw [if_neg hres, ← he]
      exact h.2 r

theorem ti_balanced (tbl : TITable) (hb : tbl.Balanced) (hr : tbl.RegsReset) (L : Lookups τ) {σ' : Type} (v : V τ σ') :
    (∀ t (s : TI τ × σ'), (run0 (tiVisitor (realDriver tbl L) v) s t).2 = false →
      Restored s.1 (run0 (tiVisitor (realDriver tbl L) v) s t).1.1) ∧
    (∀ ts (s : TI τ × σ'), (run0List (tiVisitor (realDriver tbl L) v) s ts).2 = false →
      Restored s.1 (run0List (tiVisitor (realDriver tbl L) v) s ts).1.1) := by
  apply Tree.induct
  · intro i cs ih s
    obtain ⟨ti, st⟩ := s
    rw [run0_node, tiVisitor_enter]
    generalize v.enterStep st ((realDriver tbl L).enter ti i) i = r
    obtain ⟨a, st1⟩ := r
    cases a with
    | brk => intro hstop; simp at hstop
    | skip => intro _; exact restored_around tbl hb hr L ti _ i (Restored.refl _)
    | idle =>
      dsimp only
      rw [if_pos rfl]
      intro hstop
      obtain ⟨hns, e⟩ := andThen_go hstop
      rw [e, tiVisitor_leave]
      exact restored_around tbl hb hr L ti _ i (ih _ hns)
  · intro s _
    simp only [run0List]
    exact Restored.refl _
  · intro t ts iht ihts s
    rw [run0List_cons]
    intro hstop
    obtain ⟨hns, e⟩ := andThen_go hstop
    rw [e] at hstop ⊢
    exact Restored.trans (iht s hns) (ihts _ hstop)

end Gql.Validation
