import Gql.Types.Introspection
/-! Lemmas for C18: `restrict` against `introspect`, single-type lookup. -/
namespace Gql.Types
open Json

variable {V : Type} (printV : V → List Nat)

@[simp] theorem key_beq (a b : Key) : (a == b) = decide (a = b) := rfl

@[simp] theorem full_descriptions (d : Nat) : (Options.full d).descriptions = true := rfl
@[simp] theorem full_specifiedByUrl (d : Nat) : (Options.full d).specifiedByUrl = true := rfl
@[simp] theorem full_directiveIsRepeatable (d : Nat) : (Options.full d).directiveIsRepeatable = true := rfl
@[simp] theorem full_schemaDescription (d : Nat) : (Options.full d).schemaDescription = true := rfl
@[simp] theorem full_inputValueDeprecation (d : Nat) : (Options.full d).inputValueDeprecation = true := rfl
@[simp] theorem full_directiveDeprecation (d : Nat) : (Options.full d).directiveDeprecation = true := rfl
@[simp] theorem full_oneOf (d : Nat) : (Options.full d).oneOf = true := rfl
@[simp] theorem full_typeDepth (d : Nat) : (Options.full d).typeDepth = d := rfl

@[simp] theorem mapArr_arr (f : Json → Json) (xs : List Json) : mapArr f (arr xs) = arr (xs.map f) := rfl
@[simp] theorem mapArr_null (f : Json → Json) : mapArr f null = null := rfl

theorem isDeprecatedEntry_ivJson (d : Nat) (iv : InputValue V) :
    isDeprecatedEntry (ivJson printV (Options.full d) iv) = iv.deprecationReason.isSome := by
  cases h : iv.deprecationReason <;>
    simp [isDeprecatedEntry, ivJson, descPart, Json.get?, List.lookup, h]

theorem restrictInputValue_ivJson (o : Options) (iv : InputValue V) :
    restrictInputValue o (ivJson printV (Options.full o.typeDepth) iv) = ivJson printV o iv := by
  cases ha : o.descriptions <;> cases he : o.inputValueDeprecation <;>
    simp [restrictInputValue, ivJson, descPart, descKeys, dropKeys, ha, he]

theorem restrictInputValues_ivsJson (o : Options) (ivs : List (InputValue V)) :
    restrictInputValues o (ivsJson printV (Options.full o.typeDepth) ivs) = ivsJson printV o ivs := by
  have h1 : (fun x => restrictInputValue o (ivJson printV (Options.full o.typeDepth) x)) = ivJson printV o :=
    funext (restrictInputValue_ivJson printV o)
  have h2 : (fun x => !isDeprecatedEntry (ivJson printV (Options.full o.typeDepth) x))
      = fun iv : InputValue V => iv.deprecationReason.isNone := by
    funext iv; rw [isDeprecatedEntry_ivJson]; cases iv.deprecationReason <;> rfl
  unfold restrictInputValues ivsJson
  cases he : o.inputValueDeprecation <;>
    simp [visibleInputs, mapArr, filterArr, List.filter_map, Function.comp_def, h1, h2, he]

@[simp] theorem restrictInputValues_null (o : Options) : restrictInputValues o null = null := by
  cases he : o.inputValueDeprecation <;> simp [restrictInputValues, mapArr, filterArr, he]

theorem restrictField_fieldJson (o : Options) (f : Field V) :
    restrictField o (fieldJson printV (Options.full o.typeDepth) f) = fieldJson printV o f := by
  have h := restrictInputValues_ivsJson printV o f.args
  cases ha : o.descriptions <;>
    simp [restrictField, fieldJson, descPart, descKeys, dropKeys, mapKey, ha, h]

theorem restrictEnumValue_enumValueJson (o : Options) (e : EnumValue) :
    restrictEnumValue o (enumValueJson (Options.full o.typeDepth) e) = enumValueJson o e := by
  cases ha : o.descriptions <;>
    simp [restrictEnumValue, enumValueJson, descPart, descKeys, dropKeys, ha]

theorem restrictType_typeJson (types : List (TypeDef V)) (o : Options) (t : TypeDef V) :
    restrictType o (typeJson printV types (Options.full o.typeDepth) t) = typeJson printV types o t := by
  have h1 : (fun x => restrictField o (fieldJson printV (Options.full o.typeDepth) x)) = fieldJson printV o :=
    funext (restrictField_fieldJson printV o)
  have h2 : (fun x => restrictEnumValue o (enumValueJson (Options.full o.typeDepth) x)) = enumValueJson o :=
    funext (restrictEnumValue_enumValueJson o)
  have h3 := restrictInputValues_ivsJson printV o t.inputFields
  -- the kind only selects between a list and `null`, and both restrictions commute with that choice
  cases ha : o.descriptions <;> cases hb : o.specifiedByUrl <;> cases hg : o.oneOf <;>
    simp [restrictType, typeJson, descPart, descKeys, dropKeys, mapKey, ha, hb, hg, h1, h2, h3,
      Function.comp_def, apply_ite (mapArr _), apply_ite (restrictInputValues o)]

theorem isDeprecatedEntry_directiveJson (d : Nat) (x : Directive V) :
    isDeprecatedEntry (directiveJson printV (Options.full d) x) = x.deprecationReason.isSome := by
  cases h : x.deprecationReason <;>
    simp [isDeprecatedEntry, directiveJson, descPart, Json.get?, List.lookup, h]

theorem restrictDirective_directiveJson (o : Options) (x : Directive V) :
    restrictDirective o (directiveJson printV (Options.full o.typeDepth) x) = directiveJson printV o x := by
  have h := restrictInputValues_ivsJson printV o x.args
  cases ha : o.descriptions <;> cases hc : o.directiveIsRepeatable <;> cases hf : o.directiveDeprecation <;>
    simp [restrictDirective, directiveJson, descPart, descKeys, dropKeys, mapKey, ha, hc, hf, h]

theorem restrictDirectives_json (o : Options) (ds : List (Directive V)) :
    restrictDirectives o (arr ((visibleDirectives (Options.full o.typeDepth) ds).map
        (directiveJson printV (Options.full o.typeDepth))))
      = arr ((visibleDirectives o ds).map (directiveJson printV o)) := by
  have h1 : (fun x => restrictDirective o (directiveJson printV (Options.full o.typeDepth) x))
      = directiveJson printV o := funext (restrictDirective_directiveJson printV o)
  have h2 : (fun x => !isDeprecatedEntry (directiveJson printV (Options.full o.typeDepth) x))
      = fun x : Directive V => x.deprecationReason.isNone := by
    funext x; rw [isDeprecatedEntry_directiveJson]; cases x.deprecationReason <;> rfl
  unfold restrictDirectives
  cases hf : o.directiveDeprecation <;>
    simp [visibleDirectives, mapArr, filterArr, List.filter_map, Function.comp_def, h1, h2, hf]

theorem restrictSchema_schemaJson (s : Schema V) (o : Options) :
    restrictSchema o (schemaJson printV s (Options.full o.typeDepth)) = schemaJson printV s o := by
  have h1 : (fun x => restrictType o (typeJson printV s.types (Options.full o.typeDepth) x))
      = typeJson printV s.types o := funext (restrictType_typeJson printV s.types o)
  have h2 := restrictDirectives_json printV o s.directives
  cases ha : o.descriptions <;> cases hd : o.schemaDescription <;>
    simp [restrictSchema, schemaJson, dropKeys, mapKey, mapArr, ha, hd, h1, h2, Function.comp_def]

theorem introspect_restrict (s : Schema V) (o : Options) :
    introspect printV s o = restrict o (introspect printV s (Options.full o.typeDepth)) := by
  simp [introspect, restrict, mapKey, restrictSchema_schemaJson]

theorem Options.bitLists_spec (n : Nat) :
    (Options.bitLists n).length = 2 ^ n ∧ ∀ bs ∈ Options.bitLists n, bs.length = n := by
  induction n with
  | zero => exact ⟨rfl, by simp [Options.bitLists]⟩
  | succ n ih =>
    constructor
    · simp [Options.bitLists, List.length_flatMap, List.map_const', ih.1, Nat.pow_succ, Nat.mul_comm]
    · intro bs h
      simp only [Options.bitLists, List.mem_flatMap] at h
      obtain ⟨bs', h', hm⟩ := h
      simp at hm
      rcases hm with rfl | rfl <;> simp [ih.2 _ h']

theorem Options.length_all (depth : Nat) : (Options.all depth).length = 2 ^ Options.names.length := by
  obtain ⟨hlen, hmem⟩ := Options.bitLists_spec Options.names.length
  rw [Options.all, List.filterMap_length_eq_length.2, hlen]
  intro bs h
  match bs, hmem bs h with
  | [a, b, c, d, e, f, g], _ => rfl

theorem hasName_typeJson (types : List (TypeDef V)) (o : Options) (n : List Nat) (t : TypeDef V) :
    hasName n (typeJson printV types o t) = decide (t.name = n) := by
  simp [hasName, typeJson, Json.get?, List.lookup]

theorem type_lookup (s : Schema V) (o : Options) (n : List Nat) :
    typeLookup printV s o n = findTypeEntry n (introspect printV s o) := by
  have hent : typeEntries (introspect printV s o) = s.types.map (typeJson printV s.types o) := by
    cases ha : o.descriptions <;> cases hd : o.schemaDescription <;>
      simp [typeEntries, introspect, schemaJson, Json.get?, List.lookup, ha, hd]
  unfold typeLookup findTypeEntry
  rw [hent, List.find?_map]
  have : (hasName n ∘ typeJson printV s.types o) = fun t => decide (t.name = n) := by
    funext t; simp [hasName_typeJson]
  rw [this]
  cases s.types.find? (fun t => decide (t.name = n)) <;> rfl

end Gql.Types
