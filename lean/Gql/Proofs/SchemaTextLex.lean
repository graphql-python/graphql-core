import Gql.Proofs.SchemaTextParts
import Gql.Proofs.ExecDoc3
import Gql.Proofs.SchemaBuildSchema
/-!
C17, text level: every definition `print_schema` prints lexes to the tokens of its translated definition, and so does
the whole text; the composed statements (lexing, parsing) that `Gql/Props/C17.lean` uses.
-/
namespace Gql.Types.PrintSchema
open Gql Gql.Text Gql.Syntax Gql.Generated

/-- `print_implemented_interfaces` -/
theorem lexes_printImplemented (is : List Str) (h : Exec.namesWf is) :
    LinePart (printImplemented is) (Exec.implKvs is) := by
  rw [printImplemented, Exec.implKvs]
  refine .ite fun hemp => ?_
  have e1 : S " implements " = 32 :: (S "implements" ++ [32]) := by decide +kernel
  have hd := (pcDelim 38 .amp (by decide +kernel) (by decide) is (by rintro rfl; cases hemp) h).opt.lexes
  simpa [e1, S_amp, List.append_assoc] using LinePart.sp
    (Lexes.append_l (Lexes.append_ign (Lexes.name (S "implements") (by decide +kernel)) ign32 (by simp)) hd)

/-- ` = A | B` of `print_union` -/
theorem lexes_unionMembers (ms : List Str) (h : Exec.namesWf ms) :
    LinePart (if ms.isEmpty then [] else S " = " ++ joinWith (S " | ") ms) (Exec.unionKvs ms) := by
  rw [Exec.unionKvs]
  refine .ite fun hemp => ?_
  have hd := (pcDelim 124 .pipe (by decide +kernel) (by decide) ms (by rintro rfl; cases hemp) h).opt.lexes
  simpa [S_eq, S_pipe, List.append_assoc] using LinePart.sp
    (Lexes.append_l (Lexes.punct 61 .equals (by decide +kernel)) (lx_ign ign32 hd))

section
variable (w : Widths) (hw : 4 ≤ w.object)
variable (hT : tableOK Generated.escapeTable = true) (hC : tableComplete Generated.escapeTable = true)
include hw hT hC

/-- The description, keyword and name every type definition starts with. -/
theorem lexes_typeHead (d : Option Str) (hd : Exec.descWf (toDesc (descNode d))) {kwsp kw : List Nat}
    (hk : kwsp = kw ++ [32]) (hkw : Gql.Text.validName kw = true) (n : List Nat) (hn : Gql.Text.validName n = true) :
    Lexes true (printDescription w d ++ kwsp ++ n)
      (Exec.descKvs (toDesc (descNode d)) ++ [(.name, some kw), (.name, some n)]) := by
  subst hk
  have := Lexes.append_l (lexes_printDescription w hw hT hC d hd 0 true) (lexes_kwName kw n hkw hn)
  simpa only [List.append_assoc] using this

/-- `print_object` / `print_interface`: the same but for the keyword. -/
theorem lexes_objectLike (d : Option Str) (hd : Exec.descWf (toDesc (descNode d))) {kwsp kw : List Nat}
    (hk : kwsp = kw ++ [32]) (hkw : Gql.Text.validName kw = true) (n : List Nat) (hn : Gql.Text.validName n = true)
    (is : List Str) (his : Exec.namesWf is) (fs : List Field)
    (hfs : ∀ f ∈ (fs.map fieldToFD).map toFDef, Exec.fdWf f) :
    Lexes true (printDescription w d ++ kwsp ++ n ++ printImplemented is ++ printFields w fs)
      (Exec.descKvs (toDesc (descNode d)) ++ ((.name, some kw) :: (.name, some n) :: Exec.implKvs is) ++
        Exec.dirsKvs [] ++ Exec.bracketKvs .braceL .braceR (Exec.fdsKvs ((fs.map fieldToFD).map toFDef))
          ((fs.map fieldToFD).map toFDef).isEmpty) := by
  have hblk := lexes_printBlock (printFieldLine w) (fun f => Exec.fdKvs (toFDef (fieldToFD f)))
    (fun fs => Exec.fdsKvs ((fs.map fieldToFD).map toFDef)) rfl (fun _ _ => rfl) fs
    (fun b f hf => lexes_printFieldLine w hw hT hC b f
      (List.forall_mem_map.1 (List.forall_mem_map.1 hfs) f hf))
  have := LinePart.after (LinePart.after (lexes_typeHead w hw hT hC d hd hk hkw n hn) (lexes_printImplemented is his)) hblk
  simpa only [printFields, Exec.dirsKvs, List.isEmpty_map, List.append_assoc, List.cons_append, List.nil_append,
    List.append_nil] using this

/-- `print_type` -/
theorem lexes_printTypeDef (dd : Bool) (t : TypeDef) (h : Exec.tdefWf dd (typeTDef t)) :
    Lexes true (printTypeDef w t) (Exec.tdefKvs (typeTDef t)) := by
  cases t with
  | scalar n d u =>
    obtain ⟨hdesc, hn, hds⟩ := h
    have := LinePart.after (lexes_typeHead w hw hT hC d hdesc (kwsp := S "scalar ") (kw := S "scalar") (by decide +kernel)
      (by decide +kernel) n hn) (lexes_wrapDirs w hw hT hC _ hds)
    simpa only [printTypeDef, printSpecifiedBy_eq w, typeTDef, typeToDef, typeNodeToTDef, Exec.tdefKvs,
      List.append_assoc, List.cons_append, List.nil_append] using this
  | object n d is fs =>
    obtain ⟨hdesc, hn, hifs, _, hfs⟩ := h
    exact lexes_objectLike w hw hT hC d hdesc (kw := S "type") (by decide +kernel) (by decide +kernel) n hn is hifs
      fs hfs
  | interface n d is fs =>
    obtain ⟨hdesc, hn, hifs, _, hfs⟩ := h
    exact lexes_objectLike w hw hT hC d hdesc (kw := S "interface") (by decide +kernel) (by decide +kernel) n hn is
      hifs fs hfs
  | union n d ms =>
    obtain ⟨hdesc, hn, _, hms⟩ := h
    have := LinePart.after (lexes_typeHead w hw hT hC d hdesc (kwsp := S "union ") (kw := S "union") (by decide +kernel)
      (by decide +kernel) n hn) (lexes_unionMembers ms hms)
    simpa only [printTypeDef, typeTDef, typeToDef, typeNodeToTDef, Exec.tdefKvs, Exec.dirsKvs, List.map_nil,
      List.append_assoc, List.cons_append, List.nil_append, List.append_nil] using this
  | enum n d vs =>
    obtain ⟨hdesc, hn, _, hvs⟩ := h
    have hblk := lexes_printBlock (printEnumLine w) (fun v => Exec.evKvs (toEVDef (enumValToEVD v)))
      (fun vs => Exec.evsKvs ((vs.map enumValToEVD).map toEVDef)) rfl (fun _ _ => rfl) vs
      (fun b v hv => lexes_printEnumLine w hw hT hC b v
        (List.forall_mem_map.1 (List.forall_mem_map.1 hvs) v hv))
    have := LinePart.after (lexes_typeHead w hw hT hC d hdesc (kwsp := S "enum ") (kw := S "enum") (by decide +kernel)
      (by decide +kernel) n hn) hblk
    simpa only [printTypeDef, typeTDef, typeToDef, typeNodeToTDef, Exec.tdefKvs, Exec.dirsKvs, List.map_nil,
      List.isEmpty_map, List.append_assoc, List.cons_append, List.nil_append, List.append_nil] using this
  | input n d oneOf fs =>
    obtain ⟨hdesc, hn, hds, hfs⟩ := h
    have hblk := lexes_printBlock (printInputLine w) (fun a => Exec.ivdKvs (toVarDef (argToIVD a)))
      (fun fs => Exec.ivdsKvs ((fs.map argToIVD).map toVarDef)) rfl (fun _ _ => rfl) fs
      (fun b a ha => lexes_printInputLine w hw hT hC b a
        (List.forall_mem_map.1 (List.forall_mem_map.1 hfs) a ha))
    have e2 : (if oneOf then S " @oneOf" else []) =
        wrap [32] (Exec.printDirs w ((if oneOf then [(⟨SchemaConsts.oneOfName, []⟩ : DirApp)] else []).map toDir)) := by
      cases oneOf
      · rfl
      · rw [if_pos rfl, if_pos rfl, List.map_cons, List.map_nil, wrapDirs_noArg]
        decide +kernel
    have := LinePart.after (LinePart.after (lexes_typeHead w hw hT hC d hdesc (kwsp := S "input ") (kw := S "input")
      (by decide +kernel) (by decide +kernel) n hn) (lexes_wrapDirs w hw hT hC _ hds)) hblk
    simpa only [printTypeDef, e2, typeTDef, typeToDef, typeNodeToTDef, Exec.tdefKvs, List.isEmpty_map,
      List.append_assoc, List.cons_append, List.nil_append] using this

/-- `print_directive` -/
theorem lexes_printDirective (dd : Bool) (d : Directive) (h : Exec.tdefWf dd (directiveTDef d)) :
    Lexes true (printDirective w d) (Exec.tdefKvs (directiveTDef d)) := by
  simp only [directiveTDef, Exec.tdefWf] at h
  obtain ⟨hdesc, hn, hargs, hds, _, hlne, hlocs⟩ := h
  have hlw : Exec.namesWf d.locations := fun l hl => locations_valid l (hlocs l hl)
  have hd := lexes_printDescription w hw hT hC d.desc hdesc 0 true
  have h0 := Lexes.append_l (Lexes.append_ign (Lexes.name (S "directive") (by decide +kernel)) ign32 (by simp))
    (Lexes.punct 64 .at (by decide +kernel))
  have hB := LinePart.after (LinePart.after (Lexes.name d.name hn) (lexes_printArgs w hw hT hC d.args 0 hargs))
    (lexes_wrapDirs w hw hT hC _ hds)
  have hR : LinePart (if d.repeatable then S " repeatable" else [])
      (if d.repeatable then [(.name, some (S "repeatable"))] else []) := by
    cases d.repeatable
    · exact .nil
    · rw [if_pos rfl, if_pos rfl, show S " repeatable" = 32 :: S "repeatable" by decide +kernel]
      exact .sp (Lexes.name _ (by decide +kernel))
  have e1 : S " on " = 32 :: (S "on" ++ [32]) := by decide +kernel
  have hE : LinePart (S " on " ++ joinWith (S " | ") d.locations)
      ((.name, some (S "on")) :: Exec.delimKvs .pipe d.locations) := by
    simpa [e1, S_pipe, List.append_assoc] using LinePart.sp (Lexes.append_l
      (Lexes.append_ign (Lexes.name (S "on") (by decide +kernel)) ign32 (by simp))
      (pcDelim 124 .pipe (by decide +kernel) (by decide) d.locations hlne hlw).opt.lexes)
  have hF := LinePart.after (LinePart.after hB hR) hE
  have := Lexes.append_l hd (Lexes.append_l h0 hF)
  simpa [printDirective, directiveTDef, Exec.tdefKvs, printDeprecated_eq w, S_directive,
    List.append_assoc] using this

omit hw hT hC in
theorem lexes_printRoot (kw : String) (o : Op) (hkw : S kw = opName o) (r : Option Str)
    (h : ∀ ot ∈ toOts (opEntry o r), Exec.isOpType ot.1 ∧ Gql.Text.validName ot.2 = true) :
    Lexes false (printRoot kw r) ((toOts (opEntry o r)).flatMap Exec.otKvs) := by
  cases r with
  | none => simpa [printRoot, opEntry, toOts] using Lexes.nil
  | some n =>
    have hn : Gql.Text.validName n = true := (h (opName o, n) (List.mem_singleton.mpr rfl)).2
    have hk : Gql.Text.validName (S kw) = true := by rw [hkw]; cases o <;> decide +kernel
    have h1 := Lexes.append_l (Lexes.append_punct (Lexes.name (S kw) hk) 58 .colon (by decide +kernel) (by decide +kernel))
      (Lexes.ignorable [32] ign32)
    have h2 := Lexes.append_l h1 (Lexes.append_ign (Lexes.name n hn) ign10 (by simp))
    have h3 := Lexes.append_l (Lexes.ignorable _ ignS2) h2
    simpa [printRoot, opEntry, toOts, Exec.otKvs, S_colon, hkw, List.append_assoc] using h3

/-- `print_schema_definition`: nothing is printed and there is no definition, or the printed
block lexes to the tokens of the one `schema` definition. -/
theorem lexes_printSchemaDefinition (dd : Bool) (s : Schema) (h : ∀ td ∈ schemaDefTDef s, Exec.tdefWf dd td) :
    (printSchemaDefinition w s = none ∧ schemaDefTDef s = []) ∨
    ∃ T td, printSchemaDefinition w s = some T ∧ schemaDefTDef s = [td] ∧ Lexes true T (Exec.tdefKvs td) := by
  by_cases c1 : (s.query.isNone && s.mutation.isNone && s.subscription.isNone) = true
  · left; simp [printSchemaDefinition, schemaDefTDef, schemaDefOf, c1]
  · by_cases c2 : (s.desc.isNone && hasDefaultRoots s) = true
    · left; simp [printSchemaDefinition, schemaDefTDef, schemaDefOf, c1, c2]
    · right
      have e : schemaDefTDef s = [TDef.schema (toDesc (descNode s.desc)) [] (toOts (opEntry Op.query s.query ++
          opEntry Op.mutation s.mutation ++ opEntry Op.subscription s.subscription))] := by
        simp [schemaDefTDef, schemaDefOf, c1, c2]
      have ep : printSchemaDefinition w s = some (printDescription w s.desc ++ S "schema {\n" ++
          printRoot "query" s.query ++ printRoot "mutation" s.mutation ++ printRoot "subscription" s.subscription ++
          S "}") := by
        simp [printSchemaDefinition, c1, c2]
      refine ⟨_, _, ep, e, ?_⟩
      have hwf := h _ (by rw [e]; exact List.mem_singleton.mpr rfl)
      simp only [Exec.tdefWf] at hwf
      obtain ⟨hdesc, _, hne, hots⟩ := hwf
      have hd := lexes_printDescription w hw hT hC s.desc hdesc 0 true
      have hots' : ∀ ot ∈ toOts (opEntry Op.query s.query) ++ toOts (opEntry Op.mutation s.mutation) ++
          toOts (opEntry Op.subscription s.subscription), Exec.isOpType ot.1 ∧ Gql.Text.validName ot.2 = true := by
        simpa only [toOts, List.map_append] using hots
      have hq := lexes_printRoot "query" .query rfl s.query
        fun ot h => hots' ot (List.mem_append_left _ (List.mem_append_left _ h))
      have hm := lexes_printRoot "mutation" .mutation rfl s.mutation
        fun ot h => hots' ot (List.mem_append_left _ (List.mem_append_right _ h))
      have hs := lexes_printRoot "subscription" .subscription rfl s.subscription
        fun ot h => hots' ot (List.mem_append_right _ h)
      have e1 : S "schema {\n" = S "schema" ++ ([32] ++ ([123] ++ [10])) := by decide +kernel
      have e2 : S "}" = [125] := by decide +kernel
      have h0 := Lexes.append_l (Lexes.append_l (Lexes.append_ign (Lexes.name (S "schema") (by decide +kernel)) ign32 (by simp))
        (Lexes.punct 123 .braceL (by decide +kernel))) (Lexes.ignorable [10] ign10)
      have h1 := Lexes.append_l (Lexes.append_l (Lexes.append_l (Lexes.append_l h0 hq) hm) hs)
        (Lexes.punct 125 .braceR (by decide +kernel))
      have h2 := (Lexes.append_l hd h1).weaken true
      have hemp : (toOts (opEntry Op.query s.query ++ opEntry Op.mutation s.mutation ++
          opEntry Op.subscription s.subscription)).isEmpty = false := by
        cases hx : toOts (opEntry Op.query s.query ++ opEntry Op.mutation s.mutation ++
          opEntry Op.subscription s.subscription) with
        | nil => exact absurd hx hne
        | cons a r => rfl
      simp only [Exec.tdefKvs, Exec.bracketKvs, hemp, Bool.false_eq_true, ↓reduceIte,
        kvs_eq_flatMap Exec.otsKvs Exec.otKvs rfl (fun _ _ => rfl)]
      simpa [toOts, e1, e2, Exec.dirsKvs, List.flatMap_append, List.append_assoc] using h2

/-- **The whole text.**  `print_schema`'s text lexes to exactly the tokens of the translated
document, provided the translated definitions are well formed for C08. -/
theorem lexes_printSchemaText (dd : Bool) (s : Schema) (h : ∀ td ∈ schemaTDefs s, Exec.tdefWf dd td) :
    Lexes true (printSchemaText w s) (Exec.gdefsKvs true ((schemaTDefs s).map GDef.t)) := by
  rw [gdefsKvs_t]
  have hD : ∀ d ∈ s.directives, Lexes true (printDirective w d) (Exec.tdefKvs (directiveTDef d)) :=
    fun d hd => lexes_printDirective w hw hT hC dd d (h _ (by simp [schemaTDefs]; exact Or.inr (Or.inl ⟨d, hd, rfl⟩)))
  have hTy : ∀ t ∈ s.types, Lexes true (printTypeDef w t) (Exec.tdefKvs (typeTDef t)) :=
    fun t ht => lexes_printTypeDef w hw hT hC dd t (h _ (by simp [schemaTDefs]; exact Or.inr (Or.inr ⟨t, ht, rfl⟩)))
  have hrest := fun (p0 : List (List Nat × List KV)) (hp0 : ∀ p ∈ p0, Lexes true p.1 p.2) =>
    lexes_joinTexts (p0 ++ s.directives.map (fun d => (printDirective w d, Exec.tdefKvs (directiveTDef d))) ++
      s.types.map (fun t => (printTypeDef w t, Exec.tdefKvs (typeTDef t))))
      (by
        intro p hp
        simp only [List.mem_append, List.mem_map] at hp
        rcases hp with (hp | ⟨d, hd, rfl⟩) | ⟨t, ht, rfl⟩
        · exact hp0 p hp
        · exact hD d hd
        · exact hTy t ht)
      [10, 10] (by intro c hc; simp at hc; simp [hc]) (by simp)
  rcases lexes_printSchemaDefinition w hw hT hC dd s (fun td htd => h td (by simp [schemaTDefs, htd])) with
    ⟨h1, h2⟩ | ⟨T, td, h1, h2, hL⟩
  · have := hrest [] (by simp)
    simpa [printSchemaText, schemaTDefs, h1, h2, List.flatMap_append, List.flatMap_map, Function.comp_def] using this
  · have := hrest [(T, Exec.tdefKvs td)] (by simp; exact hL)
    simpa [printSchemaText, schemaTDefs, h1, h2, List.flatMap_append, List.flatMap_map, Function.comp_def] using this

end


/-- The translated definitions of the schema are well formed in C08's sense (`Exec.gdefsWf`). -/
def TextWF (fa dd : Bool) (s : Schema) : Prop := Exec.gdefsWf fa dd (defsToGDefs (schemaToDefs s))

theorem textWF_tdefs {fa dd : Bool} {s : Schema} (h : TextWF fa dd s) :
    ∀ td ∈ schemaTDefs s, Exec.tdefWf dd td := by
  intro td htd
  unfold TextWF at h
  rw [defsToGDefs_schemaToDefs] at h
  exact h (.t td) (List.mem_map.mpr ⟨td, htd, rfl⟩)

theorem textWF_of_tdefs {fa dd : Bool} {s : Schema} (h : ∀ td ∈ schemaTDefs s, Exec.tdefWf dd td) :
    TextWF fa dd s := by
  unfold TextWF
  rw [defsToGDefs_schemaToDefs]
  intro d hd
  obtain ⟨td, htd, rfl⟩ := List.mem_map.mp hd
  exact h td htd

theorem gdefs_ne_nil (s : Schema) (h : WFSchema s = true) : defsToGDefs (schemaToDefs s) ≠ [] := by
  rw [defsToGDefs_schemaToDefs]
  have := types_ne_nil_of_wf s h
  intro h0
  simp [schemaTDefs] at h0
  exact this h0.2.2

theorem text_lexes (w : Widths) (hw : 4 ≤ w.object)
    (hT : tableOK Generated.escapeTable = true) (hC : tableComplete Generated.escapeTable = true)
    (fa dd : Bool) (s : Schema) (h : TextWF fa dd s) :
    Lexes true (printSchemaText w s) (Exec.gdefsKvs true (defsToGDefs (schemaToDefs s))) := by
  rw [defsToGDefs_schemaToDefs]
  exact lexes_printSchemaText w hw hT hC dd s (textWF_tdefs h)

end Gql.Types.PrintSchema
