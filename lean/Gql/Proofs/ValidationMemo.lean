import Gql.Validation.Context
import Gql.Proofs.Util.Assoc
/-!
Lemmas for C12-6 (`memo_pure`): cache invariant of the `ValidationContext` getters.
-/
namespace Gql.Validation.Context
variable {υ : Type}

theorem lookup_eq {κ ν : Type} [DecidableEq κ] (k : κ) (l : List (κ × ν)) :
    lookup k l = l.lookup k := by
  induction l with
  | nil => rfl
  | cons x r ih =>
    obtain ⟨k', v⟩ := x
    rw [lookup, List.lookup_cons_ite, ih]

theorem store_eq {κ ν : Type} [DecidableEq κ] (k : κ) (v : ν) (l : List (κ × ν)) :
    store k v l = l.assign k v := by
  induction l with
  | nil => rfl
  | cons x r ih => obtain ⟨k', v'⟩ := x; simp [store, List.assign, ih]

theorem lookup_store_same {κ ν : Type} [DecidableEq κ] (k : κ) (v : ν) (l : List (κ × ν)) :
    lookup k (store k v l) = some v := by
  simp [lookup_eq, store_eq, List.lookup_assign]

theorem lookup_store_other {κ ν : Type} [DecidableEq κ] (k k' : κ) (v : ν) (l : List (κ × ν)) (h : k' ≠ k) :
    lookup k' (store k v l) = lookup k' l := by
  simp [lookup_eq, store_eq, List.lookup_assign, Ne.symm h]

theorem lookup_store_sound {κ ν : Type} [DecidableEq κ] {f : κ → ν} {l : List (κ × ν)}
    (h : ∀ k v, lookup k l = some v → v = f k) (k0 : κ) : ∀ k v, lookup k (store k0 (f k0) l) = some v → v = f k := by
  intro k v hv
  by_cases hk : k = k0
  · subst hk; rw [lookup_store_same] at hv; exact (Option.some.inj hv).symm
  · rw [lookup_store_other _ _ _ _ hk] at hv; exact h k v hv

/-- What the entry of `_variable_usages` for a node must be, given which operations already have a
`_recursive_variable_usages` entry. -/
def expectedUsages (P : Pure υ) (c : Ctx υ) : NodeRef → List υ
  | .op o => if (lookup o c.recUsages).isSome then specRecUsages P o else P.usages (.op o)
  | .frag f => P.usages (.frag f)

structure Inv (P : Pure υ) (c : Ctx υ) : Prop where
  spreads : ∀ k v, lookup k c.spreads = some v → v = P.spreads k
  recFrags : ∀ k v, lookup k c.recFrags = some v → v = P.recFrags k
  recUsages : ∀ k v, lookup k c.recUsages = some v → v = specRecUsages P k
  varUsages : ∀ n v, lookup n c.varUsages = some v → v = expectedUsages P c n
  /-- the recursive entry *is* the `_variable_usages` entry of its operation (same list object) -/
  recHasVar : ∀ o v, lookup o c.recUsages = some v → lookup (NodeRef.op o) c.varUsages = some v

theorem Inv.empty (P : Pure υ) : Inv P (Ctx.empty : Ctx υ) := by
  constructor <;> intro k v h <;> simp [Ctx.empty, lookup] at h

theorem getUsages_spec (P : Pure υ) (c : Ctx υ) (n : NodeRef) :
    (getUsages P c n).1 = (lookup n c.varUsages).getD (P.usages n) ∧
    lookup n (getUsages P c n).2.varUsages = some (getUsages P c n).1 ∧
    (∀ n', n' ≠ n → lookup n' (getUsages P c n).2.varUsages = lookup n' c.varUsages) ∧
    (getUsages P c n).2 = { c with varUsages := (getUsages P c n).2.varUsages } := by
  unfold getUsages
  cases hl : lookup n c.varUsages with
  | some v => exact ⟨rfl, hl, fun _ _ => rfl, rfl⟩
  | none => exact ⟨rfl, lookup_store_same _ _ _, fun n' hn => lookup_store_other _ _ _ _ hn, rfl⟩

theorem getUsages_sound (P : Pure υ) (c : Ctx υ) (n : NodeRef)
    (h : ∀ v, lookup n c.varUsages = some v → v = P.usages n) : (getUsages P c n).1 = P.usages n := by
  rw [(getUsages_spec P c n).1]
  cases hl : lookup n c.varUsages with
  | none => rfl
  | some v => exact h v hl

/-- fragments never have a recursive entry, so their usages are always the plain ones -/
theorem getUsages_frag (P : Pure υ) (c : Ctx υ) (h : Inv P c) (f : Nat) :
    (getUsages P c (.frag f)).1 = P.usages (.frag f) :=
  getUsages_sound P c _ (h.varUsages _)

theorem extendLoop_spec (P : Pure υ) (o : Nat) (fs : List Nat) :
    ∀ (c : Ctx υ) (acc : List υ),
      (∀ f v, lookup (NodeRef.frag f) c.varUsages = some v → v = P.usages (.frag f)) →
      lookup (NodeRef.op o) c.varUsages = some acc →
      let c' := extendLoop P o c fs
      lookup (NodeRef.op o) c'.varUsages = some (acc ++ fs.flatMap (fun f => P.usages (.frag f))) ∧
      (∀ f v, lookup (NodeRef.frag f) c'.varUsages = some v → v = P.usages (.frag f)) ∧
      (∀ o', o' ≠ o → lookup (NodeRef.op o') c'.varUsages = lookup (NodeRef.op o') c.varUsages) ∧
      c' = { c with varUsages := c'.varUsages } := by
  induction fs with
  | nil =>
    intro c acc h1 h2
    simp only [extendLoop, List.flatMap_nil, List.append_nil]
    exact ⟨h2, h1, fun _ _ => trivial, trivial⟩
  | cons f fs ih =>
    intro c acc h1 h2
    obtain ⟨-, g2, g3, g4⟩ := getUsages_spec P c (.frag f)
    have hval := getUsages_sound P c (.frag f) (h1 f)
    simp only [extendLoop]
    generalize getUsages P c (.frag f) = r at g2 g3 g4 hval ⊢
    obtain ⟨us, c1⟩ := r
    simp only at g2 g3 g4 hval ⊢
    subst hval
    rw [g3 _ (by simp), h2]
    simp only [Option.getD_some]
    have hfr : ∀ f' v, lookup (NodeRef.frag f') c1.varUsages = some v → v = P.usages (.frag f') := by
      intro f' v hv
      by_cases hff : f' = f
      · subst hff; rw [g2] at hv; exact (Option.some.inj hv).symm
      · rw [g3 _ (by simpa using hff)] at hv; exact h1 f' v hv
    obtain ⟨a1, a2, a3, a4⟩ :=
      ih { c1 with varUsages := store (.op o) (acc ++ P.usages (.frag f)) c1.varUsages } (acc ++ P.usages (.frag f))
        (fun f' v hv => hfr f' v (by rwa [lookup_store_other _ _ _ _ (by simp)] at hv)) (lookup_store_same _ _ _)
    refine ⟨by rw [a1]; simp [List.append_assoc], a2, fun o' ho' => ?_, a4.trans (by rw [g4])⟩
    rw [a3 o' ho']
    simp only
    rw [lookup_store_other _ _ _ _ (by simpa using ho'), g3 _ (by simp)]

/-- What a request returns in a context satisfying the invariant. -/
def expected (P : Pure υ) (c : Ctx υ) : Req → Resp υ
  | .usages n => .us (expectedUsages P c n)
  | q => specResp P q

theorem usages_ok (P : Pure υ) (c : Ctx υ) (h : Inv P c) (n : NodeRef) :
    (getUsages P c n).1 = expectedUsages P c n ∧ Inv P (getUsages P c n).2 := by
  unfold getUsages
  cases hl : lookup n c.varUsages with
  | some v => exact ⟨h.varUsages n v hl, h⟩
  | none =>
    have hnorec : ∀ o, n = NodeRef.op o → lookup o c.recUsages = none := by
      intro o ho
      cases hr : lookup o c.recUsages with
      | none => rfl
      | some v => have := h.recHasVar o v hr; rw [← ho, hl] at this; cases this
    have hexp : expectedUsages P c n = P.usages n := by
      cases n with
      | frag f => rfl
      | op o => simp [expectedUsages, hnorec o rfl]
    simp only
    rw [← hexp]
    refine ⟨rfl, ⟨h.spreads, h.recFrags, h.recUsages, lookup_store_sound (f := expectedUsages P c) h.varUsages n, ?_⟩⟩
    intro o v hv
    simp only at hv ⊢
    by_cases hn : NodeRef.op o = n
    · rw [hnorec o hn.symm] at hv; cases hv
    · rw [lookup_store_other _ _ _ _ hn]; exact h.recHasVar o v hv

theorem recFrags_ok (P : Pure υ) (c : Ctx υ) (h : Inv P c) (o : Nat) :
    (getRecFrags P c o).1 = P.recFrags o ∧ Inv P (getRecFrags P c o).2 ∧
    (getRecFrags P c o).2.varUsages = c.varUsages ∧ (getRecFrags P c o).2.recUsages = c.recUsages := by
  unfold getRecFrags
  cases hl : lookup o c.recFrags with
  | some v => exact ⟨h.recFrags o v hl, h, rfl, rfl⟩
  | none =>
    exact ⟨rfl, ⟨h.spreads, lookup_store_sound h.recFrags o, h.recUsages, h.varUsages, h.recHasVar⟩, rfl, rfl⟩

theorem recUsages_ok (P : Pure υ) (c : Ctx υ) (h : Inv P c) (o : Nat) :
    (getRecUsages P c o).1 = specRecUsages P o ∧ Inv P (getRecUsages P c o).2 := by
  unfold getRecUsages
  cases hr : lookup o c.recUsages with
  | some v => exact ⟨h.recUsages o v hr, h⟩
  | none =>
    simp only
    -- step 1: usages = get_variable_usages(operation)
    obtain ⟨u1, i1⟩ := usages_ok P c h (.op o)
    obtain ⟨-, s2, -⟩ := getUsages_spec P c (.op o)
    have hacc : (getUsages P c (.op o)).1 = P.usages (.op o) := by
      rw [u1]; simp [expectedUsages, hr]
    generalize getUsages P c (.op o) = r1 at i1 s2 hacc ⊢
    -- step 2: get_recursively_referenced_fragments(operation)
    obtain ⟨f1, i2, f3, -⟩ := recFrags_ok P r1.2 i1 o
    generalize getRecFrags P r1.2 o = r2 at f1 i2 f3 ⊢
    rw [f1]
    -- step 3: the in-place extension
    obtain ⟨a1, a2, a3, a4⟩ := extendLoop_spec P o (P.recFrags o) r2.2 (P.usages (.op o))
      (fun f v hv => i2.varUsages (.frag f) v hv) (by rw [f3, ← hacc]; exact s2)
    generalize extendLoop P o r2.2 (P.recFrags o) = c3 at a1 a2 a3 a4 ⊢
    rw [a1]
    simp only [Option.getD_some]
    refine ⟨rfl, ⟨by rw [a4]; exact i2.spreads, by rw [a4]; exact i2.recFrags,
      lookup_store_sound (f := specRecUsages P) (by rw [a4]; exact i2.recUsages) o, ?_, ?_⟩⟩
    · intro n v hv
      simp only at hv
      cases n with
      | frag f => exact a2 f v hv
      | op o' =>
        by_cases ho : o' = o
        · subst ho
          rw [a1] at hv
          simp [expectedUsages, lookup_store_same, (Option.some.inj hv).symm, specRecUsages]
        · rw [a3 o' ho] at hv
          have := i2.varUsages (.op o') v hv
          simp only [expectedUsages] at this ⊢
          rw [lookup_store_other _ _ _ _ ho, a4]
          exact this
    · intro k v hv
      simp only at hv ⊢
      by_cases hk : k = o
      · subst hk
        rw [lookup_store_same] at hv
        rw [a1]; exact hv
      · rw [lookup_store_other _ _ _ _ hk, a4] at hv
        rw [a3 k hk]
        exact i2.recHasVar k v hv

theorem step_ok (P : Pure υ) (c : Ctx υ) (h : Inv P c) (q : Req) :
    (stepReq P c q).1 = expected P c q ∧ Inv P (stepReq P c q).2 := by
  cases q with
  | fragment n => exact ⟨rfl, h.spreads, h.recFrags, h.recUsages, h.varUsages, h.recHasVar⟩
  | spreads s =>
    simp only [stepReq, getSpreads, expected, specResp]
    cases hl : lookup s c.spreads with
    | some v => exact ⟨by simp [h.spreads s v hl], h⟩
    | none => exact ⟨rfl, lookup_store_sound h.spreads s, h.recFrags, h.recUsages, h.varUsages, h.recHasVar⟩
  | recFrags o => exact ⟨by simp only [stepReq, expected, specResp, (recFrags_ok P c h o).1], (recFrags_ok P c h o).2.1⟩
  | usages n => exact ⟨by simp only [stepReq, expected, (usages_ok P c h n).1], (usages_ok P c h n).2⟩
  | recUsages o => exact ⟨by simp only [stepReq, expected, specResp, (recUsages_ok P c h o).1], (recUsages_ok P c h o).2⟩

theorem run_ok (P : Pure υ) (qs : List Req) : ∀ (c : Ctx υ), Inv P c →
    ∀ q r, (q, r) ∈ qs.zip (runReqs P c qs).1 →
      r = specResp P q ∨ ∃ o, q = .usages (.op o) ∧ r = .us (specRecUsages P o) := by
  induction qs with
  | nil => intro c _ q r hm; simp [runReqs] at hm
  | cons q0 qs ih =>
    intro c h q r hm
    simp only [runReqs, List.zip_cons_cons, List.mem_cons] at hm
    have hs := step_ok P c h q0
    rcases hm with hm | hm
    · obtain ⟨rfl, rfl⟩ := Prod.mk.inj hm
      rw [hs.1]
      cases q with
      | usages n =>
        cases n with
        | frag f => left; rfl
        | op o =>
          simp only [expected, expectedUsages]
          by_cases hr : (lookup o c.recUsages).isSome
          · right; exact ⟨o, rfl, by simp [hr]⟩
          · left; simp [hr, specResp]
      | fragment n => left; rfl
      | spreads n => left; rfl
      | recFrags n => left; rfl
      | recUsages n => left; rfl
    · exact ih _ hs.2 q r hm

end Gql.Validation.Context
