import Gql.Proofs.SpecCollect
import Gql.Proofs.Util.Unmarked

/-!
C02 — fragment recursion is cut by the visited set: the fuel `doc.frags.length + 1` is never
exhausted, for any document (cyclic fragments included).  Measure: the number of fragment
definitions whose name has not been visited yet; entering a fragment strictly decreases it.
-/

namespace Gql.Exec.Refine
open Gql.Exec

abbrev SGroups := Spec.Groups

def unvisited (d : Doc) (vis : List Name) : Nat :=
  ((d.frags.map (·.name)).filter (fun n => !vis.contains n)).length

theorem unvisited_mono (d : Doc) (vis vis' : List Name) (h : ∀ x ∈ vis, x ∈ vis') :
    unvisited d vis' ≤ unvisited d vis :=
  Unmarked.count_mono _ h

/-- a fragment found under the name `n` is a definition of the document with that name -/
theorem frag_mem {d : Doc} {n : Name} {fr : FragDef} (h : d.frag n = some fr) :
    fr ∈ d.frags ∧ fr.name = n := by
  unfold Doc.frag at h
  exact ⟨List.mem_reverse.1 (List.mem_of_find?_eq_some h), by simpa using List.find?_some h⟩

theorem unvisited_cons_lt (d : Doc) (vis : List Name) (n : Name) (fr : FragDef)
    (hf : d.frag n = some fr) (hn : vis.contains n = false) :
    unvisited d (n :: vis) < unvisited d vis :=
  Unmarked.count_cons_lt ((frag_mem hf).2 ▸ List.mem_map_of_mem (frag_mem hf).1) (by simpa using hn)

def NoCrash (vis : List Name) : Out ErrKind (SGroups × List Name) → Prop
  | .crash _ => False
  | .ok (_, vis') => ∀ x ∈ vis, x ∈ vis'
  | .err _ => True

theorem NoCrash.mono {vis vis' : List Name} {r : Spec.COut} (hsub : ∀ x ∈ vis, x ∈ vis')
    (h : NoCrash vis' r) : NoCrash vis r := by
  cases r with
  | ok p => exact fun x hx => h x (hsub x hx)
  | err e => trivial
  | crash c => exact h

theorem NoCrash.bind {vis : List Name} {r : Spec.COut} {k : SGroups × List Name → Spec.COut}
    (hr : NoCrash vis r) (hk : ∀ p, (∀ x ∈ vis, x ∈ p.2) → NoCrash p.2 (k p)) :
    NoCrash vis (r.bind k) := by
  cases r with
  | ok p => exact (hk p hr).mono hr
  | err e => trivial
  | crash c => exact hr

theorem NoCrash.guarded {inc : Option Bool} {acc : SGroups} {vis : List Name} {body : Spec.COut}
    (hb : NoCrash vis body) : NoCrash vis (Spec.guarded inc acc vis body) := by
  cases inc with
  | none => trivial
  | some b =>
    cases b with
    | false => exact fun _ hx => hx
    | true => exact hb

theorem NoCrash.merging {acc : SGroups} {vis : List Name} {r : Spec.COut} (hr : NoCrash vis r) :
    NoCrash vis (Spec.merging acc r) :=
  hr.bind fun _ _ _ hx => hx

variable (scx : Spec.Ctx) (rt : Name) (n : Nat)
variable (srecur : List Selection → List Name → Out ErrKind (SGroups × List Name))
variable (hrec : ∀ sels vis, unvisited scx.doc vis < n → NoCrash vis (srecur sels vis))

include hrec in
mutual
theorem collectOne_noCrash : (sel : Selection) → ∀ (acc : SGroups) (vis : List Name),
    unvisited scx.doc vis ≤ n → NoCrash vis (Spec.collectOne scx rt srecur sel acc vis)
  | .field alias name args dirs sels, acc, vis, _ => by
    rw [Spec.collectOne_field]
    exact .guarded fun _ hx => hx
  | .spread name dirs, acc, vis, hu => by
    obtain ⟨body, e, hb⟩ := Spec.collectOne_spread scx rt srecur name dirs acc vis
    rw [e]
    refine .guarded ?_
    rcases hb with ⟨_, rfl | rfl, rfl⟩ | ⟨fr, hv, hf, _, rfl⟩
    · exact fun _ hx => hx
    · exact fun _ hx => List.mem_cons_of_mem _ hx
    · -- entering a fragment that is defined and new lowers the measure
      have hlt := unvisited_cons_lt scx.doc vis name fr hf hv
      exact .merging (.mono (fun _ hx => List.mem_cons_of_mem _ hx)
        (hrec fr.sels (name :: vis) (by omega)))
  | .inline cond dirs sels, acc, vis, hu => by
    obtain ⟨body, e, hb⟩ := Spec.collectOne_inline scx rt srecur cond dirs sels acc vis
    rw [e]
    refine .guarded ?_
    rcases hb with rfl | ⟨_, rfl⟩
    · exact fun _ hx => hx
    · exact .merging (collectLoop_noCrash sels [] vis hu)

theorem collectLoop_noCrash : (sels : List Selection) → ∀ (acc : SGroups) (vis : List Name),
    unvisited scx.doc vis ≤ n → NoCrash vis (Spec.collectLoop scx rt srecur sels acc vis)
  | [], acc, vis, _ => by
    unfold Spec.collectLoop
    exact fun _ hx => hx
  | sel :: rest, acc, vis, hu => by
    rw [Spec.collectLoop_cons]
    exact (collectOne_noCrash sel acc vis hu).bind fun p hp =>
      collectLoop_noCrash rest p.1 p.2 (Nat.le_trans (unvisited_mono scx.doc vis p.2 hp) hu)
end

theorem collectFieldsFuel_noCrash (scx : Spec.Ctx) (rt : Name) :
    ∀ (n : Nat) (sels : List Selection) (vis : List Name), unvisited scx.doc vis < n →
      NoCrash vis (Spec.collectFieldsFuel scx rt n sels vis)
  | 0, _, _, h => by omega
  | n + 1, sels, vis, h => by
    unfold Spec.collectFieldsFuel
    exact collectLoop_noCrash scx rt n _ (fun s v hv => collectFieldsFuel_noCrash scx rt n s v hv)
      sels [] vis (by omega)

theorem collectFields_noCrash (scx : Spec.Ctx) (rt : Name) (sels : List Selection) (c : String) :
    Spec.collectFields scx rt sels ≠ .crash c := by
  unfold Spec.collectFields
  have hlt : unvisited scx.doc [] < Spec.fuelOf scx.doc := by
    have := Unmarked.count_le (scx.doc.frags.map (·.name)) []
    simp only [List.length_map] at this
    exact Nat.lt_succ_of_le this
  have h := collectFieldsFuel_noCrash scx rt (Spec.fuelOf scx.doc) sels [] hlt
  revert h
  cases Spec.collectFieldsFuel scx rt (Spec.fuelOf scx.doc) sels [] with
  | crash c' => simp [NoCrash]
  | err e => simp
  | ok r => simp

end Gql.Exec.Refine
