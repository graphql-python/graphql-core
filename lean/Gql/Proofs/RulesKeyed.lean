import Gql.Proofs.RulesRun
import Gql.Proofs.RulesGroup
/-!
C12-7 — `rule_iff_spec` for UniqueArgumentNames and UniqueVariableNames: both report, when a node is entered, the
duplicates among its keyed items (`keyedRule`).
-/
namespace Gql.Validation.Rules
open Gql.Validation

variable {τ : Type}

namespace Spec
/-- "The arguments of every field and of every directive have pairwise distinct names" (spec §5.4.2). -/
def uniqueArgumentNames (doc : ATree) : Prop :=
  ∀ n ∈ doc.nodes, (n.kind = "field" ∨ n.kind = "directive") →
    ∃ items, keyed (n.kids "arguments") (fun a => a.kid "name") = some items ∧ (items.map Prod.fst).Nodup

/-- "The variables every operation defines have pairwise distinct names" (spec §5.8.1). -/
def uniqueVariableNames (doc : ATree) : Prop :=
  ∀ n ∈ doc.nodes, n.kind = "operation_definition" →
    ∃ items, keyed (n.kids "variable_definitions") (fun vd => (vd.kid "variable").bind (·.kid "name")) = some items ∧
      (items.map Prod.fst).Nodup
end Spec

/-- the shape shared by the two rules: `keyed … = some items` and no duplicate reported -/
theorem keyed_dup_nil_iff (rule : String) (k : Option (List (String × Nat))) :
    (match k with
      | some items => ((Action.idle, RS.init, dupErrors rule items) : Action × RS × List RErr)
      | none => (Action.idle, RS.init, [RErr.crash rule])).2.2 = [] ↔
    ∃ items, k = some items ∧ (items.map Prod.fst).Nodup := by
  cases k with
  | none => simp
  | some items => simp [dupErrors_nil_iff]

/-- UniqueArgumentNames and UniqueVariableNames: when a node of a kind `hE` is entered, report the duplicates among
its keyed items (`items n`; `none`: a key attribute is missing). -/
def keyedRule (doc : ATree) (hE : String → Bool) (rule : String) (items : ATree → Option (List (String × Nat))) :
    CRule τ where
  hEnter := hE
  hLeave := fun _ => false
  step := fun s ph i _ => withNode doc i s fun n =>
    match ph with
    | .leave => (.idle, s, [])
    | .enter =>
      match items n with
      | some its => (.idle, s, dupErrors rule its)
      | none => (.idle, s, [RErr.crash rule])

theorem keyedRule_iff (tbl : TITable) (L : Lookups τ) (doc : ATree) (hu : doc.uniqueIds) (hE : String → Bool)
    (rule : String) (items : ATree → Option (List (String × Nat))) :
    validate tbl L none [(keyedRule doc hE rule items, RS.init)] doc.erase = [] ↔
      ∀ n ∈ doc.nodes, hE n.kind = true → ∃ its, items n = some its ∧ (its.map Prod.fst).Nodup := by
  have hst : (keyedRule (τ := τ) doc hE rule items).Stateless (reportsOf (keyedRule (τ := τ) doc hE rule items)) := by
    intro s ph i ti _
    simp only [reportsOf, keyedRule, withNode]
    split
    · cases ph
      · simp only
        split <;> rfl
      · rfl
    · rfl
  rw [stateless_nil_iff tbl L _ _ hst doc hu]
  apply forall_congr'; intro n
  apply imp_congr_right; intro hn
  have h : reportsOf (keyedRule (τ := τ) doc hE rule items) .enter n.info =
      (match items n with
        | some its => ((Action.idle, RS.init, dupErrors rule its) : Action × RS × List RErr)
        | none => (Action.idle, RS.init, [RErr.crash rule])).2.2 := by
    simp only [reportsOf, keyedRule, withNode_of_mem hu hn]
  rw [h, keyed_dup_nil_iff]
  exact ⟨fun h => h.1, fun h => ⟨h, fun hf => absurd hf Bool.false_ne_true⟩⟩

theorem uniqueArgumentNames_iff (tbl : TITable) (L : Lookups τ) (doc : ATree) (hu : doc.uniqueIds) :
    validate tbl L none [(uniqueArgumentNames doc, RS.init)] doc.erase = [] ↔ Spec.uniqueArgumentNames doc := by
  rw [show uniqueArgumentNames (τ := τ) doc = keyedRule doc (fun k => k == "field" || k == "directive")
      "UniqueArgumentNamesRule" (fun n => keyed (n.kids "arguments") (fun a => a.kid "name")) from rfl,
    keyedRule_iff tbl L doc hu]
  simp only [Spec.uniqueArgumentNames, Bool.or_eq_true, beq_iff_eq]

theorem uniqueVariableNames_iff (tbl : TITable) (L : Lookups τ) (doc : ATree) (hu : doc.uniqueIds) :
    validate tbl L none [(uniqueVariableNames doc, RS.init)] doc.erase = [] ↔ Spec.uniqueVariableNames doc := by
  rw [show uniqueVariableNames (τ := τ) doc = keyedRule doc (fun k => k == "operation_definition")
      "UniqueVariableNamesRule"
      (fun n => keyed (n.kids "variable_definitions") (fun vd => (vd.kid "variable").bind (·.kid "name"))) from rfl,
    keyedRule_iff tbl L doc hu]
  simp only [Spec.uniqueVariableNames, beq_iff_eq]

end Gql.Validation.Rules
