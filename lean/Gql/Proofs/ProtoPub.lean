import Gql.Proofs.PayloadNest
/-!
Publisher level of P1 "announced before any data for it" and of the O1 shape of `completed`:

when every event that reports values or success of a node finds that node in the id table
(`EvsPre`: the node is in the tracked domain, which is the table's — `DomIs`), then every id in
the table is an announced id (`TableAnn`), hence

* every `incremental` entry carries an id announced by this or an earlier payload, and
* every `completed` entry carries such an id or is a *failed* completion.
-/
namespace Gql.Async
open Gql.Spec.Protocol

/-- Every id in the table is one of `A` (the ids announced so far). -/
def TableAnn (p : Pub) (A : List Nat) : Prop := ∀ i, live p i → i ∈ A

theorem TableAnn.mono {p : Pub} {A B : List Nat} (h : TableAnn p A) (hs : ∀ i ∈ A, i ∈ B) :
    TableAnn p B := fun i hi => hs i (h i hi)

theorem live_dropId (p : Pub) (n : Node) (j : Nat) (h : live (dropId p n) j) : live p j := by
  obtain ⟨m, hm⟩ := h
  exact ⟨m, (dropId_dom p n m j hm).1⟩

theorem evPre_node {D : List Node} {e : WQEvent} {n : Node} (hn : evNode e = some n)
    (hd : evDone e ≠ some true) (he : evPre D e) : n ∈ D := by
  cases e <;> cases hn <;> first | exact he | exact absurd rfl hd

/-- A table id after `_to_pending_results` was there before or belongs to an entry of the result. -/
theorem Announced.tableAnn {p : Pub} {ns : List Node} {r : Pub × List (Node × Nat)}
    (sp : Announced p ns r) {A : List Nat} (h : TableAnn p A) : TableAnn r.1 (A ++ r.2.map (·.2)) := by
  intro j ⟨m, hm⟩
  rcases sp.src m j hm with h1 | h1
  · exact List.mem_append.mpr (Or.inl (h j ⟨m, h1⟩))
  · exact List.mem_append.mpr (Or.inr (List.mem_map_of_mem (f := (·.2)) h1))

/-- The table part of an event whose node, unless the event is a failure, is in the table: no id
is minted. -/
theorem evTable_pre (p : Pub) (n : Node) (d : Bool) (A : List Nat) (ht : TableAnn p A)
    (hn : d = false → ∃ i, alookup p.ids n = some i) : TableAnn (evTable p n d) A := by
  cases d with
  | false =>
    obtain ⟨i, hi⟩ := hn rfl
    simpa [evTable, ensureId_found p n i hi] using ht
  | true =>
    intro j ⟨m, hm⟩
    obtain ⟨h1, h2⟩ := dropId_dom _ n m j hm
    exact (ensureId_dom p n m j h1).elim (fun h3 => ht j ⟨m, h3⟩) (absurd · h2)

/-- Every `incremental` entry carries an id announced by this or an earlier payload (or in `A`);
every `completed` entry carries such an id or is a failed completion. -/
def DataAnnounced : List Nat → List Payload → Prop
  | _, [] => True
  | A, p :: r =>
    (∀ e ∈ p.incremental, e.id ∈ A ++ p.pending.map (·.id)) ∧
    (∀ c ∈ p.completed, c.id ∈ A ++ p.pending.map (·.id) ∨ c.failed = true) ∧
    DataAnnounced (A ++ p.pending.map (·.id)) r

structure PreInv (A : List Nat) (D : List Node) (p : Pub) (c : PCtx) : Prop where
  dom : DomIs p D
  tab : TableAnn p (A ++ c.pending.map (·.id))
  incr : ∀ x ∈ c.incremental, x.id ∈ A ++ c.pending.map (·.id)
  comp : ∀ x ∈ c.completed, x.id ∈ A ++ c.pending.map (·.id) ∨ x.failed = true

theorem PreInv.step {A : List Nat} {D : List Node} {p : Pub} {c : PCtx} (π : PubStatic) (e : WQEvent)
    (h : PreInv A D p c) (he : evPre D e) :
    PreInv A (domStep D e) (handleEvent π p c e).1 (handleEvent π p c e).2 := by
  have hdom := handleEvent_dom π p c e D h.dom
  cases hn : evNode e with
  | none =>
    rw [evNode_none hn, handleEvent_term] at hdom ⊢
    exact ⟨hdom, h.tab, h.incr, h.comp⟩
  | some n =>
    rw [handleEvent_node π p c hn] at hdom ⊢
    -- unless the event is a failure, `_ensure_id` finds the id of `n`
    have inTab : evDone e ≠ some true → ∃ i, alookup p.ids n = some i :=
      fun hd => (h.dom n).mp (evPre_node hn hd he)
    have found : evDone e ≠ some true → ensureId p n = (p, (ensureId p n).2) ∧ live p (ensureId p n).2 := by
      intro hd
      obtain ⟨i, hi⟩ := inTab hd
      rw [ensureId_found p n i hi]; exact ⟨rfl, n, hi⟩
    have t2 := evTable_pre p n (evDone e).isSome _ h.tab (by
      intro hd; apply inTab; intro h; rw [h] at hd; cases hd)
    have sp := toPendingNodes_spec (evTable p n (evDone e).isSome) (evNew e)
    have grow : ∀ i ∈ A ++ c.pending.map (·.id),
        i ∈ A ++ (c.pending ++ (toPendingNodes (evTable p n (evDone e).isSome) (evNew e)).2.map (mkEntry π)).map (·.id) := by
      intro i hi
      rw [List.map_append, ← List.append_assoc]; exact List.mem_append_left _ hi
    refine ⟨hdom, ?_, ?_, ?_⟩
    · simpa [mkEntry, Function.comp_def, List.append_assoc] using sp.tableAnn t2
    · intro x hx
      refine grow _ ((List.mem_append.mp hx).elim (h.incr x) fun hx => ?_)
      have hd : evDone e ≠ some true := by
        intro h; rw [evIncr_done π _ _ (by rw [h]; rfl)] at hx; cases hx
      obtain ⟨e1, e2⟩ := found hd
      rw [e1] at hx
      exact h.tab _ (evIncr_live π p _ e e2 x hx)
    · intro x hx
      refine ((List.mem_append.mp hx).elim (h.comp x) fun hx => ?_).imp_left (grow _)
      obtain ⟨f, hf, rfl⟩ := List.mem_map.mp hx
      cases f with
      | true => exact Or.inr rfl
      | false => exact Or.inl (h.tab _ (found (fun h => by rw [h] at hf; simp at hf)).2)

theorem PreInv.fold {A : List Nat} (π : PubStatic) (evs : List WQEvent) {D : List Node} {p : Pub} {c : PCtx}
    (h : PreInv A D p c) (he : EvsPre D evs) :
    PreInv A (domSteps D evs)
      (handleEvents π p c evs).1
      (handleEvents π p c evs).2 := by
  induction evs generalizing D p c with
  | nil => exact h
  | cons e evs ih =>
    rw [handleEvents_cons]; simp only [List.foldl_cons, domSteps]
    exact ih (h.step π e he.1) he.2

theorem publish_pre (π : PubStatic) (bs : List (List WQEvent)) (p : Pub) (D : List Node) (A : List Nat)
    (hs : DomIs p D) (ht : TableAnn p A) (he : EvsPre D bs.flatten) :
    DataAnnounced A (publish π p bs).2 := by
  induction bs generalizing p D A with
  | nil => simp [publish, DataAnnounced]
  | cons b bs ih =>
    simp only [List.flatten_cons, evsPre_append] at he
    have h : PreInv A (domSteps D b) (handleBatch π p b).1 _ :=
      PreInv.fold π b (c := {}) ⟨hs, by simpa using ht, by simp, by simp⟩ he.1
    simp only [publish, DataAnnounced]
    exact ⟨h.incr, h.comp, ih _ _ _ h.dom h.tab he.2⟩

/-- `DataAnnounced` for the initial result followed by the publisher's output on any batches whose
events find their nodes in the tracked domain. -/
theorem initial_dataAnnounced (π : PubStatic) (gs ss : List Nat) (bs : List (List WQEvent))
    (he : EvsPre (nodesOf gs ss) bs.flatten) :
    DataAnnounced [] ((initialPayload π gs ss).2 :: (publish π (initialPayload π gs ss).1 bs).2) := by
  have hdom := initial_table π gs ss
  have htab := (toPendingNodes_spec {} (nodesOf gs ss)).tableAnn (A := []) (by intro i ⟨n, hn⟩; simp [alookup] at hn)
  rw [initialPayload_nodes] at hdom ⊢
  simp only [DataAnnounced, List.nil_append]
  exact ⟨by simp, by simp, publish_pre π bs _ _ _ hdom (by simpa [mkEntry, Function.comp_def] using htab) he⟩

theorem DataAnnounced.split {A : List Nat} {ps : List Payload} (h : DataAnnounced A ps)
    (pre : List Payload) (pl : Payload) (post : List Payload) (e : ps = pre ++ pl :: post) :
    (∀ x ∈ pl.incremental, x.id ∈ A ++ announcedIds (pre ++ [pl])) ∧
    (∀ x ∈ pl.completed, x.id ∈ A ++ announcedIds (pre ++ [pl]) ∨ x.failed = true) := by
  induction pre generalizing A ps with
  | nil =>
    subst e
    simp only [List.nil_append, DataAnnounced] at h
    have e1 : announcedIds ([] ++ [pl]) = pl.pending.map (·.id) := by simp [announcedIds]
    rw [e1]
    exact ⟨h.1, h.2.1⟩
  | cons q pre ih =>
    subst e
    simp only [List.cons_append, DataAnnounced] at h
    have := ih h.2.2 rfl
    have e1 : announcedIds (q :: pre ++ [pl]) = q.pending.map (·.id) ++ announcedIds (pre ++ [pl]) := by
      simp [announcedIds]
    rw [e1, ← List.append_assoc]
    exact this

end Gql.Async
