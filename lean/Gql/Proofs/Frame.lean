import Gql.Proofs.Forest
/-!
What each operation of the work queue does to the scheduler graph, one lemma per operation.  An
operation that adds no group node and no child is an `Upd` step (`RootFrame`, `Shrink`, no more group
nodes than before and, unless it deletes group nodes, `NodesKept`); `_add_groups` and what is built on
it is a `Grow gs` step (`RootFrame`, `NodesKept`, new group nodes are among `gs`; continued in
Attach.lean).  Each lemma is a composition of the six elementary edits (`Upd.of_eq` … `Upd.eraseTask`, `Grow.setGroup`).  The
operations that change the roots or the pump log are an `Upd` step up to that change, which the
statement spells out: `finishGroupSuccess_roots`, `finishGroupFailure_roots` (a root group finishes:
it leaves the roots, the graph shrinks), `startNewWork_upd`, `startRoots_upd`.
-/
namespace Gql.Async

theorem aerase_length_le {β : Type} (m : List (Nat × β)) (k : Nat) : (aerase m k).length ≤ m.length := by
  unfold aerase; exact List.length_filter_le _ _

theorem aset_length {β : Type} (m : List (Nat × β)) (k : Nat) (v w : β) (h : alookup m k = some w) :
    (aset m k v).length = m.length := by
  induction m with
  | nil => simp [alookup] at h
  | cons a m ih =>
    obtain ⟨k', v'⟩ := a
    by_cases e : k' = k
    · simp [aset, e]
    · have : alookup m k = some w := by simpa [alookup, e] using h
      simp [aset, e, ih this]

/-- The roots, the pump log and `stopped` stay; group nodes go or keep their children, and their map
gets no longer (the measure of the fuel bounds, Fuel.lean); task nodes go, keep their child streams,
or are fresh and empty.  With `keep`, no group node goes. -/
structure Upd (keep : Bool) (q q' : WQ) : Prop where
  frame : RootFrame q q'
  shrink : Shrink q q'
  kept : keep = true → NodesKept q q'
  len : q'.groupNodes.length ≤ q.groupNodes.length

theorem Upd.refl (k : Bool) (q : WQ) : Upd k q q := ⟨.refl q, .refl q, fun _ => .refl q, Nat.le_refl _⟩

theorem Upd.trans {k : Bool} {a b c : WQ} (h1 : Upd k a b) (h2 : Upd k b c) : Upd k a c :=
  ⟨h1.frame.trans h2.frame, h1.shrink.trans h2.shrink, fun e => (h1.kept e).trans (h2.kept e),
    Nat.le_trans h2.len h1.len⟩

theorem Upd.weaken {k : Bool} {q q' : WQ} (h : Upd true q q') : Upd k q q' :=
  ⟨h.frame, h.shrink, fun _ => h.kept rfl, h.len⟩

theorem Good.upd {k : Bool} {σ : Static} {e : EnvSt} {q q' : WQ} (g : Good σ e q) (h : Upd k q q') :
    Good σ e q' :=
  g.shrink h.shrink (fun _ hx => h.frame.rg ▸ hx) (fun _ hx => h.frame.rs ▸ hx)

/-- Only the channel, the deferred callbacks or the log of started tasks change. -/
theorem Upd.of_eq {q q' : WQ} (hg : q'.groupNodes = q.groupNodes) (ht : q'.taskNodes = q.taskNodes)
    (f : RootFrame q q') : Upd true q q' :=
  ⟨f, shrink_of_eq hg ht, fun _ => nodesKept_of_eq hg, Nat.le_of_eq (congrArg _ hg)⟩

/-- `group_node.tasks` / `.pending` change. -/
theorem Upd.setGroup (q : WQ) {g : Nat} {n : GroupNode} (n' : GroupNode)
    (h : alookup q.groupNodes g = some n) (hc : n'.children = n.children) :
    Upd true q { q with groupNodes := aset q.groupNodes g n' } :=
  ⟨⟨rfl, rfl, rfl, rfl⟩, ⟨subGraph_aset q g n n' h hc, tsub_of_eq rfl⟩, fun _ => nodesKept_aset q g n',
    Nat.le_of_eq (aset_length _ g n' n h)⟩

theorem Upd.eraseGroup (q : WQ) (g : Nat) : Upd false q { q with groupNodes := aerase q.groupNodes g } :=
  ⟨⟨rfl, rfl, rfl, rfl⟩, ⟨subGraph_erase q g, tsub_of_eq rfl⟩, nofun, aerase_length_le _ g⟩

/-- A task node is written: a fresh empty one, or one with the child streams of the old one. -/
theorem Upd.setTask (q q' : WQ) (t : Nat) (tn' : TaskNode) (hg : q'.groupNodes = q.groupNodes)
    (ht : q'.taskNodes = aset q.taskNodes t tn') (f : RootFrame q q')
    (hc : tn'.childStreams = [] ∨ ∃ tn, alookup q.taskNodes t = some tn ∧ tn'.childStreams = tn.childStreams) :
    Upd true q q' := by
  refine ⟨f, ⟨subGraph_of_eq hg, fun x tx hx => ?_⟩, fun _ => nodesKept_of_eq hg, Nat.le_of_eq (congrArg _ hg)⟩
  rcases alookup_aset_some (ht ▸ hx) with ⟨rfl, rfl⟩ | hx
  · exact hc
  · exact Or.inr ⟨tx, hx, rfl⟩

theorem Upd.eraseTask (q q' : WQ) (t : Nat) (hg : q'.groupNodes = q.groupNodes)
    (ht : q'.taskNodes = aerase q.taskNodes t) (f : RootFrame q q') : Upd true q q' :=
  ⟨f, ⟨subGraph_of_eq hg, fun _ tx hx => Or.inr ⟨tx, alookup_aerase_some (ht ▸ hx), rfl⟩⟩,
    fun _ => nodesKept_of_eq hg, Nat.le_of_eq (congrArg _ hg)⟩

theorem push_upd (q : WQ) (ev : GraphEvent) : Upd true q (push q ev) := by
  unfold push; split
  · exact .refl _ q
  · exact .of_eq rfl rfl ⟨rfl, rfl, rfl, rfl⟩

theorem startTask_upd (σ : Static) (q : WQ) (t : Nat) : Upd true q (startTask σ q t) := by
  unfold startTask
  split
  · exact .refl _ q
  · have h1 : Upd true q ({ q with taskNodes := aset q.taskNodes t {}, started := q.started ++ [t] } : WQ) :=
      .setTask q _ t {} rfl rfl ⟨rfl, rfl, rfl, rfl⟩ (Or.inl rfl)
    simp only
    split
    · exact h1.trans (push_upd _ _)
    · exact h1.trans (push_upd _ _)
    · exact h1
    · exact h1.trans (.of_eq rfl rfl ⟨rfl, rfl, rfl, rfl⟩)
    · exact h1.trans (.of_eq rfl rfl ⟨rfl, rfl, rfl, rfl⟩)

theorem startGroup_upd (σ : Static) (q : WQ) (g : Nat) : Upd true q (startGroup σ q g) := by
  unfold startGroup
  split
  · exact foldl_rel (Upd true) (.refl _) .trans _ _ _ (startTask_upd σ)
  · exact .refl _ q

theorem addTaskStep_upd (σ : Static) (t : Nat) (q : WQ) (g : Nat) : Upd true q (addTaskStep σ t q g) := by
  unfold addTaskStep
  split
  · rename_i n hn
    have h1 := Upd.setGroup q { n with tasks := oinsert n.tasks t, pending := n.pending + 1 } hn rfl
    simp only
    split
    · exact h1.trans (startTask_upd σ _ t)
    · exact h1
  · exact .refl _ q

theorem addTask_upd (σ : Static) (q : WQ) (t : Nat) : Upd true q (addTask σ q t) :=
  foldl_rel (Upd true) (.refl _) .trans _ _ _ (addTaskStep_upd σ t)

theorem setTaskValue_upd (q : WQ) (t : Nat) (v : GVal) : Upd true q (setTaskValue q t v) := by
  unfold setTaskValue
  split
  · rename_i tn htn
    exact .setTask q _ t _ rfl rfl ⟨rfl, rfl, rfl, rfl⟩ (Or.inr ⟨tn, htn, rfl⟩)
  · exact .refl _ q

theorem removeTask_upd (σ : Static) (q : WQ) (t : Nat) : Upd true q (removeTask σ q t) := by
  -- first the loop over the task's groups, then `del self._task_nodes[task]`
  refine .trans (b := { q with groupNodes := (removeTask σ q t).groupNodes }) ?_
    (.eraseTask _ _ t rfl rfl ⟨rfl, rfl, rfl, rfl⟩)
  refine foldl_rel (fun gn gn' => Upd true { q with groupNodes := gn } { q with groupNodes := gn' })
    (fun _ => .refl _ _) .trans _ (σ.tgroups t) q.groupNodes fun gn g => ?_
  split
  · rename_i n hn
    exact .setGroup { q with groupNodes := gn } { n with tasks := oerase n.tasks t } hn rfl
  · exact .refl _ _

theorem dropOrphanTask_upd (σ : Static) (q : WQ) (t : Nat) : Upd true q (dropOrphanTask σ q t) := by
  unfold dropOrphanTask
  split
  · exact removeTask_upd σ q t
  · exact .refl _ q

theorem dropOrphans_upd (σ : Static) (ts : List Nat) (q : WQ) : Upd true q (ts.foldl (dropOrphanTask σ) q) :=
  foldl_rel (Upd true) (.refl _) .trans _ ts q (dropOrphanTask_upd σ)

theorem collectTask_upd (σ : Static) (acc : WQ × List GVal × List Nat) (t : Nat) :
    Upd true acc.1 (collectTask σ acc t).1 := by
  unfold collectTask
  split
  · exact removeTask_upd σ _ t
  · exact .refl _ _

theorem collect_upd (σ : Static) (ts : List Nat) (acc : WQ × List GVal × List Nat) :
    Upd true acc.1 (ts.foldl (collectTask σ) acc).1 :=
  foldl_rel1 (Upd true) (.refl _) .trans _ ts acc (collectTask_upd σ)

theorem collect_kept (σ : Static) (ts : List Nat) (acc : WQ × List GVal × List Nat) :
    NodesKept acc.1 (ts.foldl (collectTask σ) acc).1 :=
  (collect_upd σ ts acc).kept rfl

theorem removeGroup_upd (σ : Static) (fuel : Nat) (q : WQ) (g : Nat) (n : GroupNode) :
    Upd false q (removeGroup σ fuel q g n) := by
  induction fuel generalizing q g n with
  | zero => exact .refl _ q
  | succ f ih =>
    unfold removeGroup
    simp only
    refine (Upd.eraseGroup q g).trans ?_
    refine (dropOrphans_upd σ n.tasks _).weaken.trans ?_
    refine foldl_rel (Upd false) (.refl _) .trans _ n.children _ ?_
    intro q c
    split
    · exact ih _ _ _
    · exact .refl _ q

theorem prune_upd (fuel : Nat) (gs : List Nat) (st : WQ × List Nat) : Upd false st.1 (prune fuel gs st).1 := by
  induction fuel generalizing gs st with
  | zero => exact .refl _ _
  | succ n ih =>
    unfold prune
    refine foldl_rel1 (Upd false) (.refl _) .trans _ gs st ?_
    intro st g
    split
    · exact .refl _ _
    · split
      · exact .refl _ _
      · exact (Upd.eraseGroup st.1 g).trans (ih _ (_, st.2))

theorem pruneEmpty_upd (q : WQ) (gs : List Nat) : Upd false q (pruneEmpty q gs).1 := prune_upd _ gs (q, [])

/-- The queue `_finish_group_success` prunes: the node of `g` deleted and its tasks collected. -/
def collected (σ : Static) (q : WQ) (g : Nat) (n : GroupNode) : WQ × List GVal × List Nat :=
  n.tasks.foldl (collectTask σ) ({ q with groupNodes := aerase q.groupNodes g }, [], [])

theorem collected_upd (σ : Static) (q : WQ) (g : Nat) (n : GroupNode) : Upd false q (collected σ q g n).1 :=
  (Upd.eraseGroup q g).trans (collect_upd σ n.tasks (_, [], [])).weaken

/-- `_finish_group_success` on any queue (the node of `g` goes, its tasks are collected, the emptied
children are pruned): `g` leaves the roots, the streams' side of the roots stays, the graph shrinks. -/
theorem finishGroupSuccess_roots (σ : Static) (q : WQ) (g : Nat) (n : GroupNode) :
    (finishGroupSuccess σ q g n).1.rootGroups = oerase q.rootGroups g ∧
    StreamFrame q (finishGroupSuccess σ q g n).1 ∧ Shrink q (finishGroupSuccess σ q g n).1 := by
  have hu := (collected_upd σ q g n).trans (pruneEmpty_upd _ n.children)
  unfold finishGroupSuccess
  exact ⟨congrArg (oerase · g) hu.frame.rg, ⟨hu.frame.rs, hu.frame.st, hu.frame.pm⟩,
    hu.shrink.trans (shrink_of_eq rfl rfl)⟩

/-- `_finish_group_failure`: the same, with the one event it emits. -/
theorem finishGroupFailure_roots (σ : Static) (q : WQ) (g : Nat) (n : GroupNode) :
    (finishGroupFailure σ q g n).1.rootGroups = oerase q.rootGroups g ∧
    StreamFrame q (finishGroupFailure σ q g n).1 ∧ Shrink q (finishGroupFailure σ q g n).1 ∧
    (finishGroupFailure σ q g n).2 = .groupFailure g := by
  have hu := removeGroup_upd σ (q.groupNodes.length + 1) q g n
  unfold finishGroupFailure
  exact ⟨congrArg (oerase · g) hu.frame.rg, ⟨hu.frame.rs, hu.frame.st, hu.frame.pm⟩,
    hu.shrink.trans (shrink_of_eq rfl rfl), rfl⟩

/-- The effect of the growing operations: roots, pump log and flag stay, every group node stays, and
a new group node is one of `gs`. -/
structure Grow (gs : List Nat) (q q' : WQ) : Prop where
  frame : RootFrame q q'
  kept : NodesKept q q'
  nodes : ∀ k, hasNode q' k → k ∈ gs ∨ hasNode q k

theorem Grow.refl (gs : List Nat) (q : WQ) : Grow gs q q := ⟨.refl q, .refl q, fun _ h => Or.inr h⟩

theorem Grow.trans {gs : List Nat} {a b c : WQ} (h1 : Grow gs a b) (h2 : Grow gs b c) : Grow gs a c :=
  ⟨h1.frame.trans h2.frame, h1.kept.trans h2.kept,
    fun k h => (h2.nodes k h).elim Or.inl (h1.nodes k)⟩

theorem Grow.mono {gs gs' : List Nat} {q q' : WQ} (h : Grow gs q q') (hs : ∀ x ∈ gs, x ∈ gs') : Grow gs' q q' :=
  ⟨h.frame, h.kept, fun k hk => (h.nodes k hk).imp_left (hs k)⟩

theorem Upd.grow {gs : List Nat} {q q' : WQ} (h : Upd true q q') : Grow gs q q' :=
  ⟨h.frame, h.kept rfl, fun _ hk => Or.inr (h.shrink.sub.hasNode hk)⟩

/-- `d[g] = n`, where `g` is one of `gs` or has a node already: the elementary growing edit. -/
theorem Grow.setGroup {gs : List Nat} (q : WQ) (g : Nat) (n : GroupNode) (h : g ∈ gs ∨ hasNode q g) :
    Grow gs q { q with groupNodes := aset q.groupNodes g n } := by
  refine ⟨⟨rfl, rfl, rfl, rfl⟩, nodesKept_aset q g n, fun k ⟨m, hm⟩ => ?_⟩
  rcases alookup_aset_some hm with ⟨rfl, _⟩ | hm
  · exact h
  · exact Or.inr ⟨m, hm⟩

theorem attachGroup_grow (σ : Static) (hpt : Bool) (g : Nat) (r : WQ × List Nat) :
    Grow [g] r.1 (attachGroup σ hpt g r).1 := by
  unfold attachGroup
  simp only
  have h1 : Grow [g] r.1 _ := .setGroup r.1 g {} (Or.inl (.head _))
  split
  · split <;> exact h1
  · split
    · exact h1.trans (.setGroup _ _ _ (Or.inr ⟨_, ‹_›⟩))  -- the parent has a node already
    · exact h1

theorem addStreams_grow (gs : List Nat) (q : WQ) (ss : List Nat) (pt : Option Nat) :
    Grow gs q (addStreams q ss pt).1 := by
  unfold addStreams
  split
  · exact .refl _ q
  · split
    · exact ⟨⟨rfl, rfl, rfl, rfl⟩, nodesKept_of_eq rfl, fun _ h => Or.inr h⟩
    · exact .refl _ q

/-- `Upd` does not look at what the root groups are, only that they stay. -/
theorem Upd.setRoots {k : Bool} {q q' : WQ} (h : Upd k q q') (X : List Nat) :
    Upd k { q with rootGroups := X } { q' with rootGroups := X } :=
  ⟨⟨rfl, h.frame.rs, h.frame.st, h.frame.pm⟩, ⟨h.shrink.sub, h.shrink.tsub⟩, h.kept, h.len⟩

/-- `_start_new_work`: the new root groups are entered and their tasks started, then the new root
streams are entered and their pumps started. -/
theorem startNewWork_upd (σ : Static) (q : WQ) (ngs nss : List Nat) :
    ∃ u, Upd true { q with rootGroups := ngs.foldl oinsert q.rootGroups } u ∧
      startNewWork σ q ngs nss =
        { u with rootStreams := nss.foldl oinsert u.rootStreams, pumps := u.pumps ++ nss } := by
  have groups : ∀ (l : List Nat) (q : WQ), Upd true { q with rootGroups := l.foldl oinsert q.rootGroups }
      (l.foldl (fun q g => startGroup σ { q with rootGroups := oinsert q.rootGroups g } g) q) := by
    intro l
    induction l with
    | nil => intro q; exact .refl _ q
    | cons g l ih =>
      intro q
      have u1 := startGroup_upd σ { q with rootGroups := oinsert q.rootGroups g } g
      have u2 := ih (startGroup σ { q with rootGroups := oinsert q.rootGroups g } g)
      rw [u1.frame.rg] at u2
      exact (u1.setRoots _).trans u2
  have streams : ∀ (l : List Nat) (q : WQ),
      l.foldl (fun q s => startStream { q with rootStreams := oinsert q.rootStreams s } s) q =
        { q with rootStreams := l.foldl oinsert q.rootStreams, pumps := q.pumps ++ l } := by
    intro l
    induction l with
    | nil => intro q; simp
    | cons s l ih => intro q; rw [List.foldl_cons, ih]; simp [startStream]
  exact ⟨_, groups ngs q, streams nss _⟩

theorem startNewWork_roots (σ : Static) (q : WQ) (ngs nss : List Nat) :
    (startNewWork σ q ngs nss).rootGroups = ngs.foldl oinsert q.rootGroups ∧
    (startNewWork σ q ngs nss).rootStreams = nss.foldl oinsert q.rootStreams ∧
    (startNewWork σ q ngs nss).stopped = q.stopped ∧
    (startNewWork σ q ngs nss).pumps = q.pumps ++ nss := by
  obtain ⟨u, hu, e⟩ := startNewWork_upd σ q ngs nss
  rw [e]
  exact ⟨hu.frame.rg, by simp only; rw [hu.frame.rs], hu.frame.st, by simp only; rw [hu.frame.pm]⟩

theorem startNewWork_graph (σ : Static) (q : WQ) (ngs nss : List Nat) :
    Shrink q (startNewWork σ q ngs nss) ∧ NodesKept q (startNewWork σ q ngs nss) := by
  obtain ⟨u, hu, e⟩ := startNewWork_upd σ q ngs nss
  rw [e]
  exact ⟨⟨hu.shrink.sub, hu.shrink.tsub⟩, hu.kept rfl⟩

/-- The start of `events()`: the tasks of the root groups are started, and a pump for every root stream. -/
theorem startRoots_upd (σ : Static) (q : WQ) :
    ∃ u, Upd true q u ∧ startRoots σ q = { u with pumps := u.pumps ++ u.rootStreams } := by
  have pumps : ∀ (l : List Nat) (q : WQ), l.foldl startStream q = { q with pumps := q.pumps ++ l } := by
    intro l
    induction l with
    | nil => intro q; simp
    | cons s l ih => intro q; rw [List.foldl_cons, ih]; simp [startStream]
  exact ⟨_, foldl_rel (Upd true) (.refl _) .trans _ q.rootGroups q (startGroup_upd σ), pumps _ _⟩

theorem mem_oinsert (xs : List Nat) (x y : Nat) : y ∈ oinsert xs x ↔ y ∈ xs ∨ y = x := by
  unfold oinsert
  split
  · exact ⟨Or.inl, fun h => h.elim id (· ▸ ‹_›)⟩
  · simp

theorem mem_foldl_oinsert (l xs : List Nat) (x : Nat) :
    x ∈ l.foldl oinsert xs ↔ x ∈ xs ∨ x ∈ l := by
  induction l generalizing xs with
  | nil => simp
  | cons a l ih => simp only [List.foldl_cons, ih, mem_oinsert, List.mem_cons, or_assoc]

theorem mem_oerase (xs : List Nat) (x y : Nat) : y ∈ oerase xs x ↔ y ∈ xs ∧ y ≠ x := by
  unfold oerase; simp

end Gql.Async
