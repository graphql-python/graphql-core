import Gql.Proofs.ValueParse
import Gql.Proofs.TypeParse
import Gql.Proofs.PrintFields
/-!
Assembly for values: the parser model on the source text, and the printer model on the parser's
tree.
-/
namespace Gql.Syntax
open Gql Gql.Text

/-- **Round trip for values at the source level**: parsing the printed text of a well-formed value
(`Val.wfP`: string values may hold verbatim surrogate pairs) with `parse_value` (`c = false`) /
`parse_const_value` (`c = true`) rebuilds the tree. -/
theorem parseSource_value_printP (cfg : Cfg) (hm : cfg.maxTokens = none) (w : Widths) (hw : 4 ≤ w.object)
    (hT : tableOK Generated.escapeTable = true) (hC : tableComplete Generated.escapeTable = true)
    (c : Bool) (v : Val) (hwf : Val.wfP c v) :
    parseSource (if c then .constValue else .value) cfg (Val.print w v) = .ok v.toAst := by
  have hlex := (pcV w hw c hT hC v hwf).lex 0
  rw [indentLF_zero] at hlex
  have hp : Parses (v.kvs.length + 3)
      (do let _ ← expectToken cfg .sof
          let x ← valueLit (v.kvs.length + 3) cfg c
          let _ ← expectToken cfg .eof
          pure x) ((.sof, none) :: v.kvs) v.toAst (· = (.eof, none)) :=
    Parses.tok cfg hm .sof none (by decide) fun _ _ =>
      Parses.bind_nil (parses_valueP cfg hm c _ v hwf anyKV)
        (Parses.eof cfg fun _ => Parses.pure _ _) fun _ _ => trivial
  cases c
  · exact parseSource_of_parses cfg .value (by decide) hlex hp
  · exact parseSource_of_parses cfg .constValue (by decide) hlex hp

theorem parseSource_value_print (cfg : Cfg) (hm : cfg.maxTokens = none) (w : Widths) (hw : 4 ≤ w.object)
    (hT : tableOK Generated.escapeTable = true) (hC : tableComplete Generated.escapeTable = true)
    (c : Bool) (v : Val) (hwf : Val.wf c v) :
    parseSource (if c then .constValue else .value) cfg (Val.print w v) = .ok v.toAst :=
  parseSource_value_printP cfg hm w hw hT hC c v (Val.wfP_of_wf c v hwf)

end Gql.Syntax

namespace Gql.Text
open Gql Gql.Syntax

theorem prNameNode (w : Widths) (n : List Nat) : pr w (Val.nameNode n) = .ok (.text n) :=
  pr_rawValue (leave_NameNode w) n

mutual
  /-- The printer model on the parser's tree of a value prints `Val.print`. -/
  theorem prV (w : Widths) (v : Val) : pr w v.toAst = .ok (.text (Val.print w v)) := by
    match v with
    | .var n =>
      refine pr_node (prFields_cons (prNameNode w n) prFields_nil) ?_
      simp only [printed_fields, leave_VariableNode, Val.print]
    | .int s => exact pr_rawValue (leave_IntValueNode w) s
    | .float s => exact pr_rawValue (leave_FloatValueNode w) s
    | .enum n => exact pr_rawValue (leave_EnumValueNode w) n
    | .str s b =>
      refine pr_node (prFields_cons (pr_str s) <| prFields_cons (pr_bool b) prFields_nil) ?_
      simp only [printed_fields, String.reduceEq, leave_StringValueNode, Val.print]
    | .bool b =>
      refine pr_node (prFields_cons (pr_bool b) prFields_nil) ?_
      simp only [printed_fields, leave_BooleanValueNode, Val.print]
    | .null =>
      refine pr_node prFields_nil ?_
      simp only [printed_fields, leave_NullValueNode, Val.print]
    | .list vs =>
      refine pr_node (prFields_cons (pr_list (prL w vs)) prFields_nil) ?_
      simp only [printed_fields, leave_ListValueNode, Val.print]
    | .obj fs =>
      refine pr_node (prFields_cons (pr_list (prF w fs)) prFields_nil) ?_
      simp only [printed_fields, leave_ObjectValueNode, Val.print]
  theorem prL (w : Widths) (vs : List Val) : prList w (Val.toAstList vs) = .ok (Val.printList w vs) := by
    match vs with
    | [] => exact prList_nil
    | v :: vs' => exact prList_cons (prV w v) (prL w vs')
  theorem prF (w : Widths) (fs : List (List Nat × Val)) :
      prList w (Val.toAstFields fs) = .ok (Val.printFields w fs) := by
    match fs with
    | [] => exact prList_nil
    | (n, v) :: fs' =>
      refine prList_cons (pr_node (prFields_cons (prNameNode w n) <| prFields_cons (prV w v) prFields_nil) ?_)
        (prF w fs')
      simp only [printed_fields, String.reduceEq, leave_ObjectFieldNode]
end

theorem printAst_val (w : Widths) (v : Val) : printAst w v.toAst = .ok (Val.print w v) :=
  printAst_of_pr (prV w v)

end Gql.Text
