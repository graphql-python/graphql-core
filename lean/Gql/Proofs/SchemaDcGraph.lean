import Gql.Proofs.SchemaNeed
import Gql.Proofs.SchemaGraph
import Gql.Proofs.SchemaValidate
import Gql.Proofs.Util.Assoc
/-!
Lemmas for C20: the graph of default values (`dcGraph`) — from an input field with a default to
the input fields whose own default is applied when that default is coerced — and the
well-formedness of raw schemas under which a coordinate `T.f` names one field.
-/
namespace Gql.Types
open Gql

/-- the fields whose default is applied when the default of `n` is coerced -/
def succD (s : RawSchema) (n : DNode) : List DNode :=
  match n.f.default with
  | none => []
  | some lit => need s lit n.m

def EdgeD (s : RawSchema) (n n' : DNode) : Prop := n' ∈ succD s n

/-- a field of an input object type of the schema whose named type is an input object -/
def NodeOK (s : RawSchema) (n : DNode) : Prop :=
  ∃ tn fields o, s.lookup tn = some (.input fields o) ∧ n.f ∈ fields ∧
    n.m = n.f.type.namedType ∧ s.isInputObject n.m = true ∧ n.c = dot tn n.f.name

def Live (n : DNode) : Prop := n.f.default.isSome = true

theorem edge_live {s : RawSchema} {n n' : DNode} (h : EdgeD s n n') : Live n := by
  unfold EdgeD succD at h
  unfold Live
  cases hd : n.f.default with
  | none => simp [hd] at h
  | some _ => rfl

theorem needObject_ok (s : RawSchema) (tn : Str) (subs : List (Str × (Str → List DNode)))
    (hsubs : ∀ k h, lookupLast subs k = some h → ∀ m n, n ∈ h m → NodeOK s n) :
    ∀ n ∈ needObject s tn subs, NodeOK s n := by
  intro n hn
  unfold needObject at hn
  split at hn
  · rename_i fields o hl
    obtain ⟨f, hf, hn⟩ := List.mem_flatMap.mp hn
    by_cases hi : s.isInputObject f.type.namedType = true
    · simp only [hi, Bool.not_true, Bool.false_eq_true, ↓reduceIte] at hn
      split at hn
      · rename_i g hg; exact hsubs _ g hg _ n hn
      · simp only [List.mem_singleton] at hn
        subst hn
        exact ⟨tn, fields, o, hl, hf, rfl, hi, rfl⟩
    · simp only [Bool.not_eq_true] at hi
      simp [hi] at hn
  · simp at hn

mutual
theorem need_ok (s : RawSchema) : ∀ (lit : Lit) (tn : Str) (n : DNode), n ∈ need s lit tn → NodeOK s n
  | .list xs, tn, n, h => by unfold need at h; exact needs_ok s xs tn n h
  | .obj fs, tn, n, h => by
    unfold need at h
    exact needObject_ok s tn _ (needEntries_ok s fs) n h
  | .null, _, _, h | .int _, _, _, h | .float, _, _, h | .str, _, _, h | .bool, _, _, h
  | .enum _, _, _, h => by simp [need] at h
theorem needs_ok (s : RawSchema) : ∀ (xs : List Lit) (tn : Str) (n : DNode), n ∈ needs s xs tn → NodeOK s n
  | [], _, _, h => by simp [needs] at h
  | x :: xs, tn, n, h => by
    unfold needs at h
    rcases List.mem_append.mp h with h | h
    · exact need_ok s x tn n h
    · exact needs_ok s xs tn n h
theorem needEntries_ok (s : RawSchema) : ∀ (fs : List (Str × Lit)) (k : Str) (h : Str → List DNode),
    lookupLast (needEntries s fs) k = some h → ∀ m n, n ∈ h m → NodeOK s n
  | [], k, h, hl => by simp [needEntries, lookupLast] at hl
  | e :: rest, k, h, hl => by
    unfold needEntries at hl
    rcases lookupLast_cons_some hl with h' | rfl
    · exact needEntries_ok s rest k h h'
    · exact fun m n hn => need_ok s e.2 m n hn
end

theorem succD_ok {s : RawSchema} {n n' : DNode} (h : EdgeD s n n') : NodeOK s n' := by
  unfold EdgeD succD at h
  cases hd : n.f.default with
  | none => simp [hd] at h
  | some lit => rw [hd] at h; exact need_ok s lit n.m n' h

/-- What construction guarantees (`assert_name`, dict keys): type names contain no `.`, and the
field names of an input object type are pairwise different. -/
def NamesWF (s : RawSchema) : Prop :=
  (∀ t ∈ s.types, (46 : Nat) ∉ t.name) ∧
  (∀ t ∈ s.types, ∀ fs o, t.defn = .input fs o → (fs.map (·.name)).Nodup)

/-- the type name of a coordinate `T.f` is what precedes its first dot -/
theorem dot_inj (a a' b b' : Str) (h1 : (46 : Nat) ∉ a) (h2 : (46 : Nat) ∉ a') (h : dot a b = dot a' b') :
    a = a' ∧ b = b' := by
  have tw : ∀ (a b : Str), (46 : Nat) ∉ a → (dot a b).takeWhile (· != 46) = a := fun a b ha => by
    rw [dot, List.append_assoc, List.takeWhile_append_of_pos fun x hx => by
      simpa using fun e : x = 46 => ha (e ▸ hx)]
    simp
  have ha : a = a' := by rw [← tw a b h1, h, tw a' b' h2]
  subst ha
  exact ⟨rfl, by simpa [dot] using h⟩

theorem name_inj_of_nodup {fs : List InputValue} (hnd : (fs.map (·.name)).Nodup) {f g : InputValue}
    (hf : f ∈ fs) (hg : g ∈ fs) (h : f.name = g.name) : f = g := by
  have hn : ((fs.map fun f => (f.name, f)).map (·.1)).Nodup := by rwa [List.map_map]
  have hf := List.lookup_of_mem_nodup hn (List.mem_map_of_mem hf)
  rw [h, List.lookup_of_mem_nodup hn (List.mem_map_of_mem hg)] at hf
  exact (Option.some.inj hf).symm

theorem node_inj {s : RawSchema} (hwf : NamesWF s) {n n' : DNode} (h1 : NodeOK s n) (h2 : NodeOK s n')
    (hc : n.c = n'.c) : n = n' := by
  obtain ⟨f, m, c⟩ := n
  obtain ⟨f', m', c'⟩ := n'
  obtain ⟨tn, fields, o, hl, hf, hm, _, hcc⟩ := h1
  obtain ⟨tn', fields', o', hl', hf', hm', _, hcc'⟩ := h2
  obtain ⟨t, ht, hn, hd⟩ := lookup_mem hl
  obtain ⟨t', ht', hn', _⟩ := lookup_mem hl'
  obtain ⟨rfl, hname⟩ := dot_inj tn tn' f.name f'.name (hn ▸ hwf.1 t ht) (hn' ▸ hwf.1 t' ht')
    (hcc ▸ hcc' ▸ hc)
  obtain ⟨rfl, rfl⟩ : fields = fields' ∧ o = o' := by simpa [hl] using hl'
  obtain rfl := name_inj_of_nodup (hwf.2 t ht fields o hd) hf hf' hname
  exact congr (congrArg _ (hm.trans hm'.symm)) hc

def coordUniverse (s : RawSchema) : List Str :=
  s.types.flatMap (fun t =>
    match t.defn with
    | .input fs _ => fs.map (fun f => dot t.name f.name)
    | _ => [])

theorem coordUniverse_length (s : RawSchema) : (coordUniverse s).length + 1 = dcFuel s := by
  unfold coordUniverse dcFuel
  rw [List.length_flatMap]
  congr 3
  funext t
  cases t.defn <;> simp

theorem node_mem_universe {s : RawSchema} {n : DNode} (h : NodeOK s n) : n.c ∈ coordUniverse s := by
  obtain ⟨tn, fields, o, hl, hf, _, _, hcc⟩ := h
  obtain ⟨t, ht, hn, hd⟩ := lookup_mem hl
  unfold coordUniverse
  refine List.mem_flatMap.mpr ⟨t, ht, ?_⟩
  rw [hd]
  exact List.mem_map.mpr ⟨n.f, hf, by rw [hcc, hn]⟩

/-- the default-value graph; the validator marks coordinates `T.f` -/
def dcGraph (s : RawSchema) : Graph DNode where
  key := (·.c)
  E := EdgeD s
  OK := NodeOK s
  Live := Live
  kind := .defaultCycle
  ok_succ := succD_ok
  live_src := edge_live

theorem dcGraph_inj {s : RawSchema} (hwf : NamesWF s) : (dcGraph s).Inj :=
  fun _ _ ha hb h => node_inj hwf ha hb h

end Gql.Types
