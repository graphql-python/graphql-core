import Gql.Proofs.OverlapFlat
import Gql.Proofs.OverlapPairSet
/-! C14, implementation side: `collect_fields_and_fragment_spreads` — the field map is the flat
list of field instances grouped by response name (`grp`, and what `collect_conflicts_within` /
`collect_conflicts_between` iterate over), the spread list is the list of direct spreads,
de-duplicated by key (`collectSel_gen`). -/
namespace Gql.Exec
open Overlap

def rnE (e : FieldEntry) : String := e.node.responseName

/-- `node_and_defs.get(k)` or the empty list -/
def look (m : List (String × List FieldEntry)) (k : String) : List FieldEntry :=
  (assocGet m k).getD []

def grp (m : List (String × List FieldEntry)) (es : List FieldEntry) :
    List (String × List FieldEntry) :=
  es.foldl (fun m e => addEntry m (rnE e) e) m

/-- `node_and_defs[k].append(e)`: the list under `k` grows by `e` (from empty if there was none),
the others stay -/
theorem assocGet_addEntry (m : List (String × List FieldEntry)) (k k' : String) (e : FieldEntry) :
    assocGet (addEntry m k e) k' = if k = k' then some (look m k' ++ [e]) else assocGet m k' := by
  induction m with
  | nil => by_cases h : k = k' <;> simp [addEntry, look, assocGet, h]
  | cons x xs ih =>
    obtain ⟨k0, l0⟩ := x
    simp only [addEntry]
    by_cases h0 : k0 = k
    · subst h0
      by_cases h : k0 = k' <;> simp [look, assocGet, h]
    · by_cases h1 : k0 = k'
      · subst h1
        simp [h0, assocGet, Ne.symm h0]
      · simp only [assocGet, look] at ih
        simp [h0, assocGet, h1, look, ih]

theorem assocGet_grp (es : List FieldEntry) : ∀ (m : List (String × List FieldEntry)) (k : String),
    assocGet (grp m es) k =
      if es.filter (fun e => rnE e == k) = [] then assocGet m k
      else some (look m k ++ es.filter (fun e => rnE e == k)) := by
  induction es with
  | nil => simp [grp]
  | cons e es ih =>
    intro m k
    simp only [grp, List.foldl_cons] at ih ⊢
    rw [ih, List.filter_cons]
    by_cases h : rnE e = k <;> simp [h, look, assocGet_addEntry]

/-- the field map of a list of entries: under `k`, the entries of response name `k`, in order, if
there are any -/
theorem grp_get {es : List FieldEntry} {k : String} {l : List FieldEntry} :
    assocGet (grp [] es) k = some l ↔ l = es.filter (fun e => rnE e == k) ∧ l ≠ [] := by
  rw [assocGet_grp]
  split
  · next h => simpa [assocGet] using fun e => h ▸ e
  · next h => exact ⟨fun e => Option.some.inj e ▸ ⟨rfl, h⟩, fun e => e.1 ▸ rfl⟩

def keysOf (m : List (String × List FieldEntry)) : List String := m.map (·.1)

theorem keysOf_addEntry (m : List (String × List FieldEntry)) (k : String) (e : FieldEntry) :
    keysOf (addEntry m k e) = if k ∈ keysOf m then keysOf m else keysOf m ++ [k] := by
  induction m with
  | nil => simp [addEntry, keysOf]
  | cons x xs ih =>
    obtain ⟨k0, l0⟩ := x
    simp only [addEntry]
    by_cases h0 : (k0 == k) = true
    · have e0 : k0 = k := by simpa using h0
      simp [keysOf, e0]
    · have h0' : (k0 == k) = false := by simpa using h0
      have hne : ¬ k = k0 := fun e => h0 (by simp [e])
      simp only [h0', Bool.false_eq_true, if_false, keysOf, List.map_cons, List.mem_cons, hne,
        false_or] at ih ⊢
      rw [ih]
      by_cases hk : k ∈ List.map (fun x => x.fst) xs <;> simp [hk]

theorem nodup_keys_addEntry {m : List (String × List FieldEntry)} (h : (keysOf m).Nodup)
    (k : String) (e : FieldEntry) : (keysOf (addEntry m k e)).Nodup := by
  rw [keysOf_addEntry]
  split
  · exact h
  · rename_i hk
    rw [List.nodup_append]
    refine ⟨h, by simp, ?_⟩
    intro a ha b hb
    simp only [List.mem_singleton] at hb
    subst hb
    exact fun e => hk (e ▸ ha)

theorem nodup_keys_grp (es : List FieldEntry) :
    ∀ (m : List (String × List FieldEntry)), (keysOf m).Nodup → (keysOf (grp m es)).Nodup := by
  induction es with
  | nil => exact fun m h => h
  | cons e es ih =>
    intro m h
    simp only [grp, List.foldl_cons] at ih ⊢
    exact ih _ (nodup_keys_addEntry h _ _)

theorem mem_grp {es : List FieldEntry} {k : String} {l : List FieldEntry} :
    (k, l) ∈ grp [] es ↔ l = es.filter (fun e => rnE e == k) ∧ l ≠ [] :=
  ⟨fun h => grp_get.1 (assocGet_of_mem_nodup (nodup_keys_grp es [] (by simp [keysOf])) h),
    fun h => mem_of_assocGet (grp_get.2 h)⟩

theorem Spec.pairsOf_filter {α : Type} (f : α → Bool) (xs : List α) (p : α × α) :
    p ∈ Spec.pairsOf (xs.filter f) ↔ p ∈ Spec.pairsOf xs ∧ f p.1 = true ∧ f p.2 = true := by
  induction xs with
  | nil => simp [Spec.pairsOf]
  | cons x xs ih =>
    by_cases hx : f x = true
    · simp only [List.filter_cons, hx, if_true, Spec.pairsOf, List.mem_append, List.mem_map,
        List.mem_filter, ih]
      constructor
      · rintro (⟨y, ⟨hy, hfy⟩, rfl⟩ | ⟨h1, h2⟩)
        · exact ⟨Or.inl ⟨y, hy, rfl⟩, hx, hfy⟩
        · exact ⟨Or.inr h1, h2⟩
      · rintro ⟨⟨y, hy, rfl⟩ | h1, h2, h3⟩
        · exact Or.inl ⟨y, ⟨hy, h3⟩, rfl⟩
        · exact Or.inr ⟨h1, h2, h3⟩
    · have hx' : f x = false := by simpa using hx
      simp only [List.filter_cons, hx', Bool.false_eq_true, if_false, Spec.pairsOf,
        List.mem_append, List.mem_map, ih]
      constructor
      · rintro ⟨h1, h2⟩
        exact ⟨Or.inr h1, h2⟩
      · rintro ⟨⟨y, hy, rfl⟩ | h1, h2, h3⟩
        · simp [hx'] at h2
        · exact ⟨h1, h2, h3⟩

theorem mem_betweenPairs_grp {i j : Nat} {A B : List FieldEntry}
    {t : String × FieldEntry × FieldEntry} :
    t ∈ betweenPairs ⟨i, grp [] A⟩ ⟨j, grp [] B⟩ ↔
      t.2.1 ∈ A ∧ t.2.2 ∈ B ∧ rnE t.2.1 = t.1 ∧ rnE t.2.2 = t.1 := by
  obtain ⟨rn, e1, e2⟩ := t
  simp only [betweenPairs, List.mem_flatMap, fmGet, Prod.exists, mem_grp]
  constructor
  · rintro ⟨k, fs1, ⟨rfl, _⟩, h⟩
    cases hg : assocGet (grp [] B) k with
    | none => simp [hg] at h
    | some fs2 =>
      obtain ⟨rfl, _⟩ := grp_get.1 hg
      simp only [hg, List.mem_flatMap, List.mem_map, Prod.mk.injEq, List.mem_filter,
        beq_iff_eq] at h
      obtain ⟨f1, ⟨hf1, n1⟩, f2, ⟨hf2, n2⟩, rfl, rfl, rfl⟩ := h
      exact ⟨hf1, hf2, n1, n2⟩
  · rintro ⟨h1, h2, h3, h4⟩
    have hf1 : e1 ∈ A.filter (fun e => rnE e == rn) := List.mem_filter.2 ⟨h1, by simp [h3]⟩
    have hf2 : e2 ∈ B.filter (fun e => rnE e == rn) := List.mem_filter.2 ⟨h2, by simp [h4]⟩
    refine ⟨rn, _, ⟨rfl, List.ne_nil_of_mem hf1⟩, ?_⟩
    rw [grp_get.2 ⟨rfl, List.ne_nil_of_mem hf2⟩]
    simp only [List.mem_flatMap, List.mem_map]
    exact ⟨e1, hf1, e2, hf2, rfl⟩

theorem mem_withinPairs_grp {i : Nat} {A : List FieldEntry}
    {t : String × FieldEntry × FieldEntry} :
    t ∈ withinPairs ⟨i, grp [] A⟩ ↔
      (t.2.1, t.2.2) ∈ Spec.pairsOf A ∧ rnE t.2.1 = t.1 ∧ rnE t.2.2 = t.1 := by
  obtain ⟨rn, e1, e2⟩ := t
  simp only [withinPairs, List.mem_flatMap, List.mem_map, pairsOf_eq_spec, Prod.exists, mem_grp,
    Prod.mk.injEq]
  constructor
  · rintro ⟨k, fs, ⟨rfl, _⟩, a, b, hp, rfl, rfl, rfl⟩
    rw [Spec.pairsOf_filter] at hp
    exact ⟨hp.1, by simpa using hp.2.1, by simpa using hp.2.2⟩
  · rintro ⟨h1, h2, h3⟩
    have hp := (Spec.pairsOf_filter (fun e => rnE e == rn) A (e1, e2)).2
      ⟨h1, by simp [h2], by simp [h3]⟩
    exact ⟨rn, _, ⟨rfl, List.ne_nil_of_mem (Spec.pairsOf_mem hp).1⟩, e1, e2, hp, rfl, rfl, rfl⟩

def toEntry (s : Schema) (a : Spec.FieldInst) : FieldEntry :=
  ⟨a.parent, a.node, s.fieldDef a.parent a.node.name⟩

theorem grp_append (m : List (String × List FieldEntry)) (A B : List FieldEntry) :
    grp m (A ++ B) = grp (grp m A) B := by
  simp [grp, List.foldl_append]

def spreadsAcc (d : Doc) (acc : List Spread) (names : List String) : List Spread :=
  names.foldl (fun acc n => addSpread acc (mkSpread d n)) acc

def spreadsOf (d : Doc) (names : List String) : List Spread := spreadsAcc d [] names

theorem spreadsOf_nil (d : Doc) : spreadsOf d [] = [] := rfl

theorem spreadsAcc_append (d : Doc) (acc : List Spread) (a b : List String) :
    spreadsAcc d acc (a ++ b) = spreadsAcc d (spreadsAcc d acc a) b := by
  simp [spreadsAcc, List.foldl_append]

mutual
theorem collectSel_gen (s : Schema) (d : Doc) : ∀ (x : Sel) (p : Option String)
    (m : List (String × List FieldEntry)) (sps : List Spread),
      collectSel s d p x (m, sps) =
        (grp m ((x.flat s p).map (toEntry s)), spreadsAcc d sps x.directSpreads)
  | .field id al name args st hasSub subId sub, p, m, sps => by
    simp [collectSel, Sel.flat, Sel.directSpreads, grp, toEntry, mkFieldNode, rnE, spreadsAcc]
  | .inline tc _ sels, p, m, sps => by
    cases tc <;> simp only [collectSel, Sel.flat, Sel.directSpreads] <;>
      exact collectSels_gen s d sels _ m sps
  | .spread n, p, m, sps => by
    simp [collectSel, Sel.flat, Sel.directSpreads, grp, spreadsAcc]
theorem collectSels_gen (s : Schema) (d : Doc) : ∀ (xs : List Sel) (p : Option String)
    (m : List (String × List FieldEntry)) (sps : List Spread),
      collectSels s d p xs (m, sps) =
        (grp m ((selsFlat s p xs).map (toEntry s)), spreadsAcc d sps (selsDirectSpreads xs))
  | [], p, m, sps => by simp [collectSels, selsFlat, selsDirectSpreads, grp, spreadsAcc]
  | x :: xs, p, m, sps => by
    simp only [collectSels, selsFlat, selsDirectSpreads, List.map_append, grp_append,
      spreadsAcc_append]
    rw [collectSel_gen s d x p m sps, collectSels_gen s d xs p _ _]
end

theorem computeFields_gen (s : Schema) (d : Doc) (p : Option String) (ss : SelSet) :
    computeFields s d p ss =
      (⟨ss.id, grp [] ((selsFlat s p ss.sels).map (toEntry s))⟩,
        spreadsOf d (selsDirectSpreads ss.sels)) := by
  simp [computeFields, collectSels_gen s d ss.sels p [] [], spreadsOf]

theorem collectSel_nospread (s : Schema) (d : Doc) : ∀ (x : Sel) (p : Option String)
    (m : List (String × List FieldEntry)) (sps : List Spread), x.spreadNames = [] →
      collectSel s d p x (m, sps) = (grp m ((x.flat s p).map (toEntry s)), sps) := by
  intro x p m sps h
  have hd : x.directSpreads = [] := by
    have := Sel.directSpreads_sub x
    rw [h] at this
    exact List.eq_nil_of_subset_nil this
  rw [collectSel_gen, hd]
  rfl

theorem addSpread_key {sps : List Spread} {sp : Spread} :
    ∃ x ∈ addSpread sps sp, x.key = sp.key := by
  simp only [addSpread]
  split
  · rename_i h
    obtain ⟨x, hx, hk⟩ := List.any_eq_true.1 h
    exact ⟨x, hx, by simpa using hk⟩
  · exact ⟨sp, by simp, rfl⟩

theorem addSpread_sub {sps : List Spread} {sp x : Spread} (h : x ∈ sps) : x ∈ addSpread sps sp := by
  simp only [addSpread]
  split
  · exact h
  · exact List.mem_append_left _ h

/-- the spread list after `names`: it keeps what it held, gains only spreads of `names`, and
holds every key of `names` -/
theorem spreadsAcc_spec {d : Doc} {names : List String} : ∀ {acc : List Spread},
    acc ⊆ spreadsAcc d acc names ∧
      (∀ sp ∈ spreadsAcc d acc names, sp ∈ acc ∨ ∃ n ∈ names, sp = mkSpread d n) ∧
      ∀ n ∈ names, ∃ x ∈ spreadsAcc d acc names, x.key = (mkSpread d n).key := by
  induction names with
  | nil => exact ⟨fun _ h => h, fun _ h => Or.inl h, fun _ h => by cases h⟩
  | cons n0 ns ih =>
    intro acc
    obtain ⟨s1, s2, s3⟩ := ih (acc := addSpread acc (mkSpread d n0))
    refine ⟨fun _ h => s1 (addSpread_sub h), fun sp h => ?_, fun n h => ?_⟩
    · rcases s2 sp h with h1 | ⟨n', hn', e⟩
      · exact (addSpread_mem h1).imp_right fun e => ⟨n0, List.mem_cons_self, e⟩
      · exact Or.inr ⟨n', List.mem_cons_of_mem _ hn', e⟩
    · rcases List.mem_cons.1 h with rfl | h
      · obtain ⟨x, hx, hk⟩ := addSpread_key (sps := acc) (sp := mkSpread d n)
        exact ⟨x, s1 hx, hk⟩
      · exact s3 n h

theorem mem_spreadsOf {d : Doc} {names : List String} {sp : Spread}
    (h : sp ∈ spreadsOf d names) : ∃ n ∈ names, sp = mkSpread d n :=
  (spreadsAcc_spec.2.1 sp h).resolve_left fun h => by cases h

/-- different spread names have different conflict keys (GraphQL names contain no parentheses) -/
def KeysInj (d : Doc) : Prop :=
  ∀ n1 ∈ d.spreadNames, ∀ n2 ∈ d.spreadNames, (mkSpread d n1).key = (mkSpread d n2).key → n1 = n2

theorem Doc.NoSpreads.keysInj {d : Doc} (hn : d.NoSpreads) : KeysInj d := by
  intro n1 h1
  rw [hn] at h1
  cases h1

theorem mem_spreadsOf_of_name {d : Doc} (hk : KeysInj d) {names : List String}
    (hsub : names ⊆ d.spreadNames) {n : String} (hn : n ∈ names) :
    mkSpread d n ∈ spreadsOf d names := by
  obtain ⟨x, hx, hkey⟩ := (spreadsAcc_spec (d := d) (acc := [])).2.2 n hn
  obtain ⟨n', hn', e⟩ := mem_spreadsOf hx
  obtain rfl : n' = n := hk n' (hsub hn') n (hsub hn) (by rw [← e]; exact hkey)
  exact e ▸ hx

end Gql.Exec
