import Gql.Validation.Rules
/-!
C12 — the annotated document: all nodes, the erased tree's nodes, and "the node object with identity `n`" is the
node itself when identities are unique.
-/
namespace Gql.Validation.Rules
open Gql.Validation

namespace ATree

mutual
  /-- all nodes of the document (preorder) -/
  def nodes : ATree → List ATree
    | node i f v cs => node i f v cs :: nodesList cs
  def nodesList : List ATree → List ATree
    | [] => []
    | t :: ts => nodes t ++ nodesList ts
end

theorem nodes_eq (t : ATree) : t.nodes = t :: nodesList t.children := by cases t; rfl

theorem erase_eq (t : ATree) : t.erase = .node t.info (eraseList t.children) := by cases t; rfl

theorem find_root (t : ATree) : t.find t.info.id = some t := by cases t; simp [find, info]

theorem induct {P : ATree → Prop} {Q : List ATree → Prop}
    (hnode : ∀ i f v cs, Q cs → P (node i f v cs)) (hnil : Q [])
    (hcons : ∀ t ts, P t → Q ts → Q (t :: ts)) : (∀ t, P t) ∧ (∀ ts, Q ts) :=
  ⟨fun t => ATree.rec (motive_1 := P) (motive_2 := Q) hnode hnil hcons t,
    fun ts => ATree.rec_1 (motive_1 := P) (motive_2 := Q) hnode hnil hcons ts⟩

theorem infos_erase :
    (∀ t : ATree, t.erase.infos = t.nodes.map ATree.info) ∧
    (∀ ts : List ATree, Tree.infosList (eraseList ts) = (nodesList ts).map ATree.info) := by
  apply induct
  · intro i f v cs ih
    simp [erase, Tree.infos, nodes, ih, info]
  · simp [eraseList, Tree.infosList, nodesList]
  · intro t ts h1 h2
    simp [eraseList, Tree.infosList, nodesList, h1, h2]

theorem ids_eq_map :
    (∀ t : ATree, t.ids = t.nodes.map ATree.id) ∧ (∀ ts : List ATree, idsList ts = (nodesList ts).map ATree.id) := by
  apply induct
  · intro i f v cs ih
    simp [ids, nodes, ih, ATree.id, info]
  · rfl
  · intro t ts h1 h2
    simp [idsList, nodesList, h1, h2]

theorem find_none :
    (∀ t : ATree, ∀ k, k ∉ t.ids → t.find k = none) ∧ (∀ ts : List ATree, ∀ k, k ∉ idsList ts → findList ts k = none) := by
  apply induct
  · intro i f v cs ih k hk
    simp only [ids, List.mem_cons, not_or] at hk
    rw [find, if_neg (fun h => hk.1 h.symm)]
    exact ih k hk.2
  · intro k _; rfl
  · intro t ts h1 h2 k hk
    simp only [idsList, List.mem_append, not_or] at hk
    rw [findList, h1 k hk.1]
    exact h2 k hk.2

theorem find_of_mem :
    (∀ t : ATree, t.ids.Nodup → ∀ n ∈ t.nodes, t.find n.id = some n) ∧
    (∀ ts : List ATree, (idsList ts).Nodup → ∀ n ∈ nodesList ts, findList ts n.id = some n) := by
  apply induct
  · intro i f v cs ih hnd n hn
    simp only [ids, List.nodup_cons] at hnd
    simp only [nodes, List.mem_cons] at hn
    rcases hn with rfl | hn
    · simp [find, ATree.id, info]
    · have hne : i.id ≠ n.id := by
        intro h
        exact hnd.1 (h ▸ ids_eq_map.2 cs ▸ List.mem_map_of_mem hn)
      rw [find, if_neg hne]
      exact ih hnd.2 n hn
  · intro _ n hn; simp [nodesList] at hn
  · intro t ts h1 h2 hnd n hn
    simp only [idsList, List.nodup_append] at hnd
    simp only [nodesList, List.mem_append] at hn
    rcases hn with hn | hn
    · rw [findList, h1 hnd.1 n hn]
    · have hni : n.id ∉ t.ids := by
        intro h
        exact hnd.2.2 _ h _ (ids_eq_map.2 ts ▸ List.mem_map_of_mem hn) rfl
      rw [findList, find_none.1 t _ hni]
      exact h2 hnd.2.1 n hn

end ATree
end Gql.Validation.Rules
