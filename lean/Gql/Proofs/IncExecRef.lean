import Gql.Proofs.IncExec
import Gql.Proofs.ExecValue
/-!
C04 §6, the step `c.ref = the specification's response` for the class of documents whose
operations select **fields only** (no inline fragment, no fragment spread anywhere below an
operation; fragment definitions may exist but cannot be reached).  In this class `@defer` cannot
occur, the plan of every object has no new grouped field set, and the recursion of `incCut`
(collect → plan → execute_fields → complete_value) is shown, step by step, to compute the
specification's ExecuteSelectionSet / ExecuteField / CompleteValue.
-/
namespace Gql.Async.IncExec
open Gql.Exec Gql.Async
open Gql.Exec.Refine (OpsOk dirOut)

mutual
/-- a field selection all of whose sub-selections (recursively) are field selections -/
def fieldsOnlySel : Selection → Bool
  | .field _ _ _ _ sels => fieldsOnlySels sels
  | .inline _ _ _ => false
  | .spread _ _ => false
def fieldsOnlySels : List Selection → Bool
  | [] => true
  | x :: rest => fieldsOnlySel x && fieldsOnlySels rest
end

/-- every operation of the document selects fields only -/
def fieldsOnlyDoc (d : Doc) : Bool := d.ops.all (fun op => fieldsOnlySels op.sels)

mutual
theorem stripSel_id : ∀ s : Selection, fieldsOnlySel s = true → stripSel s = s
  | .field a n args dirs sels, h => by
    simp only [fieldsOnlySel] at h
    simp only [stripSel, stripSels_id sels h]
  | .inline _ _ _, h => by simp [fieldsOnlySel] at h
  | .spread _ _, h => by simp [fieldsOnlySel] at h
theorem stripSels_id : ∀ l : List Selection, fieldsOnlySels l = true → stripSels l = l
  | [], _ => rfl
  | x :: rest, h => by
    simp only [fieldsOnlySels, Bool.and_eq_true] at h
    simp only [stripSels, stripSel_id x h.1, stripSels_id rest h.2]
end

structure Agree (cx : Impl.Ctx) (scx : Spec.Ctx) : Prop where
  ops : scx.ops = cx.ops
  schema : scx.schema = cx.schema
  vars : scx.vars = cx.vars

theorem coerce_ctx (c1 c2 : Spec.Ctx) (h1 : c1.ops = c2.ops) (h2 : c1.schema = c2.schema)
    (h3 : c1.vars = c2.vars) (args : List (Name × Value)) :
    ∀ (defs : List ArgDef) (acc : ArgMap),
      Spec.coerceArgumentValues c1 args defs acc = Spec.coerceArgumentValues c2 args defs acc
  | [], acc => by simp [Spec.coerceArgumentValues]
  | a :: rest, acc => by
    simp only [Spec.coerceArgumentValues, h1, h2, h3, coerce_ctx c1 c2 h1 h2 h3 args rest]

theorem shouldInclude_agree {cx : Impl.Ctx} {scx : Spec.Ctx} (ha : Agree cx scx)
    (hops : OpsOk cx.ops) (dirs : List Directive) :
    Impl.shouldInclude cx dirs = dirOut (Spec.included scx dirs) := by
  rw [Refine.shouldInclude_eq cx hops]
  unfold Spec.included Spec.directiveIf
  simp only [coerce_ctx (Refine.toSpec cx) scx ha.ops.symm ha.schema.symm ha.vars.symm]

/-- field details of the class `P`: not deferred, sub-selections in the class -/
def FOfds (P : List Selection → Prop) (fds : List FD) : Prop :=
  ∀ fd ∈ fds, fd.du = none ∧ P fd.node.sels

def FOg (P : List Selection → Prop) (g : GFS) : Prop := ∀ e ∈ g, FOfds P e.2

/-- the class of the first stage: fields only -/
def PFO (sels : List Selection) : Prop := fieldsOnlySels sels = true

theorem FOg_addField {P : List Selection → Prop} (g : GFS) (k : Name) (fd : FD) (hg : FOg P g)
    (hfd : fd.du = none ∧ P fd.node.sels) : FOg P (addField g k fd) := by
  rw [addField_eq]
  exact List.forall_mem_extendAt (G := fun (_ : Name) fds => FOfds P fds)
    (fun ha hb x hx => (List.mem_append.1 hx).elim (ha x) (hb x)) hg
    fun x hx => List.mem_singleton.1 hx ▸ hfd

theorem collectSels_fo {cx : Impl.Ctx} {scx : Spec.Ctx} (ha : Agree cx scx) (hops : OpsOk cx.ops)
    (rt : Name) (recur : Option Nat → List Selection → CState → Option CState)
    (srecur : List Selection → List Name → Out ErrKind (Spec.Groups × List Name)) :
    ∀ (sels : List Selection) (st st' : CState), fieldsOnlySels sels = true →
      collectSels cx rt recur none sels st = some st' →
      st'.newUsages = st.newUsages ∧ (FOg PFO st.grouped → FOg PFO st'.grouped) ∧
      ∀ visited, Spec.collectLoop scx rt srecur sels (toGroups st.grouped) visited =
        .ok (toGroups st'.grouped, visited)
  | [], st, st', _, h => by
    simp only [collectSels, Option.some.injEq] at h
    subst h
    exact ⟨rfl, id, fun v => by simp [Spec.collectLoop]⟩
  | .field a n args dirs subs :: rest, st, st', hf, h => by
    simp only [fieldsOnlySels, fieldsOnlySel, Bool.and_eq_true] at hf
    rw [collectSels, collectSel, shouldInclude_agree ha hops] at h
    cases hinc : Spec.included scx dirs with
    | none => simp [hinc, dirOut] at h
    | some b =>
      cases b with
      | false =>
        simp only [hinc, dirOut] at h
        obtain ⟨h1, h2, h3⟩ := collectSels_fo ha hops rt recur srecur rest st st' hf.2 h
        refine ⟨h1, h2, fun v => ?_⟩
        rw [Spec.collectLoop, Spec.collectOne]
        simp only [hinc]
        exact h3 v
      | true =>
        simp only [hinc, dirOut] at h
        obtain ⟨h1, h2, h3⟩ := collectSels_fo ha hops rt recur srecur rest _ st' hf.2 h
        refine ⟨h1, fun hn => h2 (FOg_addField _ _ _ hn ⟨rfl, hf.1⟩), fun v => ?_⟩
        rw [Spec.collectLoop, Spec.collectOne]
        simp only [hinc]
        have h4 := h3 v
        simp only [toGroups_addField] at h4
        exact h4
  | .inline _ _ _ :: rest, _, _, hf, _ => by simp [fieldsOnlySels, fieldsOnlySel] at hf
  | .spread _ _ :: rest, _, _, hf, _ => by simp [fieldsOnlySels, fieldsOnlySel] at hf

theorem fuelOf_succ (d : Doc) : fuelOf d = (2 * d.frags.length + 1) + 1 := rfl

theorem collectSubLoop_fo {cx : Impl.Ctx} {scx : Spec.Ctx} (ha : Agree cx scx) (hops : OpsOk cx.ops)
    (rt : Name) (srecur : List Selection → List Name → Out ErrKind (Spec.Groups × List Name)) :
    ∀ (fds : List FD) (st st' : CState), FOfds PFO fds →
      collectSubLoop cx rt fds st = some st' →
      st'.newUsages = st.newUsages ∧ (FOg PFO st.grouped → FOg PFO st'.grouped) ∧
      ∀ visited, Spec.collectLoop scx rt srecur (Spec.mergeSelectionSets (nodes fds))
        (toGroups st.grouped) visited = .ok (toGroups st'.grouped, visited)
  | [], st, st', _, h => by
    simp only [collectSubLoop, Option.some.injEq] at h
    subst h
    exact ⟨rfl, id, fun v => by simp [Spec.mergeSelectionSets, nodes, Spec.collectLoop]⟩
  | fd :: rest, st, st', hfo, h => by
    rw [collectSubLoop] at h
    have hfd := hfo fd List.mem_cons_self
    have hrest : FOfds PFO rest := fun x hx => hfo x (List.mem_cons_of_mem _ hx)
    cases hs : collectFuel cx rt (fuelOf cx.doc) fd.du fd.node.sels st with
    | none => simp [hs] at h
    | some st1 =>
      simp only [hs] at h
      rw [fuelOf_succ, collectFuel, hfd.1] at hs
      obtain ⟨a1, a2, a3⟩ := collectSels_fo ha hops rt _ srecur _ _ _ hfd.2 hs
      obtain ⟨b1, b2, b3⟩ := collectSubLoop_fo ha hops rt srecur rest st1 st' hrest h
      refine ⟨b1.trans a1, fun hg => b2 (a2 hg), fun v => ?_⟩
      have : Spec.mergeSelectionSets (nodes (fd :: rest)) =
          fd.node.sels ++ Spec.mergeSelectionSets (nodes rest) := by
        simp [Spec.mergeSelectionSets, nodes]
      rw [this, Refine.collectLoop_append, a3 v]
      exact b3 v

/-- Without defer usages nothing is cut out: by the invariant of the plan a new grouped field set
would hold an entry whose filtered set differs from the (empty) parent set. -/
theorem plan_nodu (p : Nat → Option Nat) (f : Nat) (g : GFS) (hg : (g.map Prod.fst).Nodup)
    {P : List Selection → Prop} (hfo : FOg P g) :
    Plan.buildExecutionPlan p f (toPlan g) [] =
      { groupedFieldSet := toPlan g, newGroupedFieldSets := [] } := by
  have inv := Plan.build_inv p f [] (toPlan g) (by rw [toPlan_keys]; exact hg)
  have hfilt : ∀ e ∈ toPlan g, Plan.getFilteredDeferUsageSet p f e.2 = [] := by
    intro e he
    obtain ⟨e0, he0, rfl⟩ := List.mem_map.mp he
    have hmem : ∀ fd ∈ e0.2, fd.du = none := fun fd hfd => (hfo e0 he0 fd hfd).1
    cases hl : e0.2 with
    | nil => simp [Plan.getFilteredDeferUsageSet, Plan.collectUsages, Plan.pruneChildren]
    | cons fd rest =>
      rw [hl] at hmem
      exact Plan.filtered_nondeferred p f _ ⟨_, List.mem_map_of_mem List.mem_cons_self,
        hmem fd List.mem_cons_self⟩
  generalize Plan.buildExecutionPlan p f (toPlan g) [] = plan at inv
  obtain ⟨planned, news⟩ := plan
  cases news with
  | cons sg rest =>
    obtain ⟨hne, hall⟩ := inv.new_spec sg List.mem_cons_self
    obtain ⟨e, he⟩ := List.exists_mem_of_ne_nil _ hne
    have := (hall e he).2
    rw [hfilt e ((inv.sub_new sg List.mem_cons_self).subset he)] at this
    cases this
  | nil =>
    have hperm := inv.perm
    simp only [List.map_nil, List.flatten_nil, List.append_nil] at hperm
    have := inv.sub_planned.eq_of_length hperm.length_eq.symm
    simp only at this
    rw [this]

/-- what the executors need from collection, for the class `P` of selection sets: collecting the
sub-selections of not deferred field details of the class creates no defer usage, stays in the
class and gives the specification's CollectFields of the merged selection sets -/
structure CollectOK (cx : Impl.Ctx) (scx : Spec.Ctx) (P : List Selection → Prop) : Prop where
  sub : ∀ (rt : Name) (fds : List FD) (st : CState), cx.schema.kind rt = .object → FOfds P fds →
    collectSubfields cx rt fds 0 = some st →
    st.newUsages = [] ∧ FOg P st.grouped ∧
    Spec.collectFields scx rt (Spec.mergeSelectionSets (nodes fds)) = .ok (toGroups st.grouped)

variable {P : List Selection → Prop}

/-- the specification side answered with a value and raised nothing -/
def Ok {α : Type} (r : Spec.R α) (a : α) : Prop := r.out = some a ∧ r.errs = []

theorem Ok.mapOut {α β : Type} {r : Spec.R α} {a : α} (g : α → β) (h : Ok r a) :
    Ok (r.mapOut g) (g a) := ⟨by simp [Spec.R.mapOut, h.1], h.2⟩

theorem Ok.andThen {α β γ : Type} {r : Spec.R α} {rs : Spec.R β} {a : α} {b : β} (f : α → β → γ)
    (h1 : Ok r a) (h2 : Ok rs b) : Ok (r.andThen f rs) (f a b) := by
  simp [Ok, Spec.R.andThen, h1.1, h1.2, h2.1, h2.2]

def ChildSim (P : List Selection → Prop) (child : Child) (schild : Spec.Child) : Prop :=
  ∀ name args t fds c pos, FOfds P fds → child name args t fds [] [] = some c →
    ∃ j, Ok (schild name args t (nodes fds) pos) j ∧ toJ j = some c.ref

theorem leafCut_ref {j : Json} {c : Cut} (h : leafCut j = some c) : toJ j = some c.ref := by
  obtain ⟨_, hj, _, rfl⟩ := leafCut_some h
  exact hj

/-- the leaf step: where the executor model goes on with the serialised value, the specification's
CoerceResult answers with it -/
theorem coerceResult_sim {cx : Impl.Ctx} {scx : Spec.Ctx} (ha : Agree cx scx) (pos : List PSeg)
    (n : Name) (l : PyLeaf) {α : Type} {f : Json → Option α} {x : α}
    (h : (match cx.ops.serialize cx.schema n l with
      | some .null => none
      | some j => f j
      | none => none) = some x) :
    ∃ j, Spec.coerceResult scx pos n l = Spec.R.pure j ∧ f j = some x := by
  unfold Spec.coerceResult
  rw [ha.ops, ha.schema]
  split at h
  · cases h
  · rename_i j hne hs
    rw [hs]
    exact ⟨j, by cases j <;> simp_all, h⟩
  · cases h

theorem absorb_ok (t : TypeRef) (r : Spec.R Json) (j : Json) (h : r.out = some j) :
    Spec.absorb t r = r := by
  simp [Spec.absorb, h]

theorem executeField_sim {cx : Impl.Ctx} {scx : Spec.Ctx} (ha : Agree cx scx) {parent : Name}
    {child : Child} {schild : Spec.Child} (hc : ChildSim P child schild) {fds : List FD}
    (hfo : FOfds P fds) {oc : Option Cut} (pos : List PSeg)
    (h : executeField cx parent child [] [] fds = some oc) :
    match oc with
    | none => Ok (Spec.executeField scx parent schild pos (nodes fds)) none
    | some c => ∃ j, Ok (Spec.executeField scx parent schild pos (nodes fds)) (some j) ∧
        toJ j = some c.ref := by
  cases fds with
  | nil => simp [executeField] at h
  | cons fd0 rest =>
    -- named, so that it is unfolded once and not in both arms of the statement
    generalize hr : Spec.executeField scx parent schild pos (nodes (fd0 :: rest)) = r
    simp only [executeField] at h
    simp only [nodes, List.map_cons, Spec.executeField] at hr
    cases hn : (fd0.node.name == "__typename") with
    | true =>
      simp only [hn, if_true] at h hr
      obtain ⟨j, hco, hl⟩ := coerceResult_sim ha pos _ _ h
      obtain ⟨c, hlc, rfl⟩ := Option.map_eq_some_iff.mp hl
      rw [hco, absorb_ok _ _ j rfl] at hr
      subst hr
      exact ⟨j, ⟨rfl, rfl⟩, leafCut_ref hlc⟩
    | false =>
      simp only [hn, Bool.false_eq_true, if_false] at h hr
      rw [ha.schema] at hr
      cases hgf : cx.schema.getField parent fd0.node.name with
      | none =>
        simp only [hgf, Option.some.injEq] at h hr
        subst h hr
        exact ⟨rfl, rfl⟩
      | some fdef =>
        simp only [hgf] at h hr
        rw [coerce_ctx scx (specCtx cx) ha.ops ha.schema ha.vars] at hr
        cases hco : Spec.coerceArgumentValues (specCtx cx) fd0.node.args fdef.args [] with
        | none => simp [hco] at h
        | some args =>
          simp only [hco] at h hr
          obtain ⟨c, hch, rfl⟩ := Option.map_eq_some_iff.mp h
          obtain ⟨j, ⟨hj1, hj2⟩, hj3⟩ := hc fd0.node.name args fdef.type (fd0 :: rest) c pos hfo hch
          simp only [nodes, List.map_cons] at hj1 hj2
          rw [absorb_ok _ _ j (by simpa using hj1)] at hr
          subst hr
          exact ⟨j, ⟨by simp [hj1], by simp [hj2]⟩, hj3⟩

theorem executeKeys_sim {cx : Impl.Ctx} {scx : Spec.Ctx} (ha : Agree cx scx) {parent : Name}
    {child : Child} {schild : Spec.Child} (hc : ChildSim P child schild) {g : GFS}
    (hg : (g.map Prod.fst).Nodup) (hfo : FOg P g) (pos : List PSeg) :
    ∀ (g' : GFS) (fs : List (List Nat × Cut)), (∀ e ∈ g', e ∈ g) →
      executeKeys cx parent child [] [] g (g'.map Prod.fst) = some fs →
      ∃ kvs, Ok (Spec.executeGroups scx parent schild pos (toGroups g')) kvs ∧
        toJFields kvs = some (refFields fs)
  | [], fs, _, h => by
    simp only [List.map_nil, executeKeys, Option.some.injEq] at h
    subst h
    exact ⟨[], ⟨rfl, rfl⟩, rfl⟩
  | (k, fds) :: g'', fs, hsub, h => by
    have hmem : (k, fds) ∈ g := hsub _ List.mem_cons_self
    have hsub' : ∀ e ∈ g'', e ∈ g := fun e he => hsub e (List.mem_cons_of_mem _ he)
    simp only [List.map_cons, executeKeys, gfsGet_eq, List.lookup_of_mem_nodup hg hmem] at h
    simp only [toGroups, List.map_cons, Spec.executeGroups_cons]
    split at h
    · rename_i c cs hf hr
      cases h
      obtain ⟨j, ho, o3⟩ := executeField_sim ha hc (hfo _ hmem) (pos ++ [.key k]) hf
      obtain ⟨kvs, hk, k3⟩ := executeKeys_sim ha hc hg hfo pos g'' cs hsub' hr
      exact ⟨_, ho.andThen _ hk, by simp [Spec.consKey, toJFields, o3, k3, refFields]⟩
    · rename_i cs hf hr
      cases h
      have ho := executeField_sim ha hc (hfo _ hmem) (pos ++ [.key k]) hf
      obtain ⟨kvs, hk, k3⟩ := executeKeys_sim ha hc hg hfo pos g'' _ hsub' hr
      exact ⟨_, Ok.andThen _ ho hk, k3⟩
    · cases h

theorem executePlan_sim {cx : Impl.Ctx} {scx : Spec.Ctx} (ha : Agree cx scx) {parent : Name}
    {child : Child} {schild : Spec.Child} (hc : ChildSim P child schild) {st : CState}
    (hnew : st.newUsages = []) (hg : Good st) (hfo : FOg P st.grouped) (pos : List PSeg) {c : Cut}
    (h : executePlan cx parent child [] [] st = some c) :
    ∃ kvs, Ok (Spec.executeGroups scx parent schild pos (toGroups st.grouped)) kvs ∧
      toJ (.obj kvs) = some c.ref := by
  unfold executePlan at h
  simp only [hnew, List.append_nil, plan_nodu _ _ _ hg hfo, toPlan_keys, executeSets] at h
  split at h
  · rename_i now later hn hl
    simp only [Option.some.injEq] at h hl
    subst h; subst hl
    obtain ⟨kvs, hk, hj⟩ := executeKeys_sim ha hc hg hfo pos st.grouped now (fun _ he => he) hn
    refine ⟨kvs, hk, ?_⟩
    simp [toJ, hj, Cut.ref, refGroups]
  · cases h

theorem completeObject_sim {cx : Impl.Ctx} {scx : Spec.Ctx} (ha : Agree cx scx)
    (hcol : CollectOK cx scx P) {rt : Name} (hrt : cx.schema.kind rt = .object) {fds : List FD}
    (hfo : FOfds P fds) {child : Child}
    {schild : Spec.Child} (hc : ChildSim P child schild) (pos : List PSeg) {c : Cut}
    (h : completeObject cx rt fds [] [] child = some c) :
    ∃ j, Ok (Spec.executeSelectionSet scx rt (Spec.mergeSelectionSets (nodes fds)) pos schild) j ∧
      toJ j = some c.ref := by
  unfold completeObject at h
  split at h
  · cases h
  · rename_i st hs
    have hgood := collectSubfields_good hs
    simp only [List.length_nil] at hs
    obtain ⟨a1, a2, hcf⟩ := hcol.sub rt fds st hrt hfo hs
    obtain ⟨kvs, hk, k3⟩ := executePlan_sim ha hc a1 hgood a2 pos h
    simp only [Spec.executeSelectionSet, hcf]
    exact ⟨.obj kvs, hk.mapOut _, k3⟩

theorem completeNull_sim {t : TypeRef} {c : Cut} (pos : List PSeg) (h : completeNull t = some c) :
    ∃ j, Ok (Spec.completeNull t pos) j ∧ toJ j = some c.ref := by
  unfold completeNull at h
  split at h
  · cases h
  · rename_i hnn
    simp only [Option.some.injEq] at h
    subst h
    exact ⟨.null, by simp [Spec.completeNull, hnn, Ok, Spec.R.pure], by simp [toJ, Cut.ref]⟩

theorem nullChild_sim {P : List Selection → Prop} : ChildSim P nullChild Spec.nullChild :=
  fun _ _ _ _ _ pos _ h => completeNull_sim pos h

theorem completeNamed_sim {cx : Impl.Ctx} {scx : Spec.Ctx} (ha : Agree cx scx)
    (hcol : CollectOK cx scx P) {t : TypeRef} {fds : List FD} (hfo : FOfds P fds) {leaf? : Option PyLeaf}
    {tn : TN} {child : Child} {schild : Spec.Child} (hc : ChildSim P child schild) (pos : List PSeg)
    {c : Cut} (h : completeNamed cx t fds [] [] leaf? tn child = some c) :
    ∃ j, Ok (Spec.completeNamed scx t (nodes fds) pos leaf? tn schild) j ∧ toJ j = some c.ref := by
  unfold completeNamed at h
  unfold Spec.completeNamed
  split at h
  · cases h
  · rename_i n nn
    simp only [ha.schema]
    split at h
    · rename_i hk
      simp only [hk]
      split at h
      · rename_i l
        obtain ⟨j, hco, hl⟩ := coerceResult_sim ha pos n l h
        show ∃ j, Ok (Spec.coerceResult scx pos n l) j ∧ toJ j = some c.ref
        rw [hco]
        exact ⟨j, ⟨rfl, rfl⟩, leafCut_ref hl⟩
      · cases h
    · rename_i hk
      simp only [hk]
      rw [← Refine.ensureValid_eq]
      split at h
      · rename_i rt hrt
        simp only [hrt]
        exact completeObject_sim ha hcol (Refine.ensureValid_object hrt) hfo hc pos h
      · cases h
    · rename_i hk
      simp only [hk]
      exact completeObject_sim ha hcol hk hfo hc pos h
    · cases h

mutual
theorem completeValue_sim {cx : Impl.Ctx} {scx : Spec.Ctx} (ha : Agree cx scx)
    (hcol : CollectOK cx scx P) :
    ∀ (t : TypeRef) (fds : List FD) (v : RVal) (c : Cut) (pos : List PSeg), FOfds P fds →
      completeValue cx t fds [] [] v = some c →
      ∃ j, Ok (Spec.completeValue scx t (nodes fds) pos v) j ∧ toJ j = some c.ref
  | t, fds, .raise _ _, c, pos, _, h => by simp [completeValue] at h
  | t, fds, .null, c, pos, _, h => by
    rw [completeValue] at h
    rw [Spec.completeValue]
    exact completeNull_sim pos h
  | t, fds, .leaf l, c, pos, hfo, h => by
    rw [completeValue] at h
    rw [Spec.completeValue]
    exact completeNamed_sim ha hcol hfo nullChild_sim pos h
  | t, fds, .list items, c, pos, hfo, h => by
    unfold completeValue at h
    unfold Spec.completeValue
    split at h
    · rename_i t' nn
      split at h
      · rename_i cs hcs
        simp only [Option.some.injEq] at h
        subst h
        obtain ⟨js, hjs, j3⟩ := completeItems_sim ha hcol t' fds items cs pos 0 hfo hcs
        exact ⟨.list js, hjs.mapOut _, by simp [toJ, j3, Cut.ref, refBatches]⟩
      · cases h
    · exact completeNamed_sim ha hcol hfo nullChild_sim pos h
  | t, fds, .obj tn f, c, pos, hfo, h => by
    rw [completeValue] at h
    rw [Spec.completeValue]
    refine completeNamed_sim ha hcol hfo ?_ pos h
    intro name args t' fds' c' pos' hfo' hc'
    exact completeValue_sim ha hcol t' fds' (f name args) c' pos' hfo' hc'

theorem completeItems_sim {cx : Impl.Ctx} {scx : Spec.Ctx} (ha : Agree cx scx)
    (hcol : CollectOK cx scx P) :
    ∀ (t : TypeRef) (fds : List FD) (items : List RVal) (cs : List Cut) (pos : List PSeg) (i : Nat),
      FOfds P fds → completeItems cx t fds [] [] items = some cs →
      ∃ js, Ok (Spec.completeItems scx t (nodes fds) pos i items) js ∧
        toJList js = some (refItems cs)
  | t, fds, [], cs, pos, i, _, h => by
    simp only [completeItems, Option.some.injEq] at h
    subst h
    exact ⟨[], by simp [Spec.completeItems, Ok, Spec.R.pure], rfl⟩
  | t, fds, x :: xs, cs, pos, i, hfo, h => by
    rw [completeItems] at h
    split at h
    · rename_i c cs' hx hxs
      simp only [Option.some.injEq] at h
      subst h
      obtain ⟨j, hj, j3⟩ := completeValue_sim ha hcol t fds x c (pos ++ [.idx i]) hfo hx
      obtain ⟨js, hjs, s3⟩ := completeItems_sim ha hcol t fds xs cs' pos (i + 1) hfo hxs
      rw [Spec.completeItems_cons, absorb_ok _ _ j hj.1]
      exact ⟨j :: js, hj.andThen _ hjs, by simp [toJList, j3, s3, refItems]⟩
    · cases h
end

theorem childOf_sim {cx : Impl.Ctx} {scx : Spec.Ctx} (ha : Agree cx scx) (hcol : CollectOK cx scx P)
    (src : RVal) : ChildSim P (childOf cx src) (Spec.childOf scx src) :=
  fun _ _ t fds c pos hfo h => completeValue_sim ha hcol t fds _ c pos hfo h

theorem collectOK_fo {cx : Impl.Ctx} {scx : Spec.Ctx} (ha : Agree cx scx) (hops : OpsOk cx.ops) :
    CollectOK cx scx PFO where
  sub := by
    intro rt fds st _ hfo hs
    obtain ⟨a1, a2, a3⟩ := collectSubLoop_fo ha hops rt
      (Spec.collectFieldsFuel scx rt scx.doc.frags.length) fds _ _ hfo hs
    refine ⟨a1, a2 (fun e he => by simp [initC] at he), ?_⟩
    unfold Spec.collectFields
    rw [show Spec.fuelOf scx.doc = scx.doc.frags.length + 1 from rfl, Spec.collectFieldsFuel]
    simp only [show Spec.collectLoop scx rt _ _ [] [] = _ from a3 []]

theorem getOperation_map (ops : List Operation) (f : Operation → Operation)
    (hf : ∀ op, (f op).name = op.name) (n : Option Name) :
    Spec.getOperation (ops.map f) n = (Impl.selectOp ops n).map f := by
  cases n with
  | none =>
    cases ops with
    | nil => rfl
    | cons a r => cases r <;> rfl
  | some n =>
    simp only [Spec.getOperation, Impl.selectOp, ← List.map_reverse, List.find?_map]
    simp [Function.comp_def, hf]

theorem selectOp_mem {ops : List Operation} {n : Option Name} {op : Operation}
    (h : Impl.selectOp ops n = some op) : op ∈ ops := by
  cases n with
  | none =>
    cases ops with
    | nil => simp [Impl.selectOp] at h
    | cons a r =>
      cases r with
      | nil => simp only [Impl.selectOp, Option.some.injEq] at h; subst h; simp
      | cons _ _ => simp [Impl.selectOp] at h
  | some n =>
    simp only [Impl.selectOp] at h
    exact List.mem_reverse.mp (List.mem_of_find?_eq_some h)

/-- The request level, for any class `P` with `CollectOK` that holds the operations' selection sets
and on which disabling `@defer` changes nothing.  The root is collected like the sub-selections of
one field that is not deferred (`collect_fields` and `collect_subfields` share
`collect_fields_impl`), so `CollectOK` speaks for it too. -/
theorem incCut_ref_gen {ops : Ops} {s : Schema} {doc : Doc} {opName : Option Name} {vars : Vars}
    {root : RVal} {c : Cut} {P : List Selection → Prop}
    (hcol : CollectOK { ops := ops, schema := s, doc := doc, vars := vars }
      { ops := ops, schema := s, doc := stripDefer doc, vars := vars } P)
    (hcl : ∀ op ∈ doc.ops, P op.sels ∧ stripSels op.sels = op.sels)
    (h : incCut ops s doc opName vars root = some c) :
    (Spec.executeRequest ops s (stripDefer doc) opName vars root).errors = [] ∧
    toJ (Spec.executeRequest ops s (stripDefer doc) opName vars root).data = some c.ref := by
  unfold incCut at h
  simp only at h
  split at h
  · cases h
  · rename_i op hop
    split at h
    · cases h
    · rename_i rt hrt
      split at h
      · cases h
      · rename_i st hs
        have hsel : Spec.getOperation (stripDefer doc).ops opName =
            some { op with sels := stripSels op.sels } := by
          simp only [stripDefer]
          rw [getOperation_map doc.ops (fun op => { op with sels := stripSels op.sels })
            (fun _ => rfl) opName, hop]
          rfl
        have hroot : Spec.rootType s op.kind = some rt := hrt
        have ha : Agree { ops := ops, schema := s, doc := doc, vars := vars }
            { ops := ops, schema := s, doc := stripDefer doc, vars := vars } := ⟨rfl, rfl, rfl⟩
        obtain ⟨hP, hstrip⟩ := hcl op (selectOp_mem hop)
        obtain ⟨a1, a2, hcf⟩ := hcol.sub rt [⟨⟨none, "", [], [], op.sels⟩, none⟩] st
          (Refine.Spec.rootType_object hrt) (by simpa [FOfds] using hP)
          (by unfold collectRoot at hs; simp only [collectSubfields, collectSubLoop, hs])
        obtain ⟨kvs, ⟨k1, k2⟩, k3⟩ := executePlan_sim ha (childOf_sim ha hcol root) a1
          (collectRoot_good hs) a2 [] h
        simp only [nodes, Spec.mergeSelectionSets, List.map_cons, List.map_nil, List.flatMap_cons,
          List.flatMap_nil, List.append_nil] at hcf
        unfold Spec.executeRequest
        simp only [hsel, hroot, hstrip, hcf, k1, k2]
        exact ⟨trivial, k3⟩

/-- For a document whose operations select fields only: the tree `c.ref` of the cut the
incremental executor model produces is, as a JSON value, the `data` of the specification's
response to the document with `@defer` disabled, and that response has no errors. -/
theorem incCut_ref_fo {ops : Ops} {s : Schema} {doc : Doc} {opName : Option Name} {vars : Vars}
    {root : RVal} {c : Cut} (hops : OpsOk ops) (hfo : fieldsOnlyDoc doc = true)
    (h : incCut ops s doc opName vars root = some c) :
    (Spec.executeRequest ops s (stripDefer doc) opName vars root).errors = [] ∧
    toJ (Spec.executeRequest ops s (stripDefer doc) opName vars root).data = some c.ref :=
  incCut_ref_gen (collectOK_fo ⟨rfl, rfl, rfl⟩ hops)
    (fun op hop => ⟨List.all_eq_true.mp hfo op hop, stripSels_id _ (List.all_eq_true.mp hfo op hop)⟩) h

end Gql.Async.IncExec
