import Gql.Proofs.SchemaExtRoots
/-!
C19: `stage` is `stageBody` (types, directives, description) followed by the roots and the reference
check; what a successful stage yields (names, roots); `stageBody` of a merged document; extending
twice; building a concatenated document.
-/
namespace Gql.Types
open Gql Gql.Generated

/-- What the theorem needs of "an extension document `B` valid against the schema built from
`A`" (the implementation's SDL validation guarantees all of it): `B` has no schema definition;
the types `A` defines are new and distinct; `A` does not extend anything only `B` defines. -/
structure ValidExt (s : Schema) (pa pb : Parts) : Prop where
  noSchemaDef : pb.schemaDef = none
  freshA_nodup : nodupNames ((newTypeDefs pa).map (fun dn => dn.2.name)) = true
  freshA : ∀ dn ∈ newTypeDefs pa, ∀ t ∈ s.types, t.name ≠ dn.2.name
  noEarlyExt : ∀ dn ∈ newTypeDefs pb, extsFor dn.2.body.kind dn.2.name pa.typeExts = []
  noEarlyDirExt : ∀ d ∈ pb.dirDefs, ∀ x ∈ pa.dirExts, x.1 ≠ d.directiveName

theorem newTypeDefs_merge (pa pb : Parts) : newTypeDefs (pa.merge pb) = newTypeDefs pa ++ newTypeDefs pb := by
  simp [newTypeDefs, Parts.merge]

theorem finish_ok (r a : Schema) (h : finish r = .ok a) : a = r ∧ allRefsResolve r = true := by
  unfold finish at h
  split at h <;> cases h
  exact ⟨rfl, ‹_›⟩

theorem descOf_merge (pa pb : Parts) (h : pb.schemaDef = none) (d : Option Str) :
    descOf (pa.merge pb) d = descOf pb (descOf pa d) := by
  unfold descOf
  simp only [Parts.merge, h]

/-- The object / interface / … mapper of a second document applied to an existing type. -/
def extB (pb : Parts) : TypeDef → B TypeDef := fun t => extendType t (extsFor t.kind t.name pb.typeExts)

def newB (p : Parts) : Option DescNode × TypeNode → B TypeDef :=
  fun dn => buildNamedType dn.1 dn.2 (extsFor dn.2.body.kind dn.2.name p.typeExts)

theorem extB_merge (pa pb : Parts) (t : TypeDef) : extB (pa.merge pb) t = andThen (extB pa t) (extB pb) := by
  simp only [extB, Parts.merge, extsFor_append, extendType_append]
  exact andThen_congr fun t' h => by
    simp only [extB, (extendType_name_kind t t' _ h).1, (extendType_name_kind t t' _ h).2]

theorem newB_merge (pa pb : Parts) (dn : Option DescNode × TypeNode) :
    newB (pa.merge pb) dn = andThen (newB pa dn) (extB pb) := by
  simp only [newB, Parts.merge, extsFor_append, buildNamedType_append]
  exact andThen_congr fun t' h => by
    simp only [extB, (buildNamedType_name_kind dn.1 dn.2 _ t' h).1, (buildNamedType_name_kind dn.1 dn.2 _ t' h).2]

theorem extB_names {p : Parts} {xs ys : List TypeDef} (h : mapMOut (extB p) xs = .ok ys) :
    ys.map TypeDef.name = xs.map TypeDef.name :=
  mapMOut_keys _ _ _ _ _ h fun t _ t' h => (extendType_name_kind t t' _ h).1

theorem newB_names {p : Parts} {xs : List (Option DescNode × TypeNode)} {ys : List TypeDef}
    (h : mapMOut (newB p) xs = .ok ys) : ys.map TypeDef.name = xs.map fun dn => dn.2.name :=
  mapMOut_keys _ _ _ _ _ h fun dn _ t h => (buildNamedType_name_kind dn.1 dn.2 _ t h).1

theorem ValidExt.upsertAll_eq {s : Schema} {pa pb : Parts} (v : ValidExt s pa pb) {T N : List TypeDef}
    (hT : T.map TypeDef.name = s.types.map TypeDef.name)
    (hN : N.map TypeDef.name = (newTypeDefs pa).map fun dn => dn.2.name) :
    upsertAll TypeDef.name T N = T ++ N := by
  refine upsertAll_append TypeDef.name N T (hN ▸ v.freshA_nodup) fun y hy x hx => ?_
  obtain ⟨t, ht, hty⟩ := List.mem_map.mp (hT ▸ List.mem_map_of_mem (f := TypeDef.name) hy)
  obtain ⟨dn, hdn, hdnx⟩ := List.mem_map.mp (hN ▸ List.mem_map_of_mem (f := TypeDef.name) hx)
  exact hty ▸ hdnx ▸ v.freshA dn hdn t ht

/-- What `stage` computes before it sets the roots and constructs the schema: the mapped and the
new types and directives, and the description.  The roots of `s` play no part in it. -/
def stageBody (s : Schema) (p : Parts) : B Schema :=
  andThen (mapMOut (extB p) s.types) fun T =>
  andThen (mapMOut (newB p) (newTypeDefs p)) fun N =>
  andThen (mapMOut (extendDirective p.dirExts) s.directives) fun D =>
  andThen (mapMOut (buildDirective p.dirExts) (p.dirDefs.filter Def.isUserDirectiveDef)) fun ND =>
  .ok { s with types := upsertAll TypeDef.name T N, desc := descOf p s.desc, directives := D ++ ND }

theorem stage_eq (s : Schema) (p : Parts) :
    stage s p = andThen (stageBody s p) fun u =>
      finish (withRoots u (rootsTriple p (s.query, s.mutation, s.subscription))) := by
  unfold stage stageBody extB newB
  cases mapMOut _ s.types with
  | err | crash => rfl
  | ok =>
  cases mapMOut _ (newTypeDefs p) with
  | err | crash => rfl
  | ok =>
  cases mapMOut (extendDirective p.dirExts) s.directives with
  | err | crash => rfl
  | ok =>
  cases mapMOut (buildDirective p.dirExts) (p.dirDefs.filter Def.isUserDirectiveDef) with
  | err | crash => rfl
  | ok =>
  simp only [andThen_ok, rootsOf_eq]
  rfl

theorem stageBody_withRoots (s : Schema) (r : Option Str × Option Str × Option Str) (p : Parts) :
    stageBody (withRoots s r) p = andThen (stageBody s p) fun u => .ok (withRoots u r) := by
  unfold stageBody
  simp only [andThen_assoc, andThen_ok]
  rfl

theorem stageBody_hasType {s u : Schema} {p : Parts} (h : stageBody s p = .ok u) (c : Str) :
    u.hasType c = (s.hasType c || definesType p c) := by
  simp only [stageBody, andThen_eq_ok, Out.ok.injEq] at h
  obtain ⟨T, hT, N, hN, D, _, ND, _, rfl⟩ := h
  rw [Bool.eq_iff_iff]
  simp only [Schema.hasType, Schema.typeNames, definesType, List.contains_iff_mem, Bool.or_eq_true,
    mem_upsertAll_keys, extB_names hT, newB_names hN]

theorem stage_ok_inv (s a : Schema) (p : Parts) (h : stage s p = .ok a) :
    allRefsResolve a = true ∧ ∀ c, a.hasType c = (s.hasType c || definesType p c) := by
  rw [stage_eq, andThen_eq_ok] at h
  obtain ⟨u, hu, hf⟩ := h
  obtain ⟨rfl, hr⟩ := finish_ok _ _ hf
  exact ⟨hr, stageBody_hasType (u := u) hu⟩

/-- **Extend equals build, on collected parts**, before the roots are set. -/
theorem stageBody_merge (s u : Schema) (pa pb : Parts) (hu : stageBody s pa = .ok u) (v : ValidExt s pa pb) :
    stageBody u pb = stageBody s (pa.merge pb) := by
  simp only [stageBody, andThen_eq_ok, Out.ok.injEq] at hu
  obtain ⟨T1, hT1, N1, hN1, D1, hD1, ND1, hND1, rfl⟩ := hu
  -- the pieces of the combined stage, expressed through the results of the first
  have hR1 : mapMOut (extB (pa.merge pb)) s.types = mapMOut (extB pb) T1 :=
    mapMOut_andThen hT1 fun t _ => extB_merge pa pb t
  have hR2a : mapMOut (newB (pa.merge pb)) (newTypeDefs pa) = mapMOut (extB pb) N1 :=
    mapMOut_andThen hN1 fun dn _ => newB_merge pa pb dn
  have hR2b : mapMOut (newB (pa.merge pb)) (newTypeDefs pb) = mapMOut (newB pb) (newTypeDefs pb) :=
    mapMOut_congr _ _ _ fun dn hdn => by
      simp only [newB, Parts.merge, extsFor_append, v.noEarlyExt dn hdn, List.nil_append]
  have hR3 : mapMOut (extendDirective (pa.merge pb).dirExts) s.directives =
      mapMOut (extendDirective pb.dirExts) D1 :=
    mapMOut_andThen hD1 fun d _ => extendDirective_append _ _ d
  have hR4a : mapMOut (buildDirective (pa.merge pb).dirExts) (pa.dirDefs.filter Def.isUserDirectiveDef) =
      mapMOut (extendDirective pb.dirExts) ND1 :=
    mapMOut_andThen hND1 fun d _ => buildDirective_append _ _ d
  have hR4b : mapMOut (buildDirective (pa.merge pb).dirExts) (pb.dirDefs.filter Def.isUserDirectiveDef) =
      mapMOut (buildDirective pb.dirExts) (pb.dirDefs.filter Def.isUserDirectiveDef) :=
    mapMOut_congr _ _ _ fun d hd => buildDirective_skip _ _ d (v.noEarlyDirExt d (List.mem_filter.mp hd).1)
  have hdd : (pa.merge pb).dirDefs.filter Def.isUserDirectiveDef =
      pa.dirDefs.filter Def.isUserDirectiveDef ++ pb.dirDefs.filter Def.isUserDirectiveDef := by
    simp [Parts.merge]
  -- both sides run the same six computations in the same order
  simp only [stageBody, newTypeDefs_merge, hdd, v.upsertAll_eq (extB_names hT1) (newB_names hN1), mapMOut_append, hR1, hR2a, hR2b, hR3, hR4a, hR4b,
    andThen_assoc, andThen_ok, descOf_merge pa pb v.noSchemaDef]
  refine andThen_congr fun T' hT' => andThen_congr fun N' hN' => andThen_congr fun NB _ =>
    andThen_congr fun _ _ => andThen_congr fun _ _ => andThen_congr fun _ _ => ?_
  rw [← v.upsertAll_eq ((extB_names hT').trans (extB_names hT1)) ((extB_names hN').trans (newB_names hN1)),
    upsertAll_upsertAll, List.append_assoc]

theorem stage_merge (s a : Schema) (pa pb : Parts) (ha : stage s pa = .ok a) (v : ValidExt s pa pb) :
    stage a pb = stage s (pa.merge pb) := by
  rw [stage_eq, andThen_eq_ok] at ha
  obtain ⟨u, hu, hf⟩ := ha
  obtain rfl := (finish_ok _ _ hf).1
  rw [stage_eq, stage_eq, stageBody_withRoots, andThen_assoc, stageBody_merge s u pa pb hu v,
    rootsTriple_merge pa pb v.noSchemaDef]
  rfl

/-- **Extending twice is extending once with the concatenated document.** -/
theorem extendCore_append (s a : Schema) (A B : List Def) (hA : A.all Def.isOther = false)
    (hB : B.all Def.isOther = false) (ha : extendCore s A = .ok a)
    (v : ValidExt s (collect A) (collect B)) : extendCore a B = extendCore s (A ++ B) := by
  unfold extendCore at ha ⊢
  simp only [hA, hB, List.all_append, Bool.false_and, Bool.false_eq_true, ↓reduceIte] at ha ⊢
  rw [collect_append]
  exact stage_merge s a (collect A) (collect B) ha v

/-- Building `A ++ B` is extending the core result `a0` of `A` by `B` and then deciding the roots
as for `A` alone: picked by name exactly when `A` has no schema definition (`B` has none). -/
theorem buildFromDefs_append (a : Schema) (A B : List Def) (hA : A.all Def.isOther = false)
    (hB : B.all Def.isOther = false) (ha : buildFromDefs A = .ok a)
    (v : ValidExt Schema.empty (collect A) (collect B)) :
    ∃ a0, extendCore Schema.empty A = .ok a0 ∧
      a = (if (collect A).schemaDef.isSome then a0 else autopick a0) ∧
      buildFromDefs (A ++ B) = andThen (extendCore a0 B) fun s =>
        .ok (if (collect A).schemaDef.isSome then s else autopick s) := by
  have hsd : (collect (A ++ B)).schemaDef = (collect A).schemaDef := by
    rw [collect_append]; simp only [Parts.merge, v.noSchemaDef]
  unfold buildFromDefs at ha ⊢
  cases hc : extendCore Schema.empty A with
  | err _ | crash _ => rw [hc] at ha; cases ha
  | ok a0 =>
    rw [hc] at ha
    refine ⟨a0, rfl, (Out.ok.inj ha).symm, ?_⟩
    rw [← extendCore_append Schema.empty a0 A B hA hB hc v, hsd]
    cases extendCore a0 B <;> rfl

end Gql.Types
