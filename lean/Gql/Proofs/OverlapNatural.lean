import Gql.Proofs.OverlapArgs
/-! C14: `natural_comparison_key` induces a linear order on names, so `sort_value_node` is
canonical (`LinOrd naturalLe`, the hypothesis of `sameArguments_iff`). The model's comparison is
core's lexicographic `compare` on an injective key (`cmpRuns_eq_compare`, `runsKey_inj`,
`naturalKey_inj`); totality, transitivity and antisymmetry are then those of core's instances. -/
namespace Gql.Exec
open Overlap

/-- A natural key as a list of lists of numbers, compared by core's lexicographic `compare` exactly as
`cmpRuns` compares the runs: a digit run is preceded by its value, as in Python's `(int(part), part)`. -/
def runsKey : Bool → List (List Char) → List (List Nat)
  | _, [] => []
  | true, a :: as => [digitsVal a] :: a.map Char.toNat :: runsKey false as
  | false, a :: as => a.map Char.toNat :: runsKey true as

theorem cmpChars_eq_compare : ∀ a b : List Char,
    cmpChars a b = compare (a.map Char.toNat) (b.map Char.toNat)
  | [], [] => rfl
  | [], _ :: _ => rfl
  | _ :: _, [] => rfl
  | a :: as, b :: bs => by
    have h1 : (a < b) = (a.toNat < b.toNat) := rfl
    have h2 : (b < a) = (b.toNat < a.toNat) := rfl
    simp only [cmpChars, List.map_cons, List.compare_cons_cons, Nat.compare_eq_ite_lt, h1, h2,
      cmpChars_eq_compare as bs]
    split
    · rfl
    · split <;> rfl

theorem cmpRuns_eq_compare : ∀ (dig : Bool) (xs ys : List (List Char)),
    cmpRuns dig xs ys = compare (runsKey dig xs) (runsKey dig ys)
  | dig, [], [] => by cases dig <;> rfl
  | dig, [], _ :: _ => by cases dig <;> rfl
  | dig, _ :: _, [] => by cases dig <;> rfl
  | true, a :: as, b :: bs => by
    simp only [cmpRuns, runsKey, List.compare_cons_cons, List.compare_nil_nil,
      Nat.compare_eq_ite_lt, cmpChars_eq_compare, if_true, Bool.not_true,
      cmpRuns_eq_compare false as bs]
    by_cases h1 : digitsVal a < digitsVal b
    · simp [h1]
    · by_cases h2 : digitsVal b < digitsVal a
      · simp [h1, h2]
      · simp only [h1, h2, if_false]
        cases compare (a.map Char.toNat) (b.map Char.toNat) <;> simp [Ordering.then]
  | false, a :: as, b :: bs => by
    simp only [cmpRuns, runsKey, List.compare_cons_cons, cmpChars_eq_compare, Bool.not_false,
      cmpRuns_eq_compare true as bs, Bool.false_eq_true, if_false]
    cases compare (a.map Char.toNat) (b.map Char.toNat) <;> rfl

theorem runsKey_inj : ∀ (dig : Bool) (xs ys : List (List Char)),
    runsKey dig xs = runsKey dig ys → xs = ys
  | dig, [], [] => fun _ => rfl
  | dig, [], _ :: _ => by cases dig <;> simp [runsKey]
  | dig, _ :: _, [] => by cases dig <;> simp [runsKey]
  | true, a :: as, b :: bs => by
    simp only [runsKey, List.cons.injEq, List.map_inj_right fun _ _ => Char.toNat_inj.1]
    exact fun ⟨_, h1, h2⟩ => ⟨h1, runsKey_inj false as bs h2⟩
  | false, a :: as, b :: bs => by
    simp only [runsKey, List.cons.injEq, List.map_inj_right fun _ _ => Char.toNat_inj.1]
    exact fun ⟨h1, h2⟩ => ⟨h1, runsKey_inj true as bs h2⟩

theorem splitRuns_flatten : ∀ (cs : List Char) (dig : Bool) (cur : List Char),
    (splitRuns cs dig cur).flatten = cur.reverse ++ cs
  | [], dig, cur => by cases dig <;> simp [splitRuns]
  | c :: cs, dig, cur => by
    simp only [splitRuns]
    split
    · rw [splitRuns_flatten cs dig (c :: cur)]; simp
    · simp [splitRuns_flatten cs (!dig) [c]]

def naturalKey (a : String) : List (List Char) := splitRuns a.toList false []

theorem naturalKey_inj {a b : String} (h : naturalKey a = naturalKey b) : a = b := by
  have h1 := congrArg List.flatten h
  simp only [naturalKey, splitRuns_flatten, List.reverse_nil, List.nil_append] at h1
  exact String.toList_inj.mp h1

theorem naturalLe_linOrd : LinOrd naturalLe := by
  let key (a : String) := runsKey false (naturalKey a)
  have hdef : naturalLe = fun a b => (compare (key a) (key b)).isLE := by
    funext a b
    rw [← cmpRuns_eq_compare, Ordering.isLE_eq_not_beq_gt]; rfl
  rw [hdef]
  refine ⟨fun a b => ?_, fun _ _ _ => Std.TransCmp.isLE_trans, fun a b h1 h2 => naturalKey_inj
    (runsKey_inj _ _ _ (Std.LawfulEqCmp.compare_eq_iff_eq.1 (Std.OrientedCmp.isLE_antisymm h1 h2)))⟩
  rw [← Std.OrientedCmp.isGE_iff_isLE (a := key a)]
  cases compare (key a) (key b) <;> simp

end Gql.Exec
