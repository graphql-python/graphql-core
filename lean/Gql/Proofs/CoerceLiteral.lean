import Gql.Proofs.LiteralBasics
/-!
Agreement of `coerceLiteral` and `validateLiteral` (C15), for constant literals (static validation) and for literals with
a variable map: a bare variable (`var_agree`), a list item (`item_agree`), one declared field of an object literal
(`lit_field_agree`: it is invalid exactly when its value is reported; what else is reported for it is the OneOf check's
complaint about its node), the OneOf post-checks on an object whose fields are valid (`oneOfLit_agree`), and the theorem
`coerce_validate_literal_full`.
-/
namespace Gql.Values
open Gql

/-- A variable node is "usable" at a position: it has a runtime value, or the position is
non-null (then a missing value is an error on both sides). The only excluded case is a variable
without runtime value at a nullable position — "no value", which callers test first. -/
def VarOK (vars : Option VarValues) (l : Lit) (t : InType) : Prop :=
  ∀ x, l.asVar = some x → isDefined (varGet vars x) = true ∨ t.isNonNull = true

theorem VarOK_of_not_var {vars : Option VarValues} {l : Lit} {t : InType} (h : l.asVar = none) : VarOK vars l t := by
  intro x hx; rw [h] at hx; cases hx

theorem vars_of_var {vars : Option VarValues} {l : Lit} {x : List Nat} (hconst : vars = none → l.isConst = true)
    (hx : l.asVar = some x) : ∃ vv, vars = some vv := by
  cases hvars : vars with
  | none => have := hconst hvars; rw [Lit.not_const_of_var hx] at this; cases this
  | some vv => exact ⟨vv, rfl⟩

theorem nullish_of_undefined {v : PyVal} (h : isDefined v = false) : v = .undefined := by
  cases v <;> simp_all [isDefined]

section
variable (c : PyConv) (D : Field → R) (tm : TypeMap) (vars : Option VarValues)

theorem var_agree {l : Lit} {x : List Nat} (t : InType) (path : Path) (hv : l.asVar = some x)
    (hs : vars.isNone = false) (hok : VarOK vars l t) :
    ∃ cv, coerceLiteral c D tm vars l t = .ok cv ∧ (validateLiteral c tm vars l t path = [] ↔ cv ≠ .undefined) := by
  rw [coerceLiteral_var c D tm vars t hv, validateLiteral_var c tm vars t path hv]
  simp only [hs, Bool.false_eq_true, ↓reduceIte]
  by_cases hnn : t.isNonNull = true
  · by_cases hnl : (varGet vars x).isNullish = true
    · exact ⟨.undefined, by simp [hnn, hnl], by simp [hnn, hnl]⟩
    · have hnl' : (varGet vars x).isNullish = false := by simpa using hnl
      exact ⟨varGet vars x, by simp [hnl'], by simpa [hnn, hnl'] using fun hc => by rw [hc] at hnl'; cases hnl'⟩
  · have hnn' : t.isNonNull = false := by simpa using hnn
    rcases hok x hv with hd | hd
    · refine ⟨varGet vars x, by simp [hnn'], ?_⟩
      simp only [hnn', Bool.false_and, Bool.false_eq_true, ↓reduceIte, true_iff]
      exact (isDefined_iff _).1 hd
    · rw [hnn'] at hd; cases hd

theorem item_agree {it : Lit} {t' : InType} {p : Path} (hconst : vars = none → it.isConst = true)
    (ih : VarOK vars it t' → ∃ cv, coerceLiteral c D tm vars it t' = .ok cv ∧
      (validateLiteral c tm vars it t' p = [] ↔ cv ≠ .undefined)) :
    ∃ cv, listItemLiteral vars it t'.isNonNull (coerceLiteral c D tm vars it t') = .ok cv ∧
      (validateLiteral c tm vars it t' p = [] ↔ cv ≠ .undefined) := by
  cases hx : it.asVar with
  | none =>
    rw [listItemLiteral_nonvar vars _ _ (by simp [Lit.isVar_eq, hx])]
    exact ih (VarOK_of_not_var hx)
  | some x =>
    -- a variable: both sides are explicit; without runtime value at a nullable item type it is coerced to null
    have hs : vars.isNone = false := by obtain ⟨vv, rfl⟩ := vars_of_var hconst hx; rfl
    rw [coerceLiteral_var c D tm vars t' hx, validateLiteral_var c tm vars t' p hx]
    simp only [hs, Bool.false_eq_true, ↓reduceIte]
    by_cases hd : isDefined (varGet vars x) = true
    · have hu := (isDefined_iff _).1 hd
      by_cases hrej : ((varGet vars x).isNullish && t'.isNonNull) = true
      · have ⟨hnl, hnn⟩ := Bool.and_eq_true_iff.1 hrej
        exact ⟨.undefined, by simp [hnl, hnn, listItemLiteral], by simp [hnl, hnn]⟩
      · refine ⟨varGet vars x, by simp [hrej, listItemLiteral_ok vars it _ hu], ?_⟩
        rw [Bool.and_comm] at hrej
        simp [hrej, hu]
    · have hval := nullish_of_undefined (by simpa using hd)
      have hvar : it.isVar = true := by simp [Lit.isVar_eq, hx]
      cases t'.isNonNull
      · exact ⟨.none, by simp [hval, listItemLiteral, hvar, litVarValue_of_asVar hx, PyVal.isNullish], by simp⟩
      · exact ⟨.undefined, by simp [hval, listItemLiteral, PyVal.isNullish], by simp [hval, PyVal.isNullish]⟩

theorem fieldVarErrors_not_var {oneOf : Bool} {path : Path} {fv : Lit} (h : fv.isVar = false) :
    fieldVarErrors vars oneOf path fv = [] := by
  simp [fieldVarErrors, h]

/-- One declared field on both sides: it is invalid only if the validator reports it, and when it is not invalid the
validator reports for it just what the OneOf check has against its node (a variable without non-null runtime value). -/
theorem lit_field_agree (hD : DefaultsTotal D) (oneOf : Bool) (fs : List (List Nat × Lit)) (path : Path) (f : Field)
    (hnn : oneOf = true → f.type.isNonNull = false)
    (hconst : vars = none → ∀ fv, litGetLast fs f.name = some fv → fv.isConst = true)
    (ih : ∀ fv, litGetLast fs f.name = some fv → VarOK vars fv f.type →
      ∃ cv, coerceLiteral c D tm vars fv f.type = .ok cv ∧
        (validateLiteral c tm vars fv f.type (path ++ [.key f.name]) = [] ↔ cv ≠ .undefined)) :
    ∃ x, coerceLitField c D tm vars fs f = .ok x ∧
      (x = .invalid → validateLitField c tm vars oneOf fs path f ≠ []) ∧
      (x ≠ .invalid → validateLitField c tm vars oneOf fs path f =
        (litGetLast fs f.name).elim [] (fieldVarErrors vars oneOf path)) := by
  unfold coerceLitField validateLitField litProvided
  split
  · rename_i fv hfv
    have hE : (if vars.isSome = true then fieldVarErrors vars oneOf path fv else []) = fieldVarErrors vars oneOf path fv := by
      cases hvars : vars with
      | none => simp [fieldVarErrors, isVar_false_of_const (hconst hvars fv hfv)]
      | some _ => rfl
    simp only [hfv, Option.filter, Option.elim, hE]
    by_cases hread : (fv.isVar && !isDefined (litVarValue vars fv)) = true
    case neg =>
      obtain ⟨cv, hcv, hv⟩ := ih fv hfv fun x hx => .inl <| by
        simpa [Lit.isVar_eq, hx, litVarValue_of_asVar hx] using hread
      obtain ⟨x, hx, hxi⟩ := fieldRes_provided D f hv
      have hif : (fv.isVar && vars.isSome && !oneOf && !isDefined (litVarValue vars fv) && !f.isRequired) = false := by
        revert hread; cases fv.isVar <;> cases isDefined (litVarValue vars fv) <;> simp
      simp only [hif, hread, Bool.not_false, ↓reduceIte, Option.map_some, hcv, Bool.false_eq_true]
      refine ⟨x, hx, fun h => by simp [hxi.1 h], fun h => ?_⟩
      rw [Classical.not_not.1 (mt hxi.2 h), List.append_nil]
    case pos =>
      -- a variable without runtime value counts as not provided
      obtain ⟨hvar, hdef⟩ := Bool.and_eq_true_iff.1 hread
      obtain ⟨x', hx'⟩ := Option.isSome_iff_exists.1 (Lit.isVar_eq fv ▸ hvar)
      obtain ⟨vv, rfl⟩ := vars_of_var (fun h => hconst h fv hfv) hx'
      have hval := nullish_of_undefined (by simpa using hdef)
      obtain ⟨x, hx, hxi⟩ := fieldRes_missing hD f
      refine ⟨x, by simpa [hread] using hx, fun hr => ?_, fun hr => ?_⟩ <;>
        simp only [hvar, hval, validateLiteral_var c tm _ f.type _ hx', fieldVarErrors, Bool.true_and,
          ← litVarValue_of_asVar (vars := some vv) hx', PyVal.isNullish, isDefined, Bool.and_true, Bool.not_false,
          Option.isSome_some, Option.isNone_some, Bool.false_eq_true, ↓reduceIte]
      · have hreq := hxi.1 hr
        have : f.type.isNonNull = true := by
          simp only [Field.isRequired, Bool.and_eq_true] at hreq; exact hreq.1
        simp [hreq, this]
      · have hreq : f.isRequired = false := by simpa [hxi] using hr
        cases ho : oneOf
        · simp [hreq]
        · simp [hnn ho]
  · rename_i hnone
    obtain ⟨x, hx, hxi⟩ := fieldRes_missing hD f
    refine ⟨x, by simpa [hnone] using hx, ?_, ?_⟩ <;> simp [hxi, hnone]

/-- The OneOf checks of the two sides agree on an object literal without undeclared names whose fields are all valid,
nullable and without defaults: anything but one node is rejected by both; the field of a single node holds the only
entry, and the three forms of that node are looked at one by one. -/
theorem oneOfLit_agree (hEN : ∀ n e, tm.find n = some (.enum e) → ∀ k, e.valueOf k ≠ some .none)
    {fs : List (List Nat × Lit)} {fields : List Field} (path : Path)
    (hfsn : (fs.map (·.1)).Nodup) (hnames : (fields.map (·.name)).Nodup)
    (hunk : fs.any (fun kv => !fields.any (fun f => f.name = kv.1)) = false)
    (hnoDef : ∀ f ∈ fields, D f = .ok .undefined ∧ f.type.isNonNull = false)
    {es : List (List Nat × PyVal)} (hes : seqFields (fields.map (coerceLitField c D tm vars fs)) = .ok (some es))
    {H : Field → List Path}
    (hH : ∀ f ∈ fields, H f = (litGetLast fs f.name).elim [] (fieldVarErrors vars true path)) :
    ∃ cv, oneOfLiteral fs es = .ok cv ∧
      ((fields.flatMap H = [] ∧
        oneOfLiteralErrors path (fs.filter fun kv => fields.any (fun f => f.name = kv.1)) = []) ↔ cv ≠ .undefined) := by
  have hknown : (fs.filter fun kv => fields.any (fun f => f.name = kv.1)) = fs := by
    rw [List.filter_eq_self]
    intro kv hkv
    simpa using List.any_eq_false.1 hunk kv hkv
  rw [hknown]
  have hln := litNames_of_nodup hfsn
  rcases fs with _ | ⟨⟨k0, node⟩, _ | ⟨b, rest⟩⟩
  · exact ⟨.undefined, by simp [oneOfLiteral, hln], by simp [oneOfLiteralErrors]⟩
  rotate_left
  · exact ⟨.undefined, by simp [oneOfLiteral, hln], by simp [oneOfLiteralErrors]⟩
  -- exactly one field node, of the declared field `f0`; every other field has no node, reports nothing and has no entry
  obtain ⟨f0, hf0, rfl⟩ : ∃ f0 ∈ fields, f0.name = k0 := by
    simpa using List.any_eq_false.1 hunk (k0, node) (by simp)
  have hget : ∀ n, litGetLast [(f0.name, node)] n = if f0.name = n then some node else none := fun n => by
    simp [litGetLast]
  have hE : fields.flatMap H = [] ↔ fieldVarErrors vars true path node = [] := by
    rw [List.flatMap_eq_nil_iff]
    refine ⟨fun h => by simpa [hget, hH f0 hf0] using h f0 hf0, fun h f hf => ?_⟩
    rw [hH f hf, hget]; split <;> simp [h]
  have hes' := seqFields_single hnames hes hf0 fun f hf hne => by
    rw [coerceLitField, litProvided, hget, if_neg (Ne.symm hne)]
    exact entryOf_fieldRes_none (hnoDef f hf).1
  obtain ⟨x0, hx0, hxn⟩ := seqFields_valid hes hf0
  rw [hE, hes', hx0]
  rw [coerceLitField, litProvided, hget, if_pos rfl] at hx0
  obtain ⟨hD0, hnn⟩ := hnoDef f0 hf0
  have hnames1 : litNames [(f0.name, node)] = [f0.name] := hln
  have hnode : nodeIsNull [(f0.name, node)] f0.name = node.isNull := by simp [nodeIsNull, hget]
  cases hx : node.asVar with
  | some x' =>
    have hvar : node.isVar = true := by simp [Lit.isVar_eq, hx]
    have hlv := litVarValue_of_asVar (vars := vars) hx
    have hnull := Lit.isNull_false_of_asVar hx
    by_cases hdef : isDefined (varGet vars x') = true
    · -- a variable with runtime value: the entry is that value, rejected on both sides when it is `None`
      simp only [Option.filter, hvar, hlv, hdef, Bool.not_true, Bool.and_false, Bool.not_false, ↓reduceIte,
        Option.map_some, coerceLiteral_var c D tm vars _ hx, hnn] at hx0
      obtain ⟨cv, hcv, hcu, rfl⟩ := fieldRes_some_inv hx0 hxn
      cases Out.ok.inj hcv
      by_cases hnl : (varGet vars x').isNullish = true
      · rw [nullish_defined_is_none hnl hdef]
        exact ⟨.undefined, by simp [oneOfLiteral, hnames1, entryOf, coercedIsNone_self],
          by simp [fieldVarErrors, hvar, hlv, hnl]⟩
      · exact ⟨_, oneOfLiteral_one hnull fun h => hnl (by rw [h]; rfl),
          by simp [fieldVarErrors, hvar, hlv, hnl, oneOfLiteralErrors, hnull]⟩
    · -- a variable without runtime value: no entry, and the validator reports the variable
      simp only [Option.filter, hvar, hlv, hdef, Bool.not_false, Bool.and_true, Bool.not_true, Bool.false_eq_true,
        ↓reduceIte, Option.map_none] at hx0
      have := entryOf_fieldRes_none (f := f0) hD0
      rw [hx0] at this
      exact ⟨.undefined, by simp [oneOfLiteral, hnames1, this],
        by simp [fieldVarErrors, hvar, hlv, nullish_of_undefined (by simpa using hdef), PyVal.isNullish]⟩
  | none =>
    -- an ordinary node: its value is `None` exactly when the node is `null`, which both sides reject
    have hvar : node.isVar = false := by simp [Lit.isVar_eq, hx]
    simp only [Option.filter, hvar, Bool.false_and, Bool.not_false, ↓reduceIte, Option.map_some] at hx0
    obtain ⟨cv, hcv, hcu, rfl⟩ := fieldRes_some_inv hx0 hxn
    by_cases hnull : node.isNull = true
    · rw [coerceLiteral_null c D tm vars _ hx hnull, hnn] at hcv
      cases Out.ok.inj hcv
      exact ⟨.undefined, by simp [oneOfLiteral, hnames1, entryOf, hnode, hnull], by simp [oneOfLiteralErrors, hnull]⟩
    · have hnull' : node.isNull = false := by simpa using hnull
      exact ⟨_, oneOfLiteral_one hnull' (coerceLiteral_ne_none c D tm vars hEN node hx hnull _ cv hcv),
        by simp [fieldVarErrors, hvar, oneOfLiteralErrors, hnull']⟩

end

theorem coerce_validate_literal_full (c : PyConv) (D : Field → R) (tm : TypeMap) (hW : TmWF D tm)
    (vars : Option VarValues) (l : Lit) (t : InType) (path : Path)
    (hconst : vars = none → l.isConst = true) (hu : l.Unique) (hok : VarOK vars l t) :
    ∃ cv, coerceLiteral c D tm vars l t = .ok cv ∧ (validateLiteral c tm vars l t path = [] ↔ cv ≠ .undefined) := by
  have hD := hW.defaults
  induction l, t, path using validateLiteral.induct c tm vars with
  | case1 l t path x hv hs =>
    obtain ⟨vv, rfl⟩ := vars_of_var hconst hv
    cases hs
  | case2 l t path x hv hs _ | case3 l t path x hv hs _ =>
    exact var_agree c D tm vars t path hv (by cases vars <;> simp_all) hok
  | case4 l path hv t' hn =>
    rw [coerceLiteral_nonNull c D tm vars hv, validateLiteral_nonNull c tm vars hv]; simp [hn]
  | case5 l path hv t' hn ih =>
    rw [coerceLiteral_nonNull c D tm vars hv, validateLiteral_nonNull c tm vars hv]
    simpa [hn] using ih hconst hu (VarOK_of_not_var hv)
  | case6 l path hv t' hn | case9 l path hv n hn =>
    rw [coerceLiteral_null c D tm vars _ hv hn, validateLiteral]; simp [hv, hn, InType.isNonNull]
  | case7 l path hv t' hn items hl ih =>
    rw [coerceLiteral_list_iter c D tm vars hv hn hl, validateLiteral_list_iter c tm vars hv hn hl]
    refine items_agree items (fun it => listItemLiteral vars it t'.isNonNull (coerceLiteral c D tm vars it t'))
      (fun it i => validateLiteral c tm vars it t' (path ++ [.idx i])) fun it hit i => ?_
    obtain ⟨hitu, hitc⟩ := Lit.asList_mem hl hit
    exact item_agree c D tm vars (fun h => hitc (hconst h)) fun hok' =>
      ih it hit i (fun h => hitc (hconst h)) (hitu hu) hok'
  | case8 l path hv t' hn hl ih =>
    rw [coerceLiteral_list_single c D tm vars hv hn hl, validateLiteral_list_single c tm vars hv hn hl]
    exact listOfOne_agree (ih hconst hu (VarOK_of_not_var hv))
  | case10 l path hv n hn fields oneOf hf fs ho ih =>
    have hnoDef : oneOf = true → ∀ f ∈ fields, D f = .ok .undefined ∧ f.type.isNonNull = false := fun ho' f hf' => by
      subst ho'; exact ⟨hW.oneOfNoDefaults n fields hf f hf', hW.oneOfNullable n fields hf f hf'⟩
    rw [coerceLiteral_obj c D tm vars hv hn hf ho, validateLiteral_obj c tm vars hv hn hf ho]
    have hfield := fun f (hf' : f ∈ fields) =>
      lit_field_agree c D tm vars hD oneOf fs path f (fun ho' => (hnoDef ho' f hf').2)
        (fun hn' fv hfv => (Lit.asObj_mem ho (litGetLast_mem hfv)).2 (hconst hn'))
        (fun fv hfv hok' =>
          let ⟨hfu, hfc⟩ := Lit.asObj_mem ho (litGetLast_mem hfv)
          ih f fv hfv (fun hn' => hfc (hconst hn')) (hfu hu) hok')
    refine dictOf_agree path (by rw [List.any_eq_false, List.filter_eq_nil_iff]) hfield fun hunk' es hso hH => ?_
    cases oneOf with
    | true =>
      obtain ⟨cv, hcv, hcviff⟩ := oneOfLit_agree c D tm vars hW.enumsNonNull path (Lit.asObj_nodup ho hu)
        (hW.fieldsNodup n fields _ hf) hunk' (hnoDef rfl) hso hH
      exact ⟨cv, hcv, by rw [← hcviff, List.append_eq_nil_iff]; rfl⟩
    | false =>
      refine ⟨.dict es, rfl, ?_⟩
      simp only [Bool.false_eq_true, ↓reduceIte, List.append_nil, ne_eq, reduceCtorEq, not_false_eq_true, iff_true,
        List.flatMap_eq_nil_iff]
      intro f hf'
      rw [hH f hf']
      cases litGetLast fs f.name <;> simp [fieldVarErrors]
  | case11 l path hv n hn fields oneOf hf ho =>
    rw [coerceLiteral_notobj c D tm vars hv hn hf ho, validateLiteral_notobj c tm vars hv hn hf ho]
    exact ⟨.undefined, rfl, by simp⟩
  | case12 l path hv n hn s hf hdv | case13 l path hv n hn s hf hdv | case14 l path hv n hn s hf hdv
  | case15 l path hv n hn s hf hdv =>
    rw [coerceLiteral_leaf c D tm vars hv hn hf rfl, validateLiteral_leaf c tm vars hv hn hf rfl]
    exact ⟨_, rfl, by rw [← isDefined_iff]; simp [hdv]⟩
  | case16 l path hv n hn hf =>
    rw [coerceLiteral, validateLiteral]
    simp [hv, hn, hf]

end Gql.Values
