import Gql.Proofs.SpecKeys
import Gql.Proofs.SpecFacts

/-!
C02 — errors account for the nulled positions: for every error of the specification's response
that carries a path, the longest prefix of the path that is present in `data` holds `null`.
(Stated for data graphs whose raising resolvers do not bring their own path: an error that
already carries a path is reported under that path, which need not be a response position.)
`Acct` for a value, `AcctF` for a field; both are read error by error (`Accts`), which is also the
statement for the two sibling loops; carried over the executor by `acct_walk`.
-/

namespace Gql.Exec.Refine
open Gql.Exec

def Json.at? : Json → List PSeg → Option Json
  | j, [] => some j
  | .obj kvs, .key k :: rest =>
    match kvs.lookup k with
    | some v => Json.at? v rest
    | none => none
  | .list xs, .idx i :: rest =>
    match xs[i]? with
    | some v => Json.at? v rest
    | none => none
  | _, _ => none

mutual
/-- no resolver raises an error that already carries a path -/
def NoOwnPath : RVal → Prop
  | .raise _ p => p = none
  | .list items => NoOwnPathL items
  | .obj _ f => ∀ name args, NoOwnPath (f name args)
  | _ => True
def NoOwnPathL : List RVal → Prop
  | [] => True
  | x :: xs => NoOwnPath x ∧ NoOwnPathL xs
end

/-- the longest prefix of `p` present in `j` holds `null` -/
def Acc (j : Json) (p : List PSeg) : Prop :=
  ∃ q, q <+: p ∧ Json.at? j q = some .null ∧
    ∀ q', q' <+: p → q.length < q'.length → Json.at? j q' = none

theorem at_nil (j : Json) : Json.at? j [] = some j := by cases j <;> rfl

theorem at_null_cons (a : PSeg) (r : List PSeg) : Json.at? .null (a :: r) = none := by
  cases a <;> rfl

theorem at_obj_key (kvs : List (Name × Json)) (k : Name) (r : List PSeg) :
    Json.at? (.obj kvs) (.key k :: r) = match kvs.lookup k with
      | some v => Json.at? v r
      | none => none := rfl

theorem at_list_idx (xs : List Json) (i : Nat) (r : List PSeg) :
    Json.at? (.list xs) (.idx i :: r) = match xs[i]? with
      | some v => Json.at? v r
      | none => none := rfl

theorem acc_null (p : List PSeg) : Acc .null p := by
  refine ⟨[], List.nil_prefix, at_nil _, ?_⟩
  intro q' _ hl
  cases q' with
  | nil => simp at hl
  | cons a r => exact at_null_cons a r

theorem acc_cons {parent j : Json} {a : PSeg} {p : List PSeg}
    (hat : ∀ q, Json.at? parent (a :: q) = Json.at? j q) (h : Acc j p) : Acc parent (a :: p) := by
  obtain ⟨q, hq, hnull, hmax⟩ := h
  refine ⟨a :: q, List.cons_prefix_cons.2 ⟨rfl, hq⟩, (hat q).trans hnull, fun q' hq' hlen => ?_⟩
  rcases List.prefix_cons_iff.1 hq' with rfl | ⟨q0, rfl, hq0⟩
  · simp at hlen
  · exact (hat q0).trans (hmax q0 hq0 (by simpa using hlen))

theorem acc_obj {kvs : List (Name × Json)} {k : Name} {j : Json} {p : List PSeg}
    (hl : kvs.lookup k = some j) (h : Acc j p) : Acc (.obj kvs) (.key k :: p) :=
  acc_cons (fun q => by rw [at_obj_key, hl]) h

theorem acc_list {js : List Json} {n : Nat} {j : Json} {p : List PSeg}
    (hl : js[n]? = some j) (h : Acc j p) : Acc (.list js) (.idx n :: p) :=
  acc_cons (fun q => by rw [at_list_idx, hl]) h

/-- errors of a computation at `pos`: located at or below `pos`, and accounted for in its value -/
structure Acct (pos : List PSeg) (r : Spec.R Json) : Prop where
  located : ∀ e ∈ r.errs, ∃ p', e.path = some (pos ++ p')
  acc : ∀ j, r.out = some j → ∀ e ∈ r.errs, ∀ p', e.path = some (pos ++ p') → Acc j p'

theorem Acct.pure (pos : List PSeg) (j : Json) : Acct pos (Spec.R.pure j) :=
  ⟨by simp [Spec.R.pure], by simp [Spec.R.pure]⟩

theorem Acct.fail (pos : List PSeg) (k : ErrKind) : Acct pos (Spec.R.fail pos k) :=
  ⟨by intro e he; simp only [Spec.R.fail, List.mem_singleton] at he; subst he; exact ⟨[], by simp⟩,
   by simp [Spec.R.fail]⟩

theorem Acct.absorb {pos : List PSeg} {r : Spec.R Json} (t : TypeRef) (h : Acct pos r) :
    Acct pos (Spec.absorb t r) := by
  unfold Spec.absorb
  cases hr : r.out with
  | some j => simpa [hr] using h
  | none =>
    simp only
    split
    · exact h
    · refine ⟨h.located, ?_⟩
      intro j hj e _ p' _
      simp only [Option.some.injEq] at hj
      subst hj
      exact acc_null p'

/-- `executeField`: located; accounted for in the value; no errors when the field is undefined -/
structure AcctF (pos : List PSeg) (r : Spec.R (Option Json)) : Prop where
  located : ∀ e ∈ r.errs, ∃ p', e.path = some (pos ++ p')
  acc : ∀ j, r.out = some (some j) → ∀ e ∈ r.errs, ∀ p', e.path = some (pos ++ p') → Acc j p'
  skipped : r.out = some none → r.errs = []

theorem AcctF.ofAcct {pos : List PSeg} {r : Spec.R Json} (h : Acct pos r) :
    AcctF pos (r.mapOut some) :=
  ⟨h.located, by intro j hj; simp only [Spec.R.mapOut, Option.map_eq_some_iff, Option.some.injEq] at hj
                 obtain ⟨a, ha, rfl⟩ := hj; exact h.acc a ha,
   by intro hn; simp only [Spec.R.mapOut, Option.map_eq_some_iff] at hn; obtain ⟨a, _, ha⟩ := hn; cases ha⟩

/-- the errors of a computation at `pos`, one by one: the error lies at or below `pos`, and what
is left of its path is accounted for (`A`) in the value, if there is one.  `Acct` is
`Accts Acc`; for a sibling loop `A` says under which child the path goes on. -/
def Accts {α : Type} (A : α → List PSeg → Prop) (pos : List PSeg) (r : Spec.R α) : Prop :=
  ∀ e ∈ r.errs, ∃ p, e.path = some (pos ++ p) ∧ ∀ a, r.out = some a → A a p

theorem Acct.accts {pos : List PSeg} {r : Spec.R Json} (h : Acct pos r) : Accts Acc pos r :=
  fun e he => (h.located e he).imp fun p hp => ⟨hp, fun j hj => h.acc j hj e he p hp⟩

theorem AcctF.accts {pos : List PSeg} {r : Spec.R (Option Json)} (h : AcctF pos r) :
    Accts (fun o p => ∃ j, o = some j ∧ Acc j p) pos r :=
  fun e he => (h.located e he).imp fun p hp => ⟨hp, fun o ho => by
    cases o with
    | none => rw [h.skipped ho] at he; cases he
    | some j => exact ⟨j, rfl, h.acc j ho e he p hp⟩⟩

variable {α β γ : Type} {A : α → List PSeg → Prop} {B : β → List PSeg → Prop}

/-- from the children to their parent -/
theorem Accts.up {pos : List PSeg} {r : Spec.R α} (g : α → Json) (h : Accts A pos r)
    (hg : ∀ a p, A a p → Acc (g a) p) : Acct pos (r.mapOut g) :=
  ⟨fun e he => (h e he).imp fun _ hp => hp.1, fun j hj e he p' hp' => by
    simp only [Spec.R.mapOut, Option.map_eq_some_iff] at hj
    obtain ⟨a, ha, rfl⟩ := hj
    obtain ⟨p, hp, hA⟩ := h e he
    cases List.append_cancel_left (Option.some.inj (hp'.symm.trans hp))
    exact hg a _ (hA a ha)⟩

/-- a head at the child position `pos ++ [s]`, then its siblings -/
theorem Accts.andThen {C : γ → List PSeg → Prop} {pos : List PSeg} {s : PSeg} {r : Spec.R α}
    {rs : Spec.R β} (f : α → β → γ) (h1 : Accts A (pos ++ [s]) r) (h2 : Accts B pos rs)
    (hA : ∀ a b p, A a p → C (f a b) (s :: p)) (hB : ∀ a b p, B b p → C (f a b) p) :
    Accts C pos (r.andThen f rs) := by
  have hd : ∀ e ∈ r.errs, ∃ p, e.path = some (pos ++ p) ∧ ∀ a b, r.out = some a → C (f a b) p :=
    fun e he => by
      obtain ⟨p, hp, ha⟩ := h1 e he
      exact ⟨s :: p, by simp [hp], fun a b hout => hA a b p (ha a hout)⟩
  unfold Spec.R.andThen
  cases hout : r.out with
  | none => exact fun e he => (hd e he).imp fun p hp => ⟨hp.1, nofun⟩
  | some v =>
    intro e he
    simp only [Option.map_eq_some_iff] at he ⊢
    rcases List.mem_append.1 he with he | he
    · obtain ⟨p, hp, ha⟩ := hd e he
      exact ⟨p, hp, fun c ⟨b, _, hc⟩ => hc ▸ ha v b hout⟩
    · obtain ⟨p, hp, hb⟩ := h2 e he
      exact ⟨p, hp, fun c ⟨b, hb', hc⟩ => hc ▸ hB v b p (hb b hb')⟩

theorem NoOwnPath.child {d : RVal} (h : NoOwnPath d) (name : Name) (args : ArgMap) :
    NoOwnPath (d.child name args) := by
  cases d with
  | obj tn f => simp only [NoOwnPath] at h; exact h name args
  | _ => simp [RVal.child, NoOwnPath]

/-- the path goes on under one of the keys `ks`, which holds a value that accounts for the rest -/
def UnderKey (ks : List Name) (kvs : List (Name × Json)) (p : List PSeg) : Prop :=
  ∃ k ∈ ks, ∃ p' j, p = .key k :: p' ∧ kvs.lookup k = some j ∧ Acc j p'

/-- the path goes on under the `n`-th item (of those from index `i` on) -/
def UnderIdx (i : Nat) (js : List Json) (p : List PSeg) : Prop :=
  ∃ n p' j, p = .idx (i + n) :: p' ∧ js[n]? = some j ∧ Acc j p'

theorem acct_walk (cx : Spec.Ctx) :
    Walk cx (fun _ _ d pos r => NoOwnPath d → Acct pos r)
      (fun _ dc _ pos r => (∀ n a, NoOwnPath (dc n a)) → AcctF pos r)
      (fun _ dc gs pos r => (∀ n a, NoOwnPath (dc n a)) → Accts (UnderKey (keys gs)) pos r)
      (fun _ _ xs pos i r => NoOwnPathL xs → Accts (UnderIdx i) pos r) where
  pure _ _ _ _ _ _ := .pure ..
  fail _ _ := .fail ..
  own _ _ _ _ _ h := by simp [NoOwnPath] at h
  obj _ _ _ _ h hd := (h hd.child).up _ fun _ _ ⟨_, _, _, _, hp, hl, ha⟩ => hp ▸ acc_obj hl ha
  list h hd := (h (by simpa [NoOwnPath] using hd)).up _ fun _ _ ⟨n, _, _, hp, hl, ha⟩ =>
    hp ▸ (Nat.zero_add n).symm ▸ acc_list hl ha
  pureF _ _ _ _ _ _ := ⟨by simp [Spec.R.pure], by simp [Spec.R.pure], by simp [Spec.R.pure]⟩
  failF t _ _ := .ofAcct ((Acct.fail ..).absorb t)
  call _ _ _ h hd := .ofAcct (Acct.absorb _ ⟨(h (hd ..)).located, (h (hd ..)).acc⟩)
  nilG _ _ _ _ := by simp [Accts, Spec.R.pure]
  consG := fun {_ _ k _ _ _ _ _} hk h1 ih hd => (h1 hd).accts.andThen _ (ih hd)
    (fun _ _ p ⟨j, ho, ha⟩ => ⟨k, List.mem_cons_self .., p, j, rfl, by simp [ho, Spec.consKey], ha⟩)
    fun o _ _ ⟨k', hm, p', j, hp, hl, ha⟩ => ⟨k', List.mem_cons_of_mem _ hm, p', j, hp, by
      -- a later key is not the head's: the head's entry does not hide it
      have hne : k' ≠ k := fun heq => hk (heq ▸ hm)
      cases o with
      | none => exact hl
      | some j => simp only [Spec.consKey]; rw [List.lookup_cons, beq_false_of_ne hne]; exact hl, ha⟩
  nilI _ _ _ _ _ := by simp [Accts, Spec.R.pure]
  consI := fun {t _ _ _ _ i _ _} h1 ih hd => by
    simp only [NoOwnPathL] at hd
    exact ((h1 hd.1).absorb t).accts.andThen _ (ih hd.2) (fun j _ p ha => ⟨0, p, j, rfl, rfl, ha⟩)
      fun _ _ _ ⟨n, p', j, hp, hl, ha⟩ =>
        ⟨n + 1, p', j, by rw [hp, show i + 1 + n = i + (n + 1) by omega], by simpa using hl, ha⟩

theorem completeItems_acct (cx : Spec.Ctx) : (items : List RVal) → NoOwnPathL items →
    ∀ (t : TypeRef) (fields : List FieldNode) (pos : List PSeg) (i : Nat),
    (∀ e ∈ (Spec.completeItems cx t fields pos i items).errs, ∃ p', e.path = some (pos ++ p')) ∧
    ∀ js, (Spec.completeItems cx t fields pos i items).out = some js →
      ∀ e ∈ (Spec.completeItems cx t fields pos i items).errs,
        ∃ n p'' j, e.path = some (pos ++ PSeg.idx (i + n) :: p'') ∧ js[n]? = some j ∧ Acc j p'' :=
  fun items h t fields pos i =>
    have hw := (acct_walk cx).items items t fields pos i h
    ⟨fun e he => (hw e he).imp fun _ hp => hp.1, fun js hjs e he => by
      obtain ⟨_, hp, ha⟩ := hw e he
      obtain ⟨n, p', j, rfl, hl, hacc⟩ := ha js hjs
      exact ⟨n, p', j, hp, hl, hacc⟩⟩

theorem executeRequest_accounts (ops : Ops) (s : Schema) (doc : Doc) (opName : Option Name)
    (vars : Vars) (root : RVal) (hroot : NoOwnPath root) :
    ∀ e ∈ (Spec.executeRequest ops s doc opName vars root).errors, ∀ p, e.path = some p →
      Acc (Spec.executeRequest ops s doc opName vars root).data p := by
  rcases (acct_walk _).executeRequest opName root with ⟨k, h⟩ | ⟨rt, groups, r, hg, h⟩ <;> rw [h]
  · intro e he p hp; simp only [List.mem_singleton] at he; subst he; cases hp
  · intro e he p hp
    cases hout : r.out with
    | none => exact acc_null p
    | some kvs =>
      simp only
      obtain ⟨_, hp', ha⟩ := hg hroot.child e he
      obtain ⟨k, _, p', j, rfl, hl, hacc⟩ := ha kvs hout
      cases hp.symm.trans hp'
      exact acc_obj hl hacc

end Gql.Exec.Refine
