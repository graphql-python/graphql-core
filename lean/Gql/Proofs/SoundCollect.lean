import Gql.Proofs.SoundArgs
import Gql.Proofs.ExecCollect
import Gql.Proofs.SpecKeys

/-!
C13 — CollectFields on a plain selection set (fields only, no directives, distinct response
keys) is the list of its fields, one group each.
-/

namespace Gql.Exec.Valid
open Gql.Exec Gql.Exec.Refine

mutual
/-- fields only, no directives, distinct response keys at every level -/
def plainSel : Selection → Bool
  | .field _ _ _ dirs sels => dirs.isEmpty && plainSels sels
  | _ => false
def plainSels : List Selection → Bool
  | [] => true
  | sel :: rest => plainSel sel && plainSels rest
end

def keyOfSel : Selection → Name
  | .field alias name _ _ _ => (match alias with | some a => a | none => name)
  | _ => ""

def nodeOfSel : Selection → FieldNode
  | .field alias name args dirs sels => { alias := alias, name := name, args := args, dirs := dirs, sels := sels }
  | _ => default

mutual
def distinctSel : Selection → Bool
  | .field _ _ _ _ sels => nodupNames (sels.map keyOfSel) && distinctSelsAux sels
  | .inline _ _ sels => nodupNames (sels.map keyOfSel) && distinctSelsAux sels
  | .spread _ _ => true
def distinctSelsAux : List Selection → Bool
  | [] => true
  | sel :: rest => distinctSel sel && distinctSelsAux rest
end

def distinctSels (sels : List Selection) : Bool :=
  nodupNames (sels.map keyOfSel) && distinctSelsAux sels

def groupsOf (sels : List Selection) : Spec.Groups :=
  sels.map (fun sel => (keyOfSel sel, [nodeOfSel sel]))

theorem included_nil (scx : Spec.Ctx) : Spec.included scx [] = some true := by
  simp [Spec.included]

theorem nodupNames_iff (l : List Name) : nodupNames l = true ↔ l.Nodup := by
  induction l with
  | nil => simp [nodupNames]
  | cons a t ih => simp [nodupNames, ih]

/-- the keys of the groups so far and of the fields still to come stay distinct, so every field
opens a group of its own -/
theorem collectLoop_plain (scx : Spec.Ctx) (rt : Name)
    (recur : List Selection → List Name → Out ErrKind (Spec.Groups × List Name)) :
    ∀ (sels : List Selection) (acc : Spec.Groups) (vis : List Name),
      plainSels sels = true → (keys acc ++ sels.map keyOfSel).Nodup →
      Spec.collectLoop scx rt recur sels acc vis = .ok (acc ++ groupsOf sels, vis)
  | [], acc, vis, _, _ => by simp [Spec.collectLoop, groupsOf]
  | .inline .. :: _, _, _, hp, _ => by simp [plainSels, plainSel] at hp
  | .spread .. :: _, _, _, hp, _ => by simp [plainSels, plainSel] at hp
  | .field alias name args dirs sels :: rest, acc, vis, hp, hnd => by
    simp only [plainSels, plainSel, Bool.and_eq_true, List.isEmpty_iff] at hp
    obtain ⟨⟨rfl, _⟩, hrest⟩ := hp
    have hkey : (⟨alias, name, args, [], sels⟩ : FieldNode).key =
        keyOfSel (.field alias name args [] sels) := by cases alias <;> rfl
    have hk : keyOfSel (.field alias name args [] sels) ∉ keys acc := fun hm =>
      (List.nodup_append.1 hnd).2.2 _ hm _ (List.mem_cons_self ..) rfl
    unfold Spec.collectLoop Spec.collectOne
    simp only [included_nil]
    rw [hkey, appendGroup_of_not_mem acc _ _ hk,
      collectLoop_plain scx rt recur rest _ vis hrest (by simpa [keys] using hnd)]
    simp [groupsOf, nodeOfSel]

theorem collectFields_plain (scx : Spec.Ctx) (rt : Name) (sels : List Selection)
    (hp : plainSels sels = true) (hnd : (sels.map keyOfSel).Nodup) :
    Spec.collectFields scx rt sels = .ok (groupsOf sels) := by
  unfold Spec.collectFields Spec.fuelOf Spec.collectFieldsFuel
  rw [collectLoop_plain scx rt _ sels [] [] hp (by simpa [keys] using hnd)]
  simp

end Gql.Exec.Valid
