import Gql.Proofs.SchemaGraph
import Gql.Proofs.SchemaValidate
/-!
Lemmas for C20: the graph of unbreakable references (a field whose type is Non-Null of an
input object), and that the specification's bounded search (`Spec.noUnbreakableCycle`) decides
whether a type reaches itself in it.
-/
namespace Gql.Types
open Gql

/-- `b` is an unbreakable reference of `a` -/
def Edge (s : RawSchema) (a b : Str) : Prop := b ∈ Spec.unbreakableRefs s a

inductive ReachStar (s : RawSchema) : Str → Str → Prop where
  | refl (a : Str) : ReachStar s a a
  | step {a b c : Str} : Edge s a b → ReachStar s b c → ReachStar s a c

/-- a non-empty chain of unbreakable references -/
def ReachPlus (s : RawSchema) (a c : Str) : Prop := ∃ b, Edge s a b ∧ ReachStar s b c

theorem reachStar_iff {s : RawSchema} {a b : Str} : ReachStar s a b ↔ RStar (Edge s) a b := by
  constructor <;> intro h <;> induction h with
  | refl => exact .refl _
  | step e _ ih => exact .step e ih

theorem reachPlus_iff {s : RawSchema} {a c : Str} : ReachPlus s a c ↔ RPlus (Edge s) a c :=
  exists_congr fun _ => and_congr_right fun _ => reachStar_iff

theorem ReachPlus.star {s : RawSchema} {a c : Str} (h : ReachPlus s a c) : ReachStar s a c := by
  obtain ⟨b, e, h⟩ := h; exact .step e h

theorem isInputObject_lookup {s : RawSchema} {n : Str} (h : s.isInputObject n = true) :
    ∃ fields o, s.lookup n = some (.input fields o) := by
  unfold RawSchema.isInputObject at h
  split at h
  · rename_i fields o hl; exact ⟨fields, o, hl⟩
  · simp at h

theorem isInputObject_mem_names {s : RawSchema} {n : Str} (h : s.isInputObject n = true) :
    n ∈ s.types.map (·.name) := by
  obtain ⟨fields, o, hl⟩ := isInputObject_lookup h
  obtain ⟨t, ht, hn, _⟩ := lookup_mem hl
  exact List.mem_map.mpr ⟨t, ht, hn⟩

theorem edge_source {s : RawSchema} {a b : Str} (h : Edge s a b) :
    ∃ fields o, s.lookup a = some (.input fields o) := by
  unfold Edge Spec.unbreakableRefs at h
  split at h
  · rename_i fields o hl; exact ⟨fields, o, hl⟩
  · simp at h

/-- the two validators walk the same "unbreakable reference" graph as the specification's rule -/
theorem edge_iff {s : RawSchema} {tn m : Str} {fields : List InputValue} {o : Bool}
    (hl : s.lookup tn = some (.input fields o)) :
    Edge s tn m ↔ ∃ f ∈ fields, nonNullInputTarget s f = some m := by
  unfold Edge Spec.unbreakableRefs
  rw [hl]
  exact List.mem_filterMap

theorem target_isInputObject {s : RawSchema} {f : InputValue} {m : Str}
    (h : nonNullInputTarget s f = some m) : s.isInputObject m = true := by
  unfold nonNullInputTarget at h
  split at h
  · split at h
    · rename_i hm; simp at h; subst h; exact hm
    · simp at h
  · simp at h

theorem edge_target {s : RawSchema} {a b : Str} (h : Edge s a b) : s.isInputObject b = true := by
  obtain ⟨fields, o, hl⟩ := edge_source h
  obtain ⟨f, _, hf⟩ := (edge_iff hl).mp h
  exact target_isInputObject hf

theorem mem_step (s : RawSchema) (X : List Str) (b : Str) :
    b ∈ (X ++ X.flatMap (Spec.unbreakableRefs s)).eraseDups ↔ b ∈ X ∨ ∃ a ∈ X, Edge s a b := by
  rw [List.mem_eraseDups]
  simp [Edge, List.mem_flatMap]

theorem reachable_sound (s : RawSchema) : ∀ (n : Nat) (X : List Str) (b : Str),
    b ∈ Spec.reachable s n X → ∃ x ∈ X, RStar (Edge s) x b
  | 0, X, b, h => ⟨b, h, .refl b⟩
  | n + 1, X, b, h => by
    unfold Spec.reachable at h
    obtain ⟨x', hx', hr⟩ := reachable_sound s n _ b h
    rcases (mem_step s X x').mp hx' with hx | ⟨a, ha, e⟩
    · exact ⟨x', hx, hr⟩
    · exact ⟨a, ha, .step e hr⟩

theorem reachable_mono (s : RawSchema) : ∀ (n : Nat) (X : List Str) (b : Str),
    b ∈ X → b ∈ Spec.reachable s n X
  | 0, _, _, h => h
  | n + 1, X, b, h => by
    unfold Spec.reachable
    exact reachable_mono s n _ b ((mem_step s X b).mpr (Or.inl h))

def ClosedL (s : RawSchema) (X : List Str) : Prop := ∀ a ∈ X, ∀ b, Edge s a b → b ∈ X

/-- a round adds nothing to a closed set, so the search keeps it closed -/
theorem closed_round {s : RawSchema} {X : List Str} (hc : ClosedL s X) :
    ClosedL s (X ++ X.flatMap (Spec.unbreakableRefs s)).eraseDups := by
  intro a ha b e
  have ha' : a ∈ X := ((mem_step s X a).mp ha).elim id fun ⟨a', ha', e'⟩ => hc a' ha' a e'
  exact (mem_step s X b).mpr (Or.inl (hc a ha' b e))

theorem closed_reachable (s : RawSchema) : ∀ (n : Nat) (X : List Str), ClosedL s X →
    ClosedL s (Spec.reachable s n X)
  | 0, _, h => h
  | n + 1, _, h => by
    unfold Spec.reachable
    exact closed_reachable s n _ (closed_round h)

theorem closed_reach {s : RawSchema} {X : List Str} (hc : ClosedL s X) {x b : Str} (hx : x ∈ X)
    (h : RStar (Edge s) x b) : b ∈ X := by
  induction h with
  | refl => exact hx
  | step e _ ih => exact ih (hc _ hx _ e)

theorem reachable_closed (s : RawSchema) : ∀ (n : Nat) (X : List Str),
    Unmarked.count (s.types.map (·.name)) X ≤ n → ClosedL s (Spec.reachable s n X)
  | n, X, hU => by
    by_cases hcl : ClosedL s X
    · exact closed_reachable s n X hcl
    · -- a round adds a new name, so fewer remain unseen
      simp only [ClosedL, Classical.not_forall] at hcl
      obtain ⟨a, ha, b, e, hb⟩ := hcl
      have hlt := Unmarked.count_lt (U := s.types.map (·.name))
        (fun x hx => (mem_step s X x).mpr (Or.inl hx)) (isInputObject_mem_names (edge_target e)) hb
        ((mem_step s X b).mpr (Or.inr ⟨a, ha, e⟩))
      match n, hU with
      | 0, hU => omega
      | n + 1, hU => exact reachable_closed s n _ (by omega)

/-- The specification's bounded search finds a type among what its unbreakable references reach
exactly when the type reaches itself through a non-empty chain of unbreakable references. -/
theorem noUnbreakableCycle_iff (s : RawSchema) (tn : Str) :
    Spec.noUnbreakableCycle s tn = true ↔ ¬ ReachPlus s tn tn := by
  unfold Spec.noUnbreakableCycle
  simp only [Bool.not_eq_eq_eq_not, Bool.not_true, List.contains_eq_mem, decide_eq_false_iff_not]
  rw [reachPlus_iff]
  refine not_congr ⟨fun h => ?_, fun h => ?_⟩
  · obtain ⟨x, hx, hr⟩ := reachable_sound s _ _ tn h
    exact ⟨x, hx, hr⟩
  · obtain ⟨x, e, hr⟩ := h
    have hcl := reachable_closed s s.types.length (Spec.unbreakableRefs s tn)
      (Nat.le_trans (Unmarked.count_le _ _) (by simp))
    exact closed_reach hcl (reachable_mono s _ _ x e) hr

end Gql.Types
