import Gql.Proofs.Visitor
/-!
The contract `Spec.specNode` for visitors that never edit.  The contract is a chain of stretches
(`Res.bind`); `Post` says what holds where a stretch is undefined, where it breaks and where it ends.
One theorem (`node_inv`) covers what such a traversal preserves: every position is kept, no node is
rebuilt, and a property of the visitor state and the `edited` flag that each call preserves holds at
the end (so the flag itself is left alone); with the undefined case excluded it also says that the
contract is defined (SpecTotal).  Hence `specNode` unfolds to `walkNode` (`specNode_succ`): enter, the
children, leave on the node itself.
-/
namespace Gql.Syntax
open Gql Gql.Syntax.Spec

variable {σ : Type}

/-- a visitor that only ever answers idle / skip / break -/
def NonEditing (v : Visitor σ) : Prop := ∀ s c, (v s c).1.isEdit = false

def IsChild (m c : Node) : Prop := ∃ k, m.attr k = .one c ∨ ∃ cs, m.attr k = .many cs ∧ c ∈ cs

theorem IsChild.field {m c : Node} (h : IsChild m c) :
    ∃ k ch, m.fields.lookup k = some ch ∧ (ch = .one c ∨ ∃ cs, ch = .many cs ∧ c ∈ cs) := by
  obtain ⟨k, h⟩ := h
  unfold Node.attr at h
  cases hl : m.fields.lookup k with
  | none => rw [hl] at h; rcases h with h | ⟨_, h, _⟩ <;> cases h
  | some ch => rw [hl] at h; exact ⟨k, ch, hl, h⟩

/-- what holds of a stretch `x` of the contract: `U` if it is undefined (`True`: nothing is claimed then; `False`: it
is defined), `B` where it breaks, `D` where it ends -/
def Post {α : Type} (x : Option (Res σ α)) (U : Prop) (B : W σ → Prop) (D : W σ → α → Prop) : Prop :=
  match x with
  | none => U
  | some (.brk w) => B w
  | some (.done w a) => D w a

theorem Post.bind {α β : Type} {x : Option (Res σ α)} {f : W σ → α → Option (Res σ β)} {U : Prop} {B : W σ → Prop}
    {D : W σ → α → Prop} {D' : W σ → β → Prop} (hx : Post x U B D) (hf : ∀ w a, D w a → Post (f w a) U B D') :
    Post (Res.bind x f) U B D' := by
  cases x with
  | none => exact hx
  | some r =>
    cases r with
    | brk w => exact hx
    | done w a => exact hf w a hx

theorem Post.mono {α : Type} {x : Option (Res σ α)} {U : Prop} {B B' : W σ → Prop} {D D' : W σ → α → Prop}
    (hx : Post x U B D) (hB : ∀ w, B w → B' w) (hD : ∀ w a, D w a → D' w a) : Post x U B' D' := by
  cases x with
  | none => exact hx
  | some r =>
    cases r with
    | brk w => exact hB w hx
    | done w a => exact hD w a hx

/-- where a stretch has stopped, by a break or at its end -/
theorem Post.ends {α : Type} {x : Option (Res σ α)} {r : Res σ α} (hr : x = some r) {U : Prop} {B Q : W σ → Prop}
    (h : Post x U B (fun w _ => Q w)) (hB : ∀ w, B w → Q w) : Q r.w := by
  subst hr
  cases r with
  | brk w => exact hB w h
  | done w a => exact h

theorem Post.defined {α : Type} {x : Option (Res σ α)} {B : W σ → Prop} {D : W σ → α → Prop}
    (h : Post x False B D) : ∃ r, x = some r := by
  cases x with
  | none => exact h.elim
  | some r => exact ⟨r, rfl⟩

/-- `P`, `B`: of the visitor state and the contract's `edited` flag (the count of iterations is left out, the
contract advances it between calls) -/
def InvRec (U : Prop) (N : Node → Prop) (P B : σ → Bool → Prop) (rec : Rec σ) : Prop :=
  ∀ w c key parent anc path, N c → P w.s w.edited →
    Post (rec w c key parent anc path) U (fun w' => B w'.s w'.edited) (fun w' sl => P w'.s w'.edited ∧ sl = .keep)

theorem items_inv {U : Prop} {N : Node → Prop} {P B : σ → Bool → Prop} {rec : Rec σ} (hrec : InvRec U N P B rec)
    (parent : Option Val) (anc : List Val) (path : List Key) :
    ∀ (suf : List Node) (w : W σ) (i : Nat), (∀ c ∈ suf, N c) → P w.s w.edited →
      Post (specItems rec parent anc path w suf i) U (fun w' => B w'.s w'.edited)
        (fun w' q => P w'.s w'.edited ∧ q = (suf, false))
  | [], _, _, _, hP => ⟨hP, rfl⟩
  | c :: suf, w, i, hN, hP => by
    rw [specItems_cons]
    refine (hrec w c _ _ _ _ (hN c List.mem_cons_self) hP).bind fun w1 sl h1 => ?_
    refine (items_inv hrec parent anc path suf w1 (i + 1) (fun c hc => hN c (List.mem_cons_of_mem _ hc))
      h1.1).bind fun w2 q h2 => ?_
    rw [h1.2, h2.2]
    exact ⟨h2.1, rfl⟩

theorem attr_inv {U : Prop} {N : Node → Prop} {P B : σ → Bool → Prop} {rec : Rec σ} (hrec : InvRec U N P B rec)
    (m : Node) (anc : List Val) (path : List Key) (hm : ∀ c, IsChild m c → N c) (k : String) (w : W σ)
    (hP : P w.s w.edited) :
    Post (specAttr rec m anc path w k) U (fun w' => B w'.s w'.edited) (fun w' e => P w'.s w'.edited ∧ e = none) := by
  rw [specAttr]
  cases hattr : m.attr k <;> dsimp only
  case absent => exact ⟨hP, rfl⟩
  case one c =>
    exact (hrec w c _ _ _ _ (hm c ⟨k, .inl hattr⟩) hP).bind fun w1 sl h1 => by rw [h1.2]; exact ⟨h1.1, rfl⟩
  case many cs =>
    exact (items_inv hrec _ _ _ cs { w with iters := w.iters + 1 } 0 (fun c hc => hm c ⟨k, .inr ⟨cs, hattr, hc⟩⟩) hP).bind
      fun w1 q h1 => by rw [h1.2]; exact ⟨h1.1, rfl⟩

theorem keys_inv {U : Prop} {N : Node → Prop} {P B : σ → Bool → Prop} {rec : Rec σ} (hrec : InvRec U N P B rec)
    (m : Node) (anc : List Val) (path : List Key) (hm : ∀ c, IsChild m c → N c) :
    ∀ (ks : List String) (w : W σ), P w.s w.edited →
      Post (specKeys rec m anc path w ks) U (fun w' => B w'.s w'.edited) (fun w' es => P w'.s w'.edited ∧ es = [])
  | [], _, hP => ⟨hP, rfl⟩
  | k :: ks, w, hP => by
    rw [specKeys_cons]
    exact (attr_inv hrec m anc path hm k w hP).bind fun w1 e h1 =>
      (keys_inv hrec m anc path hm ks w1 h1.1).bind fun w2 es h2 => by rw [h1.2, h2.2]; exact ⟨h2.1, rfl⟩

def afterCall (v : Visitor σ) (c : Call) (w : W σ) : W σ := { w with s := (v w.s c).2, iters := w.iters + 1 }

/-- the contract of a visitor that never edits at a node below which no position changes: the call
`cE`, the children, the call `cL` -/
def walkNode (v : Visitor σ) (rec : Rec σ) (cE cL : Call) (w : W σ) (n : Node) (anc : List Val) (path : List Key)
    (ks : List String) : Option (Res σ Slot) :=
  match (v w.s cE).1 with
  | .brk => some (.brk (afterCall v cE w))
  | .skip => some (.done (afterCall v cE w) .keep)
  | _ =>
    Res.bind (specKeys rec n anc path (afterCall v cE w) ks) fun w2 _ =>
      match (v w2.s cL).1 with
      | .brk => some (.brk (afterCall v cL w2))
      | _ => some (.done (afterCall v cL w2) .keep)

theorem specNode_succ_of {vk : String → List String} {v : Visitor σ} (hv : NonEditing v) (d : Nat) (w : W σ)
    (n : Node) (key : Key) (parent : Option Val) (anc : List Val) (path : List Key) {U : Prop}
    (hk : (v w.s ⟨.enter, n, key, parent, path, anc⟩).1 = .idle →
      Post (specKeys (specNode vk v d) n (anc ++ parent.toList) path (afterCall v ⟨.enter, n, key, parent, path, anc⟩ w)
        (vk n.kind)) U (fun _ => True) (fun _ es => es = [])) :
    specNode vk v (d + 1) w n key parent anc path =
      walkNode v (specNode vk v d) ⟨.enter, n, key, parent, path, anc⟩ ⟨.leave, n, key, parent, path, anc⟩ w n
        (anc ++ parent.toList) path (vk n.kind) := by
  have hne := hv w.s ⟨.enter, n, key, parent, path, anc⟩
  simp only [specNode, specBody_eq, walkNode, afterCall] at hk ⊢
  generalize v w.s ⟨.enter, n, key, parent, path, anc⟩ = p at hne hk ⊢
  obtain ⟨a, s⟩ := p
  cases a with
  | remove => cases hne
  | replace r => cases hne
  | idle =>
    -- no attribute has changed, so `leave` is called on `n` and the position is kept
    have hk := hk rfl
    generalize specKeys (specNode vk v d) n (anc ++ parent.toList) path ⟨s, w.iters + 1, w.edited⟩ (vk n.kind) = x at hk ⊢
    rcases x with _ | ⟨w2 | ⟨w2, es⟩⟩
    · rfl
    · rfl
    · cases (hk : es = [])
      have hne2 := hv w2.s ⟨.leave, n, key, parent, path, anc⟩
      simp only [Res.bind, specLeave, List.isEmpty_nil, if_true]
      generalize v w2.s ⟨.leave, n, key, parent, path, anc⟩ = p at hne2 ⊢
      obtain ⟨a, s⟩ := p
      cases a with
      | remove => cases hne2
      | replace r => cases hne2
      | _ => rfl
  | _ => rfl

theorem walk_inv {v : Visitor σ} {U : Prop} {N : Node → Prop} {P B : σ → Bool → Prop} {rec : Rec σ}
    (hrec : InvRec U N P B rec)
    {cE cL : Call} {n : Node} (hn : ∀ c, IsChild n c → N c)
    (hE : ∀ s e, P s e → match (v s cE).1 with | .brk => B (v s cE).2 e | _ => P (v s cE).2 e)
    (hL : ∀ s e, P s e → match (v s cL).1 with | .brk => B (v s cL).2 e | _ => P (v s cL).2 e)
    (w : W σ) (anc : List Val) (path : List Key) (ks : List String) (hP : P w.s w.edited) :
    Post (walkNode v rec cE cL w n anc path ks) U (fun w' => B w'.s w'.edited)
      (fun w' sl => P w'.s w'.edited ∧ sl = .keep) := by
  have hE := hE w.s w.edited hP
  rw [walkNode]
  generalize (v w.s cE).1 = a at hE ⊢
  cases a with
  | brk => exact hE
  | skip => exact ⟨hE, rfl⟩
  | _ =>
    refine (keys_inv hrec n anc path hn ks _ hE).bind fun w2 _ h2 => ?_
    have hL := hL w2.s w2.edited h2.1
    generalize (v w2.s cL).1 = a2 at hL ⊢
    cases a2 with
    | brk => exact hL
    | _ => exact ⟨hL, rfl⟩

/-- `N d`: the nodes that may be visited with depth bound `d` -/
theorem node_inv {vk : String → List String} {v : Visitor σ} (hv : NonEditing v) {U : Prop} {N : Nat → Node → Prop}
    {P B : σ → Bool → Prop} (h0 : ∀ c, N 0 c → U) (hN : ∀ d m c, IsChild m c → N (d + 1) m → N d c)
    (hcall : ∀ d s e c, N d c.node → P s e → match (v s c).1 with | .brk => B (v s c).2 e | _ => P (v s c).2 e) :
    ∀ d, InvRec U (N d) P B (specNode vk v d)
  | 0 => fun _ c _ _ _ _ hc _ => h0 c hc
  | d + 1 => fun w n key parent anc path hn hP => by
    have ih := node_inv (vk := vk) hv h0 hN hcall d
    have hE := hcall _ w.s w.edited ⟨.enter, n, key, parent, path, anc⟩ hn hP
    rw [specNode_succ_of hv d w n key parent anc path fun hi =>
      (keys_inv ih n _ path (fun c hc => hN d n c hc hn) _ _ (by rw [hi] at hE; exact hE)).mono (fun _ _ => trivial)
        fun _ _ h => h.2]
    exact walk_inv ih (fun c hc => hN d n c hc hn) (fun s e => hcall _ s e _ hn) (fun s e => hcall _ s e _ hn) w _ _ _ hP

theorem keep_inv {vk : String → List String} {v : Visitor σ} (hv : NonEditing v) (d : Nat) :
    InvRec True (fun _ => True) (fun _ _ => True) (fun _ _ => True) (specNode vk v d) :=
  node_inv hv (fun _ _ => trivial) (fun _ _ _ _ _ => trivial) (fun _ _ _ _ _ _ => by split <;> trivial) d

/-- no call of a visitor that never edits sets the `edited` flag -/
theorem node_unedited {vk : String → List String} {v : Visitor σ} (hv : NonEditing v) (d : Nat) :
    InvRec True (fun _ => True) (fun _ e => e = false) (fun _ e => e = false) (specNode vk v d) :=
  node_inv hv (fun _ _ => trivial) (fun _ _ _ _ _ => trivial) (fun _ _ _ _ _ he => by split <;> exact he) d

theorem specNode_succ {vk : String → List String} {v : Visitor σ} (hv : NonEditing v) (d : Nat) (w : W σ)
    (n : Node) (key : Key) (parent : Option Val) (anc : List Val) (path : List Key) :
    specNode vk v (d + 1) w n key parent anc path =
      walkNode v (specNode vk v d) ⟨.enter, n, key, parent, path, anc⟩ ⟨.leave, n, key, parent, path, anc⟩ w n
        (anc ++ parent.toList) path (vk n.kind) :=
  specNode_succ_of hv d w n key parent anc path fun _ =>
    (keys_inv (keep_inv hv d) n _ _ (fun _ _ => trivial) _ _ trivial).mono (fun _ _ => trivial) fun _ _ h => h.2

end Gql.Syntax
