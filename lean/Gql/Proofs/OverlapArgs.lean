import Gql.Exec.Overlap
import Gql.Exec.SpecMerge
import Gql.Proofs.Util.Assoc
/-! Lemmas for C14: `same_arguments` (sorted, printed values) against the specification's
"identical sets of arguments" (equality up to argument order and input-object field order). -/
namespace Gql.Exec
open Overlap

mutual
theorem valueBeq_iff : ∀ (a b : Value), valueBeq a b = true ↔ a = b
  | .leaf a, .leaf b => by simp [valueBeq]
  | .list as, .list bs => by simp [valueBeq, valuesBeq_iff as bs]
  | .obj as, .obj bs => by simp [valueBeq, fieldsBeq_iff as bs]
  | .leaf _, .list _ => by simp [valueBeq]
  | .leaf _, .obj _ => by simp [valueBeq]
  | .list _, .leaf _ => by simp [valueBeq]
  | .list _, .obj _ => by simp [valueBeq]
  | .obj _, .leaf _ => by simp [valueBeq]
  | .obj _, .list _ => by simp [valueBeq]
theorem valuesBeq_iff : ∀ (as bs : List Value), valuesBeq as bs = true ↔ as = bs
  | [], [] => by simp [valuesBeq]
  | [], _ :: _ => by simp [valuesBeq]
  | _ :: _, [] => by simp [valuesBeq]
  | a :: as, b :: bs => by simp [valuesBeq, valueBeq_iff a b, valuesBeq_iff as bs]
theorem fieldsBeq_iff : ∀ (as bs : List (String × Value)), fieldsBeq as bs = true ↔ as = bs
  | [], [] => by simp [fieldsBeq]
  | [], _ :: _ => by simp [fieldsBeq]
  | _ :: _, [] => by simp [fieldsBeq]
  | (k, a) :: as, (l, b) :: bs => by
    simp [fieldsBeq, valueBeq_iff a b, fieldsBeq_iff as bs, and_assoc]
end

/-- The sort key order only has to be a linear order (a harmless change of the order keeps the
theorems). -/
structure LinOrd (le : String → String → Bool) : Prop where
  total : ∀ a b, le a b = true ∨ le b a = true
  trans : ∀ a b c, le a b = true → le b c = true → le a c = true
  antisymm : ∀ a b, le a b = true → le b a = true → a = b

abbrev KeysDistinct (xs : List (String × Value)) : Prop := xs.Pairwise (fun a b => a.1 ≠ b.1)

theorem namesUnique_iff (xs : List (String × Value)) : namesUnique xs = true ↔ KeysDistinct xs := by
  induction xs with
  | nil => simp [namesUnique, KeysDistinct]
  | cons x rest ih =>
    simp only [namesUnique, Bool.and_eq_true, ih, KeysDistinct, List.pairwise_cons,
      Bool.not_eq_true', List.any_eq_false, beq_iff_eq, ne_eq, eq_comm (a := x.1)]

/-- stable insertion is core's `merge` with a one-element list -/
theorem insertBy_eq_merge (le) (x : String × Value) (ys : List (String × Value)) :
    insertBy le x ys = List.merge [x] ys (fun a b => le a.1 b.1) := by
  induction ys with
  | nil => simp [insertBy]
  | cons y ys ih => simp only [insertBy, List.merge, ih]

theorem sortBy_perm (le) (xs : List (String × Value)) : (sortBy le xs).Perm xs := by
  induction xs with
  | nil => simp [sortBy]
  | cons x xs ih =>
    rw [sortBy, insertBy_eq_merge]
    exact (List.merge_perm_append _).trans (List.Perm.cons x ih)

theorem sortBy_sorted {le} (h : LinOrd le) (xs : List (String × Value)) :
    (sortBy le xs).Pairwise (fun a b => le a.1 b.1 = true) := by
  induction xs with
  | nil => simp [sortBy]
  | cons x xs ih =>
    rw [sortBy, insertBy_eq_merge]
    exact List.pairwise_merge (le := fun a b : String × Value => le a.1 b.1)
      (fun _ _ _ => h.trans _ _ _) (fun a b => Bool.or_eq_true .. ▸ h.total a.1 b.1) _ _
      (List.pairwise_singleton _ _) ih

theorem lookupFirst_eq (xs : List (String × Value)) (k : String) :
    Spec.lookupFirst xs k = xs.lookup k :=
  (List.lookup_eq_find? xs k).symm

theorem lookupFirst_of_mem {xs : List (String × Value)} (hd : KeysDistinct xs)
    {p : String × Value} (hp : p ∈ xs) : Spec.lookupFirst xs p.1 = some p.2 :=
  lookupFirst_eq .. ▸ List.lookup_of_mem_nodup (List.pairwise_map.2 hd) hp

theorem mem_of_lookupFirst {xs : List (String × Value)} {k : String} {v : Value}
    (h : Spec.lookupFirst xs k = some v) : (k, v) ∈ xs :=
  List.mem_of_lookup (lookupFirst_eq .. ▸ h)

theorem keysDistinct_nodup {xs : List (String × Value)} (h : KeysDistinct xs) : xs.Nodup :=
  List.Pairwise.imp (fun hab e => hab (by rw [e])) h

/-- pigeonhole: a duplicate-free list contained in a list of the same length contains it (a
further member of `B` in front of `A` would be a duplicate-free list in `B` that is too long) -/
theorem subset_of_subset_length {α : Type} {A B : List α} (hA : A.Nodup) (hsub : A ⊆ B)
    (hlen : A.length = B.length) : B ⊆ A := by
  intro b hb
  apply Classical.byContradiction
  intro hnot
  have := (List.nodup_cons.2 ⟨hnot, hA⟩).length_le_of_subset (List.cons_subset.2 ⟨hb, hsub⟩)
  rw [List.length_cons] at this
  omega

theorem sortBy_eq_iff {le} (h : LinOrd le) {A B : List (String × Value)} (hA : KeysDistinct A)
    (hB : KeysDistinct B) :
    sortBy le A = sortBy le B ↔
      A.length = B.length ∧ ∀ p ∈ A, Spec.lookupFirst B p.1 = some p.2 := by
  constructor
  · intro e
    have hperm : A.Perm B := (sortBy_perm le A).symm.trans (e ▸ sortBy_perm le B)
    exact ⟨hperm.length_eq, fun p hp => lookupFirst_of_mem hB (hperm.subset hp)⟩
  · rintro ⟨hlen, hsub⟩
    have hAB : A ⊆ B := fun p hp => by
      have := mem_of_lookupFirst (hsub p hp)
      simpa using this
    have hBA : B ⊆ A := subset_of_subset_length (keysDistinct_nodup hA) hAB hlen
    have hperm : A.Perm B :=
      (List.perm_ext_iff_of_nodup (keysDistinct_nodup hA) (keysDistinct_nodup hB)).2
        (fun a => ⟨fun ha => hAB ha, fun hb => hBA hb⟩)
    have hp2 : (sortBy le A).Perm (sortBy le B) :=
      (sortBy_perm le A).trans (hperm.trans (sortBy_perm le B).symm)
    refine List.Perm.eq_of_pairwise (le := fun a b => le a.1 b.1 = true) ?_
      (sortBy_sorted h A) (sortBy_sorted h B) hp2
    intro a b ha hb hab hba
    have hk : a.1 = b.1 := h.antisymm _ _ hab hba
    have h1 := lookupFirst_of_mem hB (hAB ((sortBy_perm le A).subset ha))
    rw [hk, lookupFirst_of_mem hB ((sortBy_perm le B).subset hb)] at h1
    exact Prod.ext hk (Option.some.inj h1).symm

theorem sortFieldValues_eq_map (le) (fs : List (String × Value)) :
    sortFieldValues le fs = fs.map (fun p => (p.1, sortValue le p.2)) := by
  induction fs with
  | nil => simp [sortFieldValues]
  | cons x xs ih => cases x; simp [sortFieldValues, ih]

theorem lookupFirst_sfv (le) (fs : List (String × Value)) (k : String) :
    Spec.lookupFirst (sortFieldValues le fs) k = (Spec.lookupFirst fs k).map (sortValue le) := by
  simp [Spec.lookupFirst, sortFieldValues_eq_map, List.find?_map, Function.comp_def]

theorem keysDistinct_sfv (le) {fs : List (String × Value)} (h : KeysDistinct fs) :
    KeysDistinct (sortFieldValues le fs) := by
  rw [sortFieldValues_eq_map]
  exact List.pairwise_map.2 (List.Pairwise.imp (fun hab => hab) h)

theorem fieldsKeysUnique_iff (fs : List (String × Value)) :
    fieldsKeysUnique fs = true ↔ ∀ p ∈ fs, p.2.keysUnique = true := by
  induction fs with
  | nil => simp [fieldsKeysUnique]
  | cons x xs ih => cases x; simp [fieldsKeysUnique, ih]

theorem keysUnique_of_lookupFirst {fs : List (String × Value)} {k : String} {v : Value}
    (hu : fieldsKeysUnique fs = true) (h : Spec.lookupFirst fs k = some v) :
    v.keysUnique = true :=
  (fieldsKeysUnique_iff fs).1 hu _ (mem_of_lookupFirst h)

mutual
theorem sameValue_eq {le} (h : LinOrd le) : ∀ (v w : Value), v.keysUnique = true →
    w.keysUnique = true → valueBeq (sortValue le v) (sortValue le w) = Spec.valueEquiv v w
  | .leaf a, .leaf b, _, _ => by simp [sortValue, valueBeq, Spec.valueEquiv]
  | .list as, .list bs, hv, hw => by
    simp only [Value.keysUnique] at hv hw
    simp only [sortValue, valueBeq, Spec.valueEquiv]
    exact sameValues_eq h as bs hv hw
  | .obj as, .obj bs, hv, hw => by
    simp only [Value.keysUnique, Bool.and_eq_true] at hv hw
    simp only [sortValue, valueBeq, Spec.valueEquiv]
    rw [Bool.eq_iff_iff, fieldsBeq_iff,
      sortBy_eq_iff h (keysDistinct_sfv le ((namesUnique_iff as).1 hv.1))
        (keysDistinct_sfv le ((namesUnique_iff bs).1 hw.1)),
      Bool.and_eq_true, fieldsSub_iff h as bs hv.2 hw.2]
    simp only [sortFieldValues_eq_map, List.length_map, beq_iff_eq]
  | .leaf _, .list _, _, _ => rfl
  | .leaf _, .obj _, _, _ => rfl
  | .list _, .leaf _, _, _ => rfl
  | .list _, .obj _, _, _ => rfl
  | .obj _, .leaf _, _, _ => rfl
  | .obj _, .list _, _, _ => rfl
theorem sameValues_eq {le} (h : LinOrd le) : ∀ (as bs : List Value), valuesKeysUnique as = true →
    valuesKeysUnique bs = true →
    valuesBeq (sortValues le as) (sortValues le bs) = Spec.listEquiv as bs
  | [], [], _, _ => rfl
  | [], _ :: _, _, _ => rfl
  | _ :: _, [], _, _ => rfl
  | a :: as, b :: bs, ha, hb => by
    simp only [valuesKeysUnique, Bool.and_eq_true] at ha hb
    simp only [sortValues, valuesBeq, Spec.listEquiv]
    rw [sameValue_eq h a b ha.1 hb.1, sameValues_eq h as bs ha.2 hb.2]
theorem fieldsSub_iff {le} (h : LinOrd le) : ∀ (as bs : List (String × Value)),
    fieldsKeysUnique as = true → fieldsKeysUnique bs = true →
    (Spec.fieldsSub as bs = true ↔
      ∀ p ∈ sortFieldValues le as, Spec.lookupFirst (sortFieldValues le bs) p.1 = some p.2)
  | [], bs, _, _ => by simp [Spec.fieldsSub, sortFieldValues]
  | (k, v) :: as, bs, ha, hb => by
    simp only [fieldsKeysUnique, Bool.and_eq_true] at ha
    simp only [Spec.fieldsSub, Bool.and_eq_true, sortFieldValues, List.mem_cons, forall_eq_or_imp,
      fieldsSub_iff h as bs ha.2 hb, lookupFirst_sfv]
    refine and_congr ?_ Iff.rfl
    cases hl : Spec.lookupFirst bs k with
    | none => simp
    | some v' =>
      have hv' := keysUnique_of_lookupFirst hb hl
      simp only [Option.map_some, Option.some.injEq]
      rw [← sameValue_eq h v v' ha.1 hv', valueBeq_iff]
      exact eq_comm
end

theorem lookupLast_eq_lookupFirst {b : List (String × Value)} (hb : KeysDistinct b) (k : String) :
    lookupLast b k = Spec.lookupFirst b k := by
  rw [lookupLast, ← List.lookup_eq_find?, lookupFirst_eq]
  cases hl : b.lookup k with
  | none =>
    refine List.lookup_eq_none_iff_not_mem.2 fun hm => List.lookup_eq_none_iff_not_mem.1 hl ?_
    rw [List.map_reverse] at hm; exact List.mem_reverse.1 hm
  | some v =>
    exact List.lookup_of_mem_nodup
      (by rw [List.map_reverse]; exact List.pairwise_reverse.2 (List.pairwise_map.2 (hb.imp Ne.symm)))
      (List.mem_reverse.2 (List.mem_of_lookup hl))

theorem all_eq_fieldsSub {le} (h : LinOrd le) {b : Args} (hb : argsWF b = true) :
    ∀ (as : Args), fieldsKeysUnique as = true →
      as.all (argMatches le b) = Spec.fieldsSub as b
  | [], _ => by simp [Spec.fieldsSub]
  | (k, v) :: as, ha => by
    have hb0 := hb
    simp only [argsWF, Bool.and_eq_true] at hb
    simp only [fieldsKeysUnique, Bool.and_eq_true] at ha
    simp only [List.all_cons, Spec.fieldsSub, all_eq_fieldsSub h hb0 as ha.2, argMatches,
      lookupLast_eq_lookupFirst ((namesUnique_iff b).1 hb.1)]
    congr 1
    cases hl : Spec.lookupFirst b k with
    | none => rfl
    | some v' =>
      exact sameValue_eq h v v' ha.1 (keysUnique_of_lookupFirst hb.2 hl)

theorem sameArguments_eq_argsEquiv {le} (h : LinOrd le) (a b : Args) (ha : argsWF a = true)
    (hb : argsWF b = true) : sameArguments le a b = Spec.argsEquiv a b := by
  unfold sameArguments Spec.argsEquiv
  have ha' : fieldsKeysUnique a = true := by
    simp only [argsWF, Bool.and_eq_true] at ha; exact ha.2
  cases a with
  | nil => cases b <;> simp [Spec.fieldsSub]
  | cons x xs =>
    cases b with
    | nil => simp
    | cons y ys =>
      simp only [List.isEmpty_cons, Bool.false_eq_true, if_false]
      rw [all_eq_fieldsSub h hb _ ha']
      by_cases hl : xs.length = ys.length
      · simp [hl]
      · simp [hl]

theorem sameStreams_eq_streamsEquiv {le} (h : LinOrd le) (a b : Option Args)
    (ha : ∀ x, a = some x → argsWF x = true) (hb : ∀ x, b = some x → argsWF x = true) :
    sameStreams le a b = Spec.streamsEquiv a b := by
  cases a <;> cases b <;> simp [sameStreams, Spec.streamsEquiv]
  exact sameArguments_eq_argsEquiv h _ _ (ha _ rfl) (hb _ rfl)

end Gql.Exec
