import Gql.Proofs.Run
import Gql.Proofs.PublisherAnn
/-!
The tracked domain of the publisher's id table is exactly the set of roots of the scheduler
(`Tracks`), through every graph-event handler, and every event that reports values or success of
a node finds that node in the tracked domain (`EvsPre`).  With the termination condition of
`events()` (no root left) the first gives P4b: when the stream ends, every announced id has been
completed; the second gives "announced before any data for it".
-/
namespace Gql.Async
open Gql.Spec.Protocol

/-- `n` is a root group / root stream of the scheduler. -/
def isRoot (q : WQ) : Node → Prop
  | .group g => g ∈ q.rootGroups
  | .stream s => s ∈ q.rootStreams

theorem isRoot_congr {q q' : WQ} (hg : q'.rootGroups = q.rootGroups) (hs : q'.rootStreams = q.rootStreams)
    (n : Node) : isRoot q' n ↔ isRoot q n := by
  cases n <;> simp [isRoot, hg, hs]

theorem isRoot_of_frame {q q' : WQ} (h : RootFrame q q') (n : Node) : isRoot q' n ↔ isRoot q n :=
  isRoot_congr h.rg h.rs n

theorem isRoot_erase_group {q q' : WQ} {g : Nat} (hg : q'.rootGroups = oerase q.rootGroups g)
    (hs : q'.rootStreams = q.rootStreams) (n : Node) : isRoot q' n ↔ isRoot q n ∧ n ≠ .group g := by
  cases n <;> simp [isRoot, hg, hs, mem_oerase]

theorem isRoot_erase_stream {q q' : WQ} {s : Nat} (hg : q'.rootGroups = q.rootGroups)
    (hs : q'.rootStreams = oerase q.rootStreams s) (n : Node) : isRoot q' n ↔ isRoot q n ∧ n ≠ .stream s := by
  cases n <;> simp [isRoot, hg, hs, mem_oerase]

/-- The tracked domain is the set of roots. -/
def Tracks (q : WQ) (D : List Node) : Prop := ∀ n, n ∈ D ↔ isRoot q n

theorem mem_nodesOf (gs ss : List Nat) (n : Node) :
    n ∈ nodesOf gs ss ↔ (∃ g ∈ gs, n = .group g) ∨ (∃ s ∈ ss, n = .stream s) := by
  simp only [nodesOf, List.mem_append, List.mem_map, eq_comm]

theorem nodesOf_append (a b c d : List Nat) (n : Node) :
    n ∈ nodesOf (a ++ b) (c ++ d) ↔ n ∈ nodesOf a c ∨ n ∈ nodesOf b d := by
  simp only [nodesOf, List.map_append, List.mem_append]
  exact or_or_or_comm

theorem mem_domStep_GV (D : List Node) (g : Nat) (v : List GVal) (n : Node) :
    n ∈ domStep D (.groupValues g v) ↔ n = .group g ∨ n ∈ D := by
  simp only [domStep, domMid, evNew, List.mem_cons, List.append_nil]

theorem mem_domStep_GS (D : List Node) (g : Nat) (ng ns : List Nat) (n : Node) :
    n ∈ domStep D (.groupSuccess g ng ns) ↔ (n ∈ D ∧ n ≠ .group g) ∨ n ∈ nodesOf ng ns := by
  simp only [domStep, domMid, evNew, List.mem_append, List.mem_filter, decide_eq_true_eq]

theorem mem_domStep_GF (D : List Node) (g : Nat) (n : Node) :
    n ∈ domStep D (.groupFailure g) ↔ n ∈ D ∧ n ≠ .group g := by
  simp only [domStep, domMid, evNew, List.mem_filter, decide_eq_true_eq, List.append_nil]

theorem mem_domStep_SV (D : List Node) (s : Nat) (v : List IVal) (ng ns : List Nat) (n : Node) :
    n ∈ domStep D (.streamValues s v ng ns) ↔ (n = .stream s ∨ n ∈ D) ∨ n ∈ nodesOf ng ns := by
  simp only [domStep, domMid, evNew, List.mem_append, List.mem_cons]

theorem mem_domStep_SS (D : List Node) (s : Nat) (n : Node) :
    n ∈ domStep D (.streamSuccess s) ↔ n ∈ D ∧ n ≠ .stream s := by
  simp only [domStep, domMid, evNew, List.mem_filter, decide_eq_true_eq, List.append_nil]

theorem mem_domStep_SF (D : List Node) (s : Nat) (n : Node) :
    n ∈ domStep D (.streamFailure s) ↔ n ∈ D ∧ n ≠ .stream s := by
  simp only [domStep, domMid, evNew, List.mem_filter, decide_eq_true_eq, List.append_nil]

theorem domSteps_nil (D : List Node) : domSteps D [] = D := rfl
theorem domSteps_one (D : List Node) (e : WQEvent) : domSteps D [e] = domStep D e := rfl

theorem mem_domSteps_groupEvents (D : List Node) (g : Nat) (v : List GVal) (ng ns : List Nat) (n : Node) :
    n ∈ domSteps D (groupEvents g v ng ns) ↔ (n ∈ D ∧ n ≠ .group g) ∨ n ∈ nodesOf ng ns := by
  unfold groupEvents
  split
  · rw [List.nil_append, domSteps_one, mem_domStep_GS]
  · rw [domSteps_append, domSteps_one, domSteps_one, mem_domStep_GS, mem_domStep_GV,
      or_and_right, and_not_self_iff, false_or]

theorem evsPre_groupEvents (D : List Node) (g : Nat) (v : List GVal) (ng ns : List Nat)
    (h : Node.group g ∈ D) : EvsPre D (groupEvents g v ng ns) := by
  unfold groupEvents
  split
  · exact ⟨h, trivial⟩
  · exact ⟨h, (mem_domStep_GV ..).mpr (Or.inl rfl), trivial⟩

/-- The loop invariant of `_task_success`: the tracked domain is the roots and what is about to
be promoted. -/
def SuccInv (D : List Node) (acc : WQ × List WQEvent × List Nat × List Nat) : Prop :=
  (∀ n, n ∈ domSteps D acc.2.1 ↔ isRoot acc.1 n ∨ n ∈ nodesOf acc.2.2.1 acc.2.2.2) ∧ EvsPre D acc.2.1

theorem isRoot_finishGroupSuccess (σ : Static) (q : WQ) (g : Nat) (n : GroupNode) (m : Node) :
    isRoot (finishGroupSuccess σ q g n).1 m ↔ isRoot q m ∧ m ≠ .group g :=
  have ⟨hrg, hsf, _⟩ := finishGroupSuccess_roots σ q g n
  isRoot_erase_group hrg hsf.rs m

/-- A root group `g` that is not itself waiting to be promoted finishes. -/
theorem SuccInv.finish {D : List Node} {q : WQ} {evs : List WQEvent} {ngs nss : List Nat} (σ : Static)
    (h : SuccInv D (q, evs, ngs, nss)) {g : Nat} (n : GroupNode) (hroot : g ∈ q.rootGroups) (hg : g ∉ ngs) :
    SuccInv D ((finishGroupSuccess σ q g n).1, evs ++ (finishGroupSuccess σ q g n).2.1,
      ngs ++ (finishGroupSuccess σ q g n).2.2.1, nss ++ (finishGroupSuccess σ q g n).2.2.2) := by
  refine ⟨fun m => ?_, (evsPre_append ..).mpr
    ⟨h.2, evsPre_groupEvents _ g _ _ _ ((h.1 _).mpr (Or.inl hroot))⟩⟩
  have hne : m ∈ nodesOf ngs nss → m ≠ .group g := by
    rintro hm rfl
    exact hg (by simpa [nodesOf] using hm)
  show m ∈ domSteps D (evs ++ groupEvents g _ _ _) ↔ _
  rw [domSteps_append, mem_domSteps_groupEvents, h.1 m, isRoot_finishGroupSuccess, nodesOf_append,
    or_and_right, and_iff_left_of_imp hne, or_assoc]
  exact Iff.rfl

theorem isRoot_startNewWork (σ : Static) (q : WQ) (ngs nss : List Nat) (n : Node) :
    isRoot (startNewWork σ q ngs nss) n ↔ isRoot q n ∨ n ∈ nodesOf ngs nss := by
  obtain ⟨a, b, _, _⟩ := startNewWork_roots σ q ngs nss
  cases n <;> simp [isRoot, a, b, mem_foldl_oinsert, nodesOf]

theorem failureStep_dom (σ : Static) (D : List Node) (acc : WQ × List WQEvent) (g : Nat)
    (h : Tracks acc.1 (domSteps D acc.2) ∧ EvsPre D acc.2) :
    Tracks (failureStep σ acc g).1 (domSteps D (failureStep σ acc g).2) ∧ EvsPre D (failureStep σ acc g).2 := by
  unfold failureStep
  split
  · rename_i nd hnd
    obtain ⟨hrg, hsf, _, hev⟩ := finishGroupFailure_roots σ acc.1 g nd
    constructor
    · intro m
      show m ∈ domSteps D (acc.2 ++ [_]) ↔ _
      rw [domSteps_append, hev, domSteps_one, mem_domStep_GF, h.1 m, isRoot_erase_group hrg hsf.rs]
    · show EvsPre D (acc.2 ++ [_])
      rw [evsPre_append, hev]
      exact ⟨h.2, trivial, trivial⟩
  · exact h

theorem taskFailure_dom (σ : Static) (q : WQ) (t : Nat) (D : List Node) (h : Tracks q D) :
    Tracks (taskFailure σ q t).1 (domSteps D (taskFailure σ q t).2) ∧ EvsPre D (taskFailure σ q t).2 := by
  unfold taskFailure
  exact foldl_inv (fun acc : WQ × List WQEvent => Tracks acc.1 (domSteps D acc.2) ∧ EvsPre D acc.2)
    (failureStep σ) (σ.tgroups t) _ ⟨fun n => (h n).trans (isRoot_congr rfl rfl n).symm, trivial⟩
    (fun acc g ha => failureStep_dom σ D acc g ha)

/-- The loop invariant of `_stream_items`: the roots are those of the start and what was promoted. -/
def ItemInv (q0 : WQ) (acc : WQ × List IVal × List Nat × List Nat) : Prop :=
  ∀ n, isRoot acc.1 n ↔ isRoot q0 n ∨ n ∈ nodesOf acc.2.2.1 acc.2.2.2

theorem itemStep_dom (σ : Static) (q0 : WQ) (acc : WQ × List IVal × List Nat × List Nat) (it : IResult)
    (h : ItemInv q0 acc) : ItemInv q0 (itemStep σ acc it) := by
  unfold itemStep
  simp only
  intro n
  have f : RootFrame acc.1 (pruneEmpty (integrateWork σ acc.1 it.work none).1
      (integrateWork σ acc.1 it.work none).2.1).1 :=
    (integrateWork_grow σ _ _ _).frame.trans (pruneEmpty_upd _ _).frame
  rw [isRoot_startNewWork, isRoot_of_frame f, h n, nodesOf_append, or_assoc]

theorem items_dom (σ : Static) (q : WQ) (items : List IResult) :
    ItemInv q (items.foldl (itemStep σ) (q, [], [], [])) :=
  foldl_inv (ItemInv q) (itemStep σ) items _ (fun n => by simp [nodesOf])
    (fun acc it ha => itemStep_dom σ q acc it ha)

/-- `_StreamSuccess` / `_StreamFailure` of a stream. -/
theorem streamEnd_dom (q : WQ) (s : Nat) (D : List Node) (h : Tracks q D) :
    Tracks { q with rootStreams := oerase q.rootStreams s } (domSteps D [.streamSuccess s]) ∧
    Tracks { q with rootStreams := oerase q.rootStreams s } (domSteps D [.streamFailure s]) := by
  have e := isRoot_erase_stream (q := q) (q' := { q with rootStreams := oerase q.rootStreams s }) (s := s) rfl rfl
  exact ⟨fun n => by rw [domSteps_one, mem_domStep_SS, h n, e], fun n => by rw [domSteps_one, mem_domStep_SF, h n, e]⟩

theorem streamItems_dom (σ : Static) (q : WQ) (s : Nat) (items : List IResult) (st : Bool)
    (D : List Node) (h : Tracks q D) (hs : s ∈ q.rootStreams) :
    Tracks (streamItems σ q s items st).1 (domSteps D (streamItems σ q s items st).2) ∧
    EvsPre D (streamItems σ q s items st).2 := by
  unfold streamItems
  simp only
  have hfold := items_dom σ q items
  have hsD : Node.stream s ∈ D := (h _).mpr hs
  generalize items.foldl (itemStep σ) (q, [], [], []) = acc at hfold ⊢
  have hv : Tracks acc.1 (domStep D (.streamValues s acc.2.1 acc.2.2.1 acc.2.2.2)) := fun n => by
    rw [mem_domStep_SV, hfold n, h n, or_iff_right_of_imp (b := isRoot q n) (by rintro rfl; exact hs)]
  cases st with
  | true =>
    -- the batch, then the end of the stream
    exact ⟨fun n => ((streamEnd_dom acc.1 s _ hv).1 n).trans (isRoot_congr rfl rfl n).symm,
      hsD, (mem_domStep_SV ..).mpr (Or.inl (Or.inl rfl)), trivial⟩
  | false => exact ⟨hv, hsD, trivial⟩

end Gql.Async
