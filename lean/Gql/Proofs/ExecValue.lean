import Gql.Proofs.ExecFields
import Gql.Proofs.ExecFuel

/-!
C02 — the sub-selection memo (every entry equals recomputation), and simulation of
`complete_object_value`, `complete_value` and list completion (structural induction on the data
graph).
-/

namespace Gql.Exec.Refine
open Gql.Exec Gql.Exec.Impl

/-- the nodes of live field details are what the heap holds at their serials -/
theorem nodes_eq_of_serials {heap : List FieldNode} (a b : List FieldDetails)
    (hs : a.map (·.serial) = b.map (·.serial))
    (ha : ∀ fd ∈ a, heap[fd.serial]? = some fd.node) (hb : ∀ fd ∈ b, heap[fd.serial]? = some fd.node) :
    a.map (·.node) = b.map (·.node) := by
  have key : ∀ l : List FieldDetails, (∀ fd ∈ l, heap[fd.serial]? = some fd.node) →
      (l.map (·.node)).map some = (l.map (·.serial)).map (heap[·]?) := fun l hl => by
    simp only [List.map_map]
    exact List.map_congr_left fun fd hfd => (hl fd hfd).symm
  exact (List.map_inj_right fun _ _ => Option.some.inj).1 (by rw [key a ha, key b hb, hs])

theorem FdsOk.of_mono {heap ext : List FieldNode} {fds : List FieldDetails}
    (h : FdsOk (heap ++ ext) fds) (hb : ∀ s ∈ fds.map (·.serial), s < heap.length) : FdsOk heap fds := by
  refine ⟨h.1, ?_⟩
  intro fd hfd
  have := h.2 fd hfd
  have hlt := hb fd.serial (List.mem_map_of_mem hfd)
  rwa [List.getElem?_append_left hlt] at this

variable (cx : Ctx) (hops : OpsOk cx.ops)

include hops in
/-- collection of the sub-selections through the memo: the specification's CollectFields, and
on the state a silent step (`Post` with no error, no call, no nulled position) -/
theorem collectSubfieldsM_spec (rt : Name) (hrt : cx.schema.kind rt = .object)
    (fds : List FieldDetails) (st : EState) (hm : MemoInv cx st) (hd : DInv cx st.dmemo)
    (hpre : FdsOk st.heap fds) :
    match Spec.collectFields (toSpec cx) rt (Spec.mergeSelectionSets (fds.map (·.node))) with
    | .ok G => ∃ g st1, collectSubfieldsM cx rt fds st = (.ok g, st1) ∧ nodes g = G ∧
        (keys G).Nodup ∧ GroupsOk st1.heap g ∧ st1.positions = st.positions ∧
        ∀ path strict, Post cx st st1 path strict [] []
    | .err k => collectSubfieldsM cx rt fds st = (.err (.raw k), st)
    | .crash c => collectSubfieldsM cx rt fds st = (.crash c, st) := by
  unfold collectSubfieldsM
  simp only
  cases hg : memoGet st.memo (rt, fds.map (·.serial)) with
  | some g =>
    have hmem := memo_mem hg
    obtain ⟨_, hinv⟩ := hm _ hmem
    obtain ⟨h1, h2, h3⟩ := hinv hrt fds rfl hpre
    simp only at h1
    rw [h1]
    exact ⟨g, st, rfl, rfl, h2, h3, rfl, fun _ _ => .refl hm hd⟩
  | none =>
    have hrel := collectSubfields_rel cx hops rt hrt fds st.heap
    revert hrel
    cases hs : Spec.collectFields (toSpec cx) rt (Spec.mergeSelectionSets (fds.map (·.node))) with
    | crash c => simp only [CollectPost]; intro h; rw [h]
    | err k => simp only [CollectPost]; intro h; rw [h]
    | ok G =>
      simp only [CollectPost]
      rintro ⟨g, _, e1, rfl, e3, ⟨ext, rfl⟩, e5⟩
      rw [e1]
      refine ⟨g, _, rfl, rfl, e3, e5, rfl, fun _ _ =>
        ⟨by simp, by simp, ⟨[], by simp, by simp⟩, ⟨ext, rfl⟩, ?_, hd⟩⟩
      -- the memo invariant for the extended memo
      intro e he
      rcases List.mem_append.1 he with he | he
      · obtain ⟨hb, hinv⟩ := hm e he
        refine ⟨fun s hs' => ?_, fun hk fds' hser hok' => ?_⟩
        · have := hb s hs'
          simp only [List.length_append]; omega
        · obtain ⟨h1, h2, h3⟩ := hinv hk fds' hser (hok'.of_mono (by rw [← hser]; exact hb))
          exact ⟨h1, h2, h3.mono ext⟩
      · simp only [List.mem_singleton] at he
        subst he
        refine ⟨fun s hs' => ?_, fun _ fds' hser hok' => ?_⟩
        · simp only [List.mem_map] at hs'
          obtain ⟨fd, hfd, rfl⟩ := hs'
          have := (List.getElem?_eq_some_iff.1 (hpre.2 fd hfd)).1
          simp only [List.length_append]; omega
        · simp only at hser hok' ⊢
          rw [nodes_eq_of_serials fds' fds hser.symm hok'.2 (hpre.mono ext).2, hs]
          exact ⟨rfl, e3, e5⟩

include hops in
theorem completeObject_sim (rt : Name) (hrt : cx.schema.kind rt = .object)
    (ichild : Child) (schild : Spec.Child) (hch : ChildRel cx ichild schild)
    (path : IPath) (fds : List FieldDetails) :
    Sim cx path true (fun h => FdsOk h fds) (completeObject cx rt fds path ichild)
      (Spec.executeSelectionSet (toSpec cx) rt (Spec.mergeSelectionSets (fds.map (·.node)))
        (asList path) schild) := by
  intro st hinv hpre
  have hc := collectSubfieldsM_spec cx hops rt hrt fds st hinv.memo hinv.dmemo hpre
  unfold completeObject Spec.executeSelectionSet
  revert hc
  cases hs : Spec.collectFields (toSpec cx) rt (Spec.mergeSelectionSets (fds.map (·.node))) with
  | crash c => exact absurd hs (collectFields_noCrash _ _ _ _)
  | err k =>
    simp only
    intro hc
    refine ⟨st, .raw k, [], by simp [M.bind, hc], rfl, Post.refl hinv.memo hinv.dmemo, by simp⟩
  | ok G =>
    simp only
    rintro ⟨g, st1, e1, rfl, e3, e4, e5, hp⟩
    rw [show ∀ f : Groups → M Json, M.bind (collectSubfieldsM cx rt fds) f st = f g st1 from
      fun f => by simp [M.bind, e1]]
    exact (Outcome.map Json.obj (executeFields_sim cx hops rt ichild schild hch path g st1
      (hp path true).memo (hp path true).dmemo (fun p _ => e5 ▸ hinv.pos.cons _) e4
      (by rw [← keys_nodes]; exact e3))).prefix (l := []) (hp path true)

theorem ensureValid_eq (s : Schema) (abs : Name) (tn : TN) :
    ensureValidRuntimeType s abs tn = Spec.resolveAbstractType s abs tn := by
  cases tn <;> rfl

theorem ensureValid_object {s : Schema} {abs : Name} {tn : TN} {rt : Name}
    (h : ensureValidRuntimeType s abs tn = .ok rt) : s.kind rt = .object :=
  (resolve_ok (ensureValid_eq s abs tn ▸ h)).1

include hops in
theorem completeNamed_sim (t : TypeRef) (ichild : Child) (schild : Spec.Child)
    (hch : ChildRel cx ichild schild) (path : IPath) (fds : List FieldDetails)
    (leaf? : Option PyLeaf) (tn : TN) :
    Sim cx path true (fun h => FdsOk h fds) (completeNamed cx t fds path leaf? tn ichild)
      (Spec.completeNamed (toSpec cx) t (fds.map (·.node)) (asList path) leaf? tn schild) := by
  unfold completeNamed Spec.completeNamed
  cases t with
  | list t' nn => exact Sim.throw_raw _
  | named n nn =>
    simp only [toSpec_schema]
    cases hk : cx.schema.kind n with
    | leaf =>
      cases leaf? with
      | none => exact Sim.throw_raw _
      | some l => exact completeLeaf_sim cx path _ n l
    | object => exact completeObject_sim cx hops n hk ichild schild hch path fds
    | abstract =>
      simp only [← ensureValid_eq]
      cases he : ensureValidRuntimeType cx.schema n tn with
      | error k => exact Sim.throw_raw _
      | ok rt => exact completeObject_sim cx hops rt (ensureValid_object he) ichild schild hch path fds
    | input => exact Sim.throw_raw _
    | unknown => exact Sim.throw_raw _

theorem nullChild_rel : ChildRel cx nullChild Spec.nullChild := by
  intro name args t fds path
  exact completeNull_sim cx path _ t

/-- list items: the statement carried through the items of a list at `path`, starting at index `i` -/
def ItemsSim (cx : Ctx) (t : TypeRef) (fds : List FieldDetails) (path : IPath) (i : Nat)
    (items : List RVal) : Prop :=
  ∀ st, MemoInv cx st → DInv cx st.dmemo → (∀ j, i ≤ j → PosInv st.positions (.idx j :: path)) →
    FdsOk st.heap fds →
    Outcome cx path (completeItems cx t fds path i items st) st
      (Spec.completeItems (toSpec cx) t (fds.map (·.node)) (asList path) i items)

-- `completeItems_sim` is stated for a collection that does not run out of fuel; it never does
-- (`collectFields_noCrash`), and nothing below uses the hypothesis
variable (hnc : ∀ (rt : Name) (sels : List Selection) (c : String),
  Spec.collectFields (toSpec cx) rt sels ≠ .crash c)

include hops hnc in
mutual
theorem completeValue_sim : (d : RVal) → ∀ (t : TypeRef) (fds : List FieldDetails) (path : IPath),
    Sim cx path true (fun h => FdsOk h fds) (completeValue cx t fds path d)
      (Spec.completeValue (toSpec cx) t (fds.map (·.node)) (asList path) d)
  | .raise tag none, t, fds, path => by
    unfold completeValue Spec.completeValue
    exact Sim.throw_raw _
  | .raise tag (some p), t, fds, path => by
    unfold completeValue Spec.completeValue
    exact Sim.throw_located _
  | .null, t, fds, path => by
    unfold completeValue Spec.completeValue
    exact completeNull_sim cx path _ t
  | .leaf l, t, fds, path => by
    unfold completeValue Spec.completeValue
    exact completeNamed_sim cx hops t _ _ (nullChild_rel cx) path fds (some l) .missing
  | .obj tn f, t, fds, path => by
    unfold completeValue Spec.completeValue
    refine completeNamed_sim cx hops t _ _ ?_ path fds none tn
    intro name args t' fds' p
    exact completeValue_sim (f name args) t' fds' p
  | .list items, t, fds, path => by
    unfold completeValue Spec.completeValue
    cases t with
    | named n nn => exact completeNamed_sim cx hops _ _ _ (nullChild_rel cx) path fds none .missing
    | list t' nn =>
      simp only
      intro st hinv hpre
      exact Outcome.map Json.list
        (completeItems_sim items t' fds path 0 st hinv.memo hinv.dmemo (fun j _ => hinv.pos.cons _) hpre)

theorem completeItems_sim : (items : List RVal) → ∀ (t : TypeRef) (fds : List FieldDetails)
    (path : IPath) (i : Nat), ItemsSim cx t fds path i items
  | [], t, fds, path, i => by
    intro st hm hd _ _
    unfold completeItems Spec.completeItems
    exact ⟨st, rfl, Post.refl hm hd⟩
  | x :: xs, t, fds, path, i => by
    intro st hm hd hpos hpre
    have h1 := Sim.protect t (completeValue_sim x t fds (.idx i :: path))
    rw [show asList (ISeg.idx i :: path) = asList path ++ [PSeg.idx i] from asList_cons _ _] at h1
    unfold completeItems
    rw [Spec.completeItems_cons]
    refine Outcome.cons h1 ⟨hm, hd, hpos i (Nat.le_refl _)⟩ hpre (fun st1 hp => ?_)
    obtain ⟨ext, hext⟩ := hp.heap
    exact completeItems_sim xs t fds path (i + 1) st1 hp.memo hp.dmemo
      (fun k hk => hp.sibling (hpos k (by omega)) (by intro h; cases h; omega)) (hext ▸ hpre.mono ext)
end

end Gql.Exec.Refine
