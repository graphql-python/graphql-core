import Gql.Proofs.PublisherDom
/-!
Publisher level, continued:
* when every announced node is absent from the table (`AnnFresh`), announced ids are handed out
  in strictly increasing order — hence pairwise distinct (P1, "announced at most once");
* every announced entry carries the label of an announced node, and that node holds the entry's
  id until a `completed` entry for the id is emitted (`Tied`, for any event stream): the
  bookkeeping half of P4b and the tie between entries and roots behind P5.
-/
namespace Gql.Async
open Gql.Spec.Protocol

def SortedBelow (A : List Nat) (b : Nat) : Prop := A.Pairwise (· < ·) ∧ ∀ a ∈ A, a < b

theorem SortedBelow.mono {A : List Nat} {b b' : Nat} (h : SortedBelow A b) (hb : b ≤ b') :
    SortedBelow A b' := ⟨h.1, fun a ha => Nat.lt_of_lt_of_le (h.2 a ha) hb⟩

theorem SortedBelow.append_range {A : List Nat} {b : Nat} (h : SortedBelow A b) (k : Nat) :
    SortedBelow (A ++ List.range' b k) (b + k) := by
  induction k generalizing A b with
  | zero => simpa using h
  | succ k ih =>
    have h1 : SortedBelow (A ++ [b]) (b + 1) := by
      refine ⟨?_, ?_⟩
      · rw [List.pairwise_append]
        refine ⟨h.1, by simp, ?_⟩
        intro a ha c hc; simp at hc; subst hc; exact h.2 a ha
      · intro a ha
        rcases List.mem_append.mp ha with ha | ha
        · exact Nat.lt_succ_of_lt (h.2 a ha)
        · simp at ha; omega
    have := ih h1
    simpa [List.range'_succ, Nat.add_assoc, Nat.add_comm 1 k] using this

theorem toPendingNodes_fresh (ns : List Node) (p : Pub) (hn : ns.Nodup)
    (hf : ∀ n ∈ ns, alookup p.ids n = none) :
    (toPendingNodes p ns).2.map (·.2) = List.range' p.nextId ns.length ∧
    (toPendingNodes p ns).1.nextId = p.nextId + ns.length := by
  induction ns generalizing p with
  | nil => simp [toPendingNodes]
  | cons n ns ih =>
    have he : ensureId p n = ({ ids := aset p.ids n p.nextId, nextId := p.nextId + 1 }, p.nextId) := by
      simp [ensureId, hf n (by simp)]
    have hn' := List.nodup_cons.mp hn
    obtain ⟨i1, i2⟩ := ih { ids := aset p.ids n p.nextId, nextId := p.nextId + 1 } hn'.2 (by
      intro m hm
      show alookup (aset p.ids n p.nextId) m = none
      rw [alookup_aset_ne _ _ _ _ (fun e => hn'.1 (by rw [e]; exact hm))]
      exact hf m (List.mem_cons_of_mem _ hm))
    constructor
    · simp only [toPendingNodes, he, List.map_cons, i1, List.length_cons, List.range'_succ]
    · simp only [toPendingNodes, he, i2, List.length_cons]; omega

theorem dropId_nextId (p : Pub) (n : Node) : (dropId p n).nextId = p.nextId := rfl

theorem evTable_nextId_le (p : Pub) (n : Node) (d : Bool) : p.nextId ≤ (evTable p n d).nextId := by
  have : p.nextId ≤ (ensureId p n).1.nextId := by unfold ensureId; split <;> simp
  cases d <;> exact this

/-- An event whose announcements are fresh extends the announced ids by a run of consecutive new ones. -/
theorem handleEvent_ann (π : PubStatic) (p : Pub) (c : PCtx) (e : WQEvent) (D : List Node)
    (A : List Nat) (hd : DomIs p D) (ha : annOk D e) (hs : SortedBelow (A ++ c.pending.map (·.id)) p.nextId) :
    SortedBelow (A ++ (handleEvent π p c e).2.pending.map (·.id)) (handleEvent π p c e).1.nextId := by
  cases hn : evNode e with
  | none => rw [evNode_none hn, handleEvent_term]; exact hs
  | some n =>
    rw [handleEvent_node π p c hn]
    have hd2 := evTable_dom p n (evDone e).isSome D hd
    rw [← domMid_node hn] at hd2
    obtain ⟨t1, t2⟩ := toPendingNodes_fresh (evNew e) (evTable p n (evDone e).isSome) ha.1 (by
      intro m hm
      cases hl : alookup (evTable p n (evDone e).isSome).ids m with
      | none => rfl
      | some i => exact absurd ((hd2 m).mpr ⟨i, hl⟩) (ha.2 m hm))
    have := (hs.mono (evTable_nextId_le p n (evDone e).isSome)).append_range (evNew e).length
    rw [← t1, ← t2] at this
    simpa [List.map_append, List.map_map, Function.comp_def, mkEntry, List.append_assoc] using this

theorem handleEvents_ann (π : PubStatic) (evs : List WQEvent) {p : Pub} {c : PCtx} {D : List Node} {A : List Nat}
    (hd : DomIs p D) (hf : AnnFresh D evs) (hs : SortedBelow (A ++ c.pending.map (·.id)) p.nextId) :
    SortedBelow (A ++ (handleEvents π p c evs).2.pending.map (·.id)) (handleEvents π p c evs).1.nextId := by
  induction evs generalizing p c D with
  | nil => exact hs
  | cons e evs ih =>
    rw [handleEvents_cons]
    exact ih (handleEvent_dom π p c e D hd) hf.2 (handleEvent_ann π p c e D A hd hf.1 hs)

theorem publish_ann (π : PubStatic) (bs : List (List WQEvent)) (p : Pub) (D : List Node) (A : List Nat)
    (hd : DomIs p D) (hf : AnnFresh D bs.flatten) (hs : SortedBelow A p.nextId) :
    SortedBelow (A ++ announcedIds (publish π p bs).2) (publish π p bs).1.nextId := by
  induction bs generalizing p D A with
  | nil => simpa [publish, announcedIds] using hs
  | cons b bs ih =>
    simp only [List.flatten_cons, annFresh_append] at hf
    have h1 : SortedBelow (A ++ (handleBatch π p b).2.pending.map (·.id)) (handleBatch π p b).1.nextId :=
      handleEvents_ann π b (c := {}) hd hf.1 (by simpa using hs)
    have h2 := ih (handleBatch π p b).1 _ _ (handleBatch_dom π b p D hd) hf.2 h1
    simpa [publish, announcedIds, List.append_assoc] using h2

def annEntries (ps : List Payload) : List Pending := ps.flatMap (·.pending)

/-- Each announced entry of `A` carries the label of one of the announced nodes `N`, and unless
its id is among the completed ids `R`, that node holds the id. -/
def Tied (π : PubStatic) (p : Pub) (N : List Node) (R : List Nat) (A : List Pending) : Prop :=
  ∀ a ∈ A, ∃ n ∈ N, a.label = π.label n ∧ (a.id ∈ R ∨ alookup p.ids n = some a.id)

/-- `_ensure_id(n)`, then `del _ids[n]` if the event completes `n`: every other node keeps its id. -/
theorem Tied.evTable {π : PubStatic} {p : Pub} {N : List Node} {R : List Nat} {A : List Pending}
    (n : Node) (d : Bool) (h : Tied π p N R A) :
    Tied π (evTable p n d) N (R ++ if d then [(ensureId p n).2] else []) A := by
  intro a ha
  obtain ⟨m, hm, hlab, hk⟩ := h a ha
  refine ⟨m, hm, hlab, hk.elim (fun hr => Or.inl (List.mem_append_left _ hr)) fun hl => ?_⟩
  have hm1 := ensureId_lookup p n m a.id hl
  cases d with
  | false => exact Or.inr hm1
  | true =>
    by_cases hmn : m = n
    · subst hmn; rw [ensureId_self] at hm1; exact Or.inl (by simp [Option.some.inj hm1])
    · exact Or.inr (dropId_lookup _ n m _ hm1 hmn)

/-- `_to_pending_results`: the old ids stay, each new entry carries the label of a node that now has
its id. -/
theorem Tied.announce {π : PubStatic} {p : Pub} {N : List Node} {R : List Nat} {A : List Pending}
    (ns : List Node) (h : Tied π p N R A) :
    Tied π (toPendingNodes p ns).1 (N ++ ns) R (A ++ (toPendingNodes p ns).2.map (mkEntry π)) := by
  have sp := toPendingNodes_spec p ns
  intro a ha
  rcases List.mem_append.mp ha with ha | ha
  · obtain ⟨m, hm, hlab, hk⟩ := h a ha
    exact ⟨m, List.mem_append_left _ hm, hlab, hk.imp_right (sp.keep m _)⟩
  · obtain ⟨x, hx, rfl⟩ := List.mem_map.mp ha
    exact ⟨x.1, List.mem_append_right _ (sp.nodes ▸ List.mem_map_of_mem (f := (·.1)) hx), rfl, Or.inr (sp.mem x hx)⟩

theorem Tied.step {π : PubStatic} {p : Pub} {N : List Node} {R : List Nat} {A : List Pending} {c : PCtx}
    (e : WQEvent) (h : Tied π p N (R ++ c.completed.map (·.id)) (A ++ c.pending)) :
    Tied π (handleEvent π p c e).1 (N ++ evNew e) (R ++ (handleEvent π p c e).2.completed.map (·.id))
      (A ++ (handleEvent π p c e).2.pending) := by
  cases hn : evNode e with
  | none => rw [evNode_none hn, handleEvent_term]; simpa [evNew] using h
  | some n =>
    rw [handleEvent_node π p c hn]
    have := (h.evTable n (evDone e).isSome).announce (evNew e)
    cases hd : evDone e <;> simpa [hd, List.append_assoc] using this

theorem Tied.fold {π : PubStatic} (evs : List WQEvent) {p : Pub} {N : List Node} {R : List Nat} {A : List Pending}
    {c : PCtx} (h : Tied π p N (R ++ c.completed.map (·.id)) (A ++ c.pending)) :
    Tied π (handleEvents π p c evs).1 (N ++ evs.flatMap evNew)
      (R ++ (handleEvents π p c evs).2.completed.map (·.id)) (A ++ (handleEvents π p c evs).2.pending) := by
  induction evs generalizing p c N with
  | nil => simpa [handleEvents] using h
  | cons e evs ih =>
    rw [handleEvents_cons, List.flatMap_cons, ← List.append_assoc]
    exact ih (h.step e)

theorem publish_tied (π : PubStatic) (bs : List (List WQEvent)) (p : Pub) (N : List Node) (R : List Nat)
    (A : List Pending) (ht : Tied π p N R A) :
    Tied π (publish π p bs).1 (N ++ bs.flatten.flatMap evNew) (R ++ completedIds (publish π p bs).2)
      (A ++ annEntries (publish π p bs).2) := by
  induction bs generalizing p N R A with
  | nil => simpa [publish, annEntries, completedIds] using ht
  | cons b bs ih =>
    have h1 : Tied π (handleBatch π p b).1 (N ++ b.flatMap evNew)
        (R ++ (handleBatch π p b).2.completed.map (·.id)) (A ++ (handleBatch π p b).2.pending) :=
      Tied.fold b (c := {}) (by simpa using ht)
    simpa [publish, annEntries, completedIds, List.append_assoc] using ih _ _ _ _ h1

end Gql.Async
