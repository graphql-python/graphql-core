import Gql.Proofs.Integrate
import Gql.Proofs.Prune
/-!
`_maybe_integrate_work` and `_finish_group_success` on a good graph.
-/
namespace Gql.Async

theorem addGroups_nil (σ : Static) (q : WQ) (hpt : Bool) : addGroups σ q [] hpt = (q, []) := rfl

theorem addTasks_upd (σ : Static) (ts : List Nat) (q : WQ) : Upd true q (ts.foldl (addTask σ) q) :=
  foldl_rel (Upd true) (.refl _) .trans _ _ _ (addTask_upd σ)

theorem integrateWork_good (σ : Static) (e : EnvSt) (q : WQ) (w : Work) (pt : Option Nat)
    (g : Good σ e q) (ok : WorkOk σ e w) :
    Good σ (e.intro (some w)) (integrateWork σ q (some w) pt).1 ∧
    (integrateWork σ q (some w) pt).2.1.Nodup ∧
    (∀ x ∈ (integrateWork σ q (some w) pt).2.1, x ∈ w.groups ∧ σ.parent x = none) ∧
    (∀ x ∈ (integrateWork σ q (some w) pt).2.2, x ∈ w.streams ∧ pt = none) ∧
    (integrateWork σ q (some w) pt).2.2.Nodup := by
  obtain ⟨g1, n1, m1⟩ := addGroups_good σ e q w pt.isSome g ok
  have hgroups : ∀ x ∈ (addGroups σ q w.groups pt.isSome).2, x ∈ w.groups ∧ σ.parent x = none :=
    fun x hx => ⟨(m1 x hx).1, (m1 x hx).2.1⟩
  have u2 := addTasks_upd σ w.tasks (addGroups σ q w.groups pt.isSome).1
  have g2 := g1.upd u2
  cases pt with
  | none => rw [integrateWork_root]; exact ⟨g2, n1, hgroups, fun x hx => ⟨hx, rfl⟩, ok.snodup⟩
  | some t =>
    unfold integrateWork
    simp only [addGroups_isEmpty, Option.isSome_some] at n1 hgroups u2 g2 ⊢
    split
    · exact ⟨g2, n1, hgroups, nofun, .nil⟩
    · -- the streams the graph knew before are still all it knows
      have hold : SKnown e.introS (w.tasks.foldl (addTask σ) (addGroups σ q w.groups true).1) :=
        g.sknown.shrink ((tsub_of_eq (addGroups_taskNodes σ q w.groups true)).trans u2.shrink.tsub) fun x hx =>
          g.sknown.roots x (by rw [u2.frame.rs, (addGroups_grow σ q w.groups true).frame.rs] at hx; exact hx)
      obtain ⟨g3, e3⟩ := addStreams_good σ e _ w t g2 hold ok
      rw [e3]
      exact ⟨g3, n1, hgroups, nofun, .nil⟩

/-- The loop of `_finish_group_success` over the group's tasks: the collected child streams are
pairwise distinct, come from task nodes, and wait in no remaining task node. -/
theorem collect_spec (σ : Static) (ts : List Nat) (q : WQ) (sf : SForest q) :
    (ts.foldl (collectTask σ) (q, [], [])).2.2.Nodup ∧
    (∀ s ∈ (ts.foldl (collectTask σ) (q, [], [])).2.2,
      ∃ t tn, alookup q.taskNodes t = some tn ∧ s ∈ tn.childStreams) ∧
    (∀ s ∈ (ts.foldl (collectTask σ) (q, [], [])).2.2, ∀ t tn,
      alookup (ts.foldl (collectTask σ) (q, [], [])).1.taskNodes t = some tn → s ∉ tn.childStreams) := by
  -- along the loop, moreover, the remaining task nodes are task nodes of `q`
  refine (foldl_inv (fun acc : WQ × List GVal × List Nat =>
      (∀ x tx, alookup acc.1.taskNodes x = some tx → alookup q.taskNodes x = some tx) ∧ acc.2.2.Nodup ∧
      (∀ s ∈ acc.2.2, ∃ t tn, alookup q.taskNodes t = some tn ∧ s ∈ tn.childStreams) ∧
      (∀ s ∈ acc.2.2, ∀ t tn, alookup acc.1.taskNodes t = some tn → s ∉ tn.childStreams))
    (collectTask σ) ts (q, [], []) ⟨fun _ _ h => h, List.nodup_nil, fun _ => nofun, fun _ => nofun⟩ ?_).2
  intro acc t ⟨sub, nd, src, gone⟩
  unfold collectTask
  split
  · rename_i tn hl
    have look : ∀ x tx, alookup (removeTask σ acc.1 t).taskNodes x = some tx →
        x ≠ t ∧ alookup acc.1.taskNodes x = some tx := by
      intro x tx hx
      change alookup (aerase acc.1.taskNodes t) x = some tx at hx
      by_cases e : t = x
      · subst e; rw [alookup_aerase_self] at hx; cases hx
      · rw [alookup_aerase_ne _ _ _ e] at hx; exact ⟨fun h => e h.symm, hx⟩
    refine ⟨fun x tx hx => sub x tx (look x tx hx).2, List.nodup_append.mpr ⟨nd, sf.nodup t tn (sub t tn hl),
      fun a ha b hb eab => gone a ha t tn hl (eab ▸ hb)⟩, fun s hs => ?_, fun s hs x tx hx => ?_⟩
    · exact (List.mem_append.mp hs).elim (src s) fun h => ⟨t, tn, sub t tn hl, h⟩
    · obtain ⟨hne, hx0⟩ := look x tx hx
      exact (List.mem_append.mp hs).elim (fun h => gone s h x tx hx0)
        fun h hsx => hne (sf.owner x t tx tn s (sub x tx hx0) (sub t tn hl) hsx h)
  · exact ⟨sub, nd, src, gone⟩

theorem finishGroupSuccess_eq (σ : Static) (q : WQ) (g : Nat) (n : GroupNode) :
    finishGroupSuccess σ q g n =
      ({ (pruneEmpty (collected σ q g n).1 n.children).1 with
          rootGroups := oerase (pruneEmpty (collected σ q g n).1 n.children).1.rootGroups g },
        groupEvents g (collected σ q g n).2.1 (pruneEmpty (collected σ q g n).1 n.children).2
          (collected σ q g n).2.2,
        (pruneEmpty (collected σ q g n).1 n.children).2, (collected σ q g n).2.2) := rfl

theorem collected_gone (σ : Static) (q : WQ) (g : Nat) (n : GroupNode) :
    alookup (collected σ q g n).1.groupNodes g = none :=
  (collect_upd σ n.tasks (({ q with groupNodes := aerase q.groupNodes g } : WQ), [], [])).shrink.sub.none
    (alookup_aerase_self _ _)

/-- `_finish_group_success` prunes `[g]`: it deletes `g` and calls `prune` on its children. -/
theorem finish_prune (σ : Static) (q : WQ) (g : Nat) (n : GroupNode) (tl : TreeLike σ q)
    (hn : alookup q.groupNodes g = some n) :
    PruneOut q [g] (finishGroupSuccess σ q g n).1 (finishGroupSuccess σ q g n).2.2.1 := by
  have h12 := (collected_upd σ q g n).shrink.sub
  have po := (pruneEmpty_spec σ _ _ (tl.sub h12) (tl.nodup g n hn)
    (fun x hx => tl.detached_of_gone h12 ⟨n, hn, hx⟩ (collected_gone σ q g n))).drop hn h12
    (fun p hp hpg => collect_kept σ n.tasks _ p (hasNode_erase hp hpg)) (collected_gone σ q g n)
  rw [finishGroupSuccess_eq]; exact ⟨po.sub, po.nodup, po.src, po.kept, po.del⟩

/-- What `_finish_group_success` returns on a good graph. -/
structure FinishOut (σ : Static) (e : EnvSt) (q : WQ) (g : Nat)
    (f : WQ × List WQEvent × List Nat × List Nat) : Prop where
  good : Good σ e f.1
  shrink : Shrink q f.1
  rg : f.1.rootGroups = oerase q.rootGroups g
  sframe : StreamFrame q f.1
  gone : alookup f.1.groupNodes g = none
  gnodup : f.2.2.1.Nodup
  gsrc : ∀ x ∈ f.2.2.1, ∃ p, hasChild q p x ∧ alookup f.1.groupNodes p = none
  snodup : f.2.2.2.Nodup
  ssrc : ∀ s ∈ f.2.2.2, ∃ t tn, alookup q.taskNodes t = some tn ∧ s ∈ tn.childStreams
  sgone : ∀ s ∈ f.2.2.2, ∀ t tn, alookup f.1.taskNodes t = some tn → s ∉ tn.childStreams
  events : ∃ v, f.2.1 = groupEvents g v f.2.2.1 f.2.2.2
  gkept : ∀ x ∈ f.2.2.1, hasNode f.1 x
  del : ∀ k, hasNode q k → ¬ hasNode f.1 k → k = g ∨ ∃ p, hasChild q p k

theorem finishGroupSuccess_out (σ : Static) (e : EnvSt) (q : WQ) (g : Nat) (n : GroupNode)
    (gd : Good σ e q) (hn : alookup q.groupNodes g = some n) :
    FinishOut σ e q g (finishGroupSuccess σ q g n) := by
  obtain ⟨c1, c2, c3⟩ := collect_spec σ n.tasks { q with groupNodes := aerase q.groupNodes g }
    ⟨gd.sforest.nodup, gd.sforest.notRoot, gd.sforest.owner⟩
  have po := finish_prune σ q g n gd.forest.treeLike hn
  have h3 := (pruneEmpty_upd (collected σ q g n).1 n.children).shrink
  have hgone : alookup (finishGroupSuccess σ q g n).1.groupNodes g = none := h3.sub.none (collected_gone σ q g n)
  obtain ⟨rg, sf, shr⟩ := finishGroupSuccess_roots σ q g n
  refine ⟨gd.shrink shr (fun x hx => ((mem_oerase _ _ _).mp (rg ▸ hx)).1) (fun x hx => sf.rs ▸ hx), shr, rg, sf,
    hgone, po.nodup, fun x hx => ?_, c1, c2, fun s hs => h3.tsub.absent (c3 s hs), ⟨_, rfl⟩, po.kept,
    fun k hk hno => (po.del k hk hno).imp List.mem_singleton.mp fun ⟨p, hp, _⟩ => ⟨p, hp⟩⟩
  -- a promoted group is not `g`, which has lost its node
  rcases po.src x hx with h | h
  · obtain ⟨m, hm⟩ := po.kept x hx
    cases hgone.symm.trans (List.mem_singleton.mp h ▸ hm)
  · exact h

end Gql.Async
