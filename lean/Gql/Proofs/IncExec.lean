import Gql.Async.IncExec
import Gql.Proofs.Plan
import Gql.Proofs.Cut
import Gql.Proofs.ExecGroups
/-!
Lemmas about `Gql.Async.IncExec` (denotational model of the incremental executor): whatever the
schema, document, variables and data, the cut produced is well formed — collection keeps the
response keys of the grouped field set distinct, the execution plan partitions them
(`Plan.build_inv`), and the recursion into field values preserves well-formedness.
-/
namespace Gql.Async.IncExec
open Gql.Exec Gql.Async

theorem keyOf_injective : Function.Injective keyOf := by
  intro a b h
  unfold keyOf at h
  have h2 := congrArg (fun l => String.ofList (l.map Char.ofNat)) h
  simpa [List.map_map, Function.comp_def] using h2

def nodes (fds : List FD) : List FieldNode := fds.map FD.node

/-- the grouped field set without the defer usages: the specification's groups -/
def toGroups (g : GFS) : Spec.Groups := g.map (fun e => (e.1, nodes e.2))

theorem addField_eq (g : GFS) (k : Name) (fd : FD) : addField g k fd = g.extendAt k [fd] := by
  induction g with
  | nil => rfl
  | cons p r ih => simp only [addField, List.extendAt, ih]

theorem toGroups_addField (g : GFS) (k : Name) (fd : FD) :
    toGroups (addField g k fd) = Spec.appendGroup (toGroups g) k [fd.node] := by
  rw [addField_eq, Refine.appendGroup_eq]
  exact List.map_extendAt FD.node g k [fd]

/-- the response keys of the grouped field set are distinct -/
def Good (st : CState) : Prop := (st.grouped.map Prod.fst).Nodup

theorem addField_nodup (g : GFS) (k : Name) (fd : FD) (h : (g.map Prod.fst).Nodup) :
    ((addField g k fd).map Prod.fst).Nodup :=
  addField_eq g k fd ▸ List.nodup_keys_extendAt k [fd] h

mutual
theorem collectSels_good (cx : Impl.Ctx) (rt : Name)
    (recur : Option Nat → List Selection → CState → Option CState)
    (hrec : ∀ du sels st st', recur du sels st = some st' → Good st → Good st') :
    ∀ (du : Option Nat) (sels : List Selection) (st st' : CState),
      collectSels cx rt recur du sels st = some st' → Good st → Good st'
  | du, [], st, st', h, hg => by
    simp only [collectSels, Option.some.injEq] at h
    subst h; exact hg
  | du, sel :: rest, st, st', h, hg => by
    rw [collectSels] at h
    cases hs : collectSel cx rt recur du sel st with
    | none => simp [hs] at h
    | some st1 =>
      simp only [hs] at h
      exact collectSels_good cx rt recur hrec du rest st1 st' h
        (collectSel_good cx rt recur hrec du sel st st1 hs hg)

theorem collectSel_good (cx : Impl.Ctx) (rt : Name)
    (recur : Option Nat → List Selection → CState → Option CState)
    (hrec : ∀ du sels st st', recur du sels st = some st' → Good st → Good st') :
    ∀ (du : Option Nat) (sel : Selection) (st st' : CState),
      collectSel cx rt recur du sel st = some st' → Good st → Good st'
  -- every branch of `collectSel` returns the state as it is, adds one field to it, or is a
  -- recursive call on a state with the same grouped field set
  | du, .field alias name args dirs sels, st, st', h, hg => by
    rw [collectSel] at h
    split at h <;> cases h
    · exact addField_nodup _ _ _ hg
    · exact hg
  | du, .inline cond dirs sels, st, st', h, hg => by
    rw [collectSel] at h
    repeat' split at h
    all_goals first
      | exact collectSels_good cx rt recur hrec _ sels _ st' h hg
      | cases h <;> exact hg
  | du, .spread name dirs, st, st', h, hg => by
    rw [collectSel] at h
    repeat' split at h
    all_goals first
      | exact hrec _ _ _ _ h hg
      | cases h <;> exact hg
end

theorem collectFuel_good (cx : Impl.Ctx) (rt : Name) :
    ∀ (n : Nat) (du : Option Nat) (sels : List Selection) (st st' : CState),
      collectFuel cx rt n du sels st = some st' → Good st → Good st'
  | 0, _, _, _, _, h, _ => by simp [collectFuel] at h
  | n + 1, du, sels, st, st', h, hg => by
    rw [collectFuel] at h
    exact collectSels_good cx rt _ (collectFuel_good cx rt n) du sels st st' h hg

theorem initC_good (base : Nat) : Good (initC base) := by simp [Good, initC]

theorem collectRoot_good {cx : Impl.Ctx} {rt : Name} {sels : List Selection} {st : CState}
    (h : collectRoot cx rt sels = some st) : Good st :=
  collectFuel_good cx rt _ _ _ _ _ h (initC_good 0)

theorem collectSubLoop_good (cx : Impl.Ctx) (rt : Name) :
    ∀ (fds : List FD) (st st' : CState), collectSubLoop cx rt fds st = some st' → Good st → Good st'
  | [], st, st', h, hg => by
    simp only [collectSubLoop, Option.some.injEq] at h
    subst h; exact hg
  | fd :: rest, st, st', h, hg => by
    rw [collectSubLoop] at h
    cases hs : collectFuel cx rt (fuelOf cx.doc) fd.du fd.node.sels st with
    | none => simp [hs] at h
    | some st1 =>
      simp only [hs] at h
      exact collectSubLoop_good cx rt rest st1 st' h (collectFuel_good cx rt _ _ _ _ _ hs hg)

theorem collectSubfields_good {cx : Impl.Ctx} {rt : Name} {fds : List FD} {base : Nat} {st : CState}
    (h : collectSubfields cx rt fds base = some st) : Good st :=
  collectSubLoop_good cx rt fds _ _ h (initC_good base)

theorem leafCut_some {j : Json} {c : Cut} (h : leafCut j = some c) :
    ∃ j', toJ j = some j' ∧ j'.wf = true ∧ c = .leaf j' := by
  unfold leafCut at h
  split at h
  · split at h
    · cases h
      exact ⟨_, ‹_›, ‹_›, rfl⟩
    · cases h
  · cases h

/-- The cuts the executor builds: well-formed leaves, lists without stream batches, and objects
whose parts have pairwise distinct keys. -/
inductive Made : Cut → Prop where
  | leaf {j} (h : j.wf = true) : Made (.leaf j)
  | arr {cs} (h : ∀ c ∈ cs, Made c) : Made (.arr cs [])
  | obj {now later} (hn : ∀ kc ∈ now, Made kc.2) (hl : ∀ g ∈ later, ∀ kc ∈ g, Made kc.2)
      (hk : ((refFields now ++ refGroups later).map Prod.fst).Nodup) : Made (.obj now later)

theorem leafCut_made {j : Json} {c : Cut} (h : leafCut j = some c) : Made c := by
  obtain ⟨_, _, hw, rfl⟩ := leafCut_some h
  exact .leaf hw

def ChildMade (child : Child) : Prop :=
  ∀ name args t fds us ps c, child name args t fds us ps = some c → Made c

theorem executeField_made {cx : Impl.Ctx} {parent : Name} {child : Child} (hc : ChildMade child)
    {usages : List DU} {pset : Plan.DeferUsageSet} {fds : List FD} {c : Cut}
    (h : executeField cx parent child usages pset fds = some (some c)) : Made c := by
  unfold executeField at h
  split at h
  · cases h
  · simp only at h
    split at h
    · split at h
      · cases h
      · obtain ⟨c', hl, he⟩ := Option.map_eq_some_iff.mp h
        cases he
        exact leafCut_made hl
      · cases h
    · split at h
      · cases h
      · split at h
        · cases h
        · obtain ⟨c', hk, he⟩ := Option.map_eq_some_iff.mp h
          cases he
          exact hc _ _ _ _ _ _ _ hk

theorem sublist_cons_of {α : Type} {a : α} {l l' : List α} (h : l.Sublist l') :
    (a :: l).Sublist (a :: l') := h.cons_cons a

theorem executeKeys_made {cx : Impl.Ctx} {parent : Name} {child : Child} (hc : ChildMade child)
    {usages : List DU} {pset : Plan.DeferUsageSet} {g : GFS} :
    ∀ (keys : List Name) (fs : List (List Nat × Cut)),
      executeKeys cx parent child usages pset g keys = some fs →
      (∀ kc ∈ fs, Made kc.2) ∧ (fs.map Prod.fst).Sublist (keys.map keyOf)
  | [], fs, h => by
    cases h
    exact ⟨by simp, List.Sublist.refl _⟩
  | k :: rest, fs, h => by
    rw [executeKeys] at h
    split at h
    · cases h
    · split at h
      · rename_i c cs hf hr
        cases h
        obtain ⟨h1, h2⟩ := executeKeys_made hc rest cs hr
        exact ⟨by simpa [executeField_made hc hf] using h1, by simpa using h2.cons_cons (keyOf k)⟩
      · rename_i cs hf hr
        cases h
        obtain ⟨h1, h2⟩ := executeKeys_made hc rest _ hr
        exact ⟨h1, by simpa using h2.cons (keyOf k)⟩
      · cases h

theorem executeSets_made {cx : Impl.Ctx} {parent : Name} {child : Child} (hc : ChildMade child)
    {usages : List DU} {g : GFS} :
    ∀ (sets : List (Plan.DeferUsageSet × Plan.GroupedFieldSet Name))
      (gs : List (List (List Nat × Cut))),
      executeSets cx parent child usages g sets = some gs →
      (∀ g ∈ gs, ∀ kc ∈ g, Made kc.2) ∧
      ((gs.map (fun g => g.map Prod.fst)).flatten).Sublist
        (((sets.map Prod.snd).flatten.map Prod.fst).map keyOf)
  | [], gs, h => by
    cases h
    exact ⟨by simp, List.Sublist.refl _⟩
  | (s, part) :: rest, gs, h => by
    rw [executeSets] at h
    split at h
    · rename_i fs gs' hf hr
      cases h
      obtain ⟨h1, h2⟩ := executeKeys_made hc _ _ hf
      obtain ⟨h3, h4⟩ := executeSets_made hc rest gs' hr
      refine ⟨fun g hg => (List.mem_cons.mp hg).elim (· ▸ h1) (h3 g), ?_⟩
      simp only [List.map_cons, List.flatten_cons, List.map_append]
      exact h2.append h4
    · cases h

theorem gfsGet_eq (k : Name) : ∀ g : GFS, gfsGet k g = g.lookup k
  | [] => rfl
  | (k', fds) :: r => by rw [gfsGet, List.lookup_cons_ite, gfsGet_eq k r]

theorem toPlan_keys (g : GFS) : (toPlan g).map Prod.fst = g.map Prod.fst := by
  simp [toPlan, List.map_map, Function.comp_def]

/-- The keys of the parts of a plan are distinct (`Plan.build_inv`), so whatever subset of them is
executed gives an object without a repeated key. -/
theorem executePlan_made {cx : Impl.Ctx} {parent : Name} {child : Child} (hc : ChildMade child)
    {usages : List DU} {pset : Plan.DeferUsageSet} {st : CState} (hg : Good st) {c : Cut}
    (h : executePlan cx parent child usages pset st = some c) : Made c := by
  unfold executePlan at h
  simp only at h
  split at h
  · rename_i now later hn hl
    cases h
    obtain ⟨h1, h2⟩ := executeKeys_made hc _ _ hn
    obtain ⟨h3, h4⟩ := executeSets_made hc _ _ hl
    refine .obj h1 h3 ?_
    have hnd : ((toPlan st.grouped).map Prod.fst).Nodup := by rw [toPlan_keys]; exact hg
    have hperm := (Plan.build_inv (parentOf (usages ++ st.newUsages))
      ((usages ++ st.newUsages).length + 1) pset (toPlan st.grouped) hnd).perm.map Prod.fst
    rw [List.map_append, keys_refFields, keys_refGroups]
    refine List.Sublist.nodup ?_ (List.Pairwise.map keyOf
      (fun a b hab he => hab (keyOf_injective he)) (hperm.nodup_iff.mp hnd))
    rw [List.map_append, List.map_append]
    exact h2.append h4
  · cases h

theorem completeObject_made {cx : Impl.Ctx} {rt : Name} {fds : List FD} {usages : List DU}
    {pset : Plan.DeferUsageSet} {child : Child} (hc : ChildMade child) {c : Cut}
    (h : completeObject cx rt fds usages pset child = some c) : Made c := by
  unfold completeObject at h
  split at h
  · cases h
  · exact executePlan_made hc (collectSubfields_good ‹_›) h

theorem completeNull_made {t : TypeRef} {c : Cut} (h : completeNull t = some c) : Made c := by
  unfold completeNull at h
  split at h <;> cases h
  exact .leaf rfl

theorem completeNamed_made {cx : Impl.Ctx} {t : TypeRef} {fds : List FD} {usages : List DU}
    {pset : Plan.DeferUsageSet} {leaf? : Option PyLeaf} {tn : TN} {child : Child}
    (hc : ChildMade child) {c : Cut}
    (h : completeNamed cx t fds usages pset leaf? tn child = some c) : Made c := by
  unfold completeNamed at h
  split at h
  · cases h
  · split at h
    · split at h
      · split at h
        · cases h
        · exact leafCut_made h
        · cases h
      · cases h
    · split at h
      · exact completeObject_made hc h
      · cases h
    · exact completeObject_made hc h
    · cases h

mutual
theorem completeValue_made (cx : Impl.Ctx) :
    ∀ (t : TypeRef) (fds : List FD) (usages : List DU) (pset : Plan.DeferUsageSet) (v : RVal)
      (c : Cut), completeValue cx t fds usages pset v = some c → Made c
  | t, fds, usages, pset, .raise _ _, c, h => by simp [completeValue] at h
  | t, fds, usages, pset, .null, c, h => by
    rw [completeValue] at h; exact completeNull_made h
  | t, fds, usages, pset, .leaf l, c, h => by
    rw [completeValue] at h
    exact completeNamed_made (fun _ _ _ _ _ _ _ h => completeNull_made h) h
  | t, fds, usages, pset, .list items, c, h => by
    unfold completeValue at h
    split at h
    · split at h
      · cases h
        exact .arr (completeItems_made cx _ fds usages pset items _ ‹_›)
      · cases h
    · exact completeNamed_made (fun _ _ _ _ _ _ _ h => completeNull_made h) h
  | t, fds, usages, pset, .obj tn f, c, h => by
    rw [completeValue] at h
    exact completeNamed_made
      (fun name args t' fds' us ps c' hc' => completeValue_made cx t' fds' us ps (f name args) c' hc') h

theorem completeItems_made (cx : Impl.Ctx) :
    ∀ (t : TypeRef) (fds : List FD) (usages : List DU) (pset : Plan.DeferUsageSet)
      (items : List RVal) (cs : List Cut),
      completeItems cx t fds usages pset items = some cs → ∀ c ∈ cs, Made c
  | t, fds, usages, pset, [], cs, h => by
    cases h
    simp
  | t, fds, usages, pset, x :: xs, cs, h => by
    rw [completeItems] at h
    split at h
    · rename_i c cs' hx hxs
      cases h
      simpa [completeValue_made cx t fds usages pset x c hx] using
        completeItems_made cx t fds usages pset xs cs' hxs
    · cases h
end

theorem incCut_made {ops : Ops} {s : Schema} {doc : Doc} {opName : Option Name} {vars : Vars}
    {root : RVal} {c : Cut} (h : incCut ops s doc opName vars root = some c) : Made c := by
  unfold incCut at h
  simp only at h
  split at h
  · cases h
  · split at h
    · cases h
    · split at h
      · cases h
      · exact executePlan_made (fun _ _ _ _ _ _ _ h => completeValue_made _ _ _ _ _ _ _ h)
          (collectRoot_good ‹_›) h

theorem Made.wf {c : Cut} (h : Made c) : c.wf = true := by
  induction h with
  | leaf h => exact h
  | arr _ ih => simp [Cut.wf, wfCutBatches, wfCutItems_of _ ih]
  | obj _ _ hk ihn ihl => simpa [Cut.wf, wfCutFields_of _ ihn, wfCutGroups_of _ ihl] using hk

theorem completeItems_wf (cx : Impl.Ctx) :
    ∀ (t : TypeRef) (fds : List FD) (usages : List DU) (pset : Plan.DeferUsageSet)
      (items : List RVal) (cs : List Cut),
      completeItems cx t fds usages pset items = some cs → wfCutItems cs = true :=
  fun t fds usages pset items cs h =>
    wfCutItems_of cs fun c hc => (completeItems_made cx t fds usages pset items cs h c hc).wf

theorem incCut_wf {ops : Ops} {s : Schema} {doc : Doc} {opName : Option Name} {vars : Vars}
    {root : RVal} {c : Cut} (h : incCut ops s doc opName vars root = some c) : c.wf = true :=
  (incCut_made h).wf

end Gql.Async.IncExec
