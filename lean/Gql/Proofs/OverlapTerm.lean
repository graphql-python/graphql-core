import Gql.Proofs.OverlapFlat
import Gql.Proofs.OverlapPairSet
/-! Lemmas for C14: the rule terminates on every document (cyclic fragment spreads included)
within the recursion depth `fuelBound`. The measure is the memo capacity `cap`: how often the two
memo tables can still let a comparison through, summed over all keys the document can produce.
Every comparison that passes a table lowers it (`sum_slot_write`); between two such writes the
recursion only descends the nesting of the fields (`runs_all`). -/
namespace Gql.Exec
open Overlap

def slot : Option Bool → Nat
  | none => 2
  | some true => 1
  | some false => 0

def univ1 (d : Doc) : List (Nat × String) :=
  (d.allSets.map (·.id)).flatMap (fun i => (spreadKeys d).map (fun k => (i, k)))

def univ2 (d : Doc) : List (String × String) :=
  (spreadKeys d).flatMap (fun a => (spreadKeys d).map (fun b => (a, b)))

def cap1 (d : Doc) (σ : St) : Nat := ((univ1 d).map (fun u => slot (assocGet σ.cfp u))).sum
def cap2 (d : Doc) (σ : St) : Nat :=
  ((univ2 d).map (fun u => slot (assocGet σ.cmp (pairKey u.1 u.2)))).sum
def cap (d : Doc) (σ : St) : Nat := cap1 d σ + cap2 d σ

theorem slot_le (o : Option Bool) : slot o ≤ 2 := by
  cases o with
  | none => simp [slot]
  | some b => cases b <;> simp [slot]

theorem sum_map_le {α : Type} (U : List α) (f : α → Nat) (c : Nat) (h : ∀ u ∈ U, f u ≤ c) :
    (U.map f).sum ≤ c * U.length := by
  induction U with
  | nil => simp
  | cons x xs ih =>
    simp only [List.map_cons, List.sum_cons, List.length_cons]
    have := ih (fun u hu => h u (List.mem_cons_of_mem _ hu))
    have := h x List.mem_cons_self
    rw [Nat.mul_succ]; omega

theorem cap_init (d : Doc) : cap d {} ≤ memoCapacity d := by
  have h1 : cap1 d {} ≤ 2 * (univ1 d).length := sum_map_le _ _ 2 (fun _ _ => slot_le _)
  have h2 : cap2 d {} ≤ 2 * (univ2 d).length := sum_map_le _ _ 2 (fun _ _ => slot_le _)
  simp only [univ1, univ2, List.length_flatMap, List.length_map, List.map_const',
    List.sum_replicate_nat] at h1 h2
  simp only [cap, memoCapacity]
  omega

theorem sum_map_lt {α : Type} (U : List α) (f g : α → Nat) (hle : ∀ u ∈ U, g u ≤ f u) :
    (U.map g).sum ≤ (U.map f).sum ∧ ((∃ u ∈ U, g u < f u) → (U.map g).sum < (U.map f).sum) := by
  induction U with
  | nil => exact ⟨Nat.le_refl _, fun ⟨_, hu, _⟩ => by cases hu⟩
  | cons x xs ih =>
    obtain ⟨ih1, ih2⟩ := ih (fun u hu => hle u (List.mem_cons_of_mem _ hu))
    have hx := hle x List.mem_cons_self
    simp only [List.map_cons, List.sum_cons]
    refine ⟨by omega, fun ⟨u, hu, hlt⟩ => ?_⟩
    rcases List.mem_cons.1 hu with rfl | hu
    · omega
    · have := ih2 ⟨u, hu, hlt⟩
      omega

/-- letting a comparison through a table strictly lowers the slot it writes -/
theorem slot_set_lt {stored : Option Bool} {q : Bool} (h : flagHas stored q = false) :
    slot (some q) < slot stored := by
  cases stored with
  | none => cases q <;> simp [slot]
  | some r =>
    obtain ⟨hr, hq⟩ := flagHas_false_of_some h
    subst hr hq
    simp [slot]

theorem mem_univ1 {d : Doc} {i : Nat} {k : String} (hi : i ∈ d.allSets.map (·.id))
    (hk : k ∈ spreadKeys d) : (i, k) ∈ univ1 d := by
  simp only [univ1, List.mem_flatMap, List.mem_map]
  obtain ⟨ss, hss, rfl⟩ := List.mem_map.1 hi
  exact ⟨ss.id, ⟨ss, hss, rfl⟩, k, hk, rfl⟩

theorem mem_univ2 {d : Doc} {a b : String} (ha : a ∈ spreadKeys d) (hb : b ∈ spreadKeys d) :
    (a, b) ∈ univ2 d := by
  simp only [univ2, List.mem_flatMap, List.mem_map]
  exact ⟨a, ha, b, hb, rfl⟩

/-- a write that a memo table let through lowers the sum of the slots over any list of keys that
holds the written one -/
theorem sum_slot_write {α κ : Type} [BEq κ] [LawfulBEq κ] (U : List α) (key : α → κ)
    (m : List (κ × Bool)) {k : κ} {q : Bool} (hmem : ∃ u ∈ U, key u = k)
    (h : flagHas (assocGet m k) q = false) :
    (U.map fun u => slot (assocGet (assocSet m k q) (key u))).sum <
      (U.map fun u => slot (assocGet m (key u))).sum := by
  refine (sum_map_lt U _ _ fun u _ => ?_).2 ?_
  · by_cases hu : k = key u
    · subst hu
      rw [assocGet_assocSet_same]
      exact Nat.le_of_lt (slot_set_lt h)
    · rw [assocGet_assocSet_other _ _ _ _ hu]
      exact Nat.le_refl _
  · obtain ⟨u, hu, rfl⟩ := hmem
    exact ⟨u, hu, by rw [assocGet_assocSet_same]; exact slot_set_lt h⟩

theorem cap_cfpAdd {d : Doc} {σ : St} {i : Nat} {k : String} {q : Bool}
    (hmem : (i, k) ∈ univ1 d) (h : σ.cfpHas i k q = false) :
    cap d (σ.cfpAdd i k q) < cap d σ :=
  Nat.add_lt_add_right (sum_slot_write (univ1 d) id σ.cfp ⟨_, hmem, rfl⟩ h) _

theorem cap_cmpAdd {d : Doc} {σ : St} {a b : String} {q : Bool}
    (hmem : (a, b) ∈ univ2 d) (h : σ.cmpHas a b q = false) :
    cap d (σ.cmpAdd a b q) < cap d σ :=
  Nat.add_lt_add_left
    (sum_slot_write (univ2 d) (fun u => pairKey u.1 u.2) σ.cmp ⟨_, hmem, rfl⟩ h) _

/-- From any good state whose memo capacity is at most `c0`, `r` returns (no fuel exhaustion), in
a good state, without increasing the capacity. -/
def Runs (d : Doc) (c0 : Nat) (r : St → Res) : Prop :=
  ∀ σ, CacheOK d σ → cap d σ ≤ c0 →
    ∃ σ' cs, r σ = some (σ', cs) ∧ CacheOK d σ' ∧ cap d σ' ≤ cap d σ

theorem Runs.mono {d : Doc} {c0 c1 : Nat} {r : St → Res} (h : Runs d c0 r) (hc : c1 ≤ c0) :
    Runs d c1 r := fun σ h1 h2 => h σ h1 (Nat.le_trans h2 hc)

theorem runs_pure {d : Doc} {c0 : Nat} (cs : List Conflict) :
    Runs d c0 (fun σ => some (σ, cs)) := fun σ h _ => ⟨σ, cs, rfl, h, Nat.le_refl _⟩

theorem runs_andThen {d : Doc} {c0 : Nat} {r k : St → Res} (hr : Runs d c0 r)
    (hk : Runs d c0 k) : Runs d c0 (fun σ => andThen (r σ) k) := by
  intro σ h1 h2
  obtain ⟨σ1, c1, e1, g1, l1⟩ := hr σ h1 h2
  obtain ⟨σ2, c2, e2, g2, l2⟩ := hk σ1 g1 (Nat.le_trans l1 h2)
  exact ⟨σ2, c1 ++ c2, by simp [andThen, e1, e2], g2, Nat.le_trans l2 l1⟩

theorem runs_forEach {d : Doc} {c0 : Nat} {α : Type} (xs : List α) (f : α → St → Res)
    (hf : ∀ x ∈ xs, Runs d c0 (f x)) : Runs d c0 (forEach xs f) := by
  induction xs with
  | nil => exact runs_pure []
  | cons x xs ih =>
    exact runs_andThen (hf x List.mem_cons_self) (ih (fun y hy => hf y (List.mem_cons_of_mem _ hy)))

/-- a field node of the document: its sub-selection is a selection set of the document -/
def NodeIn (d : Doc) (n : FieldNode) : Prop := n.hasSub = true → n.subSet ∈ d.allSets

/-- all field nodes of a field map are of the document and nest at most `k` deep -/
def FmOK (d : Doc) (k : Nat) (fm : FieldMap) : Prop :=
  fm.id ∈ d.allSets.map (·.id) ∧
    ∀ rn es, (rn, es) ∈ fm.entries → ∀ e ∈ es, NodeIn d e.node ∧ nodeDepth e.node ≤ k

def SpOK (d : Doc) (sp : Spread) : Prop := sp.key ∈ spreadKeys d

theorem cachedFrom_facts {d : Doc} {ss : SelSet} (hss : ss ∈ d.allSets) {c : Cached}
    (h : CachedFrom d ss c) : FmOK d (selsDepth ss.sels) c.1 ∧ ∀ sp ∈ c.2, SpOK d sp := by
  obtain ⟨hid, hf, hs⟩ := h
  refine ⟨⟨?_, fun rn es hm e he => ?_⟩, fun sp hsp => ?_⟩
  · rw [hid]; exact List.mem_map.2 ⟨ss, hss, rfl⟩
  · have := Doc.node_facts hss (hf rn es hm e he)
    exact ⟨this.1, this.2⟩
  · obtain ⟨h1, h2⟩ := hs sp hsp
    have hn := Doc.allSets_spreads hss h1
    simp only [SpOK, spreadKeys, List.mem_map]
    exact ⟨sp.name, hn, by rw [← h2]⟩

theorem FmOK.mono {d : Doc} {k k' : Nat} {fm : FieldMap} (h : FmOK d k fm) (hk : k ≤ k') :
    FmOK d k' fm :=
  ⟨h.1, fun rn es hm e he => ⟨(h.2 rn es hm e he).1, Nat.le_trans (h.2 rn es hm e he).2 hk⟩⟩

theorem cap_congr {d : Doc} {σ σ' : St} (h1 : σ'.cfp = σ.cfp) (h2 : σ'.cmp = σ.cmp) :
    cap d σ' = cap d σ := by
  simp only [cap, cap1, cap2, h1, h2]

theorem getFields_facts (s : Schema) {d : Doc} (hU : d.IdsUnique) {σ : St} (hc : CacheOK d σ)
    (p : Option String) {ss : SelSet} (hss : ss ∈ d.allSets) :
    ∃ σ' fm sps, getFields s d σ p ss = (σ', fm, sps) ∧ CacheOK d σ' ∧ cap d σ' = cap d σ ∧
      FmOK d (selsDepth ss.sels) fm ∧ ∀ sp ∈ sps, SpOK d sp := by
  obtain ⟨g, f, l1, l2⟩ := getFields_inv hU hc hss p rfl (computeFields_ok s d p ss)
  obtain ⟨a, b⟩ := cachedFrom_facts hss f
  exact ⟨_, _, _, rfl, g, cap_congr l1 l2, a, b⟩

theorem getReferenced_facts (s : Schema) {d : Doc} (hU : d.IdsUnique) {σ : St} (hc : CacheOK d σ)
    {fr : FragDef} (hss : fr.ss ∈ d.allSets) :
    ∃ σ' fm sps, getReferenced s d σ fr = (σ', fm, sps) ∧ CacheOK d σ' ∧ cap d σ' = cap d σ ∧
      FmOK d d.depth fm ∧ ∀ sp ∈ sps, SpOK d sp := by
  rw [getReferenced_eq]
  obtain ⟨σ', fm, sps, e, g, l, a, b⟩ := getFields_facts s hU hc (s.typeFromAst fr.typeCond) hss
  exact ⟨σ', fm, sps, e, g, l, a.mono (Doc.allSets_depth hss), b⟩

theorem betweenPairs_mem {fm1 fm2 : FieldMap} {t : String × FieldEntry × FieldEntry}
    (h : t ∈ betweenPairs fm1 fm2) :
    (∃ rn es, (rn, es) ∈ fm1.entries ∧ t.2.1 ∈ es) ∧
      (∃ rn es, (rn, es) ∈ fm2.entries ∧ t.2.2 ∈ es) := by
  simp only [betweenPairs, List.mem_flatMap] at h
  obtain ⟨⟨rn, fs1⟩, hm1, h⟩ := h
  simp only at h
  cases hg : fmGet fm2 rn with
  | none => simp [hg] at h
  | some fs2 =>
    simp only [hg, List.mem_flatMap, List.mem_map] at h
    obtain ⟨f1, hf1, f2, hf2, rfl⟩ := h
    exact ⟨⟨rn, fs1, hm1, hf1⟩, ⟨rn, fs2, mem_of_assocGet hg, hf2⟩⟩

def W (d : Doc) : Nat := 2 * d.depth + 2

/-- fuel after a memo table let a comparison through (the capacity `c` drops by one): enough for
the field pairs of a whole selection set (nesting `D`), and for further fragment comparisons -/
theorem fuel_memo {c D n : Nat} (hc : 0 < c) (h : c * (2 * D + 2) + 1 ≤ n + 1) :
    (c - 1) * (2 * D + 2) + 2 * D + 1 ≤ n ∧ (c - 1) * (2 * D + 2) + 1 ≤ n := by
  obtain ⟨c', rfl⟩ := Nat.exists_eq_succ_of_ne_zero (Nat.pos_iff_ne_zero.1 hc)
  rw [Nat.succ_sub_one]
  rw [Nat.succ_mul] at h
  omega

/-- after a memo write lowered the capacity, what runs one level lower runs here -/
theorem runs_lower {d : Doc} {c0 : Nat} {r : St → Res} (R : Runs d (c0 - 1) r) {σ σ1 : St}
    (hσ1 : CacheOK d σ1) (hlt : cap d σ1 < cap d σ) (hcap : cap d σ ≤ c0) :
    ∃ σ' cs, r σ1 = some (σ', cs) ∧ CacheOK d σ' ∧ cap d σ' ≤ cap d σ := by
  obtain ⟨σ', cs, e, g, l⟩ := R σ1 hσ1 (by omega)
  exact ⟨σ', cs, e, g, by omega⟩

section main
variable (env : Env) (hU : env.d.IdsUnique)
include hU

/-- Induction on the fuel: enough fuel for the current memo capacity and nesting depth. -/
theorem runs_all : ∀ n : Nat,
    (∀ c0 excl rn e1 e2 k, NodeIn env.d e1.node → NodeIn env.d e2.node → nodeDepth e1.node ≤ k →
      c0 * W env.d + 2 * k + 1 ≤ n → Runs env.d c0 (findConflict env n excl rn e1 e2)) ∧
    (∀ c0 excl p1 ss1 p2 ss2, ss1 ∈ env.d.allSets → ss2 ∈ env.d.allSets →
      c0 * W env.d + 2 * selsDepth ss1.sels + 2 ≤ n →
      Runs env.d c0 (findConflictsBetweenSubSelectionSets env n excl p1 ss1 p2 ss2)) ∧
    (∀ c0 excl fm sp, FmOK env.d env.d.depth fm → SpOK env.d sp →
      c0 * W env.d + 1 ≤ n →
      Runs env.d c0 (collectConflictsBetweenFieldsAndFragment env n excl fm sp)) ∧
    (∀ c0 excl sp1 sp2, SpOK env.d sp1 → SpOK env.d sp2 →
      c0 * W env.d + 1 ≤ n →
      Runs env.d c0 (collectConflictsBetweenFragments env n excl sp1 sp2)) := by
  intro n
  induction n with
  | zero =>
    refine ⟨?_, ?_, ?_, ?_⟩ <;> intros <;> omega
  | succ n ih =>
    obtain ⟨ihFC, ihBS, ihFF, ihFR⟩ := ih
    have between : ∀ (c0 k : Nat) (excl : Bool) (fm1 fm2 : FieldMap) {k2 : Nat}, FmOK env.d k fm1 →
        FmOK env.d k2 fm2 → c0 * W env.d + 2 * k + 1 ≤ n →
        Runs env.d c0 (forEach (betweenPairs fm1 fm2)
          (fun t => findConflict env n excl t.1 t.2.1 t.2.2)) := by
      intro c0 k excl fm1 fm2 k2 h1 h2 hn
      apply runs_forEach
      intro t ht
      obtain ⟨⟨rn1, es1, hm1, he1⟩, ⟨rn2, es2, hm2, he2⟩⟩ := betweenPairs_mem ht
      have a1 := h1.2 rn1 es1 hm1 _ he1
      exact ihFC c0 excl t.1 t.2.1 t.2.2 k a1.1 (h2.2 rn2 es2 hm2 _ he2).1 a1.2 hn
    refine ⟨?_, ?_, ?_, ?_⟩
    · intro c0 excl rn e1 e2 k hn1 hn2 hd hfuel σ hσ hcap
      rcases findConflict_succ env n excl rn e1 e2 σ with ⟨_, c, hc⟩ | ⟨_, hF⟩
      · exact ⟨σ, _, hc, hσ, Nat.le_refl _⟩
      rw [hF, subResult]
      by_cases hsub : (e1.node.hasSub && e2.node.hasSub) = true
      · have hs1 := hn1 (Bool.and_eq_true_iff.1 hsub).1
        have hs2 := hn2 (Bool.and_eq_true_iff.1 hsub).2
        have hfu : c0 * W env.d + 2 * selsDepth e1.node.subSet.sels + 2 ≤ n := by
          simp only [nodeDepth, FieldNode.subSet] at hd ⊢; omega
        obtain ⟨σ', cs, e, g, l⟩ :=
          ihBS c0 _ (e1.defTy.map Ty.named) _ (e2.defTy.map Ty.named) _ hs1 hs2 hfu σ hσ hcap
        rw [if_pos hsub, e]
        exact ⟨σ', _, rfl, g, l⟩
      · rw [if_neg hsub]
        exact ⟨σ, _, rfl, hσ, Nat.le_refl _⟩
    · intro c0 excl p1 ss1 p2 ss2 h1 h2 hfuel σ hσ hcap
      obtain ⟨σ1, fm1, sps1, e1, g1, l1, a1, b1⟩ := getFields_facts env.s hU hσ p1 h1
      obtain ⟨σ2, fm2, sps2, e2, g2, l2, a2, b2⟩ := getFields_facts env.s hU g1 p2 h2
      simp only [findConflictsBetweenSubSelectionSets, e1, e2]
      have d1 := Doc.allSets_depth h1
      have d2 := Doc.allSets_depth h2
      have hff : c0 * W env.d + 1 ≤ n := by omega
      rw [← l1, ← l2] at hcap ⊢
      exact runs_andThen (between c0 _ excl fm1 fm2 a1 a2 (by omega))
        (runs_andThen (runs_forEach sps2 _ (fun sp hsp =>
            ihFF c0 excl fm1 sp (a1.mono d1) (b2 sp hsp) hff))
          (runs_andThen (runs_forEach sps1 _ (fun sp hsp =>
              ihFF c0 excl fm2 sp (a2.mono d2) (b1 sp hsp) hff))
            (runs_forEach (sps1.flatMap (fun a => sps2.map (fun b => (a, b))))
              (fun p => collectConflictsBetweenFragments env n excl p.1 p.2) (fun pr hpr => by
                simp only [List.mem_flatMap, List.mem_map] at hpr
                obtain ⟨a, ha, b, hb, rfl⟩ := hpr
                exact ihFR c0 excl a b (b1 a ha) (b2 b hb) hff)))) σ2 g2 hcap
    · intro c0 excl fm sp hfm hsp hfuel σ hσ hcap
      rw [collectConflictsBetweenFieldsAndFragment]
      by_cases hhas : σ.cfpHas fm.id sp.key excl = true
      · rw [if_pos hhas]
        exact ⟨σ, _, rfl, hσ, Nat.le_refl _⟩
      rw [if_neg hhas]
      have hlt := cap_cfpAdd (d := env.d) (mem_univ1 hfm.1 hsp) (Bool.eq_false_iff.2 hhas)
      have hσ1 : CacheOK env.d (σ.cfpAdd fm.id sp.key excl) := hσ
      generalize σ.cfpAdd fm.id sp.key excl = σ1 at hlt hσ1 ⊢
      obtain ⟨hfp, hff⟩ := fuel_memo (Nat.lt_of_lt_of_le (Nat.zero_lt_of_lt hlt) hcap) hfuel
      cases hfr : env.d.getFragment sp.name with
      | none => exact ⟨σ1, _, rfl, hσ1, Nat.le_of_lt hlt⟩
      | some fr =>
        obtain ⟨σ2, fm2, sps, e2, g2, l2, a2, b2⟩ :=
          getReferenced_facts env.s hU hσ1 (Doc.getFragment_mem hfr)
        simp only [e2]
        by_cases hid : (fm.id == fm2.id) = true
        · rw [if_pos hid]
          exact ⟨σ2, _, rfl, g2, l2 ▸ Nat.le_of_lt hlt⟩
        rw [if_neg hid]
        exact runs_lower (runs_andThen
          (between (c0 - 1) _ excl fm fm2 hfm a2 hfp)
          (runs_forEach sps _ (fun sp2 hsp2 =>
            ihFF (c0 - 1) excl fm sp2 hfm (b2 sp2 hsp2) hff))) g2 (l2 ▸ hlt) hcap
    · intro c0 excl sp1 sp2 hs1 hs2 hfuel σ hσ hcap
      rw [collectConflictsBetweenFragments]
      by_cases hkey : (sp1.key == sp2.key) = true
      · rw [if_pos hkey]
        exact ⟨σ, _, rfl, hσ, Nat.le_refl _⟩
      rw [if_neg hkey]
      by_cases hhas : σ.cmpHas sp1.key sp2.key excl = true
      · rw [if_pos hhas]
        exact ⟨σ, _, rfl, hσ, Nat.le_refl _⟩
      rw [if_neg hhas]
      have hlt := cap_cmpAdd (d := env.d) (mem_univ2 hs1 hs2) (Bool.eq_false_iff.2 hhas)
      have hσ1 : CacheOK env.d (σ.cmpAdd sp1.key sp2.key excl) := hσ
      generalize σ.cmpAdd sp1.key sp2.key excl = σ1 at hlt hσ1 ⊢
      obtain ⟨hfp, hff⟩ := fuel_memo (Nat.lt_of_lt_of_le (Nat.zero_lt_of_lt hlt) hcap) hfuel
      cases hfr1 : env.d.getFragment sp1.name with
      | none => exact ⟨σ1, _, rfl, hσ1, Nat.le_of_lt hlt⟩
      | some fr1 =>
        cases hfr2 : env.d.getFragment sp2.name with
        | none => exact ⟨σ1, _, rfl, hσ1, Nat.le_of_lt hlt⟩
        | some fr2 =>
          obtain ⟨σ2, fm1, sps1, e1, g1, l1, a1, b1⟩ :=
            getReferenced_facts env.s hU hσ1 (Doc.getFragment_mem hfr1)
          obtain ⟨σ3, fm2, sps2, e2, g2, l2, a2, b2⟩ :=
            getReferenced_facts env.s hU g1 (Doc.getFragment_mem hfr2)
          simp only [e1, e2]
          exact runs_lower (runs_andThen
            (between (c0 - 1) _ excl fm1 fm2 a1 a2 hfp)
            (runs_andThen (runs_forEach sps2 _ (fun r2 hr2 =>
                ihFR (c0 - 1) excl sp1 r2 hs1 (b2 r2 hr2) hff))
              (runs_forEach sps1 _ (fun r1 hr1 =>
                ihFR (c0 - 1) excl r1 sp2 (b1 r1 hr1) hs2 hff)))) g2
            ((l2.trans l1) ▸ hlt) hcap

end main

theorem withinPairs_mem {fm : FieldMap} {t : String × FieldEntry × FieldEntry}
    (h : t ∈ withinPairs fm) : ∃ rn es, (rn, es) ∈ fm.entries ∧ t.2.1 ∈ es ∧ t.2.2 ∈ es := by
  simp only [withinPairs, List.mem_flatMap, List.mem_map] at h
  obtain ⟨⟨rn, fs⟩, hm, p, hp, rfl⟩ := h
  rw [pairsOf_eq_spec] at hp
  exact ⟨rn, fs, hm, (Spec.pairsOf_mem hp).1, (Spec.pairsOf_mem hp).2⟩

section top
variable (env : Env) (hU : env.d.IdsUnique)
include hU

theorem within_runs (n c0 : Nat) (parent : Option String) {ss : SelSet}
    (hss : ss ∈ env.d.allSets) (hfuel : c0 * W env.d + 2 * env.d.depth + 1 ≤ n) :
    Runs env.d c0 (findConflictsWithinSelectionSet env n parent ss) := by
  obtain ⟨hFC, _, hFF, hFR⟩ := runs_all env hU n
  intro σ hσ hcap
  obtain ⟨σ1, fm, sps, e1, g1, l1, a1, b1⟩ := getFields_facts env.s hU hσ parent hss
  simp only [findConflictsWithinSelectionSet, e1]
  have d1 := Doc.allSets_depth hss
  have hff : c0 * W env.d + 1 ≤ n :=
    Nat.le_trans (Nat.add_le_add_right (Nat.le_add_right _ _) 1) hfuel
  rw [← l1] at hcap ⊢
  exact runs_andThen
    (runs_forEach (withinPairs fm) (fun t => findConflict env n false t.1 t.2.1 t.2.2)
      (fun t ht => by
        obtain ⟨rn, es, hm, h1, h2⟩ := withinPairs_mem ht
        have x1 := a1.2 rn es hm _ h1
        exact hFC c0 false t.1 t.2.1 t.2.2 _ x1.1 (a1.2 rn es hm _ h2).1 (Nat.le_trans x1.2 d1)
          hfuel))
    (runs_forEach (withinTasks sps) (fun t =>
        match t with
        | .fieldsFrag sp => collectConflictsBetweenFieldsAndFragment env n false fm sp
        | .frags a b => collectConflictsBetweenFragments env n false a b)
      (fun t ht => by
        cases t with
        | fieldsFrag sp =>
          exact hFF c0 false fm sp (a1.mono d1) (b1 sp (fieldsFrag_mem_withinTasks.1 ht)) hff
        | frags a b =>
          have := Spec.pairsOf_mem (frags_mem_withinTasks.1 ht)
          exact hFR c0 false a b (b1 a this.1) (b1 b this.2) hff)) σ1 g1 hcap

theorem visitSel_runs (n c0 : Nat) (hfuel : c0 * W env.d + 2 * env.d.depth + 1 ≤ n) :
    ∀ (x : Sel) (parent : Option String), x.subSets ⊆ env.d.allSets →
      Runs env.d c0 (visitSel env n parent x) := by
  intro x parent h
  rw [visitSel_eq env n x parent parent]
  refine runs_forEach _ _ (fun v hv => within_runs env hU n c0 v.1 (h ?_) hfuel)
  exact (Sel.typedSets_facts env.s x parent v.2
    (by rw [← Sel.visits_typed]; exact List.mem_map_of_mem hv)).2

end top

theorem implConflictsFuel_isSome (le : String → String → Bool) (s : Schema) (d : Doc)
    (hU : d.IdsUnique) (n : Nat) (hn : fuelBound d ≤ n) :
    (implConflictsFuel le n s d).isSome = true := by
  have hfuel : memoCapacity d * W d + 2 * d.depth + 1 ≤ n := by
    have : fuelBound d = memoCapacity d * W d + (2 * d.depth + 2) := by
      simp only [fuelBound, W, Nat.succ_mul]
    omega
  have R : Runs d (memoCapacity d) (forEach d (visitDefn ⟨s, d, le⟩ n)) := by
    rw [visitDoc_eq ⟨s, d, le⟩]
    refine runs_forEach _ _ fun v hv => within_runs ⟨s, d, le⟩ hU n _ v.1 (Doc.typedSets_allSets (s := s) ?_) hfuel
    rw [← Doc.visits_typed]
    exact List.mem_map_of_mem hv
  have h0 : CacheOK d {} := by
    intro i c h
    simp [assocGet] at h
  obtain ⟨σ', cs, e, _, _⟩ := R {} h0 (cap_init d)
  simp [implConflictsFuel, e]

end Gql.Exec
