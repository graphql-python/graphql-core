import Gql.Proofs.OverlapMachine
import Gql.Proofs.OverlapUConf
/-! C14, named fragments, soundness: every conflict the rule reports is an unordered conflict of
two fields of one expanded selection set (`UWConf`). What a reported conflict of a call means is
`Call.Bad`; in a run, a report comes from a step that fires or from the step's body (`step_bad`,
`run_sound`). The memo tables play no role here: they only ever skip comparisons. -/
namespace Gql.Exec
open Overlap

theorem UConfN.instEq {s : Schema} {d : Doc} {n : Nat} {full : Bool} {a b a' b' : Spec.FieldInst}
    (h : UConfN s d n full a b) (ha : InstEq s a a') (hb : InstEq s b b') :
    UConfN s d n full a' b' := by
  obtain ⟨pa', na'⟩ := a'
  obtain ⟨pb', nb'⟩ := b'
  cases (ha.1 : a.node = na')
  cases (hb.1 : b.node = nb')
  cases h with
  | here hd => exact UConfN.here (direct_instEq ha hb _ ▸ hd)
  | sub h1 h2 hrn hc =>
    rw [deeper_instEq ha hb] at hc
    simp only [MIn, subSels, ha.subP, hb.subP] at h1 h2
    exact UConfN.sub h1 h2 hrn hc

theorem UConf.instEq {s : Schema} {d : Doc} {full : Bool} {a b a' b' : Spec.FieldInst}
    (h : UConf s d full a b) (ha : InstEq s a a') (hb : InstEq s b b') : UConf s d full a' b' := by
  obtain ⟨n, hn⟩ := h
  exact ⟨n, hn.instEq ha hb⟩

/-- `c` is a field of fragment `n` or of a fragment reachable from it -/
def FragFields (s : Schema) (d : Doc) (n : String) (c : Spec.FieldInst) : Prop :=
  ∃ m, FReach d n m ∧ FieldsOfFrag s d m c

theorem FragFields.docInst {s : Schema} {d : Doc} {n : String} {c : Spec.FieldInst}
    (h : FragFields s d n c) : DocInst s d c := by
  obtain ⟨m, _, tf, htf, hc⟩ := h
  exact ⟨tf, fragSet_typed htf, hc⟩

section
variable (env : Env)

/-- if `r` returns it keeps the cache invariant, and a reported conflict implies `P` -/
def Snd (r : St → Res) (P : Prop) : Prop :=
  ∀ σ σ' cs, CacheNF env σ → r σ = some (σ', cs) → CacheNF env σ' ∧ (cs ≠ [] → P)

/-- what a reported conflict of a call means -/
def Call.Bad : Call → Prop
  | .fc excl _ e1 e2 => UConf env.s env.d (!excl) e1.inst e2.inst
  | .bs excl t1 t2 _ _ => ∃ c1 c2, InE env.s env.d t1.1 t1.2.sels c1 ∧
      InE env.s env.d t2.1 t2.2.sels c2 ∧ c1.node.responseName = c2.node.responseName ∧
      UConf env.s env.d (!excl) c1 c2
  | .ff excl t _ sp => ∃ c1 ∈ selsFlat env.s t.1 t.2.sels, ∃ c2,
      FragFields env.s env.d sp.name c2 ∧ c1.node.responseName = c2.node.responseName ∧
      UConf env.s env.d (!excl) c1 c2
  | .fr excl sp1 sp2 => ∃ c1 c2, FragFields env.s env.d sp1.name c1 ∧
      FragFields env.s env.d sp2.name c2 ∧ c1.node.responseName = c2.node.responseName ∧
      UConf env.s env.d (!excl) c1 c2
  | .ws t _ => ∃ c1 c2, InE env.s env.d t.1 t.2.sels c1 ∧ InE env.s env.d t.1 t.2.sels c2 ∧
      c1.node.responseName = c2.node.responseName ∧ UConf env.s env.d true c1 c2

variable {env}

theorem FragFields.own {n : String} {tf : TSet} {c : Spec.FieldInst}
    (h : fragSet env.s env.d n = some tf) (hc : c ∈ selsFlat env.s tf.1 tf.2.sels) :
    FragFields env.s env.d n c := ⟨n, FReach.refl _, tf, h, hc⟩

theorem FragFields.step {n : String} {tf : TSet} {sp : Spread} {c : Spec.FieldInst}
    (h : fragSet env.s env.d n = some tf) (hsp : sp ∈ sprs env tf)
    (hc : FragFields env.s env.d sp.name c) : FragFields env.s env.d n c := by
  obtain ⟨m, hm, rfl⟩ := mem_spreadsOf hsp
  obtain ⟨k, hr, hf⟩ := hc
  simp only [fragSet, Option.map_eq_some_iff] at h
  obtain ⟨fr, hfr, rfl⟩ := h
  exact ⟨k, FReach.step ⟨fr, hfr, hm⟩ hr, hf⟩

theorem FragFields.inE {t : TSet} {sp : Spread} {c : Spec.FieldInst} (hsp : sp ∈ sprs env t)
    (hc : FragFields env.s env.d sp.name c) : InE env.s env.d t.1 t.2.sels c := by
  obtain ⟨m, hm, rfl⟩ := mem_spreadsOf hsp
  exact Or.inr ⟨m, hm, hc⟩

/-- a conflict among the compared pairs of two field maps is one between their typed sets -/
theorem bad_fcs {excl : Bool} {t1 t2 : TSet} {q1 q2 : Option String}
    (h1 : t1 ∈ env.d.typedSets env.s) (h2 : t2 ∈ env.d.typedSets env.s)
    (hq1 : PEq env.s t1.1 q1) (hq2 : PEq env.s t2.1 q2)
    {u : String × FieldEntry × FieldEntry}
    (hu : u ∈ betweenPairs (fmOf env t1 q1) (fmOf env t2 q2)) (hbad : (Call.fcOf excl u).Bad env) :
    ∃ c1 ∈ selsFlat env.s t1.1 t1.2.sels, ∃ c2 ∈ selsFlat env.s t2.1 t2.2.sels,
      c1.node.responseName = c2.node.responseName ∧ UConf env.s env.d (!excl) c1 c2 := by
  obtain ⟨_, _, c1, hc1, c2, hc2, i1, i2, hrn⟩ := between_known env h1 h2 hq1 hq2 hu
  exact ⟨c1, hc1, c2, hc2, hrn, UConf.instEq hbad i1 i2⟩

/-- a call that reports something is bad: it fired, or something in its body is bad -/
theorem step_bad (hA : ∀ a, DocInst env.s env.d a → a.node.argsOK) {c : Call} {σ σ0 : St}
    {body : List Call} {wrap : List Conflict → List Conflict} {cs : List Conflict}
    (hw : c.WF env) (hs : Step env c σ body σ0 wrap) (hne : wrap cs ≠ [])
    (hb : cs ≠ [] → ∃ b ∈ body, b.Bad env) : c.Bad env := by
  cases hs with
  | fc_fire _ hdir => exact ⟨0, UConfN.here hdir⟩
  | fc_sub hdir hs1 hs2 =>
    obtain ⟨b, hb, hbad⟩ := hb ((subfieldConflicts_ne_nil _ _ _ _).1 hne)
    cases List.mem_singleton.1 hb
    obtain ⟨c1, c2, x1, x2, hrn, k, hu⟩ := hbad
    rw [Bool.not_not] at hu
    refine ⟨k + 1, UConfN.sub (Or.inl ?_) (Or.inr ?_) hrn hu⟩
    · rw [subSels_eq hs1]; exact x1
    · rw [subSels_eq hs2]; exact x2
  | bs hq1 hq2 =>
    obtain ⟨h1, h2, _, _⟩ := hw
    obtain ⟨b, hb, hbad⟩ := hb hne
    simp only [fcs, List.mem_append, List.mem_map, List.mem_flatMap] at hb
    rcases hb with ⟨u, hu, rfl⟩ | ⟨sp, hsp, rfl⟩ | ⟨sp, hsp, rfl⟩ | ⟨a, ha, b, hb, rfl⟩
    · obtain ⟨c1, hc1, c2, hc2, hrn, hu⟩ := bad_fcs h1 h2 hq1 hq2 hu hbad
      exact ⟨c1, c2, Or.inl hc1, Or.inl hc2, hrn, hu⟩
    · obtain ⟨c1, hc1, c2, hf, hrn, hu⟩ := hbad
      exact ⟨c1, c2, Or.inl hc1, hf.inE hsp, hrn, hu⟩
    · obtain ⟨c1, hc1, c2, hf, hrn, k, hu⟩ := hbad
      exact ⟨c2, c1, hf.inE hsp, Or.inl hc1, hrn.symm, k, hu.swap_pair hA ⟨_, h2, hc1⟩ hf.docInst⟩
    · obtain ⟨c1, c2, hf1, hf2, hrn, hu⟩ := hbad
      exact ⟨c1, c2, hf1.inE ha, hf2.inE hb, hrn, hu⟩
  | ff_body _ hfs hq2 =>
    obtain ⟨b, hb, hbad⟩ := hb hne
    simp only [fcs, List.mem_append, List.mem_map] at hb
    rcases hb with ⟨u, hu, rfl⟩ | ⟨sp', hsp, rfl⟩
    · obtain ⟨c1, hc1, c2, hc2, hrn, hu⟩ := bad_fcs hw.1 (fragSet_typed hfs) hw.2.1 hq2 hu hbad
      exact ⟨c1, hc1, c2, FragFields.own hfs hc2, hrn, hu⟩
    · obtain ⟨c1, hc1, c2, hf, hrn, hu⟩ := hbad
      exact ⟨c1, hc1, c2, hf.step hfs hsp, hrn, hu⟩
  | fr_body _ hfs1 hfs2 hq1 hq2 =>
    obtain ⟨b, hb, hbad⟩ := hb hne
    simp only [fcs, List.mem_append, List.mem_map] at hb
    rcases hb with ⟨u, hu, rfl⟩ | ⟨sp, hsp, rfl⟩ | ⟨sp, hsp, rfl⟩
    · obtain ⟨c1, hc1, c2, hc2, hrn, hu⟩ :=
        bad_fcs (fragSet_typed hfs1) (fragSet_typed hfs2) hq1 hq2 hu hbad
      exact ⟨c1, c2, FragFields.own hfs1 hc1, FragFields.own hfs2 hc2, hrn, hu⟩
    · obtain ⟨c1, c2, hf1, hf2, hrn, hu⟩ := hbad
      exact ⟨c1, c2, hf1, hf2.step hfs2 hsp, hrn, hu⟩
    · obtain ⟨c1, c2, hf1, hf2, hrn, hu⟩ := hbad
      exact ⟨c1, c2, hf1.step hfs1 hsp, hf2, hrn, hu⟩
  | ws hq =>
    obtain ⟨ht, _⟩ := hw
    obtain ⟨b, hb, hbad⟩ := hb hne
    simp only [List.mem_append, List.mem_map] at hb
    rcases hb with ⟨u, hu, rfl⟩ | ⟨tk, htk, rfl⟩
    · obtain ⟨_, _, pr, hpr, i1, i2, hrn⟩ := within_known env ht hq hu
      obtain ⟨m1, m2⟩ := Spec.pairsOf_mem hpr
      exact ⟨_, _, Or.inl m1, Or.inl m2, hrn, UConf.instEq hbad i1 i2⟩
    · cases tk with
      | fieldsFrag sp =>
        obtain ⟨c1, hc1, c2, hf, hrn, hu⟩ := hbad
        exact ⟨c1, c2, Or.inl hc1, hf.inE (fieldsFrag_mem_withinTasks.1 htk), hrn, hu⟩
      | frags a b =>
        have hm := Spec.pairsOf_mem (frags_mem_withinTasks.1 htk)
        obtain ⟨c1, c2, hf1, hf2, hrn, hu⟩ := hbad
        exact ⟨c1, c2, hf1.inE hm.1, hf2.inE hm.2, hrn, hu⟩
  | _ => obtain ⟨b, hb, _⟩ := hb hne; cases hb

/-- Soundness of a run: something reported means one of the calls is bad. -/
theorem run_sound (hA : ∀ a, DocInst env.s env.d a → a.node.argsOK) {cs : List Call} {σ σ' : St}
    {out : List Conflict} (h : Run env cs σ σ' out) : out ≠ [] → ∃ c ∈ cs, c.Bad env := by
  induction h with
  | nil => exact fun h => absurd rfl h
  | @cons c rest σ body σ0 σ0' wrap σ1 cs1 σ' cs2 hw hs _ _ _ ihb ihr =>
    intro hne
    by_cases h2 : cs2 = []
    · rw [h2, List.append_nil] at hne
      exact ⟨c, List.mem_cons_self, step_bad hA hw hs hne ihb⟩
    · obtain ⟨c', hc', hbad⟩ := ihr h2
      exact ⟨c', List.mem_cons_of_mem _ hc', hbad⟩

end

section
variable (env : Env) (hle : LinOrd env.le) (hU : TypedIdsUnique env.s env.d)
  (hA : ∀ a, DocInst env.s env.d a → a.node.argsOK)
  (hT : ∀ a, DocInst env.s env.d a → a.node.name ≠ "__typename")
include hle hU hA hT

theorem visits_snd (n : Nat) (vs : List Visit)
    (hv : ∀ v ∈ vs, v.2 ∈ env.d.typedSets env.s ∧ PEq env.s v.2.1 v.1) :
    Snd env (forEach vs (visitStep env n)) (UWConf env.s env.d) := by
  intro σ σ' cs hσ h
  obtain ⟨r, g⟩ := run_visits env hle hU hA hT n vs hv σ σ' cs hσ h
  refine ⟨g, fun hne => ?_⟩
  obtain ⟨c, hc, hbad⟩ := run_sound hA r hne
  obtain ⟨v, hv', rfl⟩ := List.mem_map.1 hc
  obtain ⟨c1, c2, hbad⟩ := hbad
  exact ⟨v.2, (hv v hv').1, c1, c2, hbad⟩

theorem visitSel_snd (n : Nat) : ∀ (x : Sel) (pTI q : Option String), PEq env.s q pTI →
    x.typedSets env.s q ⊆ env.d.typedSets env.s →
    (∀ a ∈ x.flat env.s q, a.node.name ≠ "__typename") →
    Snd env (visitSel env n pTI x) (UWConf env.s env.d) := by
  intro x pTI q hp hsub hname
  have hpeq := Sel.visits_peq env.s x pTI q hp hname (fun t ht a ha => hT a ⟨t, hsub ht, ha⟩)
  rw [visitSel_eq env n x pTI q, ← Sel.visits_typed env.s x pTI q] at *
  exact visits_snd env hle hU hA hT n _ (fun v hv => ⟨hsub (List.mem_map_of_mem hv), hpeq v hv⟩)

end

theorem implConflictsFuel_sound (le : String → String → Bool) (hle : LinOrd le) (s : Schema)
    (d : Doc) (hU : TypedIdsUnique s d) (hA : ∀ a, DocInst s d a → a.node.argsOK)
    (hT : ∀ a, DocInst s d a → a.node.name ≠ "__typename") (hR : RootsObject s d)
    (n : Nat) (cs : List Conflict) (h : implConflictsFuel le n s d = some cs) (hne : cs ≠ []) :
    UWConf s d := by
  simp only [implConflictsFuel, Option.map_eq_some_iff] at h
  obtain ⟨⟨σ', cs'⟩, e, rfl⟩ := h
  rw [visitDoc_eq ⟨s, d, le⟩] at e
  have h0 : CacheNF ⟨s, d, le⟩ {} := by
    intro i c h
    simp [assocGet] at h
  exact (visits_snd ⟨s, d, le⟩ hle hU hA hT n _ (Doc.visits_ok hR hT) {} σ' cs' h0 e).2 hne

end Gql.Exec
