import Gql.Proofs.ValidationLimit
/-!
Lemmas for C12-1, C12-2 and C12-4: the run inside `TypeInfoVisitor(ParallelVisitor(members))` has a closed form
for every error limit (`par_run_cut`).  The TypeInfo evolves as `tiTrav`, a function of the tree alone; every
member evolves as `Member.trav`, a function of that member, the TypeInfo driver and the tree alone; the errors
handed to `on_error` are `errsTrav`: event by event in depth-first order, the members in list order; the sink is
`Sink.cut max` of them, and the run has stopped iff that sink has aborted (`Outcome`).  Without a limit nothing
stops (`par_run`).  `run0` is read as stretches put in sequence by `andThen` (`run0_node`, `run0List_cons`); each
invariant of a run has one rule for `andThen` (`Outcome.seq`, `Agrees.seq` of ValidationSingle, `andThen_go`,
`andThen_map`).
-/
namespace Gql.Validation
variable {τ σ ε : Type}

/-- The handler call of `visit()`: a kind without handler is passed without a call. -/
def enterStep {σ' : Type} (v : V0 σ') (s : σ') (i : Info) : Action × σ' :=
  if v.hEnter s i.kind then v.enter s i else (Action.idle, s)
def leaveStep {σ' : Type} (v : V0 σ') (s : σ') (i : Info) : Action × σ' :=
  if v.hLeave s i.kind then v.leave s i else (Action.idle, s)

/-- A stretch of the traversal followed by another: `visit()` goes on only if it was not stopped. -/
def andThen {σ' : Type} (r : σ' × Bool) (g : σ' → σ' × Bool) : σ' × Bool := if r.2 then (r.1, true) else g r.1

/-- an unstopped sequence has passed its first stretch unstopped and is its second -/
theorem andThen_go {σ' : Type} {r : σ' × Bool} {g : σ' → σ' × Bool} (h : (andThen r g).2 = false) :
    r.2 = false ∧ andThen r g = g r.1 := by
  unfold andThen at h ⊢
  cases hr : r.2 <;> simp_all

/-- sequencing commutes with a map `f` of the states that the second stretch respects -/
theorem andThen_map {σ₁ σ₂ : Type} (f : σ₁ → σ₂) (r : σ₁ × Bool) {g : σ₁ → σ₁ × Bool} {g' : σ₂ → σ₂ × Bool}
    (h : ∀ s, g' (f s) = (f (g s).1, (g s).2)) : andThen (f r.1, r.2) g' = (f (andThen r g).1, (andThen r g).2) := by
  unfold andThen
  cases r.2 <;> simp [h]

/-- the enter / leave call at a node as a stretch: it stops on BREAK -/
def enterRun {σ' : Type} (v : V0 σ') (i : Info) (s : σ') : σ' × Bool := ((enterStep v s i).2, (enterStep v s i).1 == .brk)
def leaveRun {σ' : Type} (v : V0 σ') (i : Info) (s : σ') : σ' × Bool := ((leaveStep v s i).2, (leaveStep v s i).1 == .brk)

theorem run0_node {σ' : Type} (v : V0 σ') (s : σ') (i : Info) (cs : List Tree) :
    run0 v s (.node i cs) =
      match (enterStep v s i).1 with
      | .brk => ((enterStep v s i).2, true)
      | .skip => ((enterStep v s i).2, false)
      | .idle => andThen (run0List v (enterStep v s i).2 cs) (leaveRun v i) := by
  rw [run0]; rfl

theorem run0List_cons {σ' : Type} (v : V0 σ') (s : σ') (t : Tree) (ts : List Tree) :
    run0List v s (t :: ts) = andThen (run0 v s t) (fun s => run0List v s ts) := by
  rw [run0List]; rfl

/-- `ParallelVisitor` never answers SKIP to `visit()`. -/
theorem run0_node_noskip {σ' : Type} (v : V0 σ') (s : σ') (i : Info) (cs : List Tree) (h : (enterStep v s i).1 ≠ .skip) :
    run0 v s (.node i cs) = andThen (andThen (enterRun v i s) (fun s => run0List v s cs)) (leaveRun v i) := by
  rw [run0_node]
  cases h' : (enterStep v s i).1 <;> simp_all [andThen, enterRun]

namespace V
variable {σ' : Type}
/-- The inner visitor's handler call inside `TypeInfoVisitor`: `fn = self.visitor.get_enter_leave_for_kind(..)`,
`if fn:`. -/
def enterStep (v : V τ σ') (s : σ') (ti : TI τ) (i : Info) : Action × σ' :=
  if v.hEnter s i.kind then v.enter s ti i else (Action.idle, s)
def leaveStep (v : V τ σ') (s : σ') (ti : TI τ) (i : Info) : Action × σ' :=
  if v.hLeave s i.kind then v.leave s ti i else (Action.idle, s)
end V

theorem tiVisitor_enter (D : Driver τ) {σ' : Type} (v : V τ σ') (s : TI τ × σ') (i : Info) :
    enterStep (tiVisitor D v) s i =
      ((v.enterStep s.2 (D.enter s.1 i) i).1,
        (if (v.enterStep s.2 (D.enter s.1 i) i).1 = Action.idle then D.enter s.1 i else D.leave (D.enter s.1 i) i,
         (v.enterStep s.2 (D.enter s.1 i) i).2)) := by
  unfold V.enterStep
  cases h : v.hEnter s.2 i.kind <;> simp [enterStep, tiVisitor, h]

theorem tiVisitor_leave (D : Driver τ) {σ' : Type} (v : V τ σ') (i : Info) (s : TI τ × σ') :
    leaveRun (tiVisitor D v) i s = ((D.leave s.1 i, (v.leaveStep s.2 s.1 i).2), (v.leaveStep s.2 s.1 i).1 == .brk) := by
  unfold V.leaveStep
  cases h : v.hLeave s.2 i.kind <;> simp [leaveRun, leaveStep, tiVisitor, h]

/-- One `enter` / `leave` of `ParallelVisitor` for a node of kind `k` as `visit()` calls it: it is called iff some
member has an enter or a leave handler for `k` (`hEnter` and `hLeave` of `parallel` are the same test); `f` = the body
of the member loop. -/
def parStep (max : Option Nat) (k : String) (f : Member τ σ ε → Member τ σ ε × List ε) (ps : PState τ σ ε) :
    Action × PState τ σ ε :=
  if ps.members.any (fun m => m.rule.hEnter k || m.rule.hLeave k) then
    (if (memberLoop max f ps.members ps.sink).2.aborted then Action.brk else Action.idle,
      ⟨(memberLoop max f ps.members ps.sink).1, (memberLoop max f ps.members ps.sink).2⟩)
  else (Action.idle, ps)

theorem parallel_enterStep (max : Option Nat) (ps : PState τ σ ε) (ti : TI τ) (i : Info) :
    (parallel max).enterStep ps ti i = parStep max i.kind (Member.enter ti i) ps := rfl

theorem parallel_leaveStep (max : Option Nat) (ps : PState τ σ ε) (ti : TI τ) (i : Info) :
    (parallel max).leaveStep ps ti i = parStep max i.kind (Member.leave ti i) ps := rfl

/-- A stretch of the run that would hand `es` to `on_error` and end with TypeInfo `ti` and members `ms`:
it does, unless the limit is hit on the way; then it has stopped there. -/
def Outcome (max : Option Nat) (r : (TI τ × PState τ σ ε) × Bool) (ti : TI τ) (ms : List (Member τ σ ε))
    (es : List ε) : Prop :=
  r.1.2.sink = Sink.cut max es ∧ r.2 = (Sink.cut max es).aborted ∧
    ((Sink.cut max es).aborted = false → r.1.1 = ti ∧ r.1.2.members = ms)

theorem Outcome.seq {max : Option Nat} {r : (TI τ × PState τ σ ε) × Bool} {ti1 ti2 : TI τ}
    {ms1 ms2 : List (Member τ σ ε)} {es1 es2 : List ε} {g : TI τ × PState τ σ ε → (TI τ × PState τ σ ε) × Bool}
    (h : Outcome max r ti1 ms1 es1)
    (hg : (Sink.cut max es1).aborted = false → Outcome max (g (ti1, ⟨ms1, Sink.cut max es1⟩)) ti2 ms2 (es1 ++ es2)) :
    Outcome max (andThen r g) ti2 ms2 (es1 ++ es2) := by
  obtain ⟨⟨ti, ms, snk⟩, b⟩ := r
  obtain ⟨rfl, rfl, h3⟩ := h
  cases hc : (Sink.cut max es1).aborted with
  | false =>
    obtain ⟨rfl, rfl⟩ := h3 hc
    simpa [andThen, hc] using hg hc
  | true =>
    simp only [andThen, if_true]
    exact ⟨(Sink.cut_aborted hc _).symm, by rw [Sink.cut_aborted hc, hc], fun h' => by simp [Sink.cut_aborted hc, hc] at h'⟩

/-- One call of `ParallelVisitor` as a stretch; `tiOf`: what `TypeInfoVisitor` does around it.
`hno`: where no member has a handler `visit()` makes no call; the loop body would have changed nothing. -/
theorem parStep_outcome (max : Option Nat) (k : String) (f : Member τ σ ε → Member τ σ ε × List ε)
    (ms : List (Member τ σ ε)) (es : List ε) (h : (Sink.cut max es).aborted = false)
    (hno : ∀ m ∈ ms, m.rule.hEnter k = false → m.rule.hLeave k = false → f m = (m, [])) (tiOf : Action → TI τ) :
    (parStep max k f ⟨ms, Sink.cut max es⟩).1 ≠ .skip ∧
    Outcome max ((tiOf (parStep max k f ⟨ms, Sink.cut max es⟩).1, (parStep max k f ⟨ms, Sink.cut max es⟩).2),
        (parStep max k f ⟨ms, Sink.cut max es⟩).1 == .brk)
      (tiOf .idle) (ms.map (fun m => (f m).1)) (es ++ ms.flatMap (fun m => (f m).2)) := by
  cases hc : ms.any (fun m => m.rule.hEnter k || m.rule.hLeave k) with
  | true =>
    obtain ⟨h1, h2⟩ := memberLoop_cut max f ms es
    simp only [parStep, hc, if_true, Outcome, h1]
    clear hno hc
    cases hc : (Sink.cut max (es ++ ms.flatMap (fun m => (f m).2))).aborted <;> simp_all
  | false =>
    have hf : ∀ m ∈ ms, f m = (m, []) := fun m hm => by
      have := List.any_eq_false.mp hc m hm
      rw [Bool.not_eq_true, Bool.or_eq_false_iff] at this
      exact hno m hm this.1 this.2
    have h1 : ms.map (fun m => (f m).1) = ms := by
      rw [List.map_congr_left (g := id) (fun m hm => by rw [hf m hm]; rfl), List.map_id]
    have h2 : ms.flatMap (fun m => (f m).2) = [] :=
      List.flatMap_eq_nil_iff.mpr (fun m hm => by rw [hf m hm])
    simp [parStep, hc, Outcome, h1, h2, h]

mutual
  /-- TypeInfo after the complete traversal of a subtree (what `TypeInfoVisitor` does when the inner
  visitor never answers SKIP/BREAK — the case of `ParallelVisitor` over non-editing members). -/
  def tiTrav (D : Driver τ) : TI τ → Tree → TI τ
    | ti, .node i cs => D.leave (tiTravList D (D.enter ti i) cs) i
  def tiTravList (D : Driver τ) : TI τ → List Tree → TI τ
    | ti, [] => ti
    | ti, t :: ts => tiTravList D (tiTrav D ti t) ts
end

mutual
  /-- One member over the complete traversal of a subtree: it only ever looks at itself. -/
  def Member.trav (D : Driver τ) : TI τ → Member τ σ ε → Tree → Member τ σ ε
    | ti, m, .node i cs =>
      let ti1 := D.enter ti i
      let m1 := (Member.enter ti1 i m).1
      let m2 := Member.travList D ti1 m1 cs
      (Member.leave (tiTravList D ti1 cs) i m2).1
  def Member.travList (D : Driver τ) : TI τ → Member τ σ ε → List Tree → Member τ σ ε
    | _, m, [] => m
    | ti, m, t :: ts => Member.travList D (tiTrav D ti t) (Member.trav D ti m t) ts
end

mutual
  /-- The errors reported during the complete traversal of a subtree: event by event (enter, children, leave),
  at each event the members in list order. -/
  def errsTrav (D : Driver τ) : TI τ → List (Member τ σ ε) → Tree → List ε
    | ti, ms, .node i cs =>
      ms.flatMap (fun m => (Member.enter (D.enter ti i) i m).2)
        ++ errsTravList D (D.enter ti i) (ms.map (fun m => (Member.enter (D.enter ti i) i m).1)) cs
        ++ ((ms.map (fun m => (Member.enter (D.enter ti i) i m).1)).map (fun m => Member.travList D (D.enter ti i) m cs)).flatMap
            (fun m => (Member.leave (tiTravList D (D.enter ti i) cs) i m).2)
  def errsTravList (D : Driver τ) : TI τ → List (Member τ σ ε) → List Tree → List ε
    | _, _, [] => []
    | ti, ms, t :: ts =>
      errsTrav D ti ms t ++ errsTravList D (tiTrav D ti t) (ms.map (fun m => Member.trav D ti m t)) ts
end

/-- `skipping[i]` is a node only if the member has an `enter` handler for that node's kind (it was set
by that handler). -/
def Member.WF (m : Member τ σ ε) : Prop := ∀ j, m.skipping = .node j → m.rule.hEnter j.kind = true

theorem Member.start_WF (r : Rule τ σ ε) (s0 : σ) : (Member.start r s0).WF := by
  intro j h; simp [Member.start] at h

theorem Member.enter_WF (ti : TI τ) (i : Info) (m : Member τ σ ε) (h : m.WF) : (Member.enter ti i m).1.WF := by
  unfold Member.enter
  split
  · rename_i hc
    intro j hj
    simp only at hj
    generalize (m.rule.step m.st Phase.enter i ti).1 = a at hj
    cases a <;> simp [Member.skipOf] at hj
    subst hj; exact hc.2
  · exact h

theorem Member.leave_WF (ti : TI τ) (i : Info) (m : Member τ σ ε) (h : m.WF) : (Member.leave ti i m).1.WF := by
  unfold Member.leave
  split
  · split
    · intro j hj
      simp only at hj
      split at hj <;> simp at hj
    · exact h
  · split
    · intro j hj; simp at hj
    · exact h
  · exact h

theorem Member.trav_WF (D : Driver τ) :
    (∀ t (ti : TI τ) (m : Member τ σ ε), m.WF → (Member.trav D ti m t).WF) ∧
    (∀ ts (ti : TI τ) (m : Member τ σ ε), m.WF → (Member.travList D ti m ts).WF) := by
  apply Tree.induct
  · intro i cs ih ti m hm
    rw [Member.trav]
    exact Member.leave_WF _ _ _ (ih _ _ (Member.enter_WF _ _ _ hm))
  · intro ti m hm; rw [Member.travList]; exact hm
  · intro t ts iht ihts ti m hm
    rw [Member.travList]
    exact ihts _ _ (iht _ _ hm)

theorem Member.enter_unhandled (ti : TI τ) (i : Info) (m : Member τ σ ε) (h : m.rule.hEnter i.kind = false) :
    Member.enter ti i m = (m, []) := by
  simp [Member.enter, h]

theorem Member.leave_unhandled (ti : TI τ) (i : Info) (m : Member τ σ ε) (hw : m.WF)
    (he : m.rule.hEnter i.kind = false) (hl : m.rule.hLeave i.kind = false) :
    Member.leave ti i m = (m, []) := by
  unfold Member.leave
  split
  · simp [hl]
  · rename_i j hj
    split
    · rename_i hji
      have := hw j hj
      rw [hji] at this
      simp [he] at this
    · rfl
  · rfl

theorem Member.enter_skipping (ti : TI τ) (i : Info) (m : Member τ σ ε) (h : m.skipping ≠ .none) :
    Member.enter ti i m = (m, []) := by
  simp [Member.enter, h]

/-- the member has stopped for the nodes `is`: on a BREAK, or skipping a node that is not among them -/
def Member.Stopped (m : Member τ σ ε) (is : List Info) : Prop :=
  m.skipping = .brk ∨ ∃ j, m.skipping = .node j ∧ j ∉ is

/-- a stopped member passes a subtree unchanged: no call, and `skipping` is reset only at the node it names -/
theorem Member.trav_stopped (D : Driver τ) :
    (∀ t (ti : TI τ) (m : Member τ σ ε), m.Stopped t.infos → Member.trav D ti m t = m) ∧
    (∀ ts (ti : TI τ) (m : Member τ σ ε), m.Stopped (Tree.infosList ts) → Member.travList D ti m ts = m) := by
  have mono : ∀ {m : Member τ σ ε} {is is' : List Info}, m.Stopped is → (∀ j ∈ is', j ∈ is) → m.Stopped is' :=
    fun h hs => h.imp_right fun ⟨j, hj, hn⟩ => ⟨j, hj, fun hm => hn (hs j hm)⟩
  apply Tree.induct
  · intro i cs ih ti m h
    rw [Member.trav, Member.enter_skipping _ _ _ (by rcases h with h | ⟨j, h, _⟩ <;> simp [h]),
      ih _ _ (mono h fun j hj => List.mem_cons_of_mem _ hj)]
    rcases h with h | ⟨j, h, hj⟩
    · simp [Member.leave, h]
    · have hji : j ≠ i := fun e => hj (e ▸ List.mem_cons_self)
      simp [Member.leave, h, hji]
  · intro ti m _; rw [Member.travList]
  · intro t ts iht ihts ti m h
    rw [Member.travList, iht _ _ (mono h fun j hj => List.mem_append_left _ hj),
      ihts _ _ (mono h fun j hj => List.mem_append_right _ hj)]

theorem Member.enter_errs (ti : TI τ) (i : Info) (m : Member τ σ ε) :
    (Member.enter ti i m).1.errs = m.errs ++ (Member.enter ti i m).2 := by
  unfold Member.enter
  split <;> simp

theorem Member.leave_errs (ti : TI τ) (i : Info) (m : Member τ σ ε) :
    (Member.leave ti i m).1.errs = m.errs ++ (Member.leave ti i m).2 := by
  unfold Member.leave
  split
  · split <;> simp
  · split <;> simp
  · simp

theorem par_run_cut (D : Driver τ) (max : Option Nat) :
    (∀ t (ti : TI τ) (ms : List (Member τ σ ε)) (es : List ε), (Sink.cut max es).aborted = false → (∀ m ∈ ms, m.WF) →
      Outcome max (run0 (tiVisitor D (parallel max)) (ti, ⟨ms, Sink.cut max es⟩) t)
        (tiTrav D ti t) (ms.map (fun m => Member.trav D ti m t)) (es ++ errsTrav D ti ms t)) ∧
    (∀ ts (ti : TI τ) (ms : List (Member τ σ ε)) (es : List ε), (Sink.cut max es).aborted = false → (∀ m ∈ ms, m.WF) →
      Outcome max (run0List (tiVisitor D (parallel max)) (ti, ⟨ms, Sink.cut max es⟩) ts)
        (tiTravList D ti ts) (ms.map (fun m => Member.travList D ti m ts)) (es ++ errsTravList D ti ms ts)) := by
  have hmap : ∀ (ms : List (Member τ σ ε)) (g : Member τ σ ε → Member τ σ ε),
      (∀ m, m.WF → (g m).WF) → (∀ m ∈ ms, m.WF) → ∀ m ∈ ms.map g, m.WF :=
    fun ms g hg hw => List.forall_mem_map.mpr fun m hm => hg m (hw m hm)
  apply Tree.induct
  · intro i cs ih ti ms es h hw
    have hw1 := hmap ms _ (Member.enter_WF (D.enter ti i) i) hw
    have hw2 := hmap _ _ (fun m => (Member.trav_WF D).2 cs (D.enter ti i) m) hw1
    obtain ⟨hE1, hE⟩ := parStep_outcome max i.kind (Member.enter (D.enter ti i) i) ms es h
      (fun m _ he _ => Member.enter_unhandled _ _ _ he)
      (fun a => if a = Action.idle then D.enter ti i else D.leave (D.enter ti i) i)
    rw [← parallel_enterStep] at hE1 hE
    rw [run0_node_noskip _ _ _ _ (by rw [tiVisitor_enter]; exact hE1), enterRun, tiVisitor_enter]
    have := (hE.seq (g := fun s => run0List _ s cs) fun hc => by rw [if_pos rfl]; exact ih _ _ _ hc hw1).seq
      (g := leaveRun _ i) fun hc2 => by
        rw [tiVisitor_leave, parallel_leaveStep]
        exact (parStep_outcome max _ _ _ _ hc2 (fun m hm he hl => Member.leave_unhandled _ _ _ (hw2 m hm) he hl)
          (fun _ => D.leave _ i)).2
    simpa [errsTrav, Member.trav, tiTrav, List.map_map, Function.comp_def, List.append_assoc] using this
  · intro ti ms es h _
    simp [run0List, tiTravList, Member.travList, errsTravList, Outcome, h]
  · intro t ts iht ihts ti ms es h hw
    rw [run0List_cons, errsTravList, tiTravList, ← List.append_assoc]
    refine (iht ti ms es h hw).seq fun hc => ?_
    simpa [Member.travList, List.map_map, Function.comp_def] using
      ihts _ _ _ hc (hmap ms _ (fun m => (Member.trav_WF D).1 t ti m) hw)

theorem Outcome.unlimited {r : (TI τ × PState τ σ ε) × Bool} {ti : TI τ} {ms : List (Member τ σ ε)} {es : List ε}
    (h : Outcome none r ti ms es) : r = ((ti, ⟨ms, ⟨es, false⟩⟩), false) := by
  obtain ⟨⟨ti', ms', snk⟩, b⟩ := r
  obtain ⟨rfl, rfl, h3⟩ := h
  obtain ⟨rfl, rfl⟩ := h3 rfl
  rfl

theorem par_run (D : Driver τ) :
    (∀ t (ti : TI τ) (ms : List (Member τ σ ε)) (snk : Sink ε), snk.aborted = false → (∀ m ∈ ms, m.WF) →
      run0 (tiVisitor D (parallel none)) (ti, ⟨ms, snk⟩) t =
        ((tiTrav D ti t, ⟨ms.map (fun m => Member.trav D ti m t), ⟨snk.errs ++ errsTrav D ti ms t, false⟩⟩), false)) ∧
    (∀ ts (ti : TI τ) (ms : List (Member τ σ ε)) (snk : Sink ε), snk.aborted = false → (∀ m ∈ ms, m.WF) →
      run0List (tiVisitor D (parallel none)) (ti, ⟨ms, snk⟩) ts =
        ((tiTravList D ti ts, ⟨ms.map (fun m => Member.travList D ti m ts), ⟨snk.errs ++ errsTravList D ti ms ts, false⟩⟩), false)) := by
  constructor <;> rintro t ti ms ⟨es, _⟩ rfl hw
  · exact ((par_run_cut D none).1 t ti ms es rfl hw).unlimited
  · exact ((par_run_cut D none).2 t ti ms es rfl hw).unlimited

def startMembers (rules : List (Rule τ σ ε × σ)) : List (Member τ σ ε) := rules.map (fun r => Member.start r.1 r.2)

theorem startMembers_WF (rules : List (Rule τ σ ε × σ)) : ∀ m ∈ startMembers rules, m.WF := by
  intro m hm
  obtain ⟨r, _, rfl⟩ := List.mem_map.mp hm
  exact Member.start_WF _ _

theorem run_closed (D : Driver τ) (ti : TI τ) (rules : List (Rule τ σ ε × σ)) (doc : Tree) :
    run0 (tiVisitor D (parallel none)) (ti, PState.start rules) doc =
      ((tiTrav D ti doc, ⟨(startMembers rules).map (fun m => Member.trav D ti m doc),
        ⟨errsTrav D ti (startMembers rules) doc, false⟩⟩), false) := by
  have := (par_run D).1 doc ti (startMembers rules) ⟨[], false⟩ rfl (startMembers_WF rules)
  simpa [PState.start, startMembers] using this

theorem validate_eq_cut (tbl : TITable) (L : Lookups τ) (max : Option Nat) (rules : List (Rule τ σ ε × σ)) (doc : Tree) :
    validate tbl L max rules doc =
      (Sink.cut max (errsTrav (realDriver tbl L) TI.init (startMembers rules) doc)).result := by
  have h := (par_run_cut (realDriver tbl L) max).1 doc TI.init (startMembers rules) [] (by rw [Sink.cut_nil])
    (startMembers_WF rules)
  rw [Sink.cut_nil] at h
  exact congrArg Sink.result h.1

end Gql.Validation
