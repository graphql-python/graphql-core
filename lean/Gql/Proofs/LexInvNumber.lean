import Gql.Proofs.NumberLex
/-!
C08, converse direction (`parse_wf`), lexer inversion for INT / FLOAT tokens: `read_number` follows
the number grammar (`readNumber_agree`), every candidate of which is an `IsNum` text
(`numberCandidates_isNum`, NumberGrammar), so the value of an INT / FLOAT token is one.
-/
namespace Gql.Text
open Gql Gql.Spec.Lex

theorem readNumber_isNum (body : List Nat) (st : LexState) (start : Nat) (h : start < body.length) :
    Post (fun t => (t.kind = .int → ∃ s, t.value = some s ∧ IsNum false s) ∧
        (t.kind = .float → ∃ s, t.value = some s ∧ IsNum true s) ∧ (t.kind = .int ∨ t.kind = .float))
      (readNumber body st start body[start]) := by
  have hag := readNumber_agree body st start h
  cases hr : readNumber body st start body[start] with
  | ok t =>
    rw [hr] at hag
    obtain ⟨fl, n, hc, _, rfl⟩ := hag
    have hnum : IsNum fl (slice body start (start + n)) := by
      rw [slice_eq_take_drop]
      exact numberCandidates_isNum (by rw [hc]; exact List.mem_singleton_self _)
    cases fl
    · exact ⟨fun _ => ⟨_, rfl, hnum⟩, fun hk => by simp [mkToken] at hk, .inl rfl⟩
    · exact ⟨fun hk => by simp [mkToken] at hk, fun _ => ⟨_, rfl, hnum⟩, .inr rfl⟩
  | err e => trivial
  | crash c => rw [hr] at hag; exact hag.elim

end Gql.Text
