import Gql.Proofs.TokenLex
import Gql.Syntax.Printer
import Gql.Proofs.PrintFields
/-!
Types (`NamedType`, `ListType`, `NonNullType`) as a self-contained sub-grammar: the typed tree, its
tokens, and what the printer model prints for it.
-/
namespace Gql.Text
open Gql.Syntax

inductive Ty where
  | named (n : List Nat)
  | list (t : Ty)
  | nonNull (t : Ty)
  deriving Repr

namespace Ty

/-- The text of `leave_named_type` / `leave_list_type` / `leave_non_null_type`. -/
def print : Ty → List Nat
  | named n => n
  | list t => [91] ++ t.print ++ [93]
  | nonNull t => t.print ++ [33]

/-- The tree the parser builds (`parse_type_reference`). -/
def toAst : Ty → Ast
  | named n => .node "NamedTypeNode" [("name", .node "NameNode" [("value", .str n)])]
  | list t => .node "ListTypeNode" [("type", t.toAst)]
  | nonNull t => .node "NonNullTypeNode" [("type", t.toAst)]

/-- Token kinds and values of the type, in order. -/
def kvs : Ty → List (TokKind × Option (List Nat))
  | named n => [(.name, some n)]
  | list t => (.bracketL, none) :: t.kvs ++ [(.bracketR, none)]
  | nonNull t => t.kvs ++ [(.bang, none)]

/-- Every name is lexically a Name. -/
def wf : Ty → Bool
  | named n => validName n
  | list t => t.wf
  | nonNull t => t.wf

end Ty

theorem printAst_ty (w : Widths) (t : Ty) : pr w t.toAst = .ok (.text t.print) := by
  induction t with
  | named n =>
    refine pr_node (prFields_cons (pr_node (t := n) (prFields_cons (pr_str n) prFields_nil) ?_) prFields_nil) ?_
    · simp only [printed_fields, leave_NameNode]
    · simp only [printed_fields, leave_NamedTypeNode, Ty.print]
  | list t ih =>
    refine pr_node (prFields_cons ih prFields_nil) ?_
    simp only [printed_fields, leave_ListTypeNode, Ty.print]
  | nonNull t ih =>
    refine pr_node (prFields_cons ih prFields_nil) ?_
    simp only [printed_fields, leave_NonNullTypeNode, Ty.print]

end Gql.Text
