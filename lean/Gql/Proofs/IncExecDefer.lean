import Gql.Proofs.IncExec
/-!
The cuts produced by `Gql.Async.IncExec` contain no stream batches (`@defer` only), so every piece
is a merge and the "batches of each list stay in order" side condition of
`cut_reassembles_any_order` holds for every permutation of the pieces.
-/
namespace Gql.Async.IncExec
open Gql.Exec Gql.Async

def isMerge : Piece → Bool
  | .merge _ _ => true
  | .append _ _ => false

mutual
/-- no list of the cut has stream batches -/
def deferOnly : Cut → Bool
  | .leaf _ => true
  | .obj now later => deferOnlyFields now && deferOnlyGroups later
  | .arr now later => later.isEmpty && deferOnlyItems now
def deferOnlyFields : List (List Nat × Cut) → Bool
  | [] => true
  | (_, c) :: rest => deferOnly c && deferOnlyFields rest
def deferOnlyGroups : List (List (List Nat × Cut)) → Bool
  | [] => true
  | g :: rest => deferOnlyFields g && deferOnlyGroups rest
def deferOnlyItems : List Cut → Bool
  | [] => true
  | c :: rest => deferOnly c && deferOnlyItems rest
end

theorem under_isMerge (p : Path) (e : Piece) : isMerge (e.under p) = isMerge e := by
  cases e <;> rfl

mutual
theorem pieces_merge : ∀ c : Cut, deferOnly c = true → ∀ e ∈ c.pieces, isMerge e = true
  | .leaf _, _, e, he => by simp [Cut.pieces] at he
  | .obj now later, h, e, he => by
    simp only [deferOnly, Bool.and_eq_true] at h
    simp only [Cut.pieces, List.mem_append] at he
    rcases he with he | he
    · exact fieldPieces_merge now h.1 e he
    · exact groupPieces_merge later h.2 e he
  | .arr now later, h, e, he => by
    simp only [deferOnly, Bool.and_eq_true, List.isEmpty_iff] at h
    obtain ⟨hl, hn⟩ := h
    subst hl
    simp only [Cut.pieces, batchPieces, List.append_nil] at he
    exact itemPieces_merge 0 now hn e he
theorem fieldPieces_merge : ∀ fs : List (List Nat × Cut), deferOnlyFields fs = true →
    ∀ e ∈ fieldPieces fs, isMerge e = true
  | [], _, e, he => by simp [fieldPieces] at he
  | (k, c) :: rest, h, e, he => by
    simp only [deferOnlyFields, Bool.and_eq_true] at h
    simp only [fieldPieces, List.mem_append, List.mem_map] at he
    rcases he with ⟨e', he', rfl⟩ | he
    · rw [under_isMerge]; exact pieces_merge c h.1 e' he'
    · exact fieldPieces_merge rest h.2 e he
theorem groupPieces_merge : ∀ gs : List (List (List Nat × Cut)), deferOnlyGroups gs = true →
    ∀ e ∈ groupPieces gs, isMerge e = true
  | [], _, e, he => by simp [groupPieces] at he
  | g :: rest, h, e, he => by
    simp only [deferOnlyGroups, Bool.and_eq_true] at h
    simp only [groupPieces, List.mem_cons, List.mem_append] at he
    rcases he with rfl | he | he
    · rfl
    · exact fieldPieces_merge g h.1 e he
    · exact groupPieces_merge rest h.2 e he
theorem itemPieces_merge : ∀ (i : Nat) (cs : List Cut), deferOnlyItems cs = true →
    ∀ e ∈ itemPieces i cs, isMerge e = true
  | _, [], _, e, he => by simp [itemPieces] at he
  | i, c :: rest, h, e, he => by
    simp only [deferOnlyItems, Bool.and_eq_true] at h
    simp only [itemPieces, List.mem_append, List.mem_map] at he
    rcases he with ⟨e', he', rfl⟩ | he
    · rw [under_isMerge]; exact pieces_merge c h.1 e' he'
    · exact itemPieces_merge (i + 1) rest h.2 e he
end

theorem streamsOf_nil_of_merge (p : Path) (ps : List Piece) (h : ∀ e ∈ ps, isMerge e = true) :
    streamsOf Piece.act p ps = [] := by
  simp only [streamsOf, List.filter_eq_nil_iff]
  intro e he
  have := h e he
  cases e <;> simp_all [isStreamAt, Piece.act, isMerge]

theorem deferOnlyFields_eq : ∀ fs : List (List Nat × Cut),
    deferOnlyFields fs = fs.all fun kc => deferOnly kc.2
  | [] => rfl
  | (_, _) :: rest => by rw [deferOnlyFields, List.all_cons, deferOnlyFields_eq rest]

theorem deferOnlyGroups_eq : ∀ gs : List (List (List Nat × Cut)),
    deferOnlyGroups gs = gs.all fun g => g.all fun kc => deferOnly kc.2
  | [] => rfl
  | g :: rest => by rw [deferOnlyGroups, List.all_cons, deferOnlyFields_eq, deferOnlyGroups_eq rest]

theorem deferOnlyItems_eq : ∀ cs : List Cut, deferOnlyItems cs = cs.all deferOnly
  | [] => rfl
  | _ :: rest => by rw [deferOnlyItems, List.all_cons, deferOnlyItems_eq rest]

theorem Made.deferOnly {c : Cut} (h : Made c) : deferOnly c = true := by
  induction h with
  | leaf _ => rfl
  | arr _ ih => rw [IncExec.deferOnly, deferOnlyItems_eq, List.all_eq_true.mpr ih]; rfl
  | obj _ _ _ ihn ihl =>
    rw [IncExec.deferOnly, deferOnlyFields_eq, deferOnlyGroups_eq, List.all_eq_true.mpr ihn,
      List.all_eq_true.mpr fun g hg => List.all_eq_true.mpr (ihl g hg)]
    rfl

theorem completeItems_d (cx : Impl.Ctx) :
    ∀ (t : TypeRef) (fds : List FD) (usages : List DU) (pset : Plan.DeferUsageSet)
      (items : List RVal) (cs : List Cut),
      completeItems cx t fds usages pset items = some cs → deferOnlyItems cs = true :=
  fun t fds usages pset items cs h =>
    (deferOnlyItems_eq cs).trans <| List.all_eq_true.mpr fun c hc =>
      (completeItems_made cx t fds usages pset items cs h c hc).deferOnly

theorem incCut_deferOnly {ops : Ops} {s : Schema} {doc : Doc} {opName : Option Name} {vars : Vars}
    {root : RVal} {c : Cut} (h : incCut ops s doc opName vars root = some c) :
    deferOnly c = true :=
  (incCut_made h).deferOnly

/-- every piece of the executor model is a merge; no stream batches in any order of them -/
theorem incCut_streams {ops : Ops} {s : Schema} {doc : Doc} {opName : Option Name} {vars : Vars}
    {root : RVal} {c : Cut} (h : incCut ops s doc opName vars root = some c)
    (ps : List Piece) (hperm : c.pieces.Perm ps) (p : Path) :
    streamsOf Piece.act p c.pieces = streamsOf Piece.act p ps := by
  have hm := pieces_merge c (incCut_deferOnly h)
  rw [streamsOf_nil_of_merge p _ hm,
    streamsOf_nil_of_merge p ps (fun e he => hm e (hperm.symm.subset he))]

end Gql.Async.IncExec
