import Gql.Proofs.ExecDefs
import Gql.Proofs.TypeParse
/-!
Executable documents, stage 2: descriptions on operations / fragment definitions / variable
definitions, variable definitions (type, constant default value, constant directives) on operations
and — under `experimental_fragment_arguments` — on fragment definitions.
-/
namespace Gql.Text
open Gql.Syntax

/-- A description: string value and `block` flag; `none` = Python `None`. -/
abbrev Desc := Option (List Nat × Bool)

structure VarDef where
  desc : Desc
  name : List Nat
  ty : Ty
  dflt : Option Val
  dirs : List Dir

inductive XDef where
  | op (desc : Desc) (opType name : List Nat) (vds : List VarDef) (dirs : List Dir) (ss : List Sel)
  | frag (desc : Desc) (name : List Nat) (vds : List VarDef) (tc : List Nat) (dirs : List Dir) (ss : List Sel)

namespace Exec

def descAst : Desc → Ast
  | none => .none
  | some (s, b) => .node "StringValueNode" [("value", .str s), ("block", .bool b)]

def descText (w : Widths) : Desc → List Nat
  | none => []
  | some (s, b) => if b then printBlockStringW w.block s false else printString s

def descKvs : Desc → List KV
  | none => []
  | some (s, b) => [(if b then .blockString else .string, some s)]

def descWf : Desc → Prop
  | none => True
  | some (s, b) => (∀ c ∈ s, isScalar c = true) ∧ (b = true → BlockRepresentable s)

def dfltAst : Option Val → Ast
  | none => .none
  | some v => v.toAst

def varDefAst (vd : VarDef) : Ast :=
  .node "VariableDefinitionNode" [("description", descAst vd.desc),
    ("variable", .node "VariableNode" [("name", Val.nameNode vd.name)]), ("type", vd.ty.toAst),
    ("default_value", dfltAst vd.dflt), ("directives", dirsAst vd.dirs)]

def dfltText (w : Widths) : Option Val → List Nat
  | none => []
  | some v => Val.print w v

def printVarDef (w : Widths) (vd : VarDef) : List Nat :=
  wrap [] (descText w vd.desc) [10] ++ (36 :: vd.name ++ S ": " ++ vd.ty.print) ++
    wrap (S " = ") (dfltText w vd.dflt) ++ wrap [32] (printDirs w vd.dirs)

/-- `var_defs` of `leave_operation_definition` -/
def varDefsOp (w : Widths) (vds : List VarDef) : List Nat :=
  let ts := vds.map (printVarDef w)
  if hasMultilineItems ts then wrap [40, 10] (join ts [10]) [10, 41] else wrap [40] (join ts [44, 32]) [41]

def varDefKvs (vd : VarDef) : List KV :=
  descKvs vd.desc ++ ((.dollar, none) :: (.name, some vd.name) :: (.colon, none) :: vd.ty.kvs) ++
    (match vd.dflt with
      | none => []
      | some v => (.equals, none) :: v.kvs) ++ dirsKvs vd.dirs

def varDefsKvsList : List VarDef → List KV
  | [] => []
  | vd :: r => varDefKvs vd ++ varDefsKvsList r

def varDefsKvs (vds : List VarDef) : List KV :=
  match vds with
  | [] => []
  | _ :: _ => (.parenL, none) :: varDefsKvsList vds ++ [(.parenR, none)]

def varDefWf (vd : VarDef) : Prop :=
  descWf vd.desc ∧ validName vd.name = true ∧ vd.ty.wf = true ∧ TyP.shaped vd.ty = true ∧
    (match vd.dflt with
      | none => True
      | some v => Val.wf true v) ∧ dirsWfC true vd.dirs

def varDefsWf : List VarDef → Prop
  | [] => True
  | vd :: r => varDefWf vd ∧ varDefsWf r

theorem varDefsWf_mem : ∀ {vds : List VarDef}, varDefsWf vds → ∀ a ∈ vds, varDefWf a
  | _ :: _, h, _, .head _ => h.1
  | _ :: _, h, a, .tail _ ha => varDefsWf_mem h.2 a ha

def xdefAst (fragArgs : Bool) : XDef → Ast
  | .op desc ot n vds ds ss =>
    .node "OperationDefinitionNode" [("selection_set", ssAst ss), ("description", descAst desc),
      ("name", optName n), ("variable_definitions", optL (vds.map varDefAst)), ("directives", dirsAst ds),
      ("operation", .str ot)]
  | .frag desc n vds tc ds ss =>
    .node "FragmentDefinitionNode" [("selection_set", ssAst ss), ("description", descAst desc),
      ("name", Val.nameNode n),
      ("variable_definitions", if fragArgs then optL (vds.map varDefAst) else .list []),
      ("directives", dirsAst ds), ("type_condition", namedType tc)]

def xdocAst (fragArgs : Bool) (defs : List XDef) : Ast :=
  .node "DocumentNode" [("definitions", .list (defs.map (xdefAst fragArgs)))]

def printXDef (w : Widths) : XDef → List Nat
  | .op desc ot n vds ds ss =>
    let pre := wrap [] (descText w desc) [10] ++ join [ot, join [n, varDefsOp w vds], printDirs w ds] [32]
    (if pre = S "query" then [] else pre ++ [32]) ++ block (printSels w ss)
  | .frag desc n vds tc ds ss =>
    wrap [] (descText w desc) [10] ++ S "fragment " ++ n ++
      wrap [40] (join (vds.map (printVarDef w)) [44, 32]) [41] ++ S " on " ++ tc ++ [32] ++
      wrap [] (printDirs w ds) [32] ++ block (printSels w ss)

def printXDoc (w : Widths) (defs : List XDef) : List Nat :=
  join (documentDefs none (defs.map (printXDef w))) [10, 10]

/-- The operation prints in the shorthand form `{ … }`. -/
def isShort (desc : Desc) (ot n : List Nat) (vds : List VarDef) (ds : List Dir) : Prop :=
  desc = none ∧ ot = S "query" ∧ n = [] ∧ vds = [] ∧ ds = []

def xdefKvs : XDef → List KV
  | .op desc ot n vds ds ss =>
    if desc = none ∧ ot = S "query" ∧ n = [] ∧ vds.isEmpty = true ∧ ds.isEmpty = true then ssKvs ss
    else descKvs desc ++ ((.name, some ot) :: (if n.isEmpty then [] else [(.name, some n)])) ++ varDefsKvs vds ++
      dirsKvs ds ++ ssKvs ss
  | .frag desc n vds tc ds ss =>
    descKvs desc ++ ((.name, some (S "fragment")) :: (.name, some n) :: varDefsKvs vds) ++
      ((.name, some (S "on")) :: (.name, some tc) :: dirsKvs ds) ++ ssKvs ss

def xdefsKvs : List XDef → List KV
  | [] => []
  | d :: r => xdefKvs d ++ xdefsKvs r

/-- `fa` = `experimental_fragment_arguments` of the parser that is to read the text back. -/
def xdefWf (fa : Bool) : XDef → Prop
  | .op desc ot n vds ds ss =>
    descWf desc ∧ isOpType ot ∧ (n = [] ∨ validName n = true) ∧ varDefsWf vds ∧ dirsWf ds ∧ ss ≠ [] ∧ selsWf ss
  | .frag desc n vds tc ds ss =>
    descWf desc ∧ validName n = true ∧ n ≠ S "on" ∧ (vds = [] ∨ fa = true) ∧ varDefsWf vds ∧
      validName tc = true ∧ dirsWf ds ∧ ss ≠ [] ∧ selsWf ss

def xdefsWf (fa : Bool) : List XDef → Prop
  | [] => True
  | d :: r => xdefWf fa d ∧ xdefsWf fa r

end Exec
end Gql.Text

namespace Gql.Text
open Gql.Syntax

/-- An executable definition without description and variable definitions. -/
def Def.toX : Def → XDef
  | .op ot n ds ss => .op none ot n [] ds ss
  | .frag n tc ds ss => .frag none n [] tc ds ss

namespace Exec

theorem xdefAst_toX (fa : Bool) (d : Def) : xdefAst fa d.toX = defAst fa d := by
  cases d <;> simp [Def.toX, xdefAst, defAst, descAst, optL]

theorem printXDef_toX (w : Widths) (d : Def) : printXDef w d.toX = printDef w d := by
  have e : ∀ sep : List Nat, join ([] : List (List Nat)) sep = [] := fun _ => rfl
  cases d <;> simp [Def.toX, printXDef, printDef, descText, varDefsOp, hasMultilineItems, e, wrap]

theorem xdefWf_toX (fa : Bool) (d : Def) (h : defWf d) : xdefWf fa d.toX := by
  cases d with
  | op ot n ds ss => exact ⟨trivial, h.1, h.2.1, trivial, h.2.2⟩
  | frag n tc ds ss => exact ⟨trivial, h.1, h.2.1, Or.inl rfl, trivial, h.2.2⟩

theorem xdocAst_toX (fa : Bool) (defs : List Def) : xdocAst fa (defs.map Def.toX) = docAst fa defs := by
  simp [xdocAst, docAst, xdefAst_toX]

theorem printXDoc_toX (w : Widths) (defs : List Def) : printXDoc w (defs.map Def.toX) = printDoc w defs := by
  simp [printXDoc, printDoc, Function.comp_def, printXDef_toX]

theorem xdefsWf_toX (fa : Bool) (defs : List Def) (h : defsWf defs) : xdefsWf fa (defs.map Def.toX) := by
  induction defs with
  | nil => trivial
  | cons d r ih => exact ⟨xdefWf_toX fa d h.1, ih h.2⟩

end Exec
end Gql.Text
