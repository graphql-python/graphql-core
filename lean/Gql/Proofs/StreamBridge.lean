import Gql.Proofs.ParserGood
import Gql.Proofs.MkNode
import Gql.Proofs.TokenLex
import Gql.Proofs.LexRun
import Gql.Syntax.Printer
/-!
From `lexAll` to the parser's lazily lexed `Stream`, and the parser's token-level primitives on a
stream whose tokens are known (no `max_tokens`).
-/
namespace Gql.Syntax
open Gql Gql.Text

/-- The stream that holds the given tokens; the `<EOF>` token ends it. -/
def toStream : List Token → Stream
  | [] => .crash "NoEOF"
  | t :: rest => if t.kind = .eof then .eof t.start t.line t.column else .cons t (toStream rest)

theorem streamAux_of_lexAllAux (body : List Nat) (fuel : Nat) (st : LexState) (pos : Nat) (acc ts : List Token)
    (h : lexAllAux body fuel st pos acc = .ok ts) :
    ∃ ts', ts = acc ++ ts' ∧ streamAux body fuel st pos = toStream ts' := by
  obtain ⟨ts', hts, hrun⟩ := lexAllAux_run body fuel st pos acc ts h
  refine ⟨ts', hts, ?_⟩
  clear hts h
  induction hrun with
  | eof hr he => simp [streamAux, hr, he, toStream]
  | comment hr _ hc _ ih => simp [streamAux, hr, hc, ih]
  | token hr he hc _ ih => simp [streamAux, hr, he, hc, ih, toStream]

theorem streamOf_of_lexAll (body : List Nat) (ts : List Token) (h : lexAll body = .ok ts) :
    streamOf body = toStream ts := by
  obtain ⟨ts', h1, h2⟩ := streamAux_of_lexAllAux body _ _ _ _ _ h
  simp at h1
  rw [streamOf, h2, h1]

/-- Put tokens in front of a stream. -/
def feed : List Token → Stream → Stream
  | [], r => r
  | t :: ts, r => .cons t (feed ts r)

/-- The state of the parser after advancing into a stream (token counter `c`). -/
def PSat (c : Nat) : Stream → PS
  | .cons t r => { cur := t, rest := r, count := c }
  | .eof a l cc => { cur := eofToken a l cc, rest := .eof a l cc, count := c }
  | .lexErr e => { cur := sofToken, rest := .lexErr e, count := c }
  | .crash x => { cur := sofToken, rest := .crash x, count := c }

/-- A stream the parser can advance into: a non-EOF token or the end. -/
def Stream.Ready : Stream → Prop
  | .cons t _ => t.kind ≠ .eof
  | .eof _ _ _ => True
  | _ => False

def cfg0 (fragArgs dirOnDir : Bool) : Cfg := { maxTokens := none, fragArgs, dirOnDir }

theorem advance_PSat (cfg : Cfg) (hm : cfg.maxTokens = none) (t : Token) (r : Stream) (c : Nat)
    (ht : t.kind ≠ .eof) (hr : r.Ready) :
    ∃ c', advanceLexer cfg { cur := t, rest := r, count := c } = .ok ((), PSat c' r) := by
  unfold advanceLexer
  simp only [ht, ↓reduceIte]
  cases r with
  | cons t' r' =>
    have : t'.kind ≠ .eof := hr
    simp [this, hm, PSat]
  | eof a l cc => exact ⟨c, by simp [PSat]⟩
  | lexErr e => exact absurd hr (by simp [Stream.Ready])
  | crash x => exact absurd hr (by simp [Stream.Ready])

end Gql.Syntax

namespace Gql.Syntax
open Gql Gql.Text

def NonEof (ts : List Token) : Prop := ∀ t ∈ ts, t.kind ≠ .eof

theorem NonEof.tail {t : Token} {ts : List Token} (h : NonEof (t :: ts)) : NonEof ts :=
  fun x hx => h x (by simp [hx])

theorem NonEof.head {t : Token} {ts : List Token} (h : NonEof (t :: ts)) : t.kind ≠ .eof := h t (by simp)

theorem NonEof.append_right {a b : List Token} (h : NonEof (a ++ b)) : NonEof b :=
  fun x hx => h x (by simp [hx])

theorem NonEof.append_left {a b : List Token} (h : NonEof (a ++ b)) : NonEof a :=
  fun x hx => h x (by simp [hx])

theorem feed_ready (ts : List Token) (r : Stream) (h : NonEof ts) (hr : r.Ready) : (feed ts r).Ready := by
  cases ts with
  | nil => exact hr
  | cons t ts => exact h t (by simp)

theorem feed_append (a b : List Token) (r : Stream) : feed (a ++ b) r = feed a (feed b r) := by
  induction a with
  | nil => rfl
  | cons t a ih => simp [feed, ih]

@[simp] theorem PSat_cons (c : Nat) (t : Token) (r : Stream) :
    PSat c (.cons t r) = { cur := t, rest := r, count := c } := rfl

theorem expectToken_ok (cfg : Cfg) (hm : cfg.maxTokens = none) (k : TokKind) (t : Token) (r : Stream)
    (c : Nat) (hk : t.kind = k) (ht : t.kind ≠ .eof) (hr : r.Ready) :
    ∃ c', expectToken cfg k { cur := t, rest := r, count := c } = .ok (t, PSat c' r) := by
  obtain ⟨c', h⟩ := advance_PSat cfg hm t r c ht hr
  refine ⟨c', ?_⟩
  simp only [expectToken, bind_eq, P.cur, hk, ↓reduceIte, h, pure_eq']

theorem expectOptionalToken_yes (cfg : Cfg) (hm : cfg.maxTokens = none) (k : TokKind) (t : Token)
    (r : Stream) (c : Nat) (hk : t.kind = k) (ht : t.kind ≠ .eof) (hr : r.Ready) :
    ∃ c', expectOptionalToken cfg k { cur := t, rest := r, count := c } = .ok (true, PSat c' r) := by
  obtain ⟨c', h⟩ := advance_PSat cfg hm t r c ht hr
  refine ⟨c', ?_⟩
  simp only [expectOptionalToken, bind_eq, P.cur, hk, ↓reduceIte, h, pure_eq']

theorem expectOptionalToken_no (cfg : Cfg) (k : TokKind) (s : PS) (hk : s.cur.kind ≠ k) :
    expectOptionalToken cfg k s = .ok (false, s) := by
  simp only [expectOptionalToken, bind_eq, P.cur, hk, ↓reduceIte, pure_eq']

/-- The current token of `PSat c s` for a ready stream. -/
def headKind : Stream → TokKind
  | .cons t _ => t.kind
  | _ => .eof

theorem PSat_cur_kind (c : Nat) (s : Stream) (hs : s.Ready) : (PSat c s).cur.kind = headKind s := by
  cases s with
  | cons t r => rfl
  | eof a l cc => rfl
  | lexErr e => exact absurd hs (by simp [Stream.Ready])
  | crash x => exact absurd hs (by simp [Stream.Ready])

theorem parseName_ok (cfg : Cfg) (hm : cfg.maxTokens = none) (t : Token) (n : List Nat) (r : Stream)
    (c : Nat) (hk : t.kind = .name) (hv : t.value = some n) (hr : r.Ready) :
    ∃ c', parseName cfg { cur := t, rest := r, count := c } =
      .ok (.node "NameNode" [("value", .str n)], PSat c' r) := by
  obtain ⟨c', h⟩ := expectToken_ok cfg hm .name t r c hk (by rw [hk]; decide) hr
  refine ⟨c', ?_⟩
  simp only [parseName, bind_eq, h, pure_eq', mkNode_name, tokVal, hv]

theorem tok_of_kv {t : Token} {k : TokKind} {v : Option (List Nat)} (h : t.kv = (k, v)) :
    t.kind = k ∧ t.value = v := ⟨congrArg Prod.fst h, congrArg Prod.snd h⟩

theorem valueIs_iff {t : Token} {n : List Nat} (hv : t.value = some n) (s : String) :
    valueIs t s = true ↔ n = S s := by
  simp [valueIs, hv, strCps, S]

theorem valueIs_false {t : Token} {n : List Nat} (hv : t.value = some n) (s : String) (h : n ≠ S s) :
    valueIs t s = false := by
  cases hx : valueIs t s with
  | false => rfl
  | true => exact absurd ((valueIs_iff hv s).mp hx) h

end Gql.Syntax
