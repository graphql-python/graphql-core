import Gql.Syntax.Parser
import Gql.Proofs.PrintFieldsAttr
import Gql.Proofs.Util.Assoc
/-!
`mkNode` on each constructor call of parser.py: which node a call `XxxNode(kw=…)` builds, the fields in the
order of the dataclass (`nodeClasses`, generated from ast.py), an omitted keyword at its default `None`.  One
equation per call, each read off the row of the generated table for its class (`mkNode_row`).
-/
namespace Gql.Syntax
open Gql

/-- Every class of the generated table is found under its own name (no name occurs twice). -/
theorem nodeClasses_lookup :
    ∀ p ∈ Generated.ParserTables.nodeClasses, Generated.ParserTables.nodeClasses.lookup p.1 = some p.2 := by
  decide +kernel

section
variable {β : Type} {k' k : String} {v d : β} {r : List (String × β)}

@[given_fields] theorem lookup_getD_cons :
    (((k', v) :: r).lookup k).getD d = if k' = k then v else (r.lookup k).getD d := by
  rw [List.lookup_cons_ite]; split <;> rfl

-- not by `rfl`: simp would then try it definitionally, on every lookup, by unfolding `List.lookup`
@[given_fields] theorem lookup_getD_nil : (([] : List (String × β)).lookup k).getD d = d := by
  rw [List.lookup_nil, Option.getD_none]

end

attribute [given_fields] List.map_cons List.map_nil

/-- `mkNode` on a row of the generated table. The equations below find their row by `repeat constructor`
(`List.Mem.head` at the row, `List.Mem.tail` before it): this compares the class names as literals, where
evaluating `nodeClasses.lookup "XxxNode"` decodes both strings at every row it passes. For the same reason the
keyword arguments are looked up by rewriting (`given_fields`, keywords compared by `String.reduceEq`) and not by
unfolding `List.lookup`. -/
theorem mkNode_row {cls : String} {fs : List (String × Bool)} {given out : List (String × Ast)}
    (h : (cls, fs) ∈ Generated.ParserTables.nodeClasses)
    (ho : (fs.map fun kd => (kd.1, (given.lookup kd.1).getD .none)) = out) : mkNode cls given = .node cls out := by
  rw [← ho, mkNode, nodeClasses_lookup _ h]

theorem mkNode_name (v : Ast) : mkNode "NameNode" [("value", v)] = .node "NameNode" [("value", v)] :=
  mkNode_row (by repeat constructor) rfl

theorem TyP.mkNode_named (v : Ast) : mkNode "NamedTypeNode" [("name", v)] = .node "NamedTypeNode" [("name", v)] :=
  mkNode_row (by repeat constructor) rfl

theorem TyP.mkNode_list (v : Ast) : mkNode "ListTypeNode" [("type", v)] = .node "ListTypeNode" [("type", v)] :=
  mkNode_row (by repeat constructor) rfl

theorem TyP.mkNode_nonNull (v : Ast) : mkNode "NonNullTypeNode" [("type", v)] = .node "NonNullTypeNode" [("type", v)] :=
  mkNode_row (by repeat constructor) rfl

theorem mk_namedType (a : Ast) :
    mkNode "NamedTypeNode" [("name", a)] = .node "NamedTypeNode" [("name", a)] :=
  TyP.mkNode_named a

theorem mk_namedTypeNode (a : Ast) : mkNode "NamedTypeNode" [("name", a)] = .node "NamedTypeNode" [("name", a)] :=
  mk_namedType a

theorem mk_var (x : Ast) : mkNode "VariableNode" [("name", x)] = .node "VariableNode" [("name", x)] :=
  mkNode_row (by repeat constructor) rfl

theorem mk_int (x : Ast) : mkNode "IntValueNode" [("value", x)] = .node "IntValueNode" [("value", x)] :=
  mkNode_row (by repeat constructor) rfl

theorem mk_float (x : Ast) : mkNode "FloatValueNode" [("value", x)] = .node "FloatValueNode" [("value", x)] :=
  mkNode_row (by repeat constructor) rfl

theorem mk_str (x y : Ast) : mkNode "StringValueNode" [("value", x), ("block", y)] =
    .node "StringValueNode" [("value", x), ("block", y)] :=
  mkNode_row (by repeat constructor) (by simp only [given_fields, String.reduceEq, ↓reduceIte])

theorem mk_bool (x : Ast) : mkNode "BooleanValueNode" [("value", x)] = .node "BooleanValueNode" [("value", x)] :=
  mkNode_row (by repeat constructor) rfl

theorem mk_null : mkNode "NullValueNode" [] = .node "NullValueNode" [] :=
  mkNode_row (by repeat constructor) rfl

theorem mk_enum (x : Ast) : mkNode "EnumValueNode" [("value", x)] = .node "EnumValueNode" [("value", x)] :=
  mkNode_row (by repeat constructor) rfl

theorem mk_list (x : Ast) : mkNode "ListValueNode" [("values", x)] = .node "ListValueNode" [("values", x)] :=
  mkNode_row (by repeat constructor) rfl

theorem mk_obj (x : Ast) : mkNode "ObjectValueNode" [("fields", x)] = .node "ObjectValueNode" [("fields", x)] :=
  mkNode_row (by repeat constructor) rfl

theorem mk_field (x y : Ast) : mkNode "ObjectFieldNode" [("name", x), ("value", y)] =
    .node "ObjectFieldNode" [("name", x), ("value", y)] :=
  mkNode_row (by repeat constructor) (by simp only [given_fields, String.reduceEq, ↓reduceIte])

theorem mk_arg (x y : Ast) : mkNode "ArgumentNode" [("name", x), ("value", y)] =
    .node "ArgumentNode" [("name", x), ("value", y)] :=
  mkNode_row (by repeat constructor) (by simp only [given_fields, String.reduceEq, ↓reduceIte])

theorem mk_dir (x y : Ast) : mkNode "DirectiveNode" [("name", x), ("arguments", y)] =
    .node "DirectiveNode" [("name", x), ("arguments", y)] :=
  mkNode_row (by repeat constructor) (by simp only [given_fields, String.reduceEq, ↓reduceIte])

theorem mk_fieldNode (a b c d e : Ast) :
    mkNode "FieldNode" [("alias", a), ("name", b), ("arguments", c), ("directives", d), ("selection_set", e)] =
      .node "FieldNode" [("directives", d), ("name", b), ("alias", a), ("arguments", c), ("selection_set", e)] :=
  mkNode_row (by repeat constructor) (by simp only [given_fields, String.reduceEq, ↓reduceIte])

theorem mk_spreadNode (a b : Ast) :
    mkNode "FragmentSpreadNode" [("name", a), ("directives", b)] =
      .node "FragmentSpreadNode" [("directives", b), ("name", a), ("arguments", .none)] :=
  mkNode_row (by repeat constructor) (by simp only [given_fields, String.reduceEq, ↓reduceIte])

theorem mk_inlineNode (a b c : Ast) :
    mkNode "InlineFragmentNode" [("type_condition", a), ("directives", b), ("selection_set", c)] =
      .node "InlineFragmentNode" [("directives", b), ("selection_set", c), ("type_condition", a)] :=
  mkNode_row (by repeat constructor) (by simp only [given_fields, String.reduceEq, ↓reduceIte])

theorem mk_ssNode (a : Ast) :
    mkNode "SelectionSetNode" [("selections", a)] = .node "SelectionSetNode" [("selections", a)] :=
  mkNode_row (by repeat constructor) rfl

theorem mk_varDefNode (a b c d e : Ast) :
    mkNode "VariableDefinitionNode" [("description", a), ("variable", b), ("type", c), ("default_value", d),
      ("directives", e)] =
    .node "VariableDefinitionNode" [("description", a), ("variable", b), ("type", c), ("default_value", d),
      ("directives", e)] :=
  mkNode_row (by repeat constructor) (by simp only [given_fields, String.reduceEq, ↓reduceIte])

theorem mk_opNode (a b c d e f : Ast) :
    mkNode "OperationDefinitionNode" [("operation", a), ("description", b), ("name", c),
      ("variable_definitions", d), ("directives", e), ("selection_set", f)] =
    .node "OperationDefinitionNode" [("selection_set", f), ("description", b), ("name", c),
      ("variable_definitions", d), ("directives", e), ("operation", a)] :=
  mkNode_row (by repeat constructor) (by simp only [given_fields, String.reduceEq, ↓reduceIte])

theorem mk_fragNode (a b c d e f : Ast) :
    mkNode "FragmentDefinitionNode" [("description", a), ("name", b), ("variable_definitions", c),
      ("type_condition", d), ("directives", e), ("selection_set", f)] =
    .node "FragmentDefinitionNode" [("selection_set", f), ("description", a), ("name", b),
      ("variable_definitions", c), ("directives", e), ("type_condition", d)] :=
  mkNode_row (by repeat constructor) (by simp only [given_fields, String.reduceEq, ↓reduceIte])

theorem mk_docNode (a : Ast) : mkNode "DocumentNode" [("definitions", a)] = .node "DocumentNode" [("definitions", a)] :=
  mkNode_row (by repeat constructor) rfl

theorem mk_ivdNode (a b c d e : Ast) :
    mkNode "InputValueDefinitionNode" [("description", a), ("name", b), ("type", c), ("default_value", d),
      ("directives", e)] =
    .node "InputValueDefinitionNode" [("name", b), ("type", c), ("description", a), ("default_value", d),
      ("directives", e)] :=
  mkNode_row (by repeat constructor) (by simp only [given_fields, String.reduceEq, ↓reduceIte])

theorem mk_fdNode (a b c d e : Ast) :
    mkNode "FieldDefinitionNode" [("description", a), ("name", b), ("arguments", c), ("type", d),
      ("directives", e)] =
    .node "FieldDefinitionNode" [("name", b), ("type", d), ("description", a), ("arguments", c),
      ("directives", e)] :=
  mkNode_row (by repeat constructor) (by simp only [given_fields, String.reduceEq, ↓reduceIte])

theorem mk_evNode (a b c : Ast) :
    mkNode "EnumValueDefinitionNode" [("description", a), ("name", b), ("directives", c)] =
    .node "EnumValueDefinitionNode" [("name", b), ("description", a), ("directives", c)] :=
  mkNode_row (by repeat constructor) (by simp only [given_fields, String.reduceEq, ↓reduceIte])

theorem mk_otNode (a b : Ast) :
    mkNode "OperationTypeDefinitionNode" [("operation", a), ("type", b)] =
    .node "OperationTypeDefinitionNode" [("operation", a), ("type", b)] :=
  mkNode_row (by repeat constructor) (by simp only [given_fields, String.reduceEq, ↓reduceIte])

theorem mk_schemaNode (a b c : Ast) :
    mkNode "SchemaDefinitionNode" [("description", a), ("directives", b), ("operation_types", c)] =
    .node "SchemaDefinitionNode" [("description", a), ("directives", b), ("operation_types", c)] :=
  mkNode_row (by repeat constructor) (by simp only [given_fields, String.reduceEq, ↓reduceIte])

theorem mk_scalarNode (a b c : Ast) :
    mkNode "ScalarTypeDefinitionNode" [("description", a), ("name", b), ("directives", c)] =
    .node "ScalarTypeDefinitionNode" [("name", b), ("description", a), ("directives", c)] :=
  mkNode_row (by repeat constructor) (by simp only [given_fields, String.reduceEq, ↓reduceIte])

theorem mk_objNode (iface : Bool) (a b c d e : Ast) :
    mkNode (if iface then "InterfaceTypeDefinitionNode" else "ObjectTypeDefinitionNode") [("description", a), ("name", b), ("interfaces", c), ("directives", d),
      ("fields", e)] =
    .node (if iface then "InterfaceTypeDefinitionNode" else "ObjectTypeDefinitionNode") [("name", b), ("description", a), ("directives", d), ("interfaces", c),
      ("fields", e)] :=
  mkNode_row (by cases iface <;> repeat constructor) (by simp only [given_fields, String.reduceEq, ↓reduceIte])

theorem mk_unionNode (a b c d : Ast) :
    mkNode "UnionTypeDefinitionNode" [("description", a), ("name", b), ("directives", c), ("types", d)] =
    .node "UnionTypeDefinitionNode" [("name", b), ("description", a), ("directives", c), ("types", d)] :=
  mkNode_row (by repeat constructor) (by simp only [given_fields, String.reduceEq, ↓reduceIte])

theorem mk_enumNode (a b c d : Ast) :
    mkNode "EnumTypeDefinitionNode" [("description", a), ("name", b), ("directives", c), ("values", d)] =
    .node "EnumTypeDefinitionNode" [("name", b), ("description", a), ("directives", c), ("values", d)] :=
  mkNode_row (by repeat constructor) (by simp only [given_fields, String.reduceEq, ↓reduceIte])

theorem mk_inputNode (a b c d : Ast) :
    mkNode "InputObjectTypeDefinitionNode" [("description", a), ("name", b), ("directives", c), ("fields", d)] =
    .node "InputObjectTypeDefinitionNode" [("name", b), ("description", a), ("directives", c), ("fields", d)] :=
  mkNode_row (by repeat constructor) (by simp only [given_fields, String.reduceEq, ↓reduceIte])

theorem mk_directiveNode (a b c d e f : Ast) :
    mkNode "DirectiveDefinitionNode" [("description", a), ("name", b), ("arguments", c), ("directives", d),
      ("repeatable", e), ("locations", f)] =
    .node "DirectiveDefinitionNode" [("name", b), ("locations", f), ("description", a), ("arguments", c),
      ("directives", d), ("repeatable", e)] :=
  mkNode_row (by repeat constructor) (by simp only [given_fields, String.reduceEq, ↓reduceIte])

theorem mk_schemaExtNode (a b : Ast) :
    mkNode "SchemaExtensionNode" [("directives", a), ("operation_types", b)] =
    .node "SchemaExtensionNode" [("directives", a), ("operation_types", b)] :=
  mkNode_row (by repeat constructor) (by simp only [given_fields, String.reduceEq, ↓reduceIte])

theorem mk_scalarExtNode (a b : Ast) :
    mkNode "ScalarTypeExtensionNode" [("name", a), ("directives", b)] =
    .node "ScalarTypeExtensionNode" [("name", a), ("directives", b)] :=
  mkNode_row (by repeat constructor) (by simp only [given_fields, String.reduceEq, ↓reduceIte])

theorem mk_objExtNode (iface : Bool) (a b c d : Ast) :
    mkNode (if iface then "InterfaceTypeExtensionNode" else "ObjectTypeExtensionNode") [("name", a), ("interfaces", b), ("directives", c), ("fields", d)] =
    .node (if iface then "InterfaceTypeExtensionNode" else "ObjectTypeExtensionNode") [("name", a), ("directives", c), ("interfaces", b), ("fields", d)] :=
  mkNode_row (by cases iface <;> repeat constructor) (by simp only [given_fields, String.reduceEq, ↓reduceIte])

theorem mk_unionExtNode (a b c : Ast) :
    mkNode "UnionTypeExtensionNode" [("name", a), ("directives", b), ("types", c)] =
    .node "UnionTypeExtensionNode" [("name", a), ("directives", b), ("types", c)] :=
  mkNode_row (by repeat constructor) (by simp only [given_fields, String.reduceEq, ↓reduceIte])

theorem mk_enumExtNode (a b c : Ast) :
    mkNode "EnumTypeExtensionNode" [("name", a), ("directives", b), ("values", c)] =
    .node "EnumTypeExtensionNode" [("name", a), ("directives", b), ("values", c)] :=
  mkNode_row (by repeat constructor) (by simp only [given_fields, String.reduceEq, ↓reduceIte])

theorem mk_inputExtNode (a b c : Ast) :
    mkNode "InputObjectTypeExtensionNode" [("name", a), ("directives", b), ("fields", c)] =
    .node "InputObjectTypeExtensionNode" [("name", a), ("directives", b), ("fields", c)] :=
  mkNode_row (by repeat constructor) (by simp only [given_fields, String.reduceEq, ↓reduceIte])

end Gql.Syntax
