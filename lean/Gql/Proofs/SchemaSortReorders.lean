import Gql.Proofs.SchemaDiffSim
/-!
C19: sorting permutes, and `sortSchema` is `rearrangeSchema sortByName`, so no change is reported
between a schema and the sorted schema.
-/
namespace Gql.Types
open Gql Gql.Generated

theorem sortByName_perm {α : Type} (key : α → Str) (xs : List α) : (sortByName key xs).Perm xs :=
  List.mergeSort_perm _ _

theorem mem_sortByName {α : Type} (key : α → Str) (xs : List α) (x : α) : x ∈ sortByName key xs ↔ x ∈ xs :=
  (sortByName_perm key xs).mem_iff

theorem sort_only_reorders (s : Schema) (h : WFSchema s = true) : changes s (sortSchema s) = [] :=
  changes_rearrange sortByName sortByName_perm s h

end Gql.Types
