import Gql.Exec.ImplExec
import Gql.Exec.SpecExec
import Gql.Proofs.Util.Grouped

/-!
C02 — algebra of ordered grouped field sets: `appendGroup` / `mergeGroups` (spec) and
`addField` (implementation).  Both insertions are `List.extendAt`; what holds of one insertion
comes from there, what relates two (`appendGroup_comm`, `mergeGroups_assoc`) is proved here.
-/

namespace Gql.Exec.Refine
open Gql.Exec

abbrev SG := Spec.Groups

def keys (g : SG) : List Name := g.map (·.1)

/-- erase the allocation serials -/
def nodes (g : Impl.Groups) : SG := g.map (fun p => (p.1, p.2.map (·.node)))

theorem appendGroup_eq (g : SG) (k : Name) (fs : List FieldNode) :
    Spec.appendGroup g k fs = g.extendAt k fs := by
  induction g with
  | nil => rfl
  | cons p r ih => simp only [Spec.appendGroup, List.extendAt, ih, beq_iff_eq]

theorem addField_eq (g : Impl.Groups) (k : Name) (fd : Impl.FieldDetails) :
    Impl.addField g k fd = g.extendAt k [fd] := by
  induction g with
  | nil => rfl
  | cons p r ih => simp only [Impl.addField, List.extendAt, ih, beq_iff_eq]

theorem nodes_addField (g : Impl.Groups) (k : Name) (fd : Impl.FieldDetails) :
    nodes (Impl.addField g k fd) = Spec.appendGroup (nodes g) k [fd.node] := by
  rw [addField_eq, appendGroup_eq]
  exact List.map_extendAt (·.node) g k [fd]

theorem keys_appendGroup (g : SG) (k : Name) (fs : List FieldNode) :
    keys (Spec.appendGroup g k fs) = if k ∈ keys g then keys g else keys g ++ [k] :=
  appendGroup_eq g k fs ▸ List.keys_extendAt g k fs

theorem mem_keys_appendGroup (g : SG) (k k' : Name) (fs : List FieldNode) :
    k' ∈ keys (Spec.appendGroup g k fs) ↔ k' ∈ keys g ∨ k' = k :=
  appendGroup_eq g k fs ▸ List.mem_keys_extendAt

theorem nodup_keys_appendGroup (g : SG) (k : Name) (fs : List FieldNode) (h : (keys g).Nodup) :
    (keys (Spec.appendGroup g k fs)).Nodup :=
  appendGroup_eq g k fs ▸ List.nodup_keys_extendAt k fs h

theorem appendGroup_appendGroup_same (g : SG) (k : Name) (a b : List FieldNode) :
    Spec.appendGroup (Spec.appendGroup g k a) k b = Spec.appendGroup g k (a ++ b) := by
  induction g with
  | nil => simp [Spec.appendGroup]
  | cons h t ih =>
    obtain ⟨k', g'⟩ := h
    by_cases hk : (k' == k) = true
    · simp [Spec.appendGroup, hk]
    · simp [Spec.appendGroup, hk, ih]

theorem appendGroup_comm (g : SG) (k k2 : Name) (a b : List FieldNode) (hne : k ≠ k2)
    (hk : k ∈ keys g) :
    Spec.appendGroup (Spec.appendGroup g k2 b) k a = Spec.appendGroup (Spec.appendGroup g k a) k2 b := by
  induction g with
  | nil => simp [keys] at hk
  | cons h t ih =>
    obtain ⟨k', g'⟩ := h
    by_cases h1 : k' = k
    · subst h1
      have h2 : ¬ (k' == k2) = true := by simpa using hne
      simp [Spec.appendGroup, h2]
    · have hk' : k ∈ keys t := by
        simp only [keys, List.map_cons, List.mem_cons] at hk
        rcases hk with hk | hk
        · exact absurd hk.symm h1
        · exact hk
      have h1' : ¬ (k' == k) = true := by simpa using h1
      by_cases h2 : (k' == k2) = true
      · simp [Spec.appendGroup, h2, h1']
      · simp [Spec.appendGroup, h2, h1', ih hk']

theorem mergeGroups_nil (g : SG) : Spec.mergeGroups g [] = g := rfl

theorem mergeGroups_cons (g : SG) (k : Name) (fs : List FieldNode) (rest : SG) :
    Spec.mergeGroups g ((k, fs) :: rest) = Spec.mergeGroups (Spec.appendGroup g k fs) rest := rfl

theorem appendGroup_eq_merge (g : SG) (k : Name) (fs : List FieldNode) :
    Spec.appendGroup g k fs = Spec.mergeGroups g [(k, fs)] := rfl

theorem mem_keys_mergeGroups (g a : SG) (k : Name) :
    k ∈ keys (Spec.mergeGroups g a) ↔ k ∈ keys g ∨ k ∈ keys a := by
  induction a generalizing g with
  | nil => simp [Spec.mergeGroups, keys]
  | cons h t ih =>
    rw [mergeGroups_cons, ih, mem_keys_appendGroup]
    simp only [keys, List.map_cons, List.mem_cons, or_assoc]

theorem nodup_keys_mergeGroups (g a : SG) (h : (keys g).Nodup) :
    (keys (Spec.mergeGroups g a)).Nodup := by
  induction a generalizing g with
  | nil => exact h
  | cons hd t ih =>
    obtain ⟨k', fs⟩ := hd
    rw [mergeGroups_cons]
    exact ih _ (nodup_keys_appendGroup g k' fs h)

theorem appendGroup_mergeGroups_comm (g a : SG) (k : Name) (fs : List FieldNode)
    (hk : k ∈ keys g) (hna : k ∉ keys a) :
    Spec.appendGroup (Spec.mergeGroups g a) k fs = Spec.mergeGroups (Spec.appendGroup g k fs) a := by
  induction a generalizing g with
  | nil => rfl
  | cons hd t ih =>
    obtain ⟨k2, g2⟩ := hd
    have hne : k ≠ k2 := by
      intro h; subst h; exact hna (by simp [keys])
    have hnt : k ∉ keys t := by
      intro h; exact hna (by simp [keys] at h ⊢; exact Or.inr h)
    rw [mergeGroups_cons, mergeGroups_cons]
    rw [ih (Spec.appendGroup g k2 g2) ((mem_keys_appendGroup g k2 k g2).2 (Or.inl hk)) hnt]
    rw [appendGroup_comm g k k2 fs g2 hne hk]

theorem mergeGroups_appendGroup (b a : SG) (k : Name) (fs : List FieldNode)
    (hnd : (keys a).Nodup) :
    Spec.mergeGroups b (Spec.appendGroup a k fs) = Spec.appendGroup (Spec.mergeGroups b a) k fs := by
  induction a generalizing b with
  | nil => rfl
  | cons hd t ih =>
    obtain ⟨k1, g1⟩ := hd
    have hnd' : (keys t).Nodup := by
      simp only [keys, List.map_cons, List.nodup_cons] at hnd
      exact hnd.2
    have hk1 : k1 ∉ keys t := by
      simp only [keys, List.map_cons, List.nodup_cons] at hnd
      exact hnd.1
    by_cases h1 : k1 = k
    · subst h1
      simp only [Spec.appendGroup, beq_self_eq_true, ↓reduceIte, mergeGroups_cons]
      rw [appendGroup_mergeGroups_comm _ t k1 fs ((mem_keys_appendGroup b k1 k1 g1).2 (Or.inr rfl)) hk1]
      rw [appendGroup_appendGroup_same]
    · have h1' : ¬ (k1 == k) = true := by simpa using h1
      simp only [Spec.appendGroup, h1', Bool.false_eq_true, ↓reduceIte, mergeGroups_cons]
      exact ih _ hnd'

theorem mergeGroups_assoc (b a f : SG) (hnd : (keys a).Nodup) :
    Spec.mergeGroups (Spec.mergeGroups b a) f = Spec.mergeGroups b (Spec.mergeGroups a f) := by
  induction f generalizing a with
  | nil => rfl
  | cons hd t ih =>
    obtain ⟨k, fs⟩ := hd
    rw [mergeGroups_cons, mergeGroups_cons, ← mergeGroups_appendGroup b a k fs hnd]
    exact ih (Spec.appendGroup a k fs) (nodup_keys_appendGroup a k fs hnd)

theorem forall_appendGroup {G : Name → List FieldNode → Prop}
    (happ : ∀ {k a b}, G k a → G k b → G k (a ++ b)) {gs : SG} (h : ∀ p ∈ gs, G p.1 p.2)
    {k : Name} {fs : List FieldNode} (hf : G k fs) : ∀ p ∈ Spec.appendGroup gs k fs, G p.1 p.2 :=
  appendGroup_eq gs k fs ▸ List.forall_mem_extendAt happ h hf

theorem forall_mergeGroups {G : Name → List FieldNode → Prop}
    (happ : ∀ {k a b}, G k a → G k b → G k (a ++ b)) {gs fg : SG} (h : ∀ p ∈ gs, G p.1 p.2)
    (hf : ∀ p ∈ fg, G p.1 p.2) : ∀ p ∈ Spec.mergeGroups gs fg, G p.1 p.2 := by
  induction fg generalizing gs with
  | nil => exact h
  | cons hd t ih =>
    exact ih (forall_appendGroup happ h (hf hd (List.mem_cons_self ..)))
      (fun p hp => hf p (List.mem_cons_of_mem _ hp))

theorem keys_nodes (g : Impl.Groups) : keys (nodes g) = g.map (·.1) := by
  simp [keys, nodes]

end Gql.Exec.Refine
