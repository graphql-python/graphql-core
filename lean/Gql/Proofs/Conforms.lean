import Gql.Proofs.LiteralBasics
/-!
"A coerced result conforms to the type" (C15): the inductive predicate, the object case for both sides
(`fieldRes_conforms`), and its proof for `coerceValue` and for `coerceLiteral` on constant literals.
-/
namespace Gql.Values
open Gql

/-- The conformance clause of the property: 32-bit Int, finite Float, text, boolean, a declared
enum value; lists of conforming items; for input objects exactly the declared fields in declared
order, each conforming, non-null and defaulted fields present, and for OneOf exactly one entry that
is not `None`; `None` only where the type is nullable. -/
inductive Conforms (D : Field → R) (tm : TypeMap) : InType → PyVal → Prop where
  | null (t : InType) : t.isNonNull = false → Conforms D tm t .none
  | nonNull (t : InType) (cv : PyVal) : cv ≠ .none → Conforms D tm t cv → Conforms D tm (.nonNull t) cv
  | list (t : InType) (cs : List PyVal) : (∀ x ∈ cs, Conforms D tm t x) → Conforms D tm (.list t) (.list cs)
  | scalar (n : List Nat) (s : Scalar) (cv : PyVal) : tm.find n = some (.scalar s) → ScalarConforms s cv →
      Conforms D tm (.named n) cv
  | enum (n : List Nat) (e : EnumType) (name : List Nat) (cv : PyVal) : tm.find n = some (.enum e) →
      (name, cv) ∈ e.values → Conforms D tm (.named n) cv
  | obj (n : List Nat) (fields : List Field) (oneOf : Bool) (es : List (List Nat × PyVal)) :
      tm.find n = some (.inputObject fields oneOf) →
      -- exactly the declared fields, in declared order …
      (es.map (·.1)).Sublist (fields.map (·.name)) →
      (∀ k cv, (k, cv) ∈ es → ∀ f ∈ fields, f.name = k → Conforms D tm f.type cv) →
      -- … non-null fields present, defaults applied …
      (∀ f ∈ fields, (f.type.isNonNull = true ∨ D f ≠ .ok .undefined) → f.name ∈ es.map (·.1)) →
      -- … and exactly one non-null entry for OneOf
      (oneOf = true → ∃ k cv, es = [(k, cv)] ∧ cv ≠ .none) →
      Conforms D tm (.named n) (.dict es)

/-- what `coerce_default_value` guarantees besides totality: its results conform, and a non-null
field that is not "required" really has a default -/
structure DefaultsConform (D : Field → R) (tm : TypeMap) : Prop where
  conform : ∀ f cv, D f = .ok cv → cv ≠ .undefined → Conforms D tm f.type cv
  present : ∀ f, f.type.isNonNull = true → f.isRequired = false → D f ≠ .ok .undefined

theorem filterMap_keys_sublist {β : Type} {fields : List Field} (φ : Field → Option (List Nat × β))
    (hφ : ∀ f k b, φ f = some (k, b) → k = f.name) :
    ((fields.filterMap φ).map (·.1)).Sublist (fields.map (·.name)) := by
  induction fields with
  | nil => simp
  | cons hd tl ih =>
    simp only [List.filterMap_cons, List.map_cons]
    cases h : φ hd with
    | none => exact List.Sublist.cons _ ih
    | some kv =>
      obtain ⟨k, cv⟩ := kv
      have := hφ hd k cv h
      subst this
      simp only [List.map_cons]
      exact List.Sublist.cons_cons _ ih

/-- The object case of conformance, for values and literals alike (`o f` is the coerced provided value of `f`):
the dict holds declared fields in declared order, each entry conforms, and a non-null or defaulted field has one. -/
theorem fieldRes_conforms {D : Field → R} {tm : TypeMap} (hDC : DefaultsConform D tm) {fields : List Field}
    (hnames : (fields.map (·.name)).Nodup) {o : Field → Option R} {es : List (List Nat × PyVal)}
    (hs : seqFields (fields.map fun f => fieldRes D f (o f)) = .ok (some es))
    (ih : ∀ f ∈ fields, ∀ cv, o f = some (.ok cv) → cv ≠ .undefined → Conforms D tm f.type cv) :
    (es.map (·.1)).Sublist (fields.map (·.name)) ∧
      (∀ k cv, (k, cv) ∈ es → ∀ f ∈ fields, f.name = k → Conforms D tm f.type cv) ∧
      (∀ f ∈ fields, (f.type.isNonNull = true ∨ D f ≠ .ok .undefined) → f.name ∈ es.map (·.1)) := by
  refine ⟨?_, fun k cv hmem f hf hfk => ?_, fun f hf hneed => ?_⟩
  · rw [(seqFields_some_iff.1 hs).2, List.filterMap_map]
    exact filterMap_keys_sublist _ fun f k cv h => (fieldRes_entry_iff.1 (entryOf_eq_some_iff.1 h)).1
  · obtain ⟨f', hf', h⟩ := (mem_seqFields hs).1 hmem
    obtain ⟨hk, hcu, hsrc⟩ := fieldRes_entry_iff.1 h
    cases nodup_name_eq hnames hf hf' (hfk.trans hk)
    exact hsrc.elim (fun h => ih f hf cv h hcu) (fun h => hDC.conform f cv h.2.2 hcu)
  · obtain ⟨x, hx, hxn⟩ := seqFields_valid hs hf
    cases x with
    | invalid => exact absurd rfl hxn
    | skip =>
      obtain ⟨_, hreq, hd⟩ := fieldRes_skip_iff.1 hx
      exact absurd hd (hneed.elim (fun hn => hDC.present f hn hreq) id)
    | entry k cv => exact List.mem_map.2 ⟨(k, cv), (mem_seqFields hs).2 ⟨f, hf, hx⟩, (fieldRes_entry_iff.1 hx).1⟩

section
variable (c : PyConv) (D : Field → R) (tm : TypeMap)

theorem coerceValue_conforms (hW : TmWF D tm) (hDC : DefaultsConform D tm) (v : PyVal) (t : InType) {cv : PyVal}
    (h : coerceValue c D tm v t = .ok cv) (hu : cv ≠ .undefined) : Conforms D tm t cv := by
  refine coerceValue_accepted c D tm (motive := fun _ t cv => Conforms D tm t cv) ?_ ?_ ?_ ?_ ?_ ?_ v t h hu
  · exact fun _ t _ ht => .null t ht
  · exact fun v t' cv hn h ih => .nonNull t' cv (coerceValue_ne_none c D tm hW.enumsNonNull v hn t' cv h) ih
  · exact fun _ t' _ cs _ _ hs ih => .list t' cs fun x hx =>
      let ⟨hxu, y, hy, hyc⟩ := mem_seqItems hs hx
      ih y hy x hyc hxu
  · exact fun _ t' cv _ _ _ _ ih => .list t' [cv] (by simpa using ih)
  · intro v n d lf _ hf hl hu
    cases d with
    | scalar s => cases hl; exact .scalar n s _ hf (Scalar.coerceValue_conforms c s v _ (leafValue_of_ne hu))
    | enum e =>
      cases hl
      obtain ⟨s, _, hw⟩ := EnumType.coerceInputValue_ok (leafValue_of_ne hu)
      exact .enum n e s _ hf (dictGet_mem hw)
    | inputObject _ _ => cases hl
  · intro v n fields oneOf kvs es _ hf _ _ hs hone ih
    obtain ⟨hsub, hconf, hpres⟩ := fieldRes_conforms hDC (hW.fieldsNodup n fields oneOf hf) hs fun f _ cv h hcu =>
      let ⟨fv, hfv, hc⟩ := Option.map_eq_some_iff.1 h
      ih f fv hfv cv hc hcu
    exact .obj n fields oneOf es hf hsub hconf hpres hone

theorem coerceLiteral_conforms (hW : TmWF D tm) (hDC : DefaultsConform D tm) (l : Lit) (t : InType)
    (hc : l.isConst = true) (hu' : l.Unique) {cv : PyVal} (h : coerceLiteral c D tm none l t = .ok cv)
    (hu : cv ≠ .undefined) : Conforms D tm t cv := by
  refine coerceLiteral_accepted c D tm none (motive := fun l t cv => l.isConst = true → l.Unique → Conforms D tm t cv)
    ?_ ?_ ?_ ?_ ?_ ?_ ?_ l t h hu hc hu'
  · exact fun _ _ _ hx hc => by rw [Lit.not_const_of_var hx] at hc; cases hc
  · exact fun _ t _ _ ht _ _ => .null t ht
  · exact fun l t' cv hv hn h ih hc hu' =>
      .nonNull t' cv (coerceLiteral_ne_none c D tm none hW.enumsNonNull l hv hn t' cv h) (ih hc hu')
  · intro l t' its cs _ _ hl hs ih hc hu'
    refine .list t' cs fun x hx => ?_
    obtain ⟨hxu, it, hit, hyc⟩ := mem_seqItems hs hx
    obtain ⟨hitu, hitc⟩ := Lit.asList_mem hl hit
    rw [listItemLiteral_nonvar none _ _ (isVar_false_of_const (hitc hc))] at hyc
    exact ih it hit x hyc hxu (hitc hc) (hitu hu')
  · exact fun _ t' cv _ _ _ _ _ ih hc hu' => .list t' [cv] (by simpa using ih hc hu')
  · intro l n d lf _ _ hf hl hu _ _
    cases d with
    | scalar s => cases hl; exact .scalar n s _ hf (Scalar.coerceLiteral_conforms c s l _ (leafLiteral_of_ne hu))
    | enum e =>
      cases hl
      obtain ⟨s, _, hw⟩ := EnumType.coerceInputLiteral_ok (leafLiteral_of_ne hu)
      exact .enum n e s _ hf (dictGet_mem hw)
    | inputObject _ _ => cases hl
  · intro l n fields oneOf fs es _ _ hf ho _ hs hone ih hc hu'
    have hfsn := Lit.asObj_nodup ho hu'
    obtain ⟨hsub, hconf, hpres⟩ := fieldRes_conforms hDC (hW.fieldsNodup n fields oneOf hf) hs fun f _ cv h hcu =>
      let ⟨fv, hfv, hcv⟩ := Option.map_eq_some_iff.1 h
      have hm := Lit.asObj_mem ho (litGetLast_mem (Option.filter_eq_some_iff.1 hfv).1)
      ih f fv (Option.filter_eq_some_iff.1 hfv).1 cv hcv hcu (hm.2 hc) (hm.1 hu')
    refine .obj n fields oneOf es hf hsub hconf hpres fun hoo => ?_
    subst hoo
    obtain ⟨n', k, c', hln, hes1, hci⟩ := hone rfl
    -- the single entry belongs to the single literal field, so it is not None
    have hkn : k = n' := by
      obtain ⟨f0, hf0, h0⟩ := (mem_seqFields hs).1 (hes1 ▸ List.mem_singleton.2 rfl)
      obtain ⟨hk0, hcu0, h | ⟨_, _, hdf⟩⟩ := fieldRes_entry_iff.1 h0
      · obtain ⟨fv, hfv, _⟩ := Option.map_eq_some_iff.1 h
        have hmem := litGetLast_mem (Option.filter_eq_some_iff.1 hfv).1
        have : f0.name ∈ litNames fs := by
          rw [litNames_of_nodup hfsn]; exact List.mem_map.2 ⟨(f0.name, fv), hmem, rfl⟩
        rw [hln] at this
        simp only [List.mem_singleton] at this
        rw [hk0, this]
      · rw [hW.oneOfNoDefaults n fields hf f0 hf0] at hdf
        simp only [Out.ok.injEq] at hdf
        exact absurd hdf.symm hcu0
    subst hkn
    exact ⟨k, c', hes1, fun hc' => by rw [(coercedIsNone_self k c').2 hc'] at hci; cases hci⟩

end

end Gql.Values
