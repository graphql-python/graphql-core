import Gql.Syntax.Visitor
/-!
Lemmas of the two sides of C11: the loop of the stack machine `visit` (`iter`, `fetch`, `process`), and
the recursive contract `Spec.specNode`, rewritten here with a sequencing operation `Res.bind` (`specAttr`,
`specLeave`, `resultOf` are reformulations proved equal to the contract, not part of it).
-/
namespace Gql.Syntax
open Gql Gql.Syntax.Spec

variable {σ : Type}

theorem iter_add (root : Node) (vk : String → List String) (v : Visitor σ) (a b : Nat) (st : St σ) :
    iter false root vk v (a + b) st =
      match iter false root vk v a st with
      | .ok (.cont st') => iter false root vk v b st'
      | r => r := by
  induction a generalizing st with
  | zero => rw [Nat.zero_add]; rfl
  | succ a ih =>
    rw [Nat.succ_add]
    simp only [iter]
    generalize step false root vk v st = r
    rcases r with ⟨st' | _⟩ | _ | _
    · exact ih st'
    all_goals rfl

/-- a run that is fine after `a + b` iterations was running, or already over, after `a` -/
theorem iter_prefix {root : Node} {vk : String → List String} {v : Visitor σ} {a b : Nat} {st : St σ} {nx : Next σ}
    (h : iter false root vk v (a + b) st = .ok nx) :
    (∃ T', iter false root vk v a st = .ok (.cont T')) ∨ iter false root vk v a st = .ok nx := by
  rw [iter_add] at h
  rcases hi : iter false root vk v a st with ⟨T' | _⟩ | _ | _
  · exact Or.inl ⟨T', rfl⟩
  all_goals rw [hi] at h; first | exact Or.inr h | cases h

theorem iter_stop_le {root : Node} {vk : String → List String} {v : Visitor σ} {n fuel : Nat} {st : St σ}
    {r : Option Val} {s' : σ} (h : iter false root vk v n st = .ok (.stop r s')) (hn : n ≤ fuel) :
    iter false root vk v fuel st = .ok (.stop r s') := by
  obtain ⟨b, rfl⟩ := Nat.exists_eq_add_of_le hn
  rw [iter_add, h]

abbrev Rec (σ : Type) := W σ → Node → Key → Option Val → List Val → List Key → Option (Res σ Slot)

def slotOut (slot : Slot) (c : Node) (rest : List Node × Bool) : List Node × Bool :=
  match slot with
  | .keep => (c :: rest.1, rest.2)
  | .gone => (rest.1, true)
  | .put c' => (c' :: rest.1, true)

def Spec.Res.w {α : Type} : Res σ α → W σ
  | .brk w => w
  | .done w _ => w

/-- sequencing in the contract: a BREAK (or an exceeded depth bound) ends the traversal, otherwise
the traversal goes on from the state reached -/
def Res.bind {α β : Type} (r : Option (Res σ α)) (f : W σ → α → Option (Res σ β)) : Option (Res σ β) :=
  match r with
  | none => none
  | some (.brk w) => some (.brk w)
  | some (.done w a) => f w a

def slotEdit : Slot → Option Child
  | .keep => none
  | .gone => some .absent
  | .put c' => some (.one c')

/-- the contract for the attribute `k` of `m`: its new value, if it changes -/
def specAttr (rec : Rec σ) (m : Node) (ancestors : List Val) (path : List Key) (w : W σ) (k : String) :
    Option (Res σ (Option Child)) :=
  match m.attr k with
  | .absent => some (.done { w with iters := w.iters + 1 } none)
  | .one c => Res.bind (rec w c (.name k) (some (.node m)) ancestors (path ++ [.name k])) fun w slot =>
      some (.done w (slotEdit slot))
  | .many cs =>
    Res.bind (specItems rec (some (.arr cs)) (ancestors ++ [.node m]) (path ++ [.name k])
        { w with iters := w.iters + 1 } cs 0) fun w out =>
      some (.done { w with iters := w.iters + 1 } (if out.2 then some (.many out.1) else none))

def consEdit (k : String) : Option Child → List (String × Child) → List (String × Child)
  | some c, es => (k, c) :: es
  | none, es => es

theorem specItems_cons (rec : Rec σ) (parent : Option Val) (ancestors : List Val) (path : List Key) (w : W σ)
    (c : Node) (cs : List Node) (i : Nat) :
    specItems rec parent ancestors path w (c :: cs) i =
      Res.bind (rec w c (.idx i) parent ancestors (path ++ [.idx i])) fun w slot =>
        Res.bind (specItems rec parent ancestors path w cs (i + 1)) fun w rest =>
          some (.done w (slotOut slot c rest)) := by
  rw [specItems]
  generalize rec w c (.idx i) parent ancestors (path ++ [.idx i]) = r
  rcases r with _ | ⟨w1 | ⟨w1, slot⟩⟩
  · rfl
  · rfl
  · simp only [Res.bind]
    generalize specItems rec parent ancestors path w1 cs (i + 1) = r2
    rcases r2 with _ | ⟨w2 | ⟨w2, cs', ch⟩⟩
    · rfl
    · rfl
    · cases slot <;> rfl

theorem specKeys_cons (rec : Rec σ) (m : Node) (ancestors : List Val) (path : List Key) (w : W σ)
    (k : String) (ks : List String) :
    specKeys rec m ancestors path w (k :: ks) =
      Res.bind (specAttr rec m ancestors path w k) fun w e =>
        Res.bind (specKeys rec m ancestors path w ks) fun w es => some (.done w (consEdit k e es)) := by
  have tail : ∀ (w : W σ) (e : Option Child),
      (match specKeys rec m ancestors path w ks with
        | none => none
        | some (.brk w) => some (.brk w)
        | some (.done w es) => some (.done w (match e with | some c => (k, c) :: es | none => es))) =
      Res.bind (specKeys rec m ancestors path w ks) fun w es => some (.done w (consEdit k e es)) := by
    intro w e
    generalize specKeys rec m ancestors path w ks = r2
    rcases r2 with _ | ⟨w2 | ⟨w2, es⟩⟩
    · rfl
    · rfl
    · cases e <;> rfl
  rw [specKeys, specAttr]
  cases m.attr k with
  | absent => exact tail { w with iters := w.iters + 1 } none
  | one c =>
    dsimp only
    generalize rec w c (.name k) (some (.node m)) ancestors (path ++ [.name k]) = r
    rcases r with _ | ⟨w1 | ⟨w1, slot⟩⟩
    · rfl
    · rfl
    · cases slot with
      | keep => exact tail w1 none
      | gone => exact tail w1 (some .absent)
      | put c' => exact tail w1 (some (.one c'))
  | many cs =>
    dsimp only
    generalize specItems rec (some (.arr cs)) (ancestors ++ [.node m]) (path ++ [.name k])
        { w with iters := w.iters + 1 } cs 0 = r
    rcases r with _ | ⟨w1 | ⟨w1, cs', ch⟩⟩
    · rfl
    · rfl
    · exact tail { w1 with iters := w1.iters + 1 } (if ch then some (.many cs') else none)

def specLeave (v : Visitor σ) (key : Key) (parent : Option Val) (ancestors : List Val) (path : List Key)
    (w : W σ) (m : Node) (es : List (String × Child)) (replaced : Bool) : Option (Res σ Slot) :=
  let m' := if es.isEmpty then m else Node.mk m.kind 0 m.payload (withFields m.fields es)
  let (a, s) := v w.s ⟨.leave, m', key, parent, path, ancestors⟩
  let w := { w with s := s, iters := w.iters + 1 }
  match a with
  | .brk => some (.brk w)
  | .remove => some (.done { w with edited := true } .gone)
  | .replace r => some (.done { w with edited := true } (.put r))
  | .idle | .skip => some (.done w (if !es.isEmpty then .put m' else if replaced then .put m else .keep))

theorem specBody_eq (vk : String → List String) (v : Visitor σ) (rec : Rec σ) (key : Key) (parent : Option Val)
    (ancestors : List Val) (path : List Key) (w : W σ) (m : Node) (replaced : Bool) :
    specBody vk v rec key parent ancestors path w m replaced =
      Res.bind (specKeys rec m (ancestors ++ parent.toList) path w (vk m.kind)) fun w es =>
        specLeave v key parent ancestors path w m es replaced := by
  rw [specBody]
  generalize specKeys rec m (ancestors ++ parent.toList) path w (vk m.kind) = r
  rcases r with _ | ⟨w1 | ⟨w1, es⟩⟩ <;> rfl

def resultOf (root : Node) : Res σ Slot → Option (Option Val)
  | .brk w => if w.edited then none else some (some (.node root))
  | .done _ .keep => some (some (.node root))
  | .done _ .gone => some none
  | .done _ (.put x) => some (some (.node x))

theorem resultOf_node {root : Node} {res : Res σ Slot} {x : Option Val} (hx : resultOf root res = some x) :
    x = none ∨ ∃ n, x = some (.node n) := by
  rcases res with w | ⟨w, _ | _ | y⟩
  · simp only [resultOf] at hx
    split at hx
    · cases hx
    · cases hx; exact Or.inr ⟨root, rfl⟩
  · cases hx; exact Or.inr ⟨root, rfl⟩
  · cases hx; exact Or.inl rfl
  · cases hx; exact Or.inr ⟨y, rfl⟩

theorem specVisit_out {vk : String → List String} {v : Visitor σ} {d : Nat} {root : Node} {s : σ}
    {out : Outcome σ} (h : specVisit vk v d root s = some out) :
    ∃ res, specNode vk v d ⟨s, 0, false⟩ root .none none [] [] = some res ∧
      out = ⟨res.w.s, res.w.iters, resultOf root res⟩ := by
  unfold specVisit at h
  generalize specNode vk v d ⟨s, 0, false⟩ root .none none [] [] = r at h
  rcases r with _ | ⟨w | ⟨w, _ | _ | x⟩⟩ <;> cases h <;> exact ⟨_, rfl, rfl⟩

/-- where a fetched state stands: at the root, or below a (truthy) parent with its key on the path -/
def Pos (st1 : St σ) : Prop :=
  (st1.stack = [] ∧ st1.parent = none ∧ st1.rpath = [] ∧ st1.ranc = [] ∧ st1.key = .none) ∨
  (st1.stack ≠ [] ∧ truthy st1.parent = true ∧ ∃ r, st1.rpath = st1.key :: r)

/-- `ancestors` once the level of a node or tuple fetched at `S` has been pushed -/
def pushAnc (S : St σ) : List Val :=
  if truthy S.parent then (match S.parent with | some p => p :: S.ranc | none => S.ranc) else S.ranc

theorem Pos.pushAnc {S : St σ} (h : Pos S) :
    (pushAnc S).reverse = S.ranc.reverse ++ S.parent.toList ∧ lastKey (pushAnc S) S.rpath = .ok S.key ∧
      popAnc (pushAnc S) = (S.parent, S.ranc) := by
  unfold Gql.Syntax.pushAnc
  rcases h with ⟨-, h2, h3, h4, h5⟩ | ⟨-, h2, r, h3⟩
  · rw [h2, h3, h4, h5]; exact ⟨rfl, rfl, rfl⟩
  · cases hp : S.parent with
    | none => rw [hp] at h2; cases h2
    | some p => rw [hp] at h2; rw [h2, h3]; exact ⟨by simp, rfl, rfl⟩

theorem step_of_fetch_got (root : Node) (vk : String → List String) (v : Visitor σ) (st st1 : St σ) (l e : Bool)
    (h : fetch st = .ok (.got st1 l e)) :
    step false root vk v st = process false root vk v st1 l e := by
  simp only [step, h]

theorem iter_one_of_fetch (root : Node) (vk : String → List String) (v : Visitor σ) {st st1 : St σ} {l e : Bool}
    (h : fetch st = .ok (.got st1 l e)) :
    iter false root vk v 1 st = process false root vk v st1 l e := by
  simp only [iter, step_of_fetch_got root vk v st st1 l e h]
  cases process false root vk v st1 l e with
  | ok nx => cases nx <;> rfl
  | err e => rfl
  | crash c => rfl

theorem fetch_root {st : St σ} (hpar : st.parent = none) (hidx : st.idx ≠ st.keys.length) :
    fetch st = .ok (.got st false false) := by
  have h1 : (st.idx == st.keys.length) = false := by simpa using hidx
  simp [fetch, h1, hpar, truthy]

theorem fetch_item {st : St σ} {cs : List Node} {c : Node} (hin : st.inArray = true) (hkeys : st.keys = .items cs)
    (hpar : st.parent = some (.arr cs)) (hget : cs[st.idx]? = some c) :
    fetch st = .ok (.got { st with key := .idx st.idx, node := some (.node c), rpath := .idx st.idx :: st.rpath }
      false false) := by
  have hlt : st.idx < cs.length := (List.getElem?_eq_some_iff.mp hget).1
  have h1 : (st.idx == st.keys.length) = false := by simp [hkeys, Keys.length]; omega
  have h2 : truthy (some (Val.arr cs)) = true := by
    cases cs with
    | nil => simp at hlt
    | cons a b => rfl
  simp [fetch, h1, h2, hin, hpar, hget]

theorem fetch_attr {st : St σ} {m : Node} {ks : List String} {k : String} (hin : st.inArray = false)
    (hkeys : st.keys = .names ks) (hpar : st.parent = some (.node m)) (hget : ks[st.idx]? = some k) :
    fetch st = .ok (match m.attr k with
      | .absent => .cont { st with key := .name k, node := none, idx := st.idx + 1 }
      | .one c => .got { st with key := .name k, node := some (.node c), rpath := .name k :: st.rpath } false false
      | .many cs => .got { st with key := .name k, node := some (.arr cs), rpath := .name k :: st.rpath }
          false false) := by
  have hlt : st.idx < ks.length := (List.getElem?_eq_some_iff.mp hget).1
  have h1 : (st.idx == (Keys.names ks).length) = false := by simp [Keys.length]; omega
  cases hattr : m.attr k <;> simp [fetch, hkeys, h1, hpar, truthy, hin, hget, hattr]

theorem fetch_leave {st : St σ} {fr : Frame} {rest : List Frame} {key : Key} {nd : Option Val}
    (hidx : st.idx = st.keys.length) (hstack : st.stack = fr :: rest) (hkey : lastKey st.ranc st.rpath = .ok key)
    (hnd : (if st.edits.isEmpty then .ok st.parent else applyEdits st.inArray st.parent st.edits) = .ok nd) :
    fetch st = .ok (.got { st with idx := fr.idx, keys := fr.keys, edits := fr.edits, inArray := fr.inArray,
                                   stack := rest, node := nd, key := key, parent := (popAnc st.ranc).1,
                                   ranc := (popAnc st.ranc).2 } true (!st.edits.isEmpty)) := by
  have h1 : (st.idx == st.keys.length) = true := by simp [hidx]
  simp only [fetch, h1, reduceIte, Bool.true_and, hkey, hstack, Out.bind_ok]
  cases he : st.edits.isEmpty <;> rw [he] at hnd
  · rw [if_neg Bool.false_ne_true] at hnd
    simp only [Bool.not_false, reduceIte, hnd, Out.bind_ok]
  · rw [if_pos rfl] at hnd
    cases hnd
    rfl

theorem finish_clean (root : Node) (st : St σ) (h : st.edits = []) :
    finish root st = .stop (some (.node root)) st.vs := by
  simp [finish, h]

/-- `edits[-1][1]` with a removed root as `None`, else `root` -/
def finishVal (root : Node) (es : Edits) : Option Val :=
  match es.getLast? with
  | some (_, .rm) => none
  | some (_, .val v) => some v
  | none => some (.node root)

theorem finish_eq (root : Node) (st : St σ) : finish root st = .stop (finishVal root st.edits) st.vs := by
  unfold finish finishVal
  split <;> simp_all

/-- where the machine goes when the position fetched in `S` has been dealt with and has left the
edits `es` at its level -/
def popTo (root : Node) (S : St σ) (es : Edits) (nd : Option Val) (s : σ) : Next σ :=
  if S.stack.isEmpty then .stop (finishVal root (S.edits ++ es)) s
  else .cont { S with edits := S.edits ++ es, node := nd, rpath := S.rpath.tail, idx := S.idx + 1, vs := s }

theorem popTo_cont {root : Node} {S : St σ} (h : S.stack ≠ []) (es : Edits) (nd : Option Val) (s : σ) :
    popTo root S es nd s =
      .cont { S with edits := S.edits ++ es, node := nd, rpath := S.rpath.tail, idx := S.idx + 1, vs := s } := by
  rw [popTo, List.isEmpty_eq_false_iff.mpr h]
  rfl

theorem tail_leave (root : Node) (vk : String → List String) (st : St σ) (e : Bool) (nd : Val) (na : Bool) :
    tail root vk st true e nd na =
      .ok (popTo root st (if na && e then [(st.key, .val nd)] else []) st.node st.vs) := by
  simp only [tail, reduceIte, popTo, finish_eq]
  split <;> split <;> simp only [List.append_nil]

/-- the edits a `leave` answer leaves at the level of the node it was asked about (`e`: that node
is a rebuilt one) -/
def leaveEdit (ky : Key) (m' : Node) (e : Bool) : Action → Edits
  | .remove => [(ky, .rm)]
  | .replace q => [(ky, .val (.node q))]
  | _ => if e then [(ky, .val (.node m'))] else []

theorem process_leave (root : Node) (vk : String → List String) (v : Visitor σ) (S : St σ) (m' : Node)
    (s2 s3 : σ) (e : Bool) (a : Action)
    (hcall : v s2 ⟨.leave, m', S.key, S.parent, S.rpath.reverse, S.ranc.reverse⟩ = (a, s3)) :
    process false root vk v { S with node := some (.node m'), vs := s2 } true e =
      .ok (match a with
        | .brk => .stop (finishVal root S.edits) s3
        | a => popTo root S (leaveEdit S.key m' e a) (some (.node m')) s3) := by
  cases a with
  | brk => simp only [process, reduceIte, hcall, finish_eq]
  | idle => simp only [process, reduceIte, hcall, tail_leave, Bool.true_and]; rfl
  | skip => simp only [process, reduceIte, hcall, tail_leave, Bool.true_and]; rfl
  | remove =>
    simp only [process, reduceIte, hcall, tail_leave, popTo, Bool.false_and, Bool.false_eq_true, List.append_nil,
      leaveEdit]
  | replace r =>
    simp only [process, reduceIte, hcall, tail_leave, popTo, Bool.false_and, Bool.false_eq_true, List.append_nil,
      leaveEdit]

/-- the state once the level of the node or tuple `nd` met at `S` has been pushed -/
def pushLevel (vk : String → List String) (S : St σ) (nd : Val) : St σ :=
  { S with stack := ⟨S.inArray, S.idx, S.keys, S.edits⟩ :: S.stack,
           inArray := (match nd with | .arr _ => true | .node _ => false),
           keys := (match nd with | .arr ns => Keys.items ns | .node n => Keys.names (vk n.kind)),
           idx := 0, edits := [], ranc := pushAnc S, parent := some nd, node := some nd }

theorem tail_enter (root : Node) (vk : String → List String) (S : St σ) (nd : Val) (na : Bool) :
    tail root vk S false false nd na = .ok (.cont (pushLevel vk S nd)) := by
  cases nd <;> simp only [tail, Bool.and_false, Bool.false_eq_true, reduceIte] <;> rfl

/-- the iteration that leaves the level of `nd` pushed at the position `S`, with the edits `es` collected:
`S` is back, holding `nd` — rebuilt, if there are edits -/
theorem fetch_pop {vk : String → List String} {S : St σ} (hpos : Pos S) (nd : Val) (es : Edits) (x : Option Val)
    (ky : Key) (s : σ) {nd' : Option Val}
    (hnd : (if es.isEmpty then .ok (some nd) else applyEdits (pushLevel vk S nd).inArray (some nd) es) = .ok nd') :
    fetch { pushLevel vk S nd with idx := (pushLevel vk S nd).keys.length, edits := es, node := x, key := ky, vs := s } =
      .ok (.got { S with node := nd', vs := s } true (!es.isEmpty)) := by
  obtain ⟨-, h3, h4⟩ := hpos.pushAnc
  rw [fetch_leave (key := S.key) rfl rfl h3 hnd]
  simp only [pushLevel, h4]

/-- what `enter` on the node `c` fetched in `st1` leads to, by the visitor's answer -/
theorem process_enter (root : Node) (vk : String → List String) (v : Visitor σ) {st1 : St σ} {c : Node}
    {a : Action} {s1 : σ} (hnode : st1.node = some (.node c))
    (hpos : Pos st1)
    (hcall : v st1.vs ⟨.enter, c, st1.key, st1.parent, st1.rpath.reverse, st1.ranc.reverse⟩ = (a, s1)) :
    process false root vk v st1 false false = .ok (match a with
      | .brk => .stop (finishVal root st1.edits) s1
      | .skip => popTo root st1 [] st1.node s1
      | .remove => popTo root st1 [(st1.key, .rm)] st1.node s1
      | .idle => .cont (pushLevel vk { st1 with vs := s1 } (.node c))
      | .replace r => .cont (pushLevel vk
          { st1 with vs := s1, edits := st1.edits ++ [(st1.key, .val (.node r))], node := some (.node r) }
          (.node r))) := by
  cases a with
  | brk => simp only [process, hnode, Bool.false_eq_true, reduceIte, hcall, finish_eq]
  | skip =>
    simp only [process, hnode, Bool.false_eq_true, reduceIte, hcall]
    rcases hpos with ⟨h1, -⟩ | ⟨h1, -, r, h3⟩
    · simp only [Bool.not_false, h1, List.isEmpty_nil, Bool.and_self, reduceIte, finish_eq, popTo, List.append_nil]
    · simp only [Bool.not_false, List.isEmpty_eq_false_iff.mpr h1, Bool.and_false, Bool.false_eq_true, reduceIte, h3,
        popTo, List.append_nil, List.tail_cons]
  | remove =>
    simp only [process, hnode, Bool.false_eq_true, reduceIte, hcall]
    rcases hpos with ⟨h1, -⟩ | ⟨h1, -, r, h3⟩
    · simp only [Bool.not_false, h1, List.isEmpty_nil, Bool.and_self, reduceIte, finish_eq, popTo]
    · simp only [Bool.not_false, List.isEmpty_eq_false_iff.mpr h1, Bool.and_false, Bool.false_eq_true, reduceIte, h3,
        popTo, List.tail_cons]
  | idle => simp only [process, hnode, Bool.false_eq_true, reduceIte, hcall, tail_enter]
  | replace r => simp only [process, hnode, Bool.false_eq_true, reduceIte, hcall, tail_enter]

end Gql.Syntax
