import Gql.Proofs.StreamBridge
import Gql.Proofs.ValueDefs
/-!
`Parses n p ks a ok`: if `ks` has fewer than `n` tokens then, on every token list whose kinds and values
are `ks`, followed by a stream whose first token satisfies `ok`, the parser `p` consumes exactly these
tokens and returns `a`.  `n` is the fuel of the parser model: every method hands it on unchanged to the
methods it calls, and only `parse_value_literal`, `parse_type_reference` and `parse_selection_set`
count it down, each after reading a token (`Parses.tokS`, `Parses.optTokS_yes`); so the bound on the tokens is kept by the
rules and no lemma about a method mentions it.  The relation is closed under sequencing and under the
loop combinators of the parser model, so the lemma for a parser method follows the text of the method:
one step per statement, and one side condition (what the next token must not be) per optional part.
`<SOF>` is a token like any other (`Parses.tok`); the end of an entry point is `Parses.eof` /
`Parses.optEof`.
-/
namespace Gql.Syntax
open Gql Gql.Text

/-- Kind and value of the token the parser sees when it advances into the stream. -/
def headKV : Stream → KV
  | .cons t _ => t.kv
  | _ => (.eof, none)

theorem headKind_eq (r : Stream) : headKind r = (headKV r).1 := by cases r <;> rfl

theorem headKV_feed (toks : List Token) (r : Stream) :
    headKV (feed toks r) = (toks.map Token.kv).headD (headKV r) := by cases toks <;> rfl

theorem cur_kv (cnt : Nat) (toks : List Token) {r : Stream} (hr : r.Ready) :
    (PSat cnt (feed toks r)).cur.kv = (toks.map Token.kv).headD (headKV r) := by
  cases toks with
  | cons t ts => rfl
  | nil =>
    cases r with
    | cons t r => rfl
    | eof a l c => rfl
    | lexErr e => exact absurd hr (by simp [Stream.Ready])
    | crash x => exact absurd hr (by simp [Stream.Ready])

theorem peek_eq (k : TokKind) (s : PS) : peek k s = .ok (s.cur.kind == k, s) := rfl

theorem headD_append {γ : Type} (a b : List γ) (d : γ) : (a ++ b).headD d = a.headD (b.headD d) := by
  cases a <;> rfl

/-- An optional part starts with its opening token `k` or, when it is absent, with what follows it: neither is
of kind `t`. -/
theorem ite_kind_ne {c : Prop} [Decidable c] {d k : KV} {t : TokKind} (hd : d.1 ≠ t) (hk : k.1 ≠ t := by decide) :
    (if c then d else k).1 ≠ t := by
  split <;> assumption

/-- The token is of one of the kinds `l`: the form of a method's follow condition ("the next selection or `}`"). -/
def NextIn (l : List TokKind) (k : KV) : Prop := k.1 ∈ l

instance (l : List TokKind) (k : KV) : Decidable (NextIn l k) := inferInstanceAs (Decidable (k.1 ∈ l))

theorem NextIn.ne {l : List TokKind} {k : KV} (h : NextIn l k) (t : TokKind) (ht : t ∉ l := by decide) : k.1 ≠ t :=
  fun e => ht (e ▸ h)

/-- A ready stream whose next token is `<EOF>` is at its end. -/
theorem Stream.Ready.eof {r : Stream} (hr : r.Ready) (hd : headKV r = (.eof, none)) : ∃ a l c, r = .eof a l c := by
  cases r with
  | cons t r' => exact absurd (congrArg Prod.fst hd) hr
  | eof a l c => exact ⟨a, l, c, rfl⟩
  | lexErr e => exact absurd hr (by simp [Stream.Ready])
  | crash x => exact absurd hr (by simp [Stream.Ready])

def Parses {α : Type} (n : Nat) (p : P α) (ks : List KV) (a : α) (ok : KV → Prop) : Prop :=
  ks.length < n → ∀ (toks : List Token) (r : Stream) (cnt : Nat), toks.map Token.kv = ks → NonEof toks → r.Ready →
    ok (headKV r) → ∃ c', p (PSat cnt (feed toks r)) = .ok (a, PSat c' r)

abbrev anyKV : KV → Prop := fun _ => True

namespace Parses
variable {α β : Type} {n : Nat} {p : P α} {f : α → P β} {ks ka kb : List KV} {a : α} {b : β} {ok ok' : KV → Prop}

/-- A proof may use that the tokens are within the fuel. -/
theorem of_lt (h : ks.length < n → Parses n p ks a ok) : Parses n p ks a ok := fun hn => h hn hn

theorem le {m : Nat} (h : Parses m p ks a ok) (hle : n ≤ m) : Parses n p ks a ok :=
  fun hn => h (Nat.lt_of_lt_of_le hn hle)

theorem pure (a : α) (ok : KV → Prop) : Parses n (pure a) [] a ok := by
  intro _ toks r cnt hkv _ _ _
  rw [List.map_eq_nil_iff] at hkv
  subst hkv
  exact ⟨cnt, rfl⟩

theorem mono (h : Parses n p ks a ok) (hok : ∀ d, ok' d → ok d) : Parses n p ks a ok' :=
  fun hn toks r cnt hkv hne hr hd => h hn toks r cnt hkv hne hr (hok _ hd)

/-- The result, rewritten. The equation comes first so that `h` is elaborated against the parser of the goal. -/
theorem result {a' : α} (e : a = a') (h : Parses n p ks a ok) : Parses n p ks a' ok := e ▸ h

/-- Sequencing: `p` must accept as next token the first token of what `f a` reads.  Each part may come
with a fuel of its own that covers its tokens. -/
theorem bind' {n₁ n₂ : Nat} (hp : Parses n₁ p ka a ok') (hf : Parses n₂ (f a) kb b ok)
    (h : ∀ d, ok d → ok' (kb.headD d)) (hlt : ka.length + kb.length < n → ka.length < n₁ ∧ kb.length < n₂) :
    Parses n (p >>= f) (ka ++ kb) b ok := by
  intro hn toks r cnt hkv hne hr hd
  rw [List.length_append] at hn
  rw [List.map_eq_append_iff] at hkv
  obtain ⟨ta, tb, rfl, hka, hkb⟩ := hkv
  obtain ⟨c1, h1⟩ := hp (hlt hn).1 ta (feed tb r) cnt hka hne.append_left (feed_ready _ _ hne.append_right hr)
    (by rw [headKV_feed, hkb]; exact h _ hd)
  obtain ⟨c2, h2⟩ := hf (hlt hn).2 tb r c1 hkb hne.append_right hr hd
  exact ⟨c2, by rw [feed_append, bind_eq, h1]; exact h2⟩

theorem bind (hp : Parses n p ka a ok') (hf : Parses n (f a) kb b ok) (h : ∀ d, ok d → ok' (kb.headD d)) :
    Parses n (p >>= f) (ka ++ kb) b ok :=
  bind' hp hf h fun _ => ⟨by omega, by omega⟩

theorem bind_nil (hp : Parses n p ks a ok') (hf : Parses n (f a) [] b ok) (h : ∀ d, ok d → ok' d) :
    Parses n (p >>= f) ks b ok := by
  have := bind hp hf h
  rwa [List.append_nil] at this

theorem bind1 {k : KV} (hp : Parses n p [k] a anyKV) (hf : Parses n (f a) ks b ok) : Parses n (p >>= f) (k :: ks) b ok :=
  bind hp hf fun _ _ => trivial

theorem pure_bind (h : Parses n (f a) ks b ok) : Parses n (Pure.pure a >>= f) ks b ok :=
  bind (ka := []) (pure a anyKV) h fun _ _ => trivial

theorem map (hp : Parses n p ks a ok) (g : α → β) : Parses n (p >>= fun x => Pure.pure (g x)) ks (g a) ok :=
  bind_nil hp (pure _ _) fun _ h => h

/-- `self._lexer.token`: what follows may use the current token — the first of the tokens to read or,
when there is none, the token after them. -/
theorem cur {g : Token → P β} (h : ∀ t : Token, (∃ d, ok d ∧ t.kv = ks.headD d) → Parses n (g t) ks b ok) :
    Parses n (P.cur >>= g) ks b ok := fun hn toks r cnt hkv hne hr hd =>
  h _ ⟨_, hd, by rw [cur_kv cnt toks hr, hkv]⟩ hn toks r cnt hkv hne hr hd

/-- A step that reads one token: on a current token with kind and value `k`, before any ready stream,
`p` returns `a t` and advances past the token; what follows may use the token, and has one token less
to read. -/
theorem oneS {p : P α} {g : α → P β} {k : KV} (a : Token → α)
    (hp : ∀ (t : Token) (r : Stream) (c : Nat), t.kv = k → r.Ready →
      ∃ c', p { cur := t, rest := r, count := c } = .ok (a t, PSat c' r))
    (h : ∀ t : Token, t.kv = k → Parses n (g (a t)) ks b ok) : Parses (n + 1) (p >>= g) (k :: ks) b ok := by
  intro hn toks r cnt hkv hne hr hd
  rw [List.map_eq_cons_iff] at hkv
  obtain ⟨t, ts, rfl, hkt, hks⟩ := hkv
  obtain ⟨c1, h1⟩ := hp t (feed ts r) cnt hkt (feed_ready _ _ hne.tail hr)
  obtain ⟨c2, h2⟩ := h t hkt (Nat.lt_of_succ_lt_succ hn) ts r c1 hks hne.tail hr hd
  exact ⟨c2, by simp only [feed, PSat_cons, bind_eq, h1]; exact h2⟩

theorem one {p : P α} {g : α → P β} {k : KV} (a : Token → α)
    (hp : ∀ (t : Token) (r : Stream) (c : Nat), t.kv = k → r.Ready →
      ∃ c', p { cur := t, rest := r, count := c } = .ok (a t, PSat c' r))
    (h : ∀ t : Token, t.kv = k → Parses n (g (a t)) ks b ok) : Parses n (p >>= g) (k :: ks) b ok :=
  (oneS a hp h).le (Nat.le_succ n)

/-- `expect_token(EOF)` at the end of the tokens: the stream is at its end and stays there. -/
theorem eof {g : Token → P β} (cfg : Cfg) (h : ∀ t, Parses n (g t) [] b anyKV) :
    Parses n (expectToken cfg .eof >>= g) [] b (· = (.eof, none)) := by
  intro hn toks r cnt hkv _ hr hd
  rw [List.map_eq_nil_iff] at hkv
  subst hkv
  obtain ⟨a, l, c, rfl⟩ := hr.eof hd
  obtain ⟨c', h'⟩ := h (eofToken a l c) hn [] (.eof a l c) cnt rfl (fun _ h => nomatch h) trivial trivial
  exact ⟨c', by simpa [feed, PSat, expectToken, bind_eq, P.cur, eofToken, advanceLexer, pure_eq'] using h'⟩

/-- `expect_optional_token(EOF)` at the end of the tokens answers `True` and stays. -/
theorem optEof {g : Bool → P β} (cfg : Cfg) (h : Parses n (g true) [] b anyKV) :
    Parses n (expectOptionalToken cfg .eof >>= g) [] b (· = (.eof, none)) := by
  intro hn toks r cnt hkv _ hr hd
  rw [List.map_eq_nil_iff] at hkv
  subst hkv
  obtain ⟨a, l, c, rfl⟩ := hr.eof hd
  obtain ⟨c', h'⟩ := h hn [] (.eof a l c) cnt rfl (fun _ h => nomatch h) trivial trivial
  exact ⟨c', by simpa [feed, PSat, expectOptionalToken, bind_eq, P.cur, eofToken, advanceLexer, pure_eq'] using h'⟩

section
variable (cfg : Cfg) (hm : cfg.maxTokens = none)
include hm

/-- `expect_token(k)` reads a token of kind `k`; what follows may use the token.  `tokS`: where a recursive method
counts its fuel down. -/
theorem tokS {g : Token → P β} (k : TokKind) (v : Option (List Nat)) (hk : k ≠ .eof)
    (h : ∀ t : Token, t.kv = (k, v) → Parses n (g t) ks b ok) :
    Parses (n + 1) (expectToken cfg k >>= g) ((k, v) :: ks) b ok :=
  oneS id (fun t r c ht hr => expectToken_ok cfg hm k t r c (tok_of_kv ht).1 ((tok_of_kv ht).1 ▸ hk) hr) h

theorem tok {g : Token → P β} (k : TokKind) (v : Option (List Nat)) (hk : k ≠ .eof)
    (h : ∀ t : Token, t.kv = (k, v) → Parses n (g t) ks b ok) :
    Parses n (expectToken cfg k >>= g) ((k, v) :: ks) b ok :=
  (tokS cfg hm k v hk h).le (Nat.le_succ n)

/-- `expect_optional_token(k)` finds its token, where a recursive method counts its fuel down. -/
theorem optTokS_yes {g : Bool → P β} (k : TokKind) (v : Option (List Nat)) (hk : k ≠ .eof)
    (h : Parses n (g true) ks b ok) : Parses (n + 1) (expectOptionalToken cfg k >>= g) ((k, v) :: ks) b ok :=
  oneS (fun _ => true) (fun t r c ht hr =>
    expectOptionalToken_yes cfg hm k t r c (tok_of_kv ht).1 ((tok_of_kv ht).1 ▸ hk) hr) fun _ _ => h

theorem name_only (nm : List Nat) (ok : KV → Prop) : Parses n (parseName cfg) [(.name, some nm)] (Val.nameNode nm) ok := by
  rw [parseName]
  exact tok cfg hm .name (some nm) (by decide) fun t ht =>
    result (by simp [mkNode_name, tokVal, (tok_of_kv ht).2, Val.nameNode]) (pure _ ok)

theorem name {g : Ast → P β} (nm : List Nat) (h : Parses n (g (Val.nameNode nm)) ks b ok) :
    Parses n (parseName cfg >>= g) ((.name, some nm) :: ks) b ok :=
  bind1 (name_only cfg hm nm anyKV) h

theorem optTok_yes {g : Bool → P β} (k : TokKind) (v : Option (List Nat)) (hk : k ≠ .eof)
    (h : Parses n (g true) ks b ok) : Parses n (expectOptionalToken cfg k >>= g) ((k, v) :: ks) b ok :=
  (optTokS_yes cfg hm k v hk h).le (Nat.le_succ n)

omit hm in
theorem optTok_no {g : Bool → P β} (k : TokKind) (h : Parses n (g false) ks b ok)
    (hno : ∀ d, ok d → (ks.headD d).1 ≠ k) : Parses n (expectOptionalToken cfg k >>= g) ks b ok := by
  intro hn toks r cnt hkv hne hr hd
  obtain ⟨c2, h2⟩ := h hn toks r cnt hkv hne hr hd
  have hcur : (PSat cnt (feed toks r)).cur.kind ≠ k := by
    have : (PSat cnt (feed toks r)).cur.kind = _ := congrArg Prod.fst (cur_kv cnt toks hr)
    rw [this, hkv]
    exact hno _ hd
  exact ⟨c2, by rw [bind_eq, expectOptionalToken_no cfg k _ hcur]; exact h2⟩

omit hm in
/-- `peek(k)` answers `bb` when the next token, of this parser's own or the following one, says so. -/
theorem peek {g : Bool → P β} (k : TokKind) (bb : Bool) (hb : ∀ d, ok d → ((ks.headD d).1 == k) = bb)
    (h : Parses n (g bb) ks b ok) : Parses n (Syntax.peek k >>= g) ks b ok := by
  intro hn toks r cnt hkv hne hr hd
  obtain ⟨c2, h2⟩ := h hn toks r cnt hkv hne hr hd
  have hcur : ((PSat cnt (feed toks r)).cur.kind == k) = bb := by
    have : (PSat cnt (feed toks r)).cur.kind = _ := congrArg Prod.fst (cur_kv cnt toks hr)
    rw [this, hkv]
    exact hb _ hd
  exact ⟨c2, by rw [bind_eq]; simp only [Syntax.peek, hcur]; exact h2⟩

/-- `advance_lexer()` moves past the current token. -/
theorem adv {g : Unit → P β} (k : KV) (hk : k.1 ≠ .eof) (h : Parses n (g ()) ks b ok) :
    Parses n (advanceLexer cfg >>= g) (k :: ks) b ok :=
  one (fun _ => ()) (fun t r c ht hr => advance_PSat cfg hm t r c (by rw [← ht] at hk; exact hk) hr) fun _ _ => h

theorem kw {g : Unit → P β} (s : String) (h : Parses n (g ()) ks b ok) :
    Parses n (expectKeyword cfg s >>= g) ((.name, some (S s)) :: ks) b ok :=
  one (fun _ => ()) (fun t r c ht hr => by
    obtain ⟨hk, hv⟩ := tok_of_kv ht
    obtain ⟨c1, h1⟩ := advance_PSat cfg hm t r c (by rw [hk]; decide) hr
    exact ⟨c1, by simp only [expectKeyword, bind_eq, P.cur, hk, (valueIs_iff hv s).mpr rfl, and_self, ↓reduceIte, h1]⟩)
    fun _ _ => h

theorem optKw_yes {g : Bool → P β} (s : String) (h : Parses n (g true) ks b ok) :
    Parses n (expectOptionalKeyword cfg s >>= g) ((.name, some (S s)) :: ks) b ok :=
  one (fun _ => true) (fun t r c ht hr => by
    obtain ⟨hk, hv⟩ := tok_of_kv ht
    obtain ⟨c1, h1⟩ := advance_PSat cfg hm t r c (by rw [hk]; decide) hr
    exact ⟨c1, by simp only [expectOptionalKeyword, bind_eq, P.cur, hk, (valueIs_iff hv s).mpr rfl, and_self,
      ↓reduceIte, h1, pure_eq']⟩) fun _ _ => h

omit hm in
theorem optKw_no {g : Bool → P β} (s : String) (h : Parses n (g false) ks b ok)
    (hno : ∀ d, ok d → ks.headD d ≠ (.name, some (S s))) :
    Parses n (expectOptionalKeyword cfg s >>= g) ks b ok := by
  intro hn toks r cnt hkv hne hr hd
  obtain ⟨c2, h2⟩ := h hn toks r cnt hkv hne hr hd
  have hcur := cur_kv cnt toks hr
  rw [hkv] at hcur
  have : ¬ ((PSat cnt (feed toks r)).cur.kind = .name ∧ valueIs (PSat cnt (feed toks r)).cur s = true) := by
    rintro ⟨hk, hv⟩
    apply hno _ hd
    rw [← hcur]
    simp only [valueIs, beq_iff_eq] at hv
    simp [Token.kv, hk, hv, S, strCps]
  refine ⟨c2, ?_⟩
  simp only [bind_eq, expectOptionalKeyword, P.cur, this, ↓reduceIte, pure_eq']
  exact h2

/-- `expect_optional_keyword(s)` in front of an optional keyword: it answers whether the keyword is there. -/
theorem optKw {g : Bool → P β} (s : String) (bb : Bool) (h : Parses n (g bb) ks b ok)
    (hno : bb = false → ∀ d, ok d → ks.headD d ≠ (.name, some (S s))) :
    Parses n (expectOptionalKeyword cfg s >>= g) ((if bb then [(.name, some (S s))] else []) ++ ks) b ok := by
  cases bb with
  | false => exact optKw_no cfg s h (hno rfl)
  | true => exact optKw_yes cfg hm s h

end

end Parses

theorem length_le_flatMap {β γ : Type} (f : β → List γ) (xs : List β) (h : ∀ x ∈ xs, f x ≠ []) :
    xs.length ≤ (xs.flatMap f).length := by
  induction xs with
  | nil => simp
  | cons y r ih =>
    have := ih fun x hx => h x (by simp [hx])
    have : 0 < (f y).length := List.length_pos_iff.mpr (h y (by simp))
    simp only [List.flatMap_cons, List.length_append, List.length_cons]; omega

section
variable (cfg : Cfg) (hm : cfg.maxTokens = none)
include hm

/-- The items of a bracketed list: each item `x` is read by `item` whenever a further item or the closing
token follows (`nx`), and starts with a token that is not the closing one. -/
structure Items {β : Type} (item : P Ast) (close : KV) (nx : KV → Prop) (ast : β → Ast) (kvs : β → List KV)
    (n : Nat) (xs : List β) : Prop where
  closeOk : nx close
  parses : ∀ x ∈ xs, Parses n item (kvs x) (ast x) nx
  head : ∀ x ∈ xs, ∃ k ks, kvs x = k :: ks ∧ nx k ∧ k.1 ≠ close.1

omit hm in
theorem Items.tail {β : Type} {item : P Ast} {close : KV} {nx : KV → Prop} {ast : β → Ast} {kvs : β → List KV}
    {n : Nat} {x : β} {xs : List β} (h : Items item close nx ast kvs n (x :: xs)) :
    Items item close nx ast kvs n xs :=
  ⟨h.closeOk, fun y hy => h.parses y (by simp [hy]), fun y hy => h.head y (by simp [hy])⟩

omit hm in
theorem Items.next {β : Type} {item : P Ast} {close : KV} {nx : KV → Prop} {ast : β → Ast} {kvs : β → List KV}
    {n : Nat} {xs : List β} (h : Items item close nx ast kvs n xs) (d : KV) :
    nx ((xs.flatMap kvs ++ [close]).headD d) := by
  cases xs with
  | nil => simpa using h.closeOk
  | cons y rest =>
    obtain ⟨k, ks, hk, hn, _⟩ := h.head y (by simp)
    simpa [hk] using hn

omit hm in
/-- No item is empty, so there are at most as many items as tokens: the fuel serves as loop bound too. -/
theorem Items.length_lt {β : Type} {item : P Ast} {close : KV} {nx : KV → Prop} {ast : β → Ast} {kvs : β → List KV}
    {n : Nat} {xs : List β} (h : Items item close nx ast kvs n xs) (hn : (xs.flatMap kvs).length < n) :
    xs.length < n := by
  refine Nat.lt_of_le_of_lt (length_le_flatMap kvs xs fun x hx => ?_) hn
  obtain ⟨k, ks, hk, _⟩ := h.head x hx
  simp [hk]

/-- The `while not expect_optional_token(close)` loop over the items `xs`; the closing token is not counted
against the fuel of the items. -/
theorem Parses.untilClose {β : Type} {item : P Ast} {close : KV} {nx : KV → Prop} {ast : β → Ast}
    {kvs : β → List KV} {n : Nat} (hce : close.1 ≠ .eof) (xs : List β) (hx : Items item close nx ast kvs n xs)
    (ok : KV → Prop) : ∀ (m : Nat) (acc : List Ast), xs.length < m →
      Parses (n + 1) (untilClose cfg close.1 item m acc) (xs.flatMap kvs ++ [close]) (acc ++ xs.map ast) ok := by
  induction xs with
  | nil =>
    intro m acc hmm
    obtain ⟨m, rfl⟩ : ∃ m', m = m' + 1 := ⟨m - 1, by simp at hmm; omega⟩
    rw [Syntax.untilClose]
    simpa using Parses.optTok_yes cfg hm close.1 close.2 hce (Parses.pure acc ok)
  | cons x rest ih =>
    intro m acc hmm
    obtain ⟨m, rfl⟩ : ∃ m', m = m' + 1 := ⟨m - 1, by simp at hmm; omega⟩
    obtain ⟨k, ks, hk, _, hkc⟩ := hx.head x (by simp)
    have ih' := ih hx.tail m (acc ++ [ast x]) (by simp at hmm; omega)
    rw [Syntax.untilClose, List.flatMap_cons, List.append_assoc]
    refine Parses.optTok_no cfg close.1 ?_ (fun d _ => by simp [hk, hkc])
    simp only [Bool.false_eq_true, ↓reduceIte]
    have hb : Parses (n + 1) (item >>= fun y => Syntax.untilClose cfg close.1 item m (acc ++ [y]))
        (kvs x ++ (rest.flatMap kvs ++ [close])) (acc ++ [ast x] ++ rest.map ast) ok :=
      Parses.bind' (hx.parses x (by simp)) ih' (fun d _ => hx.tail.next d) fun h => by
        rw [List.length_append, List.length_singleton] at h ⊢; omega
    simpa using hb

/-- The loop with the fuel as its bound, as every method but the entry points runs it. -/
theorem Parses.untilCloseN {β : Type} {item : P Ast} {close : KV} {nx : KV → Prop} {ast : β → Ast}
    {kvs : β → List KV} {n : Nat} (hce : close.1 ≠ .eof) (xs : List β) (hx : Items item close nx ast kvs n xs)
    (ok : KV → Prop) (acc : List Ast) :
    Parses n (Syntax.untilClose cfg close.1 item n acc) (xs.flatMap kvs ++ [close]) (acc ++ xs.map ast) ok :=
  Parses.of_lt fun hn => (Parses.untilClose cfg hm hce xs hx ok n acc
    (hx.length_lt (by rw [List.length_append] at hn; omega))).le (Nat.le_succ n)

/-- `many(open, item, close)`. -/
theorem Parses.many {β : Type} {item : P Ast} {close : TokKind} {nx : KV → Prop} {ast : β → Ast}
    {kvs : β → List KV} {n : Nat} (o : TokKind) (ho : o ≠ .eof) (hce : close ≠ .eof) (xs : List β) (hne : xs ≠ [])
    (hx : Items item (close, none) nx ast kvs n xs) (ok : KV → Prop) :
    Parses (n + 1) (parseMany cfg n o item close) ((o, none) :: (xs.flatMap kvs ++ [(close, none)])) (xs.map ast)
      ok := by
  obtain ⟨x, rest, rfl⟩ := List.exists_cons_of_ne_nil hne
  rw [parseMany, List.flatMap_cons, List.append_assoc]
  exact Parses.tokS cfg hm o none ho fun _ _ => Parses.bind (hx.parses x (by simp))
    (Parses.untilCloseN cfg hm hce rest hx.tail ok [ast x]) (fun d _ => hx.tail.next d)

end

end Gql.Syntax
