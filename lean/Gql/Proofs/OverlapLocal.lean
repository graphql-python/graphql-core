import Gql.Proofs.OverlapArgs
import Gql.Proofs.OverlapStep
/-! Lemmas for C14: `do_types_conflict` is the specification's SameResponseShape on types, and
the local decision of `find_conflict` is the specification's local requirement on a pair — with the
return types the rule looked up (`parent_type.fields.get(name)`), which for the meta field
`__typename` are not the specification's (`String!` is never compared). -/
namespace Gql.Exec
open Overlap

theorem doTypesConflict_eq_shapeConflict (a b : Ty) :
    doTypesConflict a b = Spec.shapeConflict a b := by
  induction a generalizing b with
  | leaf n =>
    cases b with
    | leaf m =>
      simp only [doTypesConflict, Spec.shapeConflict, isLeaf, Bool.or_self, if_true]
      rw [Bool.eq_iff_iff]; simp [bne_iff_ne]
    | _ => simp [doTypesConflict, Spec.shapeConflict, isLeaf]
  | comp n => cases b <;> simp [doTypesConflict, Spec.shapeConflict, isLeaf]
  | list t ih => cases b <;> simp [doTypesConflict, Spec.shapeConflict, ih]
  | nonNull t ih => cases b <;> simp [doTypesConflict, Spec.shapeConflict, ih]

/-- the specification's view of a field-map entry -/
def Overlap.FieldEntry.inst (e : FieldEntry) : Spec.FieldInst := ⟨e.parent, e.node⟩

def FieldNode.argsOK (n : FieldNode) : Prop :=
  argsWF n.args = true ∧ ∀ x, n.stream = some x → argsWF x = true

theorem defsConflict_eq (a b : Option Ty) : defsConflict a b = Spec.typesConflict a b := by
  cases a <;> cases b <;> simp [defsConflict, Spec.typesConflict, doTypesConflict_eq_shapeConflict]

/-- the specification's local requirements on a pair *without* SameResponseShape on the return
types: identical `@stream`, and — under FieldsInSetCanMerge with overlapping parents — identical
names and arguments -/
def directNoTypes (s : Schema) (st : Spec.State) : Bool :=
  !Spec.streamsEquiv st.a.node.stream st.b.node.stream
  || (st.full && Spec.parentsOverlap s st.a st.b &&
      (st.a.node.name != st.b.node.name || !Spec.argsEquiv st.a.node.args st.b.node.args))

theorem direct_eq_types_or (s : Schema) (st : Spec.State) :
    Spec.direct s st =
      (Spec.typesConflict (Spec.typesOf s st).1 (Spec.typesOf s st).2 || directNoTypes s st) := by
  simp only [Spec.direct, directNoTypes, Bool.or_assoc]

theorem direct_of_defTy {s : Schema} {e1 e2 : FieldEntry} {full : Bool}
    (hd1 : e1.defTy = Spec.fieldType s e1.parent e1.node.name)
    (hd2 : e2.defTy = Spec.fieldType s e2.parent e2.node.name) :
    Spec.direct s ⟨e1.inst, e2.inst, full⟩ =
      (Spec.typesConflict e1.defTy e2.defTy || directNoTypes s ⟨e1.inst, e2.inst, full⟩) := by
  rw [direct_eq_types_or, hd1, hd2]; rfl

/-- the rule's "known to be mutually exclusive" is the negation of the specification's `deeper`
("checked under FieldsInSetCanMerge and the parents overlap") -/
theorem exclOf_eq (s : Schema) (excl : Bool) (e1 e2 : FieldEntry) :
    exclOf s excl e1 e2 = !Spec.deeper s ⟨e1.inst, e2.inst, !excl⟩ := by
  simp only [exclOf, Spec.deeper, Spec.parentsOverlap, FieldEntry.inst, bne]
  cases excl <;> cases (e1.parent == e2.parent) <;> cases s.isObject e1.parent <;>
    cases s.isObject e2.parent <;> rfl

/-- `findConflict_succ` in the specification's vocabulary, for arbitrary looked-up return types:
the rule's tests fire iff the return types conflict or the pair violates `directNoTypes`, and the
sub-selections are compared under "mutually exclusive" iff the specification would not merge
fully. -/
theorem findConflict_step (env : Env) (hle : LinOrd env.le) (n : Nat) (excl : Bool) (rn : String)
    (e1 e2 : FieldEntry) (σ : St) (h1 : e1.node.argsOK) (h2 : e2.node.argsOK) :
    ((Spec.typesConflict e1.defTy e2.defTy ||
        directNoTypes env.s ⟨e1.inst, e2.inst, !excl⟩) = true ∧
      ∃ c, findConflict env (n + 1) excl rn e1 e2 σ = some (σ, [c])) ∨
    ((Spec.typesConflict e1.defTy e2.defTy ||
        directNoTypes env.s ⟨e1.inst, e2.inst, !excl⟩) = false ∧
      findConflict env (n + 1) excl rn e1 e2 σ =
        subResult env n (!Spec.deeper env.s ⟨e1.inst, e2.inst, !excl⟩) rn e1 e2 σ) := by
  have hargs := sameArguments_eq_argsEquiv hle e1.node.args e2.node.args h1.1 h2.1
  have hstr := sameStreams_eq_streamsEquiv hle e1.node.stream e2.node.stream h1.2 h2.2
  have h := findConflict_succ env n excl rn e1 e2 σ
  rw [testsFire, hargs, hstr, defsConflict_eq, exclOf_eq, Bool.not_not] at h
  exact h

/-- the same for entries whose looked-up type is the specification's: the local requirement is
`Spec.direct`. -/
theorem findConflict_direct (env : Env) (hle : LinOrd env.le) (n : Nat) (excl : Bool)
    (rn : String) (e1 e2 : FieldEntry) (σ : St) (h1 : e1.node.argsOK) (h2 : e2.node.argsOK)
    (hd1 : e1.defTy = Spec.fieldType env.s e1.parent e1.node.name)
    (hd2 : e2.defTy = Spec.fieldType env.s e2.parent e2.node.name) :
    (Spec.direct env.s ⟨e1.inst, e2.inst, !excl⟩ = true ∧
      ∃ c, findConflict env (n + 1) excl rn e1 e2 σ = some (σ, [c])) ∨
    (Spec.direct env.s ⟨e1.inst, e2.inst, !excl⟩ = false ∧
      findConflict env (n + 1) excl rn e1 e2 σ =
        subResult env n (!Spec.deeper env.s ⟨e1.inst, e2.inst, !excl⟩) rn e1 e2 σ) := by
  rw [direct_of_defTy hd1 hd2]
  exact findConflict_step env hle n excl rn e1 e2 σ h1 h2

/-- `find_conflict` on a pair of which at most one field has a sub-selection, for *arbitrary*
looked-up definitions: no state change, and a conflict is reported iff the looked-up return types
conflict or the pair violates `directNoTypes`. -/
theorem findConflict_local_defs (env : Env) (hle : LinOrd env.le) (n : Nat) (parentExcl : Bool)
    (rn : String) (e1 e2 : FieldEntry) (σ : St)
    (h1 : e1.node.argsOK) (h2 : e2.node.argsOK)
    (hsub : (e1.node.hasSub && e2.node.hasSub) = false) :
    ∃ cs, findConflict env (n + 1) parentExcl rn e1 e2 σ = some (σ, cs) ∧
      (cs ≠ [] ↔ (Spec.typesConflict e1.defTy e2.defTy ||
        directNoTypes env.s ⟨e1.inst, e2.inst, !parentExcl⟩) = true) := by
  rcases findConflict_step env hle n parentExcl rn e1 e2 σ h1 h2 with ⟨hv, c, hc⟩ | ⟨hv, hF⟩
  · exact ⟨[c], hc, by simp [hv]⟩
  · exact ⟨[], by rw [hF, subResult, hsub]; rfl, by simp [hv]⟩

/-- the same when the looked-up types are the specification's: the report is `Spec.direct`, where
"checked under FieldsInSetCanMerge" (`full`) is "parents not known to be mutually exclusive". -/
theorem findConflict_local (env : Env) (hle : LinOrd env.le) (n : Nat) (parentExcl : Bool)
    (rn : String) (e1 e2 : FieldEntry) (σ : St)
    (h1 : e1.node.argsOK) (h2 : e2.node.argsOK)
    (hd1 : e1.defTy = Spec.fieldType env.s e1.parent e1.node.name)
    (hd2 : e2.defTy = Spec.fieldType env.s e2.parent e2.node.name)
    (hsub : (e1.node.hasSub && e2.node.hasSub) = false) :
    ∃ cs, findConflict env (n + 1) parentExcl rn e1 e2 σ = some (σ, cs) ∧
      (cs ≠ [] ↔ Spec.direct env.s ⟨e1.inst, e2.inst, !parentExcl⟩ = true) := by
  rw [direct_of_defTy hd1 hd2]
  exact findConflict_local_defs env hle n parentExcl rn e1 e2 σ h1 h2 hsub

/-- no type of the schema defines a field called `__typename` (GraphQL reserves names beginning
with two underscores; `assert_valid_schema` rejects such a schema) -/
def Schema.NoMetaField (s : Schema) : Prop :=
  ∀ t ∈ s, ∀ f ∈ t.fields, f.1 ≠ "__typename"

/-- what the rule's lookup `parent_type.fields.get("__typename")` returns -/
theorem fieldDef_meta_none {s : Schema} (hm : s.NoMetaField) (p : Option String) :
    s.fieldDef p "__typename" = none := by
  cases p with
  | none => rfl
  | some n =>
    simp only [Schema.fieldDef]
    cases hg : s.getType n with
    | none => rfl
    | some t =>
      simp only
      split
      · have ht : t ∈ s := List.mem_of_find?_eq_some hg
        have : t.fields.find? (fun x => x.1 == "__typename") = none := by
          apply List.find?_eq_none.2
          intro f hf
          simpa using hm t ht f hf
        rw [this]; rfl
      · rfl

/-- a pair with a `__typename` field, entries as the rule collects them: the report is exactly
`directNoTypes` — the return types play no role -/
theorem findConflict_local_meta (env : Env) (hle : LinOrd env.le) (n : Nat) (parentExcl : Bool)
    (rn : String) (e1 e2 : FieldEntry) (σ : St)
    (h1 : e1.node.argsOK) (h2 : e2.node.argsOK) (hm : env.s.NoMetaField)
    (hn : e1.node.name = "__typename" ∨ e2.node.name = "__typename")
    (hd1 : e1.defTy = env.s.fieldDef e1.parent e1.node.name)
    (hd2 : e2.defTy = env.s.fieldDef e2.parent e2.node.name)
    (hsub : (e1.node.hasSub && e2.node.hasSub) = false) :
    ∃ cs, findConflict env (n + 1) parentExcl rn e1 e2 σ = some (σ, cs) ∧
      (cs ≠ [] ↔ directNoTypes env.s ⟨e1.inst, e2.inst, !parentExcl⟩ = true) := by
  obtain ⟨cs, e, i⟩ := findConflict_local_defs env hle n parentExcl rn e1 e2 σ h1 h2 hsub
  refine ⟨cs, e, i.trans ?_⟩
  have htc : Spec.typesConflict e1.defTy e2.defTy = false := by
    rcases hn with hn | hn
    · rw [hd1, hn, fieldDef_meta_none hm]; rfl
    · rw [hd2, hn, fieldDef_meta_none hm]
      cases e1.defTy <;> rfl
  rw [htc, Bool.false_or]

end Gql.Exec
