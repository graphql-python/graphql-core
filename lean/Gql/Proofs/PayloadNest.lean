import Gql.Proofs.Gone
import Gql.Proofs.ProtoAccept
/-!
P5 at the payload level: the publisher's id table ties the pending entries of the payload
stream to the scheduler's roots, so the history invariant `GoneInv` becomes a statement about
labels and ids of the emitted payloads.
-/
namespace Gql.Async
open Gql.Spec.Protocol

/-- Groups are labelled by their own number, streams carry no label (the direct-run convention;
any injective labelling of the groups that streams do not share would do). -/
structure Labels (π : PubStatic) : Prop where
  g : ∀ g, π.glabel g = some g
  s : ∀ s, π.slabel s = none

/-- Groups are labelled by their own number; the label of a stream (if it has one) does not
occur in the nesting relation — it is neither a nested group nor the parent of one.  (In a
validated document the labels of `@defer` and `@stream` are pairwise distinct; the direct harness
labels stream `s` with `100 + s`.) -/
structure LabelsS (σ : Static) (π : PubStatic) : Prop where
  g : ∀ g, π.glabel g = some g
  s : ∀ s l, π.slabel s = some l → σ.parent l = none ∧ ∀ x, σ.parent x ≠ some l

theorem Labels.toS {π : PubStatic} (L : Labels π) (σ : Static) : LabelsS σ π :=
  ⟨L.g, fun s l h => by rw [L.s] at h; cases h⟩

/-- A label that occurs in the nesting relation is the label of the group of that number. -/
theorem LabelsS.node {σ : Static} {π : PubStatic} (L : LabelsS σ π) {n : Node} {g : Nat}
    (h : π.label n = some g) (hg : (∃ p, σ.parent g = some p) ∨ ∃ z, σ.parent z = some g) :
    n = .group g := by
  cases n with
  | group x => simp only [PubStatic.label, L.g] at h; cases h; rfl
  | stream s =>
    obtain ⟨h1, h2⟩ := L.s s g h
    rcases hg with ⟨p, hp⟩ | ⟨z, hz⟩
    · rw [h1] at hp; cases hp
    · exact absurd hz (h2 z)

theorem Anc.has_child {σ : Static} {a x : Nat} (h : Anc σ a x) : ∃ z, σ.parent z = some a := by
  induction h with
  | parent hp => exact ⟨_, hp⟩
  | step _ _ ih => exact ih

theorem publish_length (π : PubStatic) (bs : List (List WQEvent)) (p : Pub) :
    (publish π p bs).2.length = bs.length := by
  induction bs generalizing p with
  | nil => rfl
  | cons b bs ih => simp [publish, ih]

theorem publish_take (π : PubStatic) (bs : List (List WQEvent)) (p : Pub) (k : Nat) :
    (publish π p bs).2.take k = (publish π p (bs.take k)).2 := by
  induction bs generalizing p k with
  | nil => simp [publish]
  | cons b bs ih =>
    cases k with
    | zero => simp [publish]
    | succ k => simp [publish, ih]

theorem publish_pubInv (π : PubStatic) (bs : List (List WQEvent)) (p : Pub) (hp : PubInv p) :
    PubInv (publish π p bs).1 :=
  (publish_ids π bs (R := []) ⟨hp, nofun, List.nodup_nil⟩).1.inv

theorem goneInv_start (σ : Static) (work : Option Work) (hw : workOptOk σ {} {} none work = true) :
    GoneInv σ (nodesOf (init σ work).2.1 (init σ work).2.2)
      (({} : EnvSt).intro work) (startRoots σ (init σ work).1) [] := by
  have s0 := schedInv_start σ work hw
  refine ⟨s0, ?_⟩
  intro b hb
  have hroot : b ∈ (startRoots σ (init σ work).1).rootGroups := (tracks_start σ work (.group b)).mp (by simpa using hb)
  exact ⟨s0.sched.good.known.roots b hroot, s0.sched.anti b hroot⟩

/-- P5 at the payload level, at every payload boundary. -/
theorem payload_nesting_S (σ : Static) (π : PubStatic) (L : LabelsS σ π) (fuel : Nat) (work : Option Work)
    (h : List Tick) (hok : envOk σ fuel work h = true) (k : Nat)
    (hk : k < (payloads σ π fuel work h).length) :
    ∀ a ∈ pendEntries ((payloads σ π fuel work h).take (k + 1)),
    ∀ b ∈ pendEntries ((payloads σ π fuel work h).take (k + 1)),
    ∀ ga gb, a.label = some ga → b.label = some gb →
      a.id ∉ completedIds ((payloads σ π fuel work h).take (k + 1)) → ¬ Anc σ ga gb := by
  obtain ⟨hout, _⟩ := payloads_eq σ π fuel work h
  have hpre := ((goneInv_run σ (nodesOf (init σ work).2.1 (init σ work).2.2)).envOk
    fuel work h (goneInv_start σ work (envOk_work hok)) hok).2
  rw [hout] at hk ⊢
  simp only [List.length_cons, publish_length] at hk
  obtain ⟨e, q, inv, hgone⟩ := hpre k (by omega)
  simp only [List.take_succ_cons, publish_take]
  intro a ha b hb ga gb hla hlb hnc hanc
  -- `b` is the entry of the group `gb`, announced initially or by an event of the first `k` batches
  obtain ⟨nb, hnb, hlabb, _⟩ := initial_tied π _ _ _ b hb
  obtain ⟨pb, hpb, _⟩ := hanc.inv
  cases L.node (hlabb ▸ hlb) (Or.inl ⟨pb, hpb⟩)
  -- `a` is the entry of the group `ga`; not completed, it is still tracked, hence a root with a node
  obtain ⟨na, _, hlaba, hdom⟩ := initial_tied π _ _ _ a ha
  cases L.node (hlaba ▸ hla) (Or.inr hanc.has_child)
  exact (hgone gb hnb).2 ga hanc (inv.sched.nodes ga ((inv.tracks _).mp (hdom hnc)))

theorem payload_nesting (σ : Static) (π : PubStatic) (L : Labels π) (fuel : Nat) (work : Option Work)
    (h : List Tick) (hok : envOk σ fuel work h = true) (k : Nat)
    (hk : k < (payloads σ π fuel work h).length) :
    ∀ a ∈ annEntries ((payloads σ π fuel work h).take (k + 1)),
    ∀ b ∈ annEntries ((payloads σ π fuel work h).take (k + 1)),
    ∀ ga gb, a.label = some ga → b.label = some gb →
      a.id ∉ completedIds ((payloads σ π fuel work h).take (k + 1)) → ¬ Anc σ ga gb :=
  payload_nesting_S σ π (L.toS σ) fuel work h hok k hk

end Gql.Async
