import Gql.Async.Assemble
import Gql.Proofs.Util.Assoc
/-!
Lemmas about the format's merge (`Gql.Async.updateAt`, `mergeKeys`, `apply`):
frame properties and commutation of merges with disjoint targets.

`updateAt` is read one segment at a time through `childAt` / `setChild`, so that object keys and
list indices are treated alike.  `mergeInto_eq_ok` / `appendInto_eq_ok` say when the two node
updates succeed and with what.  A commutation is a `Commutes R` statement (`R` relates the two
results: `Eq` in this file), proved on the value at the common prefix of the two targets and lifted
to the whole value by `Commutes.under`.
-/
namespace Gql.Async

/-- The two paths diverge before either of them ends (neither is a prefix of the other). -/
def disjointPaths : Path → Path → Bool
  | a :: p, b :: q => if a = b then disjointPaths p q else true
  | _, _ => false

theorem path_cases : ∀ (p q : Path),
    disjointPaths p q = true ∨ p = q ∨ (∃ seg r, q = p ++ seg :: r) ∨ (∃ seg r, p = q ++ seg :: r)
  | [], [] => Or.inr (Or.inl rfl)
  | [], b :: q => Or.inr (Or.inr (Or.inl ⟨b, q, rfl⟩))
  | a :: p, [] => Or.inr (Or.inr (Or.inr ⟨a, p, rfl⟩))
  | a :: p, b :: q => by
    by_cases hab : a = b
    · subst hab
      rcases path_cases p q with h | h | ⟨seg, r, h⟩ | ⟨seg, r, h⟩
      · exact Or.inl (by simp [disjointPaths, h])
      · exact Or.inr (Or.inl (by rw [h]))
      · exact Or.inr (Or.inr (Or.inl ⟨seg, r, by simp [h]⟩))
      · exact Or.inr (Or.inr (Or.inr ⟨seg, r, by simp [h]⟩))
    · exact Or.inl (by simp [disjointPaths, hab])

theorem lookup_eq (k : List Nat) (kvs : List (List Nat × J)) : lookup k kvs = kvs.lookup k := by
  induction kvs with
  | nil => rfl
  | cons x r ih =>
    obtain ⟨k', v⟩ := x
    rw [lookup, List.lookup_cons_ite, ih]

theorem lookup_eq_none_iff {k : List Nat} {kvs : List (List Nat × J)} :
    lookup k kvs = none ↔ k ∉ kvs.map Prod.fst := by
  rw [lookup_eq]; exact List.lookup_eq_none_iff_not_mem

theorem lookup_append (k : List Nat) (a b : List (List Nat × J)) :
    lookup k (a ++ b) = (lookup k a).or (lookup k b) := by
  simp only [lookup_eq, List.lookup_append]

theorem keysNodup_iff {kvs : List (List Nat × J)} :
    keysNodup kvs = true ↔ (kvs.map Prod.fst).Nodup := by
  induction kvs with
  | nil => simp [keysNodup]
  | cons x rest ih => simp [keysNodup, hasKey, ih, lookup_eq_none_iff]

theorem lookup_setKey (k k2 : List Nat) (c : J) (kvs : List (List Nat × J)) :
    lookup k2 (setKey k c kvs) =
      if k = k2 ∧ (lookup k kvs).isSome then some c else lookup k2 kvs := by
  induction kvs with
  | nil => simp [setKey, lookup]
  | cons x rest ih =>
    obtain ⟨k', v⟩ := x
    by_cases hk : k' = k
    · subst hk
      by_cases hk2 : k' = k2 <;> simp [setKey, lookup, hk2]
    · by_cases hk2 : k' = k2
      · subst hk2
        simp [setKey, lookup, hk, Ne.symm hk]
      · simp [setKey, lookup, hk, hk2, ih]

theorem setKey_setKey_same (k : List Nat) (c1 c2 : J) (kvs : List (List Nat × J)) :
    setKey k c2 (setKey k c1 kvs) = setKey k c2 kvs := by
  induction kvs with
  | nil => rfl
  | cons x rest ih => by_cases hk : x.1 = k <;> simp [setKey, hk, ih]

theorem setKey_comm (k1 k2 : List Nat) (c1 c2 : J) (kvs : List (List Nat × J)) (hne : k1 ≠ k2) :
    setKey k2 c2 (setKey k1 c1 kvs) = setKey k1 c1 (setKey k2 c2 kvs) := by
  induction kvs with
  | nil => rfl
  | cons x rest ih =>
    by_cases hk1 : x.1 = k1 <;> by_cases hk2 : x.1 = k2 <;> simp_all [setKey]

theorem setKey_self {k : List Nat} {kvs : List (List Nat × J)} {c : J}
    (h : lookup k kvs = some c) : setKey k c kvs = kvs := by
  induction kvs with
  | nil => rfl
  | cons x rest ih =>
    obtain ⟨k', v⟩ := x
    by_cases hk : k' = k <;> simp_all [setKey, lookup]

theorem setKey_append_left {k : List Nat} {c old : J} (kvs add : List (List Nat × J))
    (h : lookup k kvs = some old) : setKey k c (kvs ++ add) = setKey k c kvs ++ add := by
  induction kvs with
  | nil => cases h
  | cons x rest ih => by_cases hk : x.1 = k <;> simp_all [setKey, lookup]

/-- child of a value along one segment -/
def childAt : Seg → J → Option J
  | .key k, .obj kvs => lookup k kvs
  | .idx i, .arr xs => xs[i]?
  | _, _ => none

/-- replace the child along one segment (no-op when absent) -/
def setChild : Seg → J → J → J
  | .key k, c, .obj kvs => .obj (setKey k c kvs)
  | .idx i, c, .arr xs => .arr (xs.set i c)
  | _, _, j => j

theorem updateAt_cons (f : J → Except Fail J) (seg : Seg) (p : Path) (j : J) :
    updateAt f (seg :: p) j =
      match childAt seg j with
      | none => .error .targetMissing
      | some c =>
        match updateAt f p c with
        | .ok c' => .ok (setChild seg c' j)
        | .error e => .error e := by
  cases seg <;> cases j <;> simp only [updateAt, childAt, setChild] <;> rfl

theorem getAt_cons (seg : Seg) (r : Path) (t : J) :
    Spec.getAt (seg :: r) t = (childAt seg t).bind (Spec.getAt r) := by
  cases seg <;> cases t <;> simp only [Spec.getAt, childAt, Option.bind_none]
  all_goals split <;> simp [*]

theorem updateAt_cons_child {g : J → Except Fail J} {seg : Seg} {r : Path} {j j' : J}
    (h : updateAt g (seg :: r) j = .ok j') :
    ∃ c c', childAt seg j = some c ∧ updateAt g r c = .ok c' ∧ j' = setChild seg c' j := by
  rw [updateAt_cons] at h
  split at h
  · cases h
  · split at h <;> cases h
    exact ⟨_, _, ‹_›, ‹_›, rfl⟩

theorem updateAt_cons_intro {g : J → Except Fail J} {seg : Seg} {r : Path} {j c c' : J}
    (hl : childAt seg j = some c) (hc : updateAt g r c = .ok c') :
    updateAt g (seg :: r) j = .ok (setChild seg c' j) := by
  simp [updateAt_cons, hl, hc]

theorem updateAt_ok_iff {h : J → Except Fail J} : ∀ {p : Path} {j : J},
    (∃ j', updateAt h p j = .ok j') ↔ ∃ t t', Spec.getAt p j = some t ∧ h t = .ok t'
  | [], j => by simp [updateAt, Spec.getAt]
  | seg :: p, j => by
    rw [getAt_cons, updateAt_cons]
    cases childAt seg j with
    | none => simp
    | some c =>
      rw [Option.bind_some, ← updateAt_ok_iff (p := p)]
      cases hu : updateAt h p c <;> simp [hu]

theorem getAt_append (p q : Path) (j : J) :
    Spec.getAt (p ++ q) j = (Spec.getAt p j).bind (Spec.getAt q) := by
  induction p generalizing j with
  | nil => rfl
  | cons seg p ih =>
    rw [List.cons_append, getAt_cons, getAt_cons]
    cases childAt seg j <;> simp [ih]

theorem updateAt_append (f : J → Except Fail J) (q : Path) :
    ∀ p : Path, updateAt f (p ++ q) = updateAt (updateAt f q) p
  | [] => rfl
  | s :: p => funext fun j => by
    rw [List.cons_append, updateAt_cons, updateAt_cons, updateAt_append f q p]

theorem exists_child_of_updateAt {g : J → Except Fail J} {p r : Path} {seg : Seg} {j j' : J}
    (h : updateAt g (p ++ seg :: r) j = .ok j') :
    ∃ t, Spec.getAt p j = some t ∧ (childAt seg t).isSome := by
  rw [updateAt_append] at h
  obtain ⟨t, _, ht, hu⟩ := updateAt_ok_iff.mp ⟨_, h⟩
  obtain ⟨c, _, hc, _⟩ := updateAt_cons_child hu
  exact ⟨t, ht, by rw [hc]; rfl⟩

theorem childAt_setChild {seg : Seg} {j c c' : J} (h : childAt seg j = some c) :
    childAt seg (setChild seg c' j) = some c' := by
  cases seg <;> cases j <;> simp_all [childAt, setChild, lookup_setKey]
  simp [(List.getElem?_eq_some_iff.mp h).1]

theorem childAt_setChild_ne {seg seg' : Seg} (j c' : J) (hne : seg ≠ seg') :
    childAt seg' (setChild seg c' j) = childAt seg' j := by
  cases seg <;> cases seg' <;> cases j <;> simp_all [childAt, setChild, lookup_setKey]

theorem setChild_setChild (seg : Seg) (j c c' : J) :
    setChild seg c' (setChild seg c j) = setChild seg c' j := by
  cases seg <;> cases j <;> simp [setChild, setKey_setKey_same, List.set_set]

theorem setChild_comm {seg seg' : Seg} (j c c' : J) (hne : seg ≠ seg') :
    setChild seg' c' (setChild seg c j) = setChild seg c (setChild seg' c' j) := by
  cases seg <;> cases seg' <;> cases j <;> simp_all [setChild]
  · exact setKey_comm _ _ _ _ _ hne
  · exact List.set_comm _ _ hne

theorem setChild_self {seg : Seg} {j c : J} (h : childAt seg j = some c) : setChild seg c j = j := by
  cases seg <;> cases j <;> simp_all [childAt, setChild, setKey_self]
  obtain ⟨hlt, rfl⟩ := List.getElem?_eq_some_iff.mp h
  exact List.set_getElem_self hlt

/-- `F` then `G` succeed from `j` only if `G` then `F` do, with `R`-related results: identical
(`R = Eq`) for updates at different places, the same JSON value for two merges into one object. -/
def Commutes (R : J → J → Prop) (F G : J → Except Fail J) (j : J) : Prop :=
  ∀ j1 j12, F j = .ok j1 → G j1 = .ok j12 → ∃ j2 j21, G j = .ok j2 ∧ F j2 = .ok j21 ∧ R j12 j21

theorem Commutes.mono {R R' : J → J → Prop} {F G : J → Except Fail J} {j : J}
    (hR : ∀ x y, R x y → R' x y) (h : Commutes R F G j) : Commutes R' F G j := by
  intro j1 j12 h1 h2
  obtain ⟨j2, j21, hg, hf, hr⟩ := h j1 j12 h1 h2
  exact ⟨j2, j21, hg, hf, hR _ _ hr⟩

/-- Two updates of the value at `p` commute when they commute on that value, for any `R` that
replacing a child by a related one respects. -/
theorem Commutes.under {R : J → J → Prop} {F G : J → Except Fail J}
    (hR : ∀ {s j c c1 c2}, childAt s j = some c → R c1 c2 → R (setChild s c1 j) (setChild s c2 j)) :
    ∀ (p : Path) {j : J}, (∀ t, Spec.getAt p j = some t → Commutes R F G t) →
      Commutes R (updateAt F p) (updateAt G p) j
  | [], j, h => h j rfl
  | s :: p, j, h => by
    intro j1 j12 h1 h2
    obtain ⟨c, c1, hl, hc, rfl⟩ := updateAt_cons_child h1
    obtain ⟨c', c2, hl2, hc2, rfl⟩ := updateAt_cons_child h2
    rw [childAt_setChild hl] at hl2
    cases hl2
    obtain ⟨m, m21, hm1, hm2, hr⟩ :=
      Commutes.under hR p (fun t ht => h t (by rw [getAt_cons, hl]; exact ht)) c1 c2 hc hc2
    refine ⟨setChild s m j, setChild s m21 j, updateAt_cons_intro hl hm1, ?_, ?_⟩
    · rw [updateAt_cons_intro (childAt_setChild hl) hm2, setChild_setChild]
    · rw [setChild_setChild]
      exact hR hl hr

theorem updateAt_comm (f g : J → Except Fail J) :
    ∀ (p q : Path) (j : J), disjointPaths p q = true → Commutes Eq (updateAt f p) (updateAt g q) j
  | [], _, _, hd => by cases hd
  | _ :: _, [], _, hd => by cases hd
  | s1 :: p, s2 :: q, j, hd => by
    by_cases hs : s1 = s2
    · subst hs
      rw [disjointPaths, if_pos rfl] at hd
      rw [← List.singleton_append, ← List.singleton_append (l := q), updateAt_append, updateAt_append]
      exact Commutes.under (fun _ h => h ▸ rfl) [s1] fun t _ => updateAt_comm f g p q t hd
    · -- two children of the same value
      intro j1 j12 h1 h2
      obtain ⟨c, c1, hl, hc, rfl⟩ := updateAt_cons_child h1
      obtain ⟨c', c2, hl2, hc2, rfl⟩ := updateAt_cons_child h2
      rw [childAt_setChild_ne j c1 hs] at hl2
      refine ⟨setChild s2 c2 j, _, updateAt_cons_intro hl2 hc2,
        updateAt_cons_intro (by rw [childAt_setChild_ne j c2 (Ne.symm hs)]; exact hl) hc, ?_⟩
      rw [setChild_comm j c1 c2 hs]

theorem mergeKeys_iff (add tgt r : List (List Nat × J)) :
    mergeKeys tgt add = .ok r ↔
      r = tgt ++ add ∧ (∀ kv ∈ add, lookup kv.1 tgt = none) ∧ keysNodup add = true := by
  induction add generalizing tgt with
  | nil => simp [mergeKeys, keysNodup, eq_comm]
  | cons x rest ih =>
    obtain ⟨k, v⟩ := x
    cases hl : lookup k tgt with
    | some old =>
      simp only [mergeKeys, hl]
      constructor
      · intro h; split at h <;> cases h
      · intro h; have := h.2.1 (k, v) (by simp); simp [hl] at this
    | none =>
      have hk : (∀ kv ∈ rest, lookup kv.1 [(k, v)] = none) ↔ lookup k rest = none := by
        simp only [lookup_eq_none_iff, List.map_cons, List.map_nil, List.mem_singleton, List.mem_map,
          not_exists, not_and]
      simp only [mergeKeys, hl, ih, List.append_assoc, List.singleton_append, List.forall_mem_cons,
        keysNodup, hasKey, Bool.and_eq_true, Bool.not_eq_true', Option.isSome_eq_false_iff,
        Option.isNone_iff_eq_none, lookup_append, Option.or_eq_none_iff, forall_and, hk, true_and,
        and_assoc]

theorem mergeKeys_succeeds (add tgt : List (List Nat × J))
    (hfresh : ∀ kv ∈ add, lookup kv.1 tgt = none) (hnd : keysNodup add = true) :
    mergeKeys tgt add = .ok (tgt ++ add) :=
  (mergeKeys_iff add tgt _).mpr ⟨rfl, hfresh, hnd⟩

theorem mergeInto_eq_ok {add : List (List Nat × J)} {t t' : J} :
    mergeInto add t = .ok t' ↔ ∃ kvs, t = .obj kvs ∧ t' = .obj (kvs ++ add) ∧
      (∀ kv ∈ add, lookup kv.1 kvs = none) ∧ keysNodup add = true := by
  constructor
  · intro h
    cases t <;> simp only [mergeInto, reduceCtorEq] at h
    split at h <;> cases h
    obtain ⟨rfl, hf⟩ := (mergeKeys_iff add _ _).mp ‹_›
    exact ⟨_, rfl, rfl, hf⟩
  · rintro ⟨kvs, rfl, rfl, hf, hnd⟩
    simp [mergeInto, mergeKeys_succeeds add kvs hf hnd]

theorem appendInto_eq_ok {items : List J} {t t' : J} :
    appendInto items t = .ok t' ↔ ∃ xs, t = .arr xs ∧ t' = .arr (xs ++ items) := by
  cases t <;> simp [appendInto, eq_comm]

theorem mergeKeys_swap {tgt a b r1 r12 : List (List Nat × J)}
    (h1 : mergeKeys tgt a = .ok r1) (h2 : mergeKeys r1 b = .ok r12) :
    r12 = tgt ++ a ++ b ∧ mergeKeys tgt b = .ok (tgt ++ b) ∧
      mergeKeys (tgt ++ b) a = .ok (tgt ++ b ++ a) ∧ ∀ k, lookup k a = none ∨ lookup k b = none := by
  obtain ⟨rfl, hfa, hnda⟩ := (mergeKeys_iff a tgt r1).mp h1
  obtain ⟨rfl, hfb, hndb⟩ := (mergeKeys_iff b _ r12).mp h2
  simp only [lookup_append, Option.or_eq_none_iff] at hfb
  have hab : ∀ k, lookup k a = none ∨ lookup k b = none := fun k => by
    by_cases hk : k ∈ b.map Prod.fst
    · obtain ⟨kv, hkv, rfl⟩ := List.mem_map.mp hk
      exact .inl (hfb kv hkv).2
    · exact .inr (lookup_eq_none_iff.mpr hk)
  refine ⟨rfl, mergeKeys_succeeds b tgt (fun kv hkv => (hfb kv hkv).1) hndb,
    mergeKeys_succeeds a _ (fun kv hkv => ?_) hnda, hab⟩
  have : lookup kv.1 a ≠ none := fun h => lookup_eq_none_iff.mp h (List.mem_map_of_mem hkv)
  simp [lookup_append, hfa kv hkv, (hab kv.1).resolve_left this]

inductive Act where
  | merge (add : List (List Nat × J))
  | append (items : List J)

def Act.fn : Act → J → Except Fail J
  | .merge add => mergeInto add
  | .append items => appendInto items

/-- A merge or an append at a node leaves the pre-existing child `seg` alone and does not care what
that child is. -/
theorem act_preserves (a : Act) {seg : Seg} {j j1 c : J} (hf : a.fn j = .ok j1)
    (hc : childAt seg j = some c) :
    childAt seg j1 = some c ∧ ∀ c', a.fn (setChild seg c' j) = .ok (setChild seg c' j1) := by
  cases a with
  | merge add =>
    obtain ⟨kvs, rfl, rfl, hfresh, hnd⟩ := mergeInto_eq_ok.mp hf
    cases seg <;> simp only [childAt, reduceCtorEq] at hc
    rename_i k
    refine ⟨by simp [childAt, lookup_append, hc], fun c' =>
      mergeInto_eq_ok.mpr ⟨_, rfl, by simp [setChild, setKey_append_left kvs add hc], fun kv hkv => ?_, hnd⟩⟩
    rw [lookup_setKey, if_neg, hfresh kv hkv]
    rintro ⟨rfl, h⟩
    simp [hfresh kv hkv] at h
  | append items =>
    obtain ⟨xs, rfl, rfl⟩ := appendInto_eq_ok.mp hf
    cases seg <;> simp only [childAt, reduceCtorEq] at hc
    rename_i i
    have hlt : i < xs.length := (List.getElem?_eq_some_iff.mp hc).1
    exact ⟨by simp [childAt, List.getElem?_append_left hlt, hc],
      fun c' => by simp [setChild, Act.fn, appendInto, List.set_append_left _ _ hlt]⟩

/-- target path and update function of an incremental entry, given the pending ids -/
def IncE.action (pending : List (List Nat × Path)) : IncE → Option (Path × (J → Except Fail J))
  | .defer id sub (.obj add) _ => (pendingPath id pending).map (fun p => (p ++ sub, mergeInto add))
  | .defer _ _ _ _ => none
  | .stream id items _ => (pendingPath id pending).map (fun p => (p, appendInto items))

/-- target path and kind of update of an incremental entry -/
def IncE.act (pending : List (List Nat × Path)) : IncE → Option (Path × Act)
  | .defer id sub (.obj add) _ => (pendingPath id pending).map (fun p => (p ++ sub, .merge add))
  | .defer _ _ _ _ => none
  | .stream id items _ => (pendingPath id pending).map (fun p => (p, .append items))

theorem action_eq_act (P : List (List Nat × Path)) (e : IncE) :
    e.action P = (e.act P).map (fun pa => (pa.1, pa.2.fn)) := by
  cases e with
  | defer id sub data errs =>
    cases data <;> simp only [IncE.action, IncE.act, Option.map_none, Option.map_map] <;> rfl
  | stream id items errs => simp only [IncE.action, IncE.act, Option.map_map]; rfl

theorem action_some {P : List (List Nat × Path)} {e : IncE} {p : Path} {f : J → Except Fail J}
    (h : e.action P = some (p, f)) : ∃ a, e.act P = some (p, a) ∧ f = a.fn := by
  rw [action_eq_act] at h
  obtain ⟨⟨p', a⟩, ha, he⟩ := Option.map_eq_some_iff.mp h
  cases he
  exact ⟨a, ha, rfl⟩

def IncE.errs : IncE → List Path
  | .defer _ _ _ errs | .stream _ _ errs => errs

theorem apply_eq_ok {st s' : State} {e : IncE} :
    apply st e = .ok s' ↔ ∃ p f d, e.action st.pending = some (p, f) ∧ updateAt f p st.data = .ok d ∧
      s' = { st with data := d, errors := st.errors ++ e.errs } := by
  constructor
  · intro h
    cases e with
    | defer id sub data errs =>
      simp only [apply] at h
      split at h
      · cases h
      · rename_i p hp
        split at h
        · rename_i add
          split at h <;> cases h
          exact ⟨p ++ sub, mergeInto add, _, by simp [IncE.action, hp], ‹_›, rfl⟩
        · cases h
    | stream id items errs =>
      simp only [apply] at h
      split at h
      · cases h
      · rename_i p hp
        split at h <;> cases h
        exact ⟨p, appendInto items, _, by simp [IncE.action, hp], ‹_›, rfl⟩
  · rintro ⟨p, f, d, ha, hu, rfl⟩
    cases e with
    | defer id sub data errs =>
      cases data <;> simp only [IncE.action, Option.map_eq_some_iff, reduceCtorEq] at ha
      obtain ⟨p0, hp0, hpf⟩ := ha
      cases hpf
      simp [apply, hp0, hu, IncE.errs]
    | stream id items errs =>
      simp only [IncE.action, Option.map_eq_some_iff] at ha
      obtain ⟨p0, hp0, hpf⟩ := ha
      cases hpf
      simp [apply, hp0, hu, IncE.errs]

/-- A commutation of the two updates on the data is a commutation of the two entries. -/
theorem apply_swap {st s1 s12 : State} {e1 e2 : IncE} {p q : Path} {f g : J → Except Fail J}
    (ha1 : e1.action st.pending = some (p, f)) (ha2 : e2.action st.pending = some (q, g))
    (hcomm : Commutes Eq (updateAt f p) (updateAt g q) st.data)
    (h1 : apply st e1 = .ok s1) (h2 : apply s1 e2 = .ok s12) :
    ∃ s2 s21, apply st e2 = .ok s2 ∧ apply s2 e1 = .ok s21 ∧ s21.data = s12.data := by
  obtain ⟨_, _, j1, hp', hu1, rfl⟩ := apply_eq_ok.mp h1
  cases ha1.symm.trans hp'
  obtain ⟨_, _, j12, hq', hu2, rfl⟩ := apply_eq_ok.mp h2
  cases ha2.symm.trans hq'
  obtain ⟨j2, _, hj2, hj21, rfl⟩ := hcomm _ _ hu1 hu2
  exact ⟨_, _, apply_eq_ok.mpr ⟨q, g, j2, ha2, hj2, rfl⟩, apply_eq_ok.mpr ⟨p, f, j12, ha1, hj21, rfl⟩, rfl⟩

/-- **f at `p`, then g strictly below `p` through a child that existed before** = the other way
round, with the identical result. -/
theorem updateAt_comm_below (a : Act) (g : J → Except Fail J) {seg : Seg} (r p : Path) {j : J}
    (hex : ∃ t, Spec.getAt p j = some t ∧ (childAt seg t).isSome) :
    Commutes Eq (updateAt a.fn p) (updateAt g (p ++ seg :: r)) j := by
  rw [updateAt_append]
  refine Commutes.under (fun _ h => h ▸ rfl) p fun t ht j1 j12 h1 h2 => ?_
  obtain ⟨_, ht', hsome⟩ := hex
  cases ht.symm.trans ht'
  obtain ⟨c, hc⟩ := Option.isSome_iff_exists.mp hsome
  obtain ⟨hc1, hset⟩ := act_preserves a h1 hc
  obtain ⟨c0, c', hl, hu, rfl⟩ := updateAt_cons_child h2
  rw [hc1] at hl
  cases hl
  exact ⟨setChild seg c' t, _, updateAt_cons_intro hc hu, hset c', rfl⟩

theorem updateAt_comm_above (a : Act) (g : J → Except Fail J) {seg : Seg} (r p : Path) (j : J) :
    Commutes Eq (updateAt g (p ++ seg :: r)) (updateAt a.fn p) j := by
  rw [updateAt_append]
  refine Commutes.under (fun _ h => h ▸ rfl) p fun t _ j2 j21 h1 h2 => ?_
  obtain ⟨c, c', hl, hu, rfl⟩ := updateAt_cons_child h1
  obtain ⟨hc21, hset⟩ := act_preserves a h2 (childAt_setChild hl)
  have hfj := hset c
  rw [setChild_setChild, setChild_self hl] at hfj
  refine ⟨setChild seg c j21, _, hfj, updateAt_cons_intro (childAt_setChild hc21) hu, ?_⟩
  rw [setChild_setChild, setChild_self hc21]

end Gql.Async
