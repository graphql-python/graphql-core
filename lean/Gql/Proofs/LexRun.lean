import Gql.Proofs.LexerBasic
/-!
# A successful run of `lexAllAux`, as a relation

`LexRun body fuel st pos ts`: started in state `st` at `pos` with `fuel`, the loop of `lexAll` appends
exactly `ts` to its accumulator: comments dropped, `<EOF>` last. `lexAllAux_run` takes the loop apart
once; what holds of every token list the lexer returns (ordered spans, line and column, the shape
`tokens ++ [<EOF>]`, the parser's stream) is then an induction over `LexRun` whose three cases each
hand over the `readNextToken … = .ok (t, st')` of that step.
-/
namespace Gql.Text

inductive LexRun (body : List Nat) : Nat → LexState → Nat → List Token → Prop
  | eof {fuel st st' pos t} : readNextToken body st pos = .ok (t, st') → t.kind = .eof →
      LexRun body (fuel + 1) st pos [t]
  | comment {fuel st st' pos t ts} : readNextToken body st pos = .ok (t, st') → t.kind ≠ .eof →
      t.kind = .comment → LexRun body fuel st' t.stop ts → LexRun body (fuel + 1) st pos ts
  | token {fuel st st' pos t ts} : readNextToken body st pos = .ok (t, st') → t.kind ≠ .eof →
      t.kind ≠ .comment → LexRun body fuel st' t.stop ts → LexRun body (fuel + 1) st pos (t :: ts)

theorem lexAllAux_run (body : List Nat) : ∀ (fuel : Nat) (st : LexState) (pos : Nat) (acc ts : List Token),
    lexAllAux body fuel st pos acc = .ok ts → ∃ rest, ts = acc ++ rest ∧ LexRun body fuel st pos rest := by
  intro fuel
  induction fuel with
  | zero => intro st pos acc ts h; simp [lexAllAux] at h
  | succ fuel ih =>
    intro st pos acc ts h
    rw [lexAllAux] at h
    cases hr : readNextToken body st pos with
    | err e => simp [hr] at h
    | crash c => simp [hr] at h
    | ok p =>
      obtain ⟨t, st'⟩ := p
      simp only [hr, Out.bind_ok] at h
      by_cases he : t.kind = .eof
      · simp only [he, ↓reduceIte, Out.pure_eq, Out.ok.injEq] at h
        exact ⟨[t], h.symm, .eof hr he⟩
      · simp only [he, ↓reduceIte] at h
        by_cases hc : t.kind = .comment
        · simp only [hc, ↓reduceIte] at h
          obtain ⟨rest, h1, h2⟩ := ih st' t.stop acc ts h
          exact ⟨rest, h1, .comment hr he hc h2⟩
        · simp only [hc, ↓reduceIte] at h
          obtain ⟨rest, h1, h2⟩ := ih st' t.stop (acc ++ [t]) ts h
          exact ⟨t :: rest, by simp [h1], .token hr he hc h2⟩

theorem lexAll_run {body : List Nat} {ts : List Token} (h : lexAll body = .ok ts) :
    LexRun body (body.length + 2) {} 0 ts := by
  obtain ⟨rest, rfl, hrun⟩ := lexAllAux_run body _ {} 0 [] ts h
  exact hrun

end Gql.Text
