import Gql.Proofs.WorkQueue
import Gql.Async.EnvOk
/-!
The observables of the scheduler graph (`hasNode`, `hasChild`, the roots, the child streams of the
task nodes), the invariant `Good` stated on them (`Forest`, `KnownIn`, `SForest`, `SKnown`), and the
preorders on queues under which it is preserved: `RootFrame` / `StreamFrame` (roots, pump log and
`stopped` unchanged), `SubGraph` and `TSub` = `Shrink` (nodes go or keep their children / child
streams), `NodesKept` (no group node goes); for the operations that add to a node, what one write
`d[k] = n` keeps (`Forest.setGroup`, `SForest.setTask`).  Every case split on a lookup after a write
is `alookup_aset_some` / `alookup_aerase_some`.  Nothing here looks at an operation of the queue.
-/
namespace Gql.Async

theorem alookup_aset_some {β : Type} {m : List (Nat × β)} {k k' : Nat} {v w : β}
    (h : alookup (aset m k v) k' = some w) : (k' = k ∧ w = v) ∨ alookup m k' = some w := by
  rw [alookup_aset] at h
  split at h
  · exact .inl ⟨‹k = k'›.symm, (Option.some.inj h).symm⟩
  · exact .inr h

theorem alookup_aerase_some {β : Type} {m : List (Nat × β)} {k k' : Nat} {w : β}
    (h : alookup (aerase m k) k' = some w) : alookup m k' = some w := by
  rw [alookup_aerase] at h
  split at h
  · cases h
  · exact h

/-- `q'` has the same root groups, root streams, pump log and `stopped` flag as `q`. -/
structure RootFrame (q q' : WQ) : Prop where
  rg : q'.rootGroups = q.rootGroups
  rs : q'.rootStreams = q.rootStreams
  st : q'.stopped = q.stopped
  pm : q'.pumps = q.pumps

theorem RootFrame.refl (q : WQ) : RootFrame q q := ⟨rfl, rfl, rfl, rfl⟩

theorem RootFrame.trans {a b c : WQ} (h1 : RootFrame a b) (h2 : RootFrame b c) : RootFrame a c :=
  ⟨h2.rg.trans h1.rg, h2.rs.trans h1.rs, h2.st.trans h1.st, h2.pm.trans h1.pm⟩

/-- Same root streams, pump log and `stopped` flag (root groups may differ). -/
structure StreamFrame (q q' : WQ) : Prop where
  rs : q'.rootStreams = q.rootStreams
  st : q'.stopped = q.stopped
  pm : q'.pumps = q.pumps

theorem RootFrame.toStream {q q' : WQ} (h : RootFrame q q') : StreamFrame q q' := ⟨h.rs, h.st, h.pm⟩
theorem StreamFrame.refl (q : WQ) : StreamFrame q q := ⟨rfl, rfl, rfl⟩
theorem StreamFrame.trans {a b c : WQ} (h1 : StreamFrame a b) (h2 : StreamFrame b c) : StreamFrame a c :=
  ⟨h2.rs.trans h1.rs, h2.st.trans h1.st, h2.pm.trans h1.pm⟩

/-- `c` is listed as a child in the node of `p`. -/
def hasChild (q : WQ) (p c : Nat) : Prop := ∃ n, alookup q.groupNodes p = some n ∧ c ∈ n.children

def hasNode (q : WQ) (g : Nat) : Prop := ∃ n, alookup q.groupNodes g = some n

/-- The group part of the graph invariant. -/
structure Forest (σ : Static) (q : WQ) : Prop where
  /-- a child is listed only in the node of its parent -/
  parent : ∀ p c, hasChild q p c → σ.parent c = some p
  /-- … once -/
  nodup : ∀ p n, alookup q.groupNodes p = some n → n.children.Nodup
  /-- … and is not a root (it waits for its parent) -/
  notRoot : ∀ p c, hasChild q p c → c ∉ q.rootGroups

/-- `q'` has fewer group nodes than `q`, each with the same children. -/
def SubGraph (q q' : WQ) : Prop :=
  ∀ p n', alookup q'.groupNodes p = some n' → ∃ n, alookup q.groupNodes p = some n ∧ n'.children = n.children

theorem SubGraph.refl (q : WQ) : SubGraph q q := fun _ n h => ⟨n, h, rfl⟩

theorem SubGraph.trans {a b c : WQ} (h1 : SubGraph a b) (h2 : SubGraph b c) : SubGraph a c := by
  intro p n' h
  obtain ⟨n1, e1, c1⟩ := h2 p n' h
  obtain ⟨n0, e0, c0⟩ := h1 p n1 e1
  exact ⟨n0, e0, c1.trans c0⟩

theorem SubGraph.hasChild {q q' : WQ} (h : SubGraph q q') {p c : Nat} (hc : hasChild q' p c) :
    hasChild q p c := by
  obtain ⟨n', e, hm⟩ := hc
  obtain ⟨n, e0, c0⟩ := h p n' e
  exact ⟨n, e0, c0 ▸ hm⟩

theorem SubGraph.none {q q' : WQ} (h : SubGraph q q') {p : Nat}
    (hn : alookup q.groupNodes p = none) : alookup q'.groupNodes p = none := by
  cases h' : alookup q'.groupNodes p with
  | none => rfl
  | some n' => obtain ⟨n, e, _⟩ := h p n' h'; rw [hn] at e; cases e

theorem SubGraph.hasNode {q q' : WQ} (h : SubGraph q q') {p : Nat} (hn : hasNode q' p) : hasNode q p := by
  obtain ⟨n', e⟩ := hn
  obtain ⟨n, e0, _⟩ := h p n' e
  exact ⟨n, e0⟩


/-- `x` is not listed as a child anywhere. -/
def Detached (q : WQ) (x : Nat) : Prop := ∀ p, ¬ hasChild q p x

theorem Detached.sub {q q' : WQ} {x : Nat} (h : Detached q x) (s : SubGraph q q') : Detached q' x :=
  fun p hc => h p (s.hasChild hc)

theorem Forest.sub {σ : Static} {q q' : WQ} (f : Forest σ q) (h : SubGraph q q')
    (hr : ∀ g ∈ q'.rootGroups, Detached q g) : Forest σ q' where
  parent p c hc := f.parent p c (h.hasChild hc)
  nodup p n' e := by
    obtain ⟨n, e0, c0⟩ := h p n' e
    rw [c0]; exact f.nodup p n e0
  notRoot p c hc hroot := hr c hroot p (h.hasChild hc)

theorem subGraph_erase (q : WQ) (g : Nat) :
    SubGraph q { q with groupNodes := aerase q.groupNodes g } :=
  fun _ n' h => ⟨n', alookup_aerase_some h, rfl⟩

theorem subGraph_aset (q : WQ) (g : Nat) (n n' : GroupNode) (h : alookup q.groupNodes g = some n)
    (hc : n'.children = n.children) :
    SubGraph q { q with groupNodes := aset q.groupNodes g n' } := by
  intro p m hm
  rcases alookup_aset_some hm with ⟨rfl, rfl⟩ | hm
  · exact ⟨n, h, hc⟩
  · exact ⟨m, hm, rfl⟩

theorem subGraph_of_eq {q q' : WQ} (h : q'.groupNodes = q.groupNodes) : SubGraph q q' := by
  intro p n' e; exact ⟨n', h ▸ e, rfl⟩

/-- Every group node of `q` is still there in `q'`. -/
def NodesKept (q q' : WQ) : Prop := ∀ k, hasNode q k → hasNode q' k

theorem NodesKept.refl (q : WQ) : NodesKept q q := fun _ h => h
theorem NodesKept.trans {a b c : WQ} (h1 : NodesKept a b) (h2 : NodesKept b c) : NodesKept a c :=
  fun k h => h2 k (h1 k h)

theorem nodesKept_of_eq {q q' : WQ} (h : q'.groupNodes = q.groupNodes) : NodesKept q q' :=
  fun _ ⟨n, hn⟩ => ⟨n, h ▸ hn⟩

theorem nodesKept_aset (q : WQ) (g : Nat) (n : GroupNode) :
    NodesKept q { q with groupNodes := aset q.groupNodes g n } := by
  intro k ⟨m, hm⟩
  by_cases e : g = k
  · subst e; exact ⟨n, alookup_aset_self _ _ _⟩
  · exact ⟨m, by simp only; rw [alookup_aset_ne _ _ _ _ e]; exact hm⟩

/-- Everything the graph knows about groups is in `X`. -/
structure KnownIn (X : List Nat) (q : WQ) : Prop where
  nodes : ∀ g, hasNode q g → g ∈ X
  roots : ∀ g ∈ q.rootGroups, g ∈ X
  children : ∀ p c, hasChild q p c → c ∈ X

theorem KnownIn.mono {X Y : List Nat} {q : WQ} (h : KnownIn X q) (hs : ∀ x ∈ X, x ∈ Y) : KnownIn Y q :=
  ⟨fun g hg => hs g (h.nodes g hg), fun g hg => hs g (h.roots g hg),
   fun p c hc => hs c (h.children p c hc)⟩

theorem KnownIn.sub {X : List Nat} {q q' : WQ} (h : KnownIn X q) (s : SubGraph q q')
    (hr : ∀ g ∈ q'.rootGroups, g ∈ X) : KnownIn X q' :=
  ⟨fun g hg => h.nodes g (s.hasNode hg), hr, fun p c hc => h.children p c (s.hasChild hc)⟩

theorem hasChild_aset {q : WQ} {k : Nat} {n : GroupNode} {p c : Nat}
    (h : hasChild { q with groupNodes := aset q.groupNodes k n } p c) :
    (p = k ∧ c ∈ n.children) ∨ hasChild q p c := by
  obtain ⟨m, hm, hc⟩ := h
  rcases alookup_aset_some hm with ⟨rfl, rfl⟩ | hm
  · exact Or.inl ⟨rfl, hc⟩
  · exact Or.inr ⟨m, hm, hc⟩

/-- Both writes of `attachGroup` are of this kind. -/
theorem Forest.setGroup {σ : Static} {X : List Nat} {q : WQ} (f : Forest σ q) (kn : KnownIn X q)
    (k : Nat) (n : GroupNode) (hk : k ∈ X) (hn : n.children.Nodup)
    (hc : ∀ c ∈ n.children, σ.parent c = some k ∧ c ∉ q.rootGroups ∧ c ∈ X) :
    Forest σ { q with groupNodes := aset q.groupNodes k n } ∧
    KnownIn X { q with groupNodes := aset q.groupNodes k n } := by
  refine ⟨⟨fun p c h => ?_, fun p m hm => ?_, fun p c h => ?_⟩, ⟨fun x hx => ?_, kn.roots, fun p c h => ?_⟩⟩
  · rcases hasChild_aset h with ⟨rfl, h'⟩ | h'
    · exact (hc c h').1
    · exact f.parent p c h'
  · rcases alookup_aset_some hm with ⟨_, rfl⟩ | hm
    · exact hn
    · exact f.nodup p m hm
  · rcases hasChild_aset h with ⟨rfl, h'⟩ | h'
    · exact (hc c h').2.1
    · exact f.notRoot p c h'
  · obtain ⟨m, hm⟩ := hx
    rcases alookup_aset_some hm with ⟨rfl, _⟩ | hm
    · exact hk
    · exact kn.nodes x ⟨m, hm⟩
  · rcases hasChild_aset h with ⟨rfl, h'⟩ | h'
    · exact (hc c h').2.2
    · exact kn.children p c h'

/-- Child streams wait in the node of exactly one task, once, and are not roots. -/
structure SForest (q : WQ) : Prop where
  nodup : ∀ t tn, alookup q.taskNodes t = some tn → tn.childStreams.Nodup
  notRoot : ∀ t tn s, alookup q.taskNodes t = some tn → s ∈ tn.childStreams → s ∉ q.rootStreams
  owner : ∀ t t' tn tn' s, alookup q.taskNodes t = some tn → alookup q.taskNodes t' = some tn' →
    s ∈ tn.childStreams → s ∈ tn'.childStreams → t = t'

theorem SForest.rootAbsent {q : WQ} (s : SForest q) {x : Nat} (h : x ∈ q.rootStreams) :
    ∀ t tn, alookup q.taskNodes t = some tn → x ∉ tn.childStreams :=
  fun t tn ht hx => s.notRoot t tn x ht hx h

/-- Every stream the graph knows is in `Y`. -/
structure SKnown (Y : List Nat) (q : WQ) : Prop where
  roots : ∀ s ∈ q.rootStreams, s ∈ Y
  children : ∀ t tn s, alookup q.taskNodes t = some tn → s ∈ tn.childStreams → s ∈ Y

theorem SForest.setTask {Y : List Nat} {q : WQ} (sf : SForest q) (sk : SKnown Y q) (t : Nat) (tn : TaskNode)
    (hn : tn.childStreams.Nodup)
    (hc : ∀ s ∈ tn.childStreams, s ∉ q.rootStreams ∧ s ∈ Y ∧
      ∀ x tx, alookup q.taskNodes x = some tx → s ∈ tx.childStreams → x = t) :
    SForest { q with taskNodes := aset q.taskNodes t tn } ∧
    SKnown Y { q with taskNodes := aset q.taskNodes t tn } := by
  refine ⟨⟨fun x tx hx => ?_, fun x tx s hx hs => ?_, fun x y tx ty s hx hy hsx hsy => ?_⟩,
    sk.roots, fun x tx s hx hs => ?_⟩
  · rcases alookup_aset_some hx with ⟨_, rfl⟩ | h
    · exact hn
    · exact sf.nodup x tx h
  · rcases alookup_aset_some hx with ⟨_, rfl⟩ | h
    · exact (hc s hs).1
    · exact sf.notRoot x tx s h hs
  · rcases alookup_aset_some hx with ⟨rfl, rfl⟩ | h1 <;> rcases alookup_aset_some hy with ⟨rfl, rfl⟩ | h2
    · rfl
    · exact ((hc s hsx).2.2 y ty h2 hsy).symm
    · exact (hc s hsy).2.2 x tx h1 hsx
    · exact sf.owner x y tx ty s h1 h2 hsx hsy
  · rcases alookup_aset_some hx with ⟨_, rfl⟩ | h
    · exact (hc s hs).2.1
    · exact sk.children x tx s h hs

/-- The scheduler-graph invariant, relative to the environment's ghost state. -/
structure Good (σ : Static) (e : EnvSt) (q : WQ) : Prop where
  forest : Forest σ q
  known : KnownIn e.introG q
  sforest : SForest q
  sknown : SKnown e.introS q

/-- Task nodes of `q'` are task nodes of `q` with the same child streams, or have none. -/
def TSub (q q' : WQ) : Prop :=
  ∀ t tn', alookup q'.taskNodes t = some tn' →
    tn'.childStreams = [] ∨ ∃ tn, alookup q.taskNodes t = some tn ∧ tn'.childStreams = tn.childStreams

theorem TSub.refl (q : WQ) : TSub q q := fun _ tn h => Or.inr ⟨tn, h, rfl⟩

theorem TSub.trans {a b c : WQ} (h1 : TSub a b) (h2 : TSub b c) : TSub a c := by
  intro t tn' h
  rcases h2 t tn' h with e | ⟨tn1, e1, c1⟩
  · exact Or.inl e
  · rcases h1 t tn1 e1 with e0 | ⟨tn0, e0, c0⟩
    · exact Or.inl (c1.trans e0)
    · exact Or.inr ⟨tn0, e0, c1.trans c0⟩

theorem tsub_of_eq {q q' : WQ} (h : q'.taskNodes = q.taskNodes) : TSub q q' :=
  fun _ tn e => Or.inr ⟨tn, h ▸ e, rfl⟩

theorem TSub.absent {q q' : WQ} (h : TSub q q') {s : Nat}
    (hs : ∀ t tn, alookup q.taskNodes t = some tn → s ∉ tn.childStreams) :
    ∀ t tn', alookup q'.taskNodes t = some tn' → s ∉ tn'.childStreams := by
  intro t tn' ht
  rcases h t tn' ht with e0 | ⟨tn, e0, c0⟩
  · rw [e0]; exact List.not_mem_nil
  · rw [c0]; exact hs t tn e0

structure Shrink (q q' : WQ) : Prop where
  sub : SubGraph q q'
  tsub : TSub q q'

theorem Shrink.refl (q : WQ) : Shrink q q := ⟨SubGraph.refl q, TSub.refl q⟩
theorem Shrink.trans {a b c : WQ} (h1 : Shrink a b) (h2 : Shrink b c) : Shrink a c :=
  ⟨h1.sub.trans h2.sub, h1.tsub.trans h2.tsub⟩

theorem shrink_of_eq {q q' : WQ} (hg : q'.groupNodes = q.groupNodes) (ht : q'.taskNodes = q.taskNodes) :
    Shrink q q' := ⟨subGraph_of_eq hg, tsub_of_eq ht⟩

theorem SForest.shrink {q q' : WQ} (s : SForest q) (h : TSub q q')
    (hr : ∀ x ∈ q'.rootStreams, ∀ t tn, alookup q.taskNodes t = some tn → x ∉ tn.childStreams) :
    SForest q' where
  nodup t tn' e := by
    rcases h t tn' e with e0 | ⟨tn, e0, c0⟩
    · rw [e0]; exact List.nodup_nil
    · rw [c0]; exact s.nodup t tn e0
  notRoot t tn' x e hx hroot := h.absent (hr x hroot) t tn' e hx
  owner t t' tn1 tn2 x e1 e2 h1 h2 := by
    rcases h t tn1 e1 with a | ⟨m1, a1, c1⟩
    · rw [a] at h1; cases h1
    · rcases h t' tn2 e2 with b | ⟨m2, b1, c2⟩
      · rw [b] at h2; cases h2
      · exact s.owner t t' m1 m2 x a1 b1 (c1 ▸ h1) (c2 ▸ h2)

theorem SKnown.shrink {Y : List Nat} {q q' : WQ} (s : SKnown Y q) (h : TSub q q')
    (hr : ∀ x ∈ q'.rootStreams, x ∈ Y) : SKnown Y q' where
  roots := hr
  children t tn' x e hx := by
    rcases h t tn' e with e0 | ⟨tn, e0, c0⟩
    · rw [e0] at hx; cases hx
    · exact s.children t tn x e0 (c0 ▸ hx)

/-- The general way the invariant is kept: the graph shrinks, and whatever the roots are now, they
are known and wait nowhere in the old graph. -/
theorem Good.regraft {σ : Static} {e : EnvSt} {q q' : WQ} (g : Good σ e q) (h : Shrink q q')
    (hg : ∀ x ∈ q'.rootGroups, x ∈ e.introG ∧ Detached q x)
    (hs : ∀ x ∈ q'.rootStreams, x ∈ e.introS ∧
      ∀ t tn, alookup q.taskNodes t = some tn → x ∉ tn.childStreams) : Good σ e q' :=
  ⟨g.forest.sub h.sub fun x hx => (hg x hx).2, g.known.sub h.sub fun x hx => (hg x hx).1,
    g.sforest.shrink h.tsub fun x hx => (hs x hx).2, g.sknown.shrink h.tsub fun x hx => (hs x hx).1⟩

theorem Good.rootGroup {σ : Static} {e : EnvSt} {q : WQ} (g : Good σ e q) {x : Nat} (h : x ∈ q.rootGroups) :
    x ∈ e.introG ∧ Detached q x :=
  ⟨g.known.roots x h, fun p hc => g.forest.notRoot p x hc h⟩

theorem Good.rootStream {σ : Static} {e : EnvSt} {q : WQ} (g : Good σ e q) {x : Nat} (h : x ∈ q.rootStreams) :
    x ∈ e.introS ∧ ∀ t tn, alookup q.taskNodes t = some tn → x ∉ tn.childStreams :=
  ⟨g.sknown.roots x h, g.sforest.rootAbsent h⟩

theorem Good.shrink {σ : Static} {e : EnvSt} {q q' : WQ} (g : Good σ e q) (h : Shrink q q')
    (hrg : ∀ x, x ∈ q'.rootGroups → x ∈ q.rootGroups)
    (hrs : ∀ x, x ∈ q'.rootStreams → x ∈ q.rootStreams) : Good σ e q' :=
  g.regraft h (fun x hx => g.rootGroup (hrg x hx)) (fun x hx => g.rootStream (hrs x hx))

end Gql.Async
