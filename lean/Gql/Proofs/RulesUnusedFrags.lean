import Gql.Proofs.RulesRun
import Gql.Proofs.RulesUsages
/-!
C12 — `rule_iff_spec` for NoUnusedFragments: a rule that collects the definitions (SKIP at each of them) and reports
when it leaves the document node.
-/
namespace Gql.Validation.Rules
open Gql.Validation
variable {τ : Type}

/-- the state of NoUnusedFragments after it has entered the definitions `ns` (in order) -/
def nufSt (s : RS) (ns : List ATree) : RS :=
  { s with ops := s.ops ++ ns.filter (fun n => n.kind == "operation_definition"),
           frags := s.frags ++ ns.filter (fun n => n.kind == "fragment_definition") }

theorem nuf_step (doc n : ATree) (s : RS) (ti : TI τ) (hfind : doc.find n.info.id = some n) (hd : isDef n.info.kind = true) :
    (noUnusedFragments (τ := τ) doc).step s .enter n.info ti = (Action.skip, nufSt s [n], []) := by
  simp only [isDef, Bool.or_eq_true, beq_iff_eq] at hd
  simp only [noUnusedFragments, withNode, hfind, nufSt, ATree.kind]
  rcases hd with h | h <;> simp [h]

def nufStep (s : RS) (n : ATree) : RS × List RErr := (nufSt s [n], [])

theorem foldStep_nufSt (ns : List ATree) : ∀ s : RS, foldStep nufStep s ns = (nufSt s ns, []) := by
  induction ns with
  | nil => intro s; simp [foldStep, nufSt]
  | cons n ns ih =>
    intro s
    rw [foldStep, ih, nufStep, ← List.singleton_append (l := ns)]
    simp only [nufSt, List.filter_append, List.append_assoc, List.append_nil]

theorem noUnusedFragments_iff_getters (tbl : TITable) (L : Lookups τ) (doc : ATree) (hk : doc.kind = "document")
    (hu : doc.uniqueIds) (hnd : ∀ n ∈ ATree.nodesList doc.children, n.kind ≠ "document") :
    validate tbl L none [(noUnusedFragments doc, RS.init)] doc.erase = [] ↔
      ∀ fd ∈ (outer doc).filter (fun n => n.kind == "fragment_definition"),
        ∃ nm, fd.nameValue = some nm ∧
          nm ∈ usedFragmentNames doc ((outer doc).filter (fun n => n.kind == "operation_definition")) := by
  rw [validate_nil_iff_run tbl L _ (fun _ _ _ _ => rfl) (noUnusedFragments_nb _) _ _ hu]
  have hk' : doc.info.kind = "document" := hk
  have houter : outer doc = outerList doc.children := by rw [outer_eq, hk]; rfl
  -- nothing is called when the document node is entered; below it the definitions are collected
  have hE : ∀ s, (noUnusedFragments (τ := τ) doc).call s .enter doc.info TI.init = (Action.idle, s, []) := by
    intro s; simp [Rule.call, Rule.handles, noUnusedFragments, hk']
  have hcs := (run_outer (noUnusedFragments (τ := τ) doc) nufStep rfl).2 doc.children
    (fun n hn => ⟨by simpa [noUnusedFragments, ATree.kind] using hnd n hn,
      fun hd s => nuf_step doc n s _ (ATree.find_of_mem.1 doc hu n (doc.nodes_eq ▸ List.mem_cons_of_mem _ hn)) hd⟩) RS.init
  rw [doc.erase_eq, Rule.run]
  simp only [hE, reduceCtorEq, if_false, List.nil_append]
  rw [hcs, foldStep_nufSt]
  simp only [Rule.call, Rule.handles, noUnusedFragments, withNode, doc.find_root, hk', beq_self_eq_true,
    if_true, List.nil_append, nufSt, RS.init, houter]
  rw [List.filterMap_eq_nil_iff]
  apply forall_congr'
  intro fd
  apply imp_congr_right
  intro _
  cases hnm : fd.nameValue with
  | none => simp
  | some nm =>
    by_cases hc : nm ∈ usedFragmentNames doc
        (List.filter (fun n => n.kind == "operation_definition") (outerList doc.children)) <;> simp [hc]

namespace Spec
/-- "Every defined fragment is used" (spec §5.5.1.4): every fragment definition has a name, that name is reachable
in the spread graph from the selection set of some operation definition, and it is a name `get_fragment` resolves
(the definition sits in `document.definitions` — always, for a parsed document).  `outer doc`: the definitions not
nested in another definition (for a parsed document: `document.definitions`). -/
def noUnusedFragments (doc : ATree) : Prop :=
  ∀ fd ∈ outer doc, fd.kind = "fragment_definition" →
    ∃ nm, fd.nameValue = some nm ∧
      ∃ op ∈ outer doc, op.kind = "operation_definition" ∧
        ∃ ss, op.kid "selection_set" = some ss ∧ Reaches doc ss nm ∧ ∃ f ∈ fragDefs doc, f.nameValue = some nm
end Spec

theorem noUnusedFragments_iff (tbl : TITable) (L : Lookups τ) (doc : ATree) (hk : doc.kind = "document")
    (hu : doc.uniqueIds) (hnd : ∀ n ∈ ATree.nodesList doc.children, n.kind ≠ "document") :
    validate tbl L none [(noUnusedFragments doc, RS.init)] doc.erase = [] ↔ Spec.noUnusedFragments doc := by
  rw [noUnusedFragments_iff_getters tbl L doc hk hu hnd]
  unfold Spec.noUnusedFragments
  constructor
  · intro h fd hfd hkd
    obtain ⟨nm, h1, h2⟩ := h fd (List.mem_filter.mpr ⟨hfd, by simp [hkd]⟩)
    obtain ⟨op, hop, ss, hss, hr, hd⟩ := (usedFragmentNames_mem_iff doc _ nm).mp h2
    have := List.mem_filter.mp hop
    exact ⟨nm, h1, op, this.1, by simpa using this.2, ss, hss, hr, (getFragment_isSome doc nm).mp hd⟩
  · intro h fd hfd
    have := List.mem_filter.mp hfd
    obtain ⟨nm, h1, op, hop, hko, ss, hss, hr, hd⟩ := h fd this.1 (by simpa using this.2)
    exact ⟨nm, h1, (usedFragmentNames_mem_iff doc _ nm).mpr
      ⟨op, List.mem_filter.mpr ⟨hop, by simp [hko]⟩, ss, hss, hr, (getFragment_isSome doc nm).mpr hd⟩⟩

end Gql.Validation.Rules
