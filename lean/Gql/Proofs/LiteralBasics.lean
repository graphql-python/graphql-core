import Gql.Proofs.CoerceValue
/-!
Infrastructure for the literal side of C15: well-formedness of literals, facts about `litGetLast` / `litNames`, the
equations of `coerceLiteral` / `validateLiteral` branch by branch, and the induction over the literals `coerceLiteral`
accepts (`coerceLiteral_accepted`).
-/
namespace Gql.Values
open Gql

mutual
/-- field names of every object literal are pairwise different, recursively
(what `UniqueInputFieldNamesRule` enforces) -/
def Lit.Unique : Lit → Prop
  | .list xs => Lit.UniqueList xs
  | .obj fs => (fs.map (·.1)).Nodup ∧ Lit.UniqueFields fs
  | _ => True
def Lit.UniqueList : List Lit → Prop
  | [] => True
  | x :: xs => Lit.Unique x ∧ Lit.UniqueList xs
def Lit.UniqueFields : List (List Nat × Lit) → Prop
  | [] => True
  | (_, x) :: rest => Lit.Unique x ∧ Lit.UniqueFields rest
end

/-- An item of a list literal that has unique field names / is constant has them / is constant. -/
theorem Lit.asList_mem {l : Lit} {items : List Lit} {it : Lit} (hl : l.asList = some items) (hit : it ∈ items) :
    (l.Unique → it.Unique) ∧ (l.isConst = true → it.isConst = true) := by
  cases l <;> cases hl
  induction items with
  | nil => cases hit
  | cons hd tl ih =>
    simp only [Lit.Unique, Lit.UniqueList, Lit.isConst, Lit.isConstList, Bool.and_eq_true] at ih ⊢
    rcases List.mem_cons.1 hit with rfl | hm
    · exact ⟨(·.1), (·.1)⟩
    · exact ⟨fun h => (ih hm).1 h.2, fun h => (ih hm).2 h.2⟩

/-- The same for a field node of an object literal. -/
theorem Lit.asObj_mem {l : Lit} {fs : List (List Nat × Lit)} {k : List Nat} {fv : Lit} (ho : l.asObj = some fs)
    (hm : (k, fv) ∈ fs) : (l.Unique → fv.Unique) ∧ (l.isConst = true → fv.isConst = true) := by
  cases l <;> cases ho
  suffices h : (Lit.UniqueFields fs → fv.Unique) ∧ (Lit.isConstFields fs = true → fv.isConst = true) from
    ⟨fun hu => h.1 hu.2, h.2⟩
  induction fs with
  | nil => cases hm
  | cons hd tl ih =>
    simp only [Lit.UniqueFields, Lit.isConstFields, Bool.and_eq_true]
    rcases List.mem_cons.1 hm with rfl | hm
    · exact ⟨(·.1), (·.1)⟩
    · exact ⟨fun h => (ih hm).1 h.2, fun h => (ih hm).2 h.2⟩

theorem Lit.asObj_nodup {l : Lit} {fs : List (List Nat × Lit)} (ho : l.asObj = some fs) (hu : l.Unique) :
    (fs.map (·.1)).Nodup := by
  cases l <;> cases ho
  exact hu.1

theorem Lit.isVar_eq (l : Lit) : l.isVar = l.asVar.isSome := by cases l <;> rfl

theorem Lit.isNull_false_of_asVar {l : Lit} {x : List Nat} (h : l.asVar = some x) : l.isNull = false := by
  cases l <;> first | rfl | cases h

theorem Lit.not_const_of_var {l : Lit} {x : List Nat} (h : l.asVar = some x) : l.isConst = false := by
  cases l <;> simp [Lit.asVar] at h; simp [Lit.isConst]

theorem asVar_none_of_const {l : Lit} (h : l.isConst = true) : l.asVar = none := by
  cases l <;> simp_all [Lit.isConst, Lit.asVar]

theorem isVar_false_of_const {l : Lit} (h : l.isConst = true) : l.isVar = false := by
  cases l <;> simp_all [Lit.isConst, Lit.isVar]

theorem litVarValue_of_asVar {vars : Option VarValues} {l : Lit} {x : List Nat} (h : l.asVar = some x) :
    litVarValue vars l = varGet vars x := by
  cases l <;> simp [Lit.asVar] at h; subst h; rfl

theorem litGetLast_mem {fs : List (List Nat × Lit)} {k : List Nat} {v : Lit}
    (h : litGetLast fs k = some v) : (k, v) ∈ fs := by
  induction fs with
  | nil => simp [litGetLast] at h
  | cons hd tl ih =>
    obtain ⟨k0, v0⟩ := hd
    unfold litGetLast at h
    split at h
    · rename_i w hw; simp only [Option.some.injEq] at h; subst h; simp [ih hw]
    · split at h
      · rename_i hk; simp only [Option.some.injEq] at h; subst h; subst hk; simp
      · simp at h

theorem litGetLast_none {fs : List (List Nat × Lit)} {k : List Nat}
    (h : ∀ v, (k, v) ∉ fs) : litGetLast fs k = none := by
  cases hg : litGetLast fs k with
  | none => rfl
  | some v => exact absurd (litGetLast_mem hg) (h v)

theorem litGetLast_of_mem_nodup {fs : List (List Nat × Lit)} {k : List Nat} {v : Lit}
    (hnd : (fs.map (·.1)).Nodup) (h : (k, v) ∈ fs) : litGetLast fs k = some v := by
  induction fs with
  | nil => simp at h
  | cons hd tl ih =>
    obtain ⟨k0, v0⟩ := hd
    simp only [List.map_cons, List.nodup_cons, List.mem_map, not_exists, not_and] at hnd
    simp only [List.mem_cons, Prod.mk.injEq] at h
    unfold litGetLast
    rcases h with ⟨rfl, rfl⟩ | h
    · have : litGetLast tl k = none := litGetLast_none (fun v hv => hnd.1 (k, v) hv rfl)
      simp [this]
    · simp [ih hnd.2 h]

theorem eraseDups_of_nodup {l : List (List Nat)} (h : l.Nodup) : l.eraseDups = l := by
  induction l with
  | nil => rfl
  | cons a as ih =>
    simp only [List.nodup_cons] at h
    rw [List.eraseDups_cons]
    have : as.filter (fun b => !b == a) = as := by
      rw [List.filter_eq_self]
      intro b hb
      have : b ≠ a := fun hc => h.1 (hc ▸ hb)
      simpa using this
    rw [this, ih h.2]

theorem litNames_of_nodup {fs : List (List Nat × Lit)} (h : (fs.map (·.1)).Nodup) :
    litNames fs = fs.map (·.1) := eraseDups_of_nodup h

theorem coercedIsNone_self (k : List Nat) (cv : PyVal) : coercedIsNone k cv k = true ↔ cv = .none := by
  cases cv <;> simp [coercedIsNone, PyVal.dictGet]

theorem coercedIsNone_true {k : List Nat} {cv : PyVal} {n : List Nat} (h : coercedIsNone k cv n = true) :
    cv = .none := by
  by_cases hk : k = n
  · subst hk; exact (coercedIsNone_self k cv).1 h
  · simp [coercedIsNone, PyVal.dictGet, hk] at h

theorem listItemLiteral_ok (vars : Option VarValues) (it : Lit) (nn : Bool) {cv : PyVal} (h : cv ≠ .undefined) :
    listItemLiteral vars it nn (.ok cv) = .ok cv := by
  cases cv <;> simp_all [listItemLiteral]

theorem listItemLiteral_nonvar (vars : Option VarValues) {it : Lit} (nn : Bool) (r : R) (h : it.isVar = false) :
    listItemLiteral vars it nn r = r := by
  unfold listItemLiteral
  split
  · simp [h]
  · rfl

theorem oneOfLiteral_one {k k' : List Nat} {node : Lit} {cv : PyVal} (hnode : node.isNull = false) (hcv : cv ≠ .none) :
    oneOfLiteral [(k, node)] [(k', cv)] = .ok (.dict [(k', cv)]) := by
  have hci : coercedIsNone k' cv k = false := by
    cases h : coercedIsNone k' cv k with
    | false => rfl
    | true => exact absurd (coercedIsNone_true h) hcv
  simp [oneOfLiteral, litNames, List.eraseDups_cons, nodeIsNull, litGetLast, hnode, hci]

/-- The node `coerce_input_literal` reads for a declared field: the last one of that name, unless it is a
variable without runtime value, which counts as not provided. -/
def litProvided (vars : Option VarValues) (fs : List (List Nat × Lit)) (f : Field) : Option Lit :=
  (litGetLast fs f.name).filter fun fv => !(fv.isVar && !isDefined (litVarValue vars fv))

/-- per-field function of the object case of `coerceLiteral` -/
def coerceLitField (c : PyConv) (D : Field → R) (tm : TypeMap) (vars : Option VarValues) (fs : List (List Nat × Lit))
    (f : Field) : Out Unit FieldRes :=
  fieldRes D f ((litProvided vars fs f).map fun fv => coerceLiteral c D tm vars fv f.type)

/-- per-field function of the object case of `validateLiteral` -/
def validateLitField (c : PyConv) (tm : TypeMap) (vars : Option VarValues) (oneOf : Bool) (fs : List (List Nat × Lit))
    (path : Path) (f : Field) : List Path :=
  match _h : litGetLast fs f.name with
  | some fv =>
    if fv.isVar && vars.isSome && !oneOf && !isDefined (litVarValue vars fv) && !f.isRequired then []
    else
      (if vars.isSome then fieldVarErrors vars oneOf path fv else [])
      ++ validateLiteral c tm vars fv f.type (path ++ [.key f.name])
  | none => if f.isRequired then [path] else []

section unfold
variable (c : PyConv) (D : Field → R) (tm : TypeMap) (vars : Option VarValues)

theorem coerceLiteral_var {l : Lit} {x : List Nat} (t : InType) (hv : l.asVar = some x) :
    coerceLiteral c D tm vars l t =
      if (varGet vars x).isNullish && t.isNonNull then .ok .undefined else .ok (varGet vars x) := by
  cases t <;> rw [coerceLiteral] <;> simp [hv]

theorem validateLiteral_var {l : Lit} {x : List Nat} (t : InType) (path : Path) (hv : l.asVar = some x) :
    validateLiteral c tm vars l t path =
      if vars.isNone then [] else if t.isNonNull && (varGet vars x).isNullish then [path] else [] := by
  cases t <;> rw [validateLiteral] <;> simp [hv]

theorem coerceLiteral_nonNull {l : Lit} {t' : InType} (hv : l.asVar = none) :
    coerceLiteral c D tm vars l (.nonNull t') =
      if l.isNull then .ok .undefined else coerceLiteral c D tm vars l t' := by
  rw [coerceLiteral]; simp [hv]

theorem validateLiteral_nonNull {l : Lit} {t' : InType} {path : Path} (hv : l.asVar = none) :
    validateLiteral c tm vars l (.nonNull t') path =
      if l.isNull then [path] else validateLiteral c tm vars l t' path := by
  rw [validateLiteral]; simp [hv]

theorem coerceLiteral_null {l : Lit} (t : InType) (hv : l.asVar = none) (hn : l.isNull = true) :
    coerceLiteral c D tm vars l t = .ok (if t.isNonNull then .undefined else .none) := by
  cases t <;> rw [coerceLiteral] <;> simp [hv, hn, InType.isNonNull]

theorem coerceLiteral_list_iter {l : Lit} {t' : InType} {items : List Lit}
    (hv : l.asVar = none) (hn : ¬ l.isNull = true) (hl : l.asList = some items) :
    coerceLiteral c D tm vars l (.list t') =
      wrapList (seqItems (items.map fun it =>
        listItemLiteral vars it t'.isNonNull (coerceLiteral c D tm vars it t'))) := by
  rw [coerceLiteral, ← attach_map_pat items fun it =>
    listItemLiteral vars it t'.isNonNull (coerceLiteral c D tm vars it t')]
  simp only [hv, hn, Bool.false_eq_true, ↓reduceIte]
  split
  · rename_i xs' h'; rw [hl] at h'; cases h'; rfl
  · rename_i h'; rw [hl] at h'; cases h'

theorem coerceLiteral_list_single {l : Lit} {t' : InType}
    (hv : l.asVar = none) (hn : ¬ l.isNull = true) (hl : l.asList = none) :
    coerceLiteral c D tm vars l (.list t') = listOfOne (coerceLiteral c D tm vars l t') := by
  rw [coerceLiteral]; simp only [hv, hn, Bool.false_eq_true, ↓reduceIte]
  split
  · rename_i xs' h'; rw [hl] at h'; cases h'
  · rfl

theorem validateLiteral_list_iter {l : Lit} {t' : InType} {items : List Lit} {path : Path}
    (hv : l.asVar = none) (hn : ¬ l.isNull = true) (hl : l.asList = some items) :
    validateLiteral c tm vars l (.list t') path =
      items.attach.zipIdx.flatMap fun ⟨⟨it, _⟩, i⟩ => validateLiteral c tm vars it t' (path ++ [.idx i]) := by
  rw [validateLiteral]; simp only [hv, hn, Bool.false_eq_true, ↓reduceIte]
  split
  · rename_i xs' h'; rw [hl] at h'; cases h'; rfl
  · rename_i h'; rw [hl] at h'; cases h'

theorem validateLiteral_list_single {l : Lit} {t' : InType} {path : Path}
    (hv : l.asVar = none) (hn : ¬ l.isNull = true) (hl : l.asList = none) :
    validateLiteral c tm vars l (.list t') path = validateLiteral c tm vars l t' path := by
  rw [validateLiteral]; simp only [hv, hn, Bool.false_eq_true, ↓reduceIte]
  split
  · rename_i xs' h'; rw [hl] at h'; cases h'
  · rfl

theorem coerceLiteral_obj {l : Lit} {n : List Nat} {fields : List Field} {oneOf : Bool}
    {fs : List (List Nat × Lit)}
    (hv : l.asVar = none) (hn : ¬ l.isNull = true) (hf : tm.find n = some (.inputObject fields oneOf))
    (ho : l.asObj = some fs) :
    coerceLiteral c D tm vars l (.named n) =
      dictOf (fs.any fun kv => !fields.any (fun f => f.name = kv.1))
        (fun es => if oneOf then oneOfLiteral fs es else .ok (.dict es))
        (seqFields (fields.map (coerceLitField c D tm vars fs))) := by
  rw [coerceLiteral]; simp only [hv, hn, Bool.false_eq_true, ↓reduceIte, hf]
  split
  · rename_i fs' h'; rw [ho] at h'; cases h'
    rw [List.map_congr_left (g := coerceLitField c D tm vars fs) fun f _ => ?_]
    · rfl
    · unfold coerceLitField litProvided
      split
      · rename_i fv hfv
        by_cases hc : (fv.isVar && !isDefined (litVarValue vars fv)) = true <;> simp [hfv, hc, Option.filter, fieldRes]
      · simp [*, fieldRes]
  · rename_i h'; rw [ho] at h'; cases h'

theorem coerceLiteral_notobj {l : Lit} {n : List Nat} {fields : List Field} {oneOf : Bool}
    (hv : l.asVar = none) (hn : ¬ l.isNull = true) (hf : tm.find n = some (.inputObject fields oneOf))
    (ho : l.asObj = none) :
    coerceLiteral c D tm vars l (.named n) = .ok .undefined := by
  rw [coerceLiteral]; simp only [hv, hn, Bool.false_eq_true, ↓reduceIte, hf]
  split
  · rename_i fs' h'; rw [ho] at h'; cases h'
  · rfl

theorem coerceLiteral_leaf {l : Lit} {n : List Nat} {d : NamedDef} {lf : Leaf}
    (hv : l.asVar = none) (hn : ¬ l.isNull = true) (hf : tm.find n = some d) (hl : d.asLeaf = some lf) :
    coerceLiteral c D tm vars l (.named n) = .ok (leafLiteral c lf l) := by
  rw [coerceLiteral]; cases d <;> cases hl <;> simp only [hv, hn, hf, Bool.false_eq_true, ↓reduceIte]

theorem validateLiteral_leaf {l : Lit} {n : List Nat} {d : NamedDef} {lf : Leaf} {path : Path}
    (hv : l.asVar = none) (hn : ¬ l.isNull = true) (hf : tm.find n = some d) (hl : d.asLeaf = some lf) :
    validateLiteral c tm vars l (.named n) path = if isDefined (leafLiteral c lf l) then [] else [path] := by
  rw [validateLiteral]; cases d <;> cases hl <;> simp only [hv, hn, hf, Bool.false_eq_true, ↓reduceIte]

theorem validateLiteral_obj {l : Lit} {n : List Nat} {fields : List Field} {oneOf : Bool}
    {fs : List (List Nat × Lit)} {path : Path}
    (hv : l.asVar = none) (hn : ¬ l.isNull = true) (hf : tm.find n = some (.inputObject fields oneOf))
    (ho : l.asObj = some fs) :
    validateLiteral c tm vars l (.named n) path =
      fields.flatMap (validateLitField c tm vars oneOf fs path)
        ++ ((fs.filter fun kv => !fields.any (fun f => f.name = kv.1)).map fun _ => path)
        ++ (if oneOf then
              oneOfLiteralErrors path (fs.filter fun kv => fields.any (fun f => f.name = kv.1))
            else []) := by
  rw [validateLiteral]; simp only [hv, hn, Bool.false_eq_true, ↓reduceIte, hf]
  split
  · rename_i fs' h'; rw [ho] at h'; cases h'; rfl
  · rename_i h'; rw [ho] at h'; cases h'

theorem validateLiteral_notobj {l : Lit} {n : List Nat} {fields : List Field} {oneOf : Bool} {path : Path}
    (hv : l.asVar = none) (hn : ¬ l.isNull = true) (hf : tm.find n = some (.inputObject fields oneOf))
    (ho : l.asObj = none) :
    validateLiteral c tm vars l (.named n) path = [path] := by
  rw [validateLiteral]; simp only [hv, hn, Bool.false_eq_true, ↓reduceIte, hf]
  split
  · rename_i fs' h'; rw [ho] at h'; cases h'
  · rfl

theorem oneOfLiteral_ok {fs : List (List Nat × Lit)} {es : List (List Nat × PyVal)} {cv : PyVal}
    (h : oneOfLiteral fs es = .ok cv) (hu : cv ≠ .undefined) :
    ∃ n k cv', litNames fs = [n] ∧ es = [(k, cv')] ∧ coercedIsNone k cv' n = false ∧ cv = .dict es := by
  unfold oneOfLiteral at h
  split at h
  · rename_i n k cv' hn
    split at h
    · simp only [Out.ok.injEq] at h; exact absurd h.symm hu
    · rename_i hcond
      simp only [Out.ok.injEq] at h
      have : coercedIsNone k cv' n = false := by
        cases hci : coercedIsNone k cv' n with
        | false => rfl
        | true => exact absurd (by simp [hci]) hcond
      exact ⟨n, k, cv', hn, rfl, this, h.symm⟩
  · simp only [Out.ok.injEq] at h; exact absurd h.symm hu

/-- Induction over the literals `coerceLiteral` accepts, case by case as `coerceValue_accepted`; a variable stands for
its runtime value. -/
theorem coerceLiteral_accepted {motive : Lit → InType → PyVal → Prop}
    (var : ∀ l t x, l.asVar = some x → motive l t (varGet vars x))
    (null : ∀ l t, l.asVar = none → l.isNull = true → t.isNonNull = false → motive l t .none)
    (nonNull : ∀ l t' cv, l.asVar = none → ¬ l.isNull = true → coerceLiteral c D tm vars l t' = .ok cv →
      motive l t' cv → motive l (.nonNull t') cv)
    (items : ∀ l t' its cs, l.asVar = none → ¬ l.isNull = true → l.asList = some its →
      seqItems (its.map fun it => listItemLiteral vars it t'.isNonNull (coerceLiteral c D tm vars it t')) =
        .ok (some cs) →
      (∀ it ∈ its, ∀ cv, coerceLiteral c D tm vars it t' = .ok cv → cv ≠ .undefined → motive it t' cv) →
      motive l (.list t') (.list cs))
    (single : ∀ l t' cv, l.asVar = none → ¬ l.isNull = true → l.asList = none →
      coerceLiteral c D tm vars l t' = .ok cv → cv ≠ .undefined → motive l t' cv → motive l (.list t') (.list [cv]))
    (leaf : ∀ l n d lf, l.asVar = none → ¬ l.isNull = true → tm.find n = some d → d.asLeaf = some lf →
      leafLiteral c lf l ≠ .undefined → motive l (.named n) (leafLiteral c lf l))
    (obj : ∀ l n fields oneOf fs es, l.asVar = none → ¬ l.isNull = true →
      tm.find n = some (.inputObject fields oneOf) → l.asObj = some fs →
      fs.any (fun kv => !fields.any (fun f => f.name = kv.1)) = false →
      seqFields (fields.map (coerceLitField c D tm vars fs)) = .ok (some es) →
      (oneOf = true → ∃ n k cv, litNames fs = [n] ∧ es = [(k, cv)] ∧ coercedIsNone k cv n = false) →
      (∀ (f : Field) fv, litGetLast fs f.name = some fv → ∀ cv, coerceLiteral c D tm vars fv f.type = .ok cv →
        cv ≠ .undefined → motive fv f.type cv) →
      motive l (.named n) (.dict es))
    (l : Lit) (t : InType) {cv : PyVal} (h : coerceLiteral c D tm vars l t = .ok cv) (hu : cv ≠ .undefined) :
    motive l t cv := by
  have path : Path := []
  induction l, t, path using validateLiteral.induct c tm vars generalizing cv with
  | case1 l t path x hv | case2 l t path x hv | case3 l t path x hv =>
    rw [coerceLiteral_var c D tm vars t hv] at h
    split at h
    · exact absurd (Out.ok.inj h).symm hu
    · cases Out.ok.inj h; exact var l t x hv
  | case4 l path hv t' hn =>
    rw [coerceLiteral_null c D tm vars _ hv hn] at h; exact absurd (Out.ok.inj h).symm hu
  | case5 l path hv t' hn ih =>
    rw [coerceLiteral_nonNull c D tm vars hv, if_neg hn] at h
    exact nonNull l t' cv hv hn h (ih h hu)
  | case6 l path hv t' hn | case9 l path hv n hn =>
    rw [coerceLiteral_null c D tm vars _ hv hn] at h
    cases Out.ok.inj h
    exact null l _ hv hn rfl
  | case7 l path hv t' hn its hl ih =>
    rw [coerceLiteral_list_iter c D tm vars hv hn hl] at h
    obtain ⟨cs, hs, rfl⟩ := wrapList_inv h hu
    exact items l t' its cs hv hn hl hs fun it hit _ => ih it hit 0
  | case8 l path hv t' hn hl ih =>
    rw [coerceLiteral_list_single c D tm vars hv hn hl] at h
    obtain ⟨r, hc, hr, rfl⟩ := listOfOne_inv h hu
    exact single l t' r hv hn hl hc hr (ih hc hr)
  | case10 l path hv n hn fields oneOf hf fs ho ih =>
    rw [coerceLiteral_obj c D tm vars hv hn hf ho] at h
    obtain ⟨hunk, es, hs, h⟩ := dictOf_inv h hu
    have : cv = .dict es ∧
        (oneOf = true → ∃ n k cv, litNames fs = [n] ∧ es = [(k, cv)] ∧ coercedIsNone k cv n = false) := by
      cases oneOf with
      | true =>
        obtain ⟨n, k, c', hln, hes, hci, hcv⟩ := oneOfLiteral_ok h hu
        exact ⟨hcv, fun _ => ⟨n, k, c', hln, hes, hci⟩⟩
      | false => exact ⟨(Out.ok.inj h).symm, fun ho => by cases ho⟩
    rw [this.1]
    exact obj l n fields oneOf fs es hv hn hf ho hunk hs this.2 fun f fv hfv _ => ih f fv hfv
  | case11 l path hv n hn fields oneOf hf ho =>
    rw [coerceLiteral_notobj c D tm vars hv hn hf ho] at h; exact absurd (Out.ok.inj h).symm hu
  | case12 l path hv n hn s hf hdv | case13 l path hv n hn s hf hdv | case14 l path hv n hn s hf hdv
  | case15 l path hv n hn s hf hdv =>
    cases Out.ok.inj ((coerceLiteral_leaf c D tm vars hv hn hf rfl).symm.trans h)
    exact leaf l n _ _ hv hn hf rfl hu
  | case16 l path hv n hn hf =>
    rw [coerceLiteral] at h; simp only [hv, hn, hf, Bool.false_eq_true, ↓reduceIte] at h
    exact absurd (Out.ok.inj h).symm hu

theorem leafLiteral_ne_none (hEN : ∀ n e, tm.find n = some (.enum e) → ∀ k, e.valueOf k ≠ some .none)
    {n : List Nat} {d : NamedDef} {leaf : Leaf} (hf : tm.find n = some d) (hl : d.asLeaf = some leaf) (l : Lit) :
    leafLiteral c leaf l ≠ .none := by
  intro hc
  have hu : leafLiteral c leaf l ≠ .undefined := by rw [hc]; exact PyVal.noConfusion
  have h := leafLiteral_of_ne hu
  cases d with
  | scalar s => cases hl; exact (scalarConforms_ne_none (Scalar.coerceLiteral_conforms c s l _ h)).1 hc
  | enum e =>
    cases hl
    obtain ⟨s, _, hw⟩ := EnumType.coerceInputLiteral_ok h
    exact hEN n e hf s (hc ▸ hw)
  | inputObject _ _ => cases hl

theorem coerceLiteral_ne_none (hEN : ∀ n e, tm.find n = some (.enum e) → ∀ k, e.valueOf k ≠ some .none)
    (l : Lit) (hv : l.asVar = none) (hn : ¬ l.isNull = true) (t : InType) (cv : PyVal)
    (h : coerceLiteral c D tm vars l t = .ok cv) : cv ≠ .none := by
  by_cases hu : cv = .undefined
  · rw [hu]; exact PyVal.noConfusion
  refine coerceLiteral_accepted c D tm vars
    (motive := fun l _ cv => l.asVar = none → ¬ l.isNull = true → cv ≠ .none) ?_ ?_ ?_ ?_ ?_ ?_ ?_ l t h hu hv hn
  · exact fun _ _ _ hx hv => by rw [hx] at hv; cases hv
  · exact fun _ _ _ hnull _ _ hn => absurd hnull hn
  · exact fun _ _ _ _ _ _ ih => ih
  · exact fun _ _ _ _ _ _ _ _ _ _ _ => PyVal.noConfusion
  · exact fun _ _ _ _ _ _ _ _ _ _ _ => PyVal.noConfusion
  · exact fun l _ _ _ _ _ hf hl _ _ _ => leafLiteral_ne_none c tm hEN hf hl l
  · exact fun _ _ _ _ _ _ _ _ _ _ _ _ _ _ _ _ => PyVal.noConfusion

end unfold

end Gql.Values
