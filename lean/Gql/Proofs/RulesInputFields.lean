import Gql.Proofs.RulesRun
/-!
C12 — UniqueInputFieldNames: a rule with a stack of known-name maps (enter/leave `object_value`).
-/
namespace Gql.Validation.Rules
open Gql.Validation
variable {τ : Type}

/-- `enter_object_field` on the node object `n`, on the known-map -/
def ifStep (known : List (String × Nat)) (n : ATree) : List (String × Nat) × List RErr :=
  nameStep "UniqueInputFieldNamesRule" known (n.kid "name")

theorem uif_enter_ov (doc n : ATree) (s : RS) (ti : TI τ) (hfind : doc.find n.info.id = some n)
    (hk : n.info.kind = "object_value") :
    (uniqueInputFieldNames (τ := τ) doc).call s .enter n.info ti =
      (Action.idle, { s with stack := s.known :: s.stack, known := [] }, []) := by
  simp only [Rule.call, Rule.handles, uniqueInputFieldNames, withNode, hfind, hk, beq_self_eq_true, Bool.true_or,
    if_true]

theorem uif_enter_of (doc n : ATree) (s : RS) (ti : TI τ) (hfind : doc.find n.info.id = some n)
    (hf : n.info.kind = "object_field") :
    (uniqueInputFieldNames (τ := τ) doc).call s .enter n.info ti =
      (Action.idle, { s with known := (ifStep s.known n).1 }, (ifStep s.known n).2) := by
  simp only [Rule.call, Rule.handles, uniqueInputFieldNames, withNode, hfind, ifStep, nameStep]
  cases hnm : n.kid "name" <;> simp [hf]

theorem uif_leave (doc n : ATree) (s : RS) (ti : TI τ) (hfind : doc.find n.info.id = some n)
    (hk : n.info.kind = "object_value")
    (top : List (String × Nat)) (rest : List (List (String × Nat))) (hst : s.stack = top :: rest) :
    (uniqueInputFieldNames (τ := τ) doc).call s .leave n.info ti =
      (Action.idle, { s with known := top, stack := rest }, []) := by
  simp only [Rule.call, Rule.handles, uniqueInputFieldNames, withNode, hfind, hst, hk, beq_self_eq_true, if_true]

mutual
  /-- the object fields in the scope of the enclosing object value: the `object_field` nodes of the subtree that are
  not below a (deeper) `object_value` node -/
  def scopeFields : ATree → List ATree
    | .node i f v cs => if i.kind == "object_value" then [] else
        (if i.kind == "object_field" then [.node i f v cs] else []) ++ scopeFieldsList cs
  def scopeFieldsList : List ATree → List ATree
    | [] => []
    | t :: ts => scopeFields t ++ scopeFieldsList ts
end

def InnerOk (ns : List ATree) : Prop :=
  ∀ ov ∈ ns, ov.kind = "object_value" → (foldStep ifStep [] (scopeFieldsList ov.children)).2 = []

/-- The run of the rule over a subtree: the known-map has taken in the fields in scope and the stack is as before;
nothing is reported iff these fields are fine and every object value below is fine on its own. -/
theorem uif_run_fold (doc : ATree) :
    (∀ t : ATree, (∀ n ∈ t.nodes, doc.find n.info.id = some n) → ∀ s : RS,
      ((uniqueInputFieldNames (τ := τ) doc).run TI.init s t.erase).1 =
        { s with known := (foldStep ifStep s.known (scopeFields t)).1 } ∧
      (((uniqueInputFieldNames (τ := τ) doc).run TI.init s t.erase).2 = [] ↔
        (foldStep ifStep s.known (scopeFields t)).2 = [] ∧ InnerOk t.nodes)) ∧
    (∀ ts : List ATree, (∀ n ∈ ATree.nodesList ts, doc.find n.info.id = some n) → ∀ s : RS,
      ((uniqueInputFieldNames (τ := τ) doc).runList TI.init s (ATree.eraseList ts)).1 =
        { s with known := (foldStep ifStep s.known (scopeFieldsList ts)).1 } ∧
      (((uniqueInputFieldNames (τ := τ) doc).runList TI.init s (ATree.eraseList ts)).2 = [] ↔
        (foldStep ifStep s.known (scopeFieldsList ts)).2 = [] ∧ InnerOk (ATree.nodesList ts))) := by
  apply ATree.induct
  · intro i f v cs ih hfind s
    simp only [ATree.nodes, List.mem_cons, forall_eq_or_imp] at hfind
    have hf : doc.find i.id = some (.node i f v cs) := hfind.1
    have hin : InnerOk (ATree.node i f v cs :: ATree.nodesList cs) ↔
        (i.kind = "object_value" → (foldStep ifStep [] (scopeFieldsList cs)).2 = []) ∧ InnerOk (ATree.nodesList cs) :=
      List.forall_mem_cons
    rw [ATree.erase, Rule.run, scopeFields, ATree.nodes, hin]
    by_cases hov : i.kind = "object_value"
    · -- the known-map is put aside for the children and taken back
      have hE : _ = _ := uif_enter_ov (τ := τ) doc (.node i f v cs) s TI.init hf hov
      have hL : ∀ s' : RS, s'.stack = s.known :: s.stack → _ = _ :=
        fun s' => uif_leave (τ := τ) doc (.node i f v cs) s' TI.init hf hov s.known s.stack
      simp only [ATree.info] at hE hL
      obtain ⟨c1, c2⟩ := ih hfind.2 { s with stack := s.known :: s.stack, known := [] }
      simp only [hE, reduceCtorEq, if_false]
      rw [hL _ (by rw [c1])]
      simp only [c1, c2, List.nil_append, List.append_nil, hov, beq_self_eq_true, if_true, foldStep, true_and,
        forall_const]
    · have hov' : (i.kind == "object_value") = false := by simpa using hov
      have hL := fun s' => Rule.call_unhandled (uniqueInputFieldNames (τ := τ) doc) s' .leave i TI.init hov'
      by_cases hof : i.kind = "object_field"
      · have hE : _ = _ := uif_enter_of (τ := τ) doc (.node i f v cs) s TI.init hf hof
        simp only [ATree.info] at hE
        obtain ⟨c1, c2⟩ := ih hfind.2 { s with known := (ifStep s.known (.node i f v cs)).1 }
        have hof' : (i.kind == "object_field") = true := by simpa using hof
        simp only [hE, hL, reduceCtorEq, if_false, c1, c2, hov', hof', if_true, Bool.false_eq_true,
          List.singleton_append, foldStep, List.append_nil, List.append_eq_nil_iff, hov, false_imp_iff, true_and,
          and_assoc]
      · have hof' : (i.kind == "object_field") = false := by simpa using hof
        obtain ⟨c1, c2⟩ := ih hfind.2 s
        simp only [Rule.call_unhandled (uniqueInputFieldNames (τ := τ) doc) s .enter i TI.init
            (by rw [hov', hof']; rfl : (i.kind == "object_value" || i.kind == "object_field") = false), hL, reduceCtorEq, if_false, c1, c2,
          hov', hof', Bool.false_eq_true, List.nil_append, List.append_nil, hov, false_imp_iff, true_and]
  · intro _ s
    exact ⟨rfl, by simp [Rule.runList, ATree.eraseList, scopeFieldsList, foldStep, ATree.nodesList, InnerOk]⟩
  · intro t ts iht ihts hfind s
    simp only [ATree.nodesList, List.mem_append] at hfind
    obtain ⟨a1, a2⟩ := iht (fun n hn => hfind n (Or.inl hn)) s
    obtain ⟨b1, b2⟩ := ihts (fun n hn => hfind n (Or.inr hn))
      { s with known := (foldStep ifStep s.known (scopeFields t)).1 }
    rw [ATree.eraseList, Rule.runList, scopeFieldsList, ATree.nodesList, foldStep_append ifStep, a1]
    refine ⟨b1, ?_⟩
    rw [List.append_eq_nil_iff, List.append_eq_nil_iff, a2, b2]
    simp only [InnerOk, List.forall_mem_append]
    exact ⟨fun ⟨⟨a, b⟩, c, d⟩ => ⟨⟨a, c⟩, b, d⟩, fun ⟨⟨a, c⟩, b, d⟩ => ⟨⟨a, b⟩, c, d⟩⟩

def fieldNames (fs : List ATree) : List String := fs.filterMap (fun fld => (fld.kid "name").map (·.value))

def FieldsOk (fs : List ATree) : Prop :=
  (∀ fld ∈ fs, (fld.kid "name").isSome = true) ∧ (fieldNames fs).Nodup

theorem foldIf_nil_iff (fs : List ATree) : (foldStep ifStep [] fs).2 = [] ↔ FieldsOk fs := by
  have h : ∀ k, foldStep ifStep k fs = foldStep (nameStep "UniqueInputFieldNamesRule") k (fs.map (·.kid "name")) := by
    induction fs with
    | nil => intro k; rfl
    | cons x xs ih => intro k; rw [List.map_cons, foldStep, foldStep, ih]; rfl
  rw [h, foldNames_nil_iff, namesOf, List.filterMap_map]
  simp only [List.forall_mem_map]
  exact ⟨fun h => ⟨h.1, h.2.1⟩, fun h => ⟨h.1, h.2, fun x _ => rfl⟩⟩

namespace Spec
/-- "Input object fields are unique" (spec §5.6.3): in every object value the fields in its scope have names and
these are pairwise distinct; likewise for object fields outside any object value (none in a parsed document). -/
def uniqueInputFieldNames (doc : ATree) : Prop :=
  (∀ ov ∈ doc.nodes, ov.kind = "object_value" → FieldsOk (scopeFieldsList ov.children)) ∧ FieldsOk (scopeFields doc)
end Spec

theorem uniqueInputFieldNames_iff (tbl : TITable) (L : Lookups τ) (doc : ATree) (hu : doc.uniqueIds) :
    validate tbl L none [(uniqueInputFieldNames doc, RS.init)] doc.erase = [] ↔ Spec.uniqueInputFieldNames doc := by
  rw [validate_nil_iff_run tbl L _ (fun _ _ _ _ => rfl) (uniqueInputFieldNames_nb _) _ _ hu,
    ((uif_run_fold doc).1 doc (fun n hn => ATree.find_of_mem.1 doc hu n hn) RS.init).2]
  unfold Spec.uniqueInputFieldNames InnerOk
  simp only [RS.init, foldIf_nil_iff]
  exact And.comm

end Gql.Validation.Rules
