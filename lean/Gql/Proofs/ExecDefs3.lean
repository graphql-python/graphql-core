import Gql.Proofs.ExecDefs2
/-!
C08, stage 3: typed trees of type-system definitions (schema, scalar, object, interface, union, enum,
input object and directive definitions), their parser trees, printed texts and token lists; documents
mixing them with the executable definitions of stage 2, with the printer's `query`-prefix rule.
-/
namespace Gql.Text
open Gql.Syntax

/-- A field definition `"desc" name(args): Type @dirs`; the arguments are input value definitions
(the `VarDef` record without the `$`). -/
structure FDef where
  desc : Desc
  name : List Nat
  args : List VarDef
  ty : Ty
  dirs : List Dir

structure EVDef where
  desc : Desc
  name : List Nat
  dirs : List Dir

inductive TDef where
  | schema (desc : Desc) (dirs : List Dir) (ots : List (List Nat × List Nat))
  | scalar (desc : Desc) (name : List Nat) (dirs : List Dir)
  | object (iface : Bool) (desc : Desc) (name : List Nat) (ifs : List (List Nat)) (dirs : List Dir)
      (fields : List FDef)
  | union (desc : Desc) (name : List Nat) (dirs : List Dir) (types : List (List Nat))
  | enum (desc : Desc) (name : List Nat) (dirs : List Dir) (values : List EVDef)
  | input (desc : Desc) (name : List Nat) (dirs : List Dir) (fields : List VarDef)
  | directive (desc : Desc) (name : List Nat) (args : List VarDef) (dirs : List Dir) (rep : Bool)
      (locs : List (List Nat))

/-- A type-system extension (`extend schema …`, `extend scalar …`, …). -/
inductive EDef where
  | schema (dirs : List Dir) (ots : List (List Nat × List Nat))
  | scalar (name : List Nat) (dirs : List Dir)
  | object (iface : Bool) (name : List Nat) (ifs : List (List Nat)) (dirs : List Dir) (fields : List FDef)
  | union (name : List Nat) (dirs : List Dir) (types : List (List Nat))
  | enum (name : List Nat) (dirs : List Dir) (values : List EVDef)
  | input (name : List Nat) (dirs : List Dir) (fields : List VarDef)

/-- The definition an extension is printed like (without description, after `extend `). -/
def EDef.base : EDef → TDef
  | .schema ds ots => .schema none ds ots
  | .scalar n ds => .scalar none n ds
  | .object iface n ifs ds fs => .object iface none n ifs ds fs
  | .union n ds ts => .union none n ds ts
  | .enum n ds vs => .enum none n ds vs
  | .input n ds fs => .input none n ds fs

/-- A definition of a document: executable (stage 2), type-system definition or extension (stage 3). -/
inductive GDef where
  | x (d : XDef)
  | t (d : TDef)
  | e (d : EDef)

namespace Exec

def descPre (w : Widths) (d : Desc) : List Nat := wrap [] (descText w d) [10]

/-- tokens of an optional bracketed list -/
def bracketKvs (o c : TokKind) (inner : List KV) (empty : Bool) : List KV :=
  if empty then [] else (o, none) :: inner ++ [(c, none)]

def ivdAst (vd : VarDef) : Ast :=
  .node "InputValueDefinitionNode" [("name", Val.nameNode vd.name), ("type", vd.ty.toAst),
    ("description", descAst vd.desc), ("default_value", dfltAst vd.dflt), ("directives", dirsAst vd.dirs)]

def printIvd (w : Widths) (vd : VarDef) : List Nat :=
  descPre w vd.desc ++ join [vd.name ++ S ": " ++ vd.ty.print, wrap (S "= ") (dfltText w vd.dflt),
    printDirs w vd.dirs] [32]

def ivdKvs (vd : VarDef) : List KV :=
  descKvs vd.desc ++ ((.name, some vd.name) :: (.colon, none) :: vd.ty.kvs) ++
    (match vd.dflt with
      | none => []
      | some v => (.equals, none) :: v.kvs) ++ dirsKvs vd.dirs

def ivdsKvs : List VarDef → List KV
  | [] => []
  | a :: r => ivdKvs a ++ ivdsKvs r

def argDefsKvs (args : List VarDef) : List KV := bracketKvs .parenL .parenR (ivdsKvs args) args.isEmpty

def fdAst (f : FDef) : Ast :=
  .node "FieldDefinitionNode" [("name", Val.nameNode f.name), ("type", f.ty.toAst),
    ("description", descAst f.desc), ("arguments", optL (f.args.map ivdAst)), ("directives", dirsAst f.dirs)]

def printFd (w : Widths) (f : FDef) : List Nat :=
  descPre w f.desc ++ f.name ++ argDefs (f.args.map (printIvd w)) ++ S ": " ++ f.ty.print ++
    wrap [32] (printDirs w f.dirs)

def fdKvs (f : FDef) : List KV :=
  descKvs f.desc ++ ((.name, some f.name) :: argDefsKvs f.args) ++ ((.colon, none) :: f.ty.kvs) ++ dirsKvs f.dirs

def fdsKvs : List FDef → List KV
  | [] => []
  | a :: r => fdKvs a ++ fdsKvs r

def evAst (e : EVDef) : Ast :=
  .node "EnumValueDefinitionNode" [("name", Val.nameNode e.name), ("description", descAst e.desc),
    ("directives", dirsAst e.dirs)]

def printEv (w : Widths) (e : EVDef) : List Nat := descPre w e.desc ++ join [e.name, printDirs w e.dirs] [32]

def evKvs (e : EVDef) : List KV := descKvs e.desc ++ ((.name, some e.name) :: dirsKvs e.dirs)

def evsKvs : List EVDef → List KV
  | [] => []
  | a :: r => evKvs a ++ evsKvs r

def otAst (ot : List Nat × List Nat) : Ast :=
  .node "OperationTypeDefinitionNode" [("operation", .str ot.1), ("type", namedType ot.2)]

def printOt (ot : List Nat × List Nat) : List Nat := ot.1 ++ S ": " ++ ot.2

def otKvs (ot : List Nat × List Nat) : List KV := [(.name, some ot.1), (.colon, none), (.name, some ot.2)]

def otsKvs : List (List Nat × List Nat) → List KV
  | [] => []
  | a :: r => otKvs a ++ otsKvs r

/-- names separated by a punctuator -/
def delimKvs (d : TokKind) : List (List Nat) → List KV
  | [] => []
  | [a] => [(.name, some a)]
  | a :: b :: r => (.name, some a) :: (d, none) :: delimKvs d (b :: r)

def implKvs (ifs : List (List Nat)) : List KV :=
  if ifs.isEmpty then [] else (.name, some (S "implements")) :: delimKvs .amp ifs

def unionKvs (ts : List (List Nat)) : List KV :=
  if ts.isEmpty then [] else (.equals, none) :: delimKvs .pipe ts

def objCls (iface : Bool) : String := if iface then "InterfaceTypeDefinitionNode" else "ObjectTypeDefinitionNode"
def objKw (iface : Bool) : List Nat := if iface then S "interface" else S "type"

def tdefAst (dd : Bool) : TDef → Ast
  | .schema desc ds ots =>
    .node "SchemaDefinitionNode" [("description", descAst desc), ("directives", dirsAst ds),
      ("operation_types", .list (ots.map otAst))]
  | .scalar desc n ds =>
    .node "ScalarTypeDefinitionNode" [("name", Val.nameNode n), ("description", descAst desc),
      ("directives", dirsAst ds)]
  | .object iface desc n ifs ds fs =>
    .node (objCls iface) [("name", Val.nameNode n), ("description", descAst desc), ("directives", dirsAst ds),
      ("interfaces", optL (ifs.map namedType)), ("fields", optL (fs.map fdAst))]
  | .union desc n ds ts =>
    .node "UnionTypeDefinitionNode" [("name", Val.nameNode n), ("description", descAst desc),
      ("directives", dirsAst ds), ("types", optL (ts.map namedType))]
  | .enum desc n ds vs =>
    .node "EnumTypeDefinitionNode" [("name", Val.nameNode n), ("description", descAst desc),
      ("directives", dirsAst ds), ("values", optL (vs.map evAst))]
  | .input desc n ds fs =>
    .node "InputObjectTypeDefinitionNode" [("name", Val.nameNode n), ("description", descAst desc),
      ("directives", dirsAst ds), ("fields", optL (fs.map ivdAst))]
  | .directive desc n args ds rep locs =>
    .node "DirectiveDefinitionNode" [("name", Val.nameNode n), ("locations", .list (locs.map Val.nameNode)),
      ("description", descAst desc), ("arguments", optL (args.map ivdAst)),
      ("directives", if dd then dirsAst ds else .none), ("repeatable", .bool rep)]

def printTDef (w : Widths) : TDef → List Nat
  | .schema desc ds ots => descPre w desc ++ join [S "schema", printDirs w ds, block (ots.map printOt)] [32]
  | .scalar desc n ds => descPre w desc ++ join [S "scalar", n, printDirs w ds] [32]
  | .object iface desc n ifs ds fs =>
    descPre w desc ++ join [objKw iface, n, wrap (S "implements ") (join ifs (S " & ")), printDirs w ds,
      block (fs.map (printFd w))] [32]
  | .union desc n ds ts =>
    descPre w desc ++ join [S "union", n, printDirs w ds, wrap (S "= ") (join ts (S " | "))] [32]
  | .enum desc n ds vs => descPre w desc ++ join [S "enum", n, printDirs w ds, block (vs.map (printEv w))] [32]
  | .input desc n ds fs => descPre w desc ++ join [S "input", n, printDirs w ds, block (fs.map (printIvd w))] [32]
  | .directive desc n args ds rep locs =>
    descPre w desc ++ S "directive @" ++ n ++ argDefs (args.map (printIvd w)) ++ wrap [32] (printDirs w ds) ++
      (if rep then S " repeatable" else []) ++ S " on " ++ join locs (S " | ")

def tdefKvs : TDef → List KV
  | .schema desc ds ots =>
    descKvs desc ++ ((.name, some (S "schema")) :: dirsKvs ds) ++ bracketKvs .braceL .braceR (otsKvs ots) ots.isEmpty
  | .scalar desc n ds => descKvs desc ++ ((.name, some (S "scalar")) :: (.name, some n) :: dirsKvs ds)
  | .object iface desc n ifs ds fs =>
    descKvs desc ++ ((.name, some (objKw iface)) :: (.name, some n) :: implKvs ifs) ++ dirsKvs ds ++
      bracketKvs .braceL .braceR (fdsKvs fs) fs.isEmpty
  | .union desc n ds ts =>
    descKvs desc ++ ((.name, some (S "union")) :: (.name, some n) :: dirsKvs ds) ++ unionKvs ts
  | .enum desc n ds vs =>
    descKvs desc ++ ((.name, some (S "enum")) :: (.name, some n) :: dirsKvs ds) ++
      bracketKvs .braceL .braceR (evsKvs vs) vs.isEmpty
  | .input desc n ds fs =>
    descKvs desc ++ ((.name, some (S "input")) :: (.name, some n) :: dirsKvs ds) ++
      bracketKvs .braceL .braceR (ivdsKvs fs) fs.isEmpty
  | .directive desc n args ds rep locs =>
    descKvs desc ++ ((.name, some (S "directive")) :: (.at, none) :: (.name, some n) :: argDefsKvs args) ++
      dirsKvs ds ++ (if rep then [(.name, some (S "repeatable"))] else []) ++
      ((.name, some (S "on")) :: delimKvs .pipe locs)

def ivdsWf (vds : List VarDef) : Prop := ∀ a ∈ vds, varDefWf a

def fdWf (f : FDef) : Prop :=
  descWf f.desc ∧ validName f.name = true ∧ ivdsWf f.args ∧ f.ty.wf = true ∧ TyP.shaped f.ty = true ∧
    dirsWfC true f.dirs

def evWf (e : EVDef) : Prop :=
  descWf e.desc ∧ validName e.name = true ∧ e.name ≠ S "true" ∧ e.name ≠ S "false" ∧ e.name ≠ S "null" ∧
    dirsWfC true e.dirs

def namesWf (ns : List (List Nat)) : Prop := ∀ a ∈ ns, validName a = true

def isLocation (l : List Nat) : Prop := l ∈ Generated.ParserTables.directiveLocations.map strCps

def tdefWf (dd : Bool) : TDef → Prop
  | .schema desc ds ots =>
    descWf desc ∧ dirsWfC true ds ∧ ots ≠ [] ∧ ∀ ot ∈ ots, isOpType ot.1 ∧ validName ot.2 = true
  | .scalar desc n ds => descWf desc ∧ validName n = true ∧ dirsWfC true ds
  | .object _ desc n ifs ds fs =>
    descWf desc ∧ validName n = true ∧ namesWf ifs ∧ dirsWfC true ds ∧ ∀ f ∈ fs, fdWf f
  | .union desc n ds ts => descWf desc ∧ validName n = true ∧ dirsWfC true ds ∧ namesWf ts
  | .enum desc n ds vs => descWf desc ∧ validName n = true ∧ dirsWfC true ds ∧ ∀ e ∈ vs, evWf e
  | .input desc n ds fs => descWf desc ∧ validName n = true ∧ dirsWfC true ds ∧ ivdsWf fs
  | .directive desc n args ds _ locs =>
    descWf desc ∧ validName n = true ∧ ivdsWf args ∧ dirsWfC true ds ∧ (ds = [] ∨ dd = true) ∧ locs ≠ [] ∧
      ∀ l ∈ locs, isLocation l

def objExtCls (iface : Bool) : String := if iface then "InterfaceTypeExtensionNode" else "ObjectTypeExtensionNode"

def edefAst : EDef → Ast
  | .schema ds ots =>
    .node "SchemaExtensionNode" [("directives", dirsAst ds), ("operation_types", optL (ots.map otAst))]
  | .scalar n ds => .node "ScalarTypeExtensionNode" [("name", Val.nameNode n), ("directives", dirsAst ds)]
  | .object iface n ifs ds fs =>
    .node (objExtCls iface) [("name", Val.nameNode n), ("directives", dirsAst ds),
      ("interfaces", optL (ifs.map namedType)), ("fields", optL (fs.map fdAst))]
  | .union n ds ts =>
    .node "UnionTypeExtensionNode" [("name", Val.nameNode n), ("directives", dirsAst ds),
      ("types", optL (ts.map namedType))]
  | .enum n ds vs =>
    .node "EnumTypeExtensionNode" [("name", Val.nameNode n), ("directives", dirsAst ds),
      ("values", optL (vs.map evAst))]
  | .input n ds fs =>
    .node "InputObjectTypeExtensionNode" [("name", Val.nameNode n), ("directives", dirsAst ds),
      ("fields", optL (fs.map ivdAst))]

def printEDef (w : Widths) (d : EDef) : List Nat := S "extend " ++ printTDef w d.base

def edefKvs (d : EDef) : List KV := (.name, some (S "extend")) :: tdefKvs d.base

/-- Well-formedness of an extension: that of the parts, and the parser's requirement that an
extension extends something. -/
def edefWf : EDef → Prop
  | .schema ds ots =>
    dirsWfC true ds ∧ (∀ ot ∈ ots, isOpType ot.1 ∧ validName ot.2 = true) ∧ (ds ≠ [] ∨ ots ≠ [])
  | .scalar n ds => validName n = true ∧ dirsWfC true ds ∧ ds ≠ []
  | .object _ n ifs ds fs =>
    validName n = true ∧ namesWf ifs ∧ dirsWfC true ds ∧ (∀ f ∈ fs, fdWf f) ∧ (ifs ≠ [] ∨ ds ≠ [] ∨ fs ≠ [])
  | .union n ds ts => validName n = true ∧ dirsWfC true ds ∧ namesWf ts ∧ (ds ≠ [] ∨ ts ≠ [])
  | .enum n ds vs => validName n = true ∧ dirsWfC true ds ∧ (∀ e ∈ vs, evWf e) ∧ (ds ≠ [] ∨ vs ≠ [])
  | .input n ds fs => validName n = true ∧ dirsWfC true ds ∧ ivdsWf fs ∧ (ds ≠ [] ∨ fs ≠ [])

def gdefAst (fa dd : Bool) : GDef → Ast
  | .x d => xdefAst fa d
  | .t d => tdefAst dd d
  | .e d => edefAst d

def printGDef (w : Widths) : GDef → List Nat
  | .x d => printXDef w d
  | .t d => printTDef w d
  | .e d => printEDef w d

def gdefKvs : GDef → List KV
  | .x d => xdefKvs d
  | .t d => tdefKvs d
  | .e d => edefKvs d

def gdefWf (fa dd : Bool) : GDef → Prop
  | .x d => xdefWf fa d
  | .t d => tdefWf dd d
  | .e d => edefWf d

def gdefsWf (fa dd : Bool) (defs : List GDef) : Prop := ∀ d ∈ defs, gdefWf fa dd d

def gdocAst (fa dd : Bool) (defs : List GDef) : Ast :=
  .node "DocumentNode" [("definitions", .list (defs.map (gdefAst fa dd)))]

def printGDoc (w : Widths) (defs : List GDef) : List Nat :=
  join (documentDefs none (defs.map (printGDef w))) [10, 10]

/-- The printed definition ends with the `}` of a block. -/
def endsBlock : GDef → Bool
  | .x _ => true
  | .t (.schema ..) => true
  | .t (.object _ _ _ _ _ fs) => !fs.isEmpty
  | .t (.enum _ _ _ vs) => !vs.isEmpty
  | .t (.input _ _ _ fs) => !fs.isEmpty
  | .t _ => false
  | .e (.schema _ ots) => !ots.isEmpty
  | .e (.object _ _ _ _ fs) => !fs.isEmpty
  | .e (.enum _ _ vs) => !vs.isEmpty
  | .e (.input _ _ fs) => !fs.isEmpty
  | .e _ => false

/-- The definition prints as a shorthand query `{ … }`. -/
def isShortG : GDef → Bool
  | .x (.op desc ot n vds ds _) => desc.isNone && decide (ot = S "query") && n.isEmpty && vds.isEmpty && ds.isEmpty
  | _ => false

/-- The tokens of the printed document: a shorthand query that follows a definition not ending with
a block carries the `query` keyword (printer fix e7002aa). -/
def gdefsKvs : Bool → List GDef → List KV
  | _, [] => []
  | pb, d :: r =>
    (if isShortG d && !pb then [(.name, some (S "query"))] else []) ++ gdefKvs d ++ gdefsKvs (endsBlock d) r

end Exec
end Gql.Text

namespace Gql.Text.Exec
open Gql.Syntax

/-! A document of executable definitions, as a document of stage 3. -/

theorem gdocAst_x (fa dd : Bool) (defs : List XDef) : gdocAst fa dd (defs.map GDef.x) = xdocAst fa defs := by
  simp [gdocAst, xdocAst, Function.comp_def, gdefAst]

theorem printGDoc_x (w : Widths) (defs : List XDef) : printGDoc w (defs.map GDef.x) = printXDoc w defs := by
  simp [printGDoc, printXDoc, Function.comp_def, printGDef]

theorem gdefsWf_x (fa dd : Bool) (defs : List XDef) (h : xdefsWf fa defs) : gdefsWf fa dd (defs.map GDef.x) := by
  induction defs with
  | nil => intro d hd; cases hd
  | cons x r ih =>
    intro d hd
    rcases List.mem_cons.mp hd with rfl | hd
    · exact h.1
    · exact ih h.2 d hd

end Gql.Text.Exec

namespace Gql.Text
open Gql.Syntax

/-! ### the keyword form of a type-system definition

Every printed type-system definition is `description? keyword part part …` with optional parts separated by
single blanks; the lexer side and the last-character facts are stated over this form. -/

def TDef.desc : TDef → Desc
  | .schema desc .. | .scalar desc .. | .object _ desc .. | .union desc .. | .enum desc .. | .input desc ..
  | .directive desc .. => desc

namespace Exec

def tdefKw : TDef → List Nat
  | .schema .. => S "schema"
  | .scalar .. => S "scalar"
  | .object iface .. => objKw iface
  | .union .. => S "union"
  | .enum .. => S "enum"
  | .input .. => S "input"
  | .directive .. => S "directive"

/-- the parts after the keyword, each with its tokens -/
def tdefParts (w : Widths) : TDef → List (List Nat × List KV)
  | .schema _ ds ots =>
    [(printDirs w ds, dirsKvs ds), (block (ots.map printOt), bracketKvs .braceL .braceR (otsKvs ots) ots.isEmpty)]
  | .scalar _ n ds => [(n, [(.name, some n)]), (printDirs w ds, dirsKvs ds)]
  | .object _ _ n ifs ds fs =>
    [(n, [(.name, some n)]), (wrap (S "implements ") (join ifs (S " & ")), implKvs ifs),
      (printDirs w ds, dirsKvs ds),
      (block (fs.map (printFd w)), bracketKvs .braceL .braceR (fdsKvs fs) fs.isEmpty)]
  | .union _ n ds ts =>
    [(n, [(.name, some n)]), (printDirs w ds, dirsKvs ds), (wrap (S "= ") (join ts (S " | ")), unionKvs ts)]
  | .enum _ n ds vs =>
    [(n, [(.name, some n)]), (printDirs w ds, dirsKvs ds),
      (block (vs.map (printEv w)), bracketKvs .braceL .braceR (evsKvs vs) vs.isEmpty)]
  | .input _ n ds fs =>
    [(n, [(.name, some n)]), (printDirs w ds, dirsKvs ds),
      (block (fs.map (printIvd w)), bracketKvs .braceL .braceR (ivdsKvs fs) fs.isEmpty)]
  | .directive _ n args ds rep locs =>
    [(64 :: n ++ argDefs (args.map (printIvd w)), (.at, none) :: (.name, some n) :: argDefsKvs args),
      (printDirs w ds, dirsKvs ds),
      (if rep then S "repeatable" else [], if rep then [(.name, some (S "repeatable"))] else []),
      (S "on " ++ join locs (S " | "), (.name, some (S "on")) :: delimKvs .pipe locs)]

theorem tdefKw_valid (d : TDef) : validName (tdefKw d) = true := by
  cases d with
  | object iface => cases iface <;> (show validName (S _) = true) <;> decide +kernel
  | _ => (show validName (S _) = true); decide +kernel

theorem printTDef_eq (w : Widths) (d : TDef) :
    printTDef w d = descPre w d.desc ++ (tdefKw d ++ spaced ((tdefParts w d).map (·.1))) := by
  have hne : ∀ d, tdefKw d ≠ [] := fun d h => by have := tdefKw_valid d; rw [h] at this; cases this
  cases d with
  | directive desc n args ds rep locs =>
    have e1 : S "directive @" = S "directive" ++ [32, 64] := by decide +kernel
    have e2 : S " on " = 32 :: S "on " := by decide +kernel
    have e3 : (if rep then S " repeatable" else []) = wrap [32] (if rep then S "repeatable" else []) := by
      cases rep <;> decide +kernel
    have e4 : ∀ J, wrap [32] (S "on " ++ J) = 32 :: S "on " ++ J := fun J => by
      rw [show S "on " = 111 :: S "n " by decide +kernel]; simp [wrap]
    simp only [printTDef, tdefKw, tdefParts, TDef.desc, List.map, spaced, e1, e2, e3, e4]
    simp only [wrap, List.isEmpty_cons, List.cons_append, Bool.false_eq_true, ↓reduceIte, List.append_assoc,
      List.nil_append, List.append_nil]
  | schema desc ds ots => exact congrArg _ (join_space _ _ (hne (.schema desc ds ots)))
  | scalar desc n ds => exact congrArg _ (join_space _ _ (hne (.scalar desc n ds)))
  | object iface desc n ifs ds fs => exact congrArg _ (join_space _ _ (hne (.object iface desc n ifs ds fs)))
  | union desc n ds ts => exact congrArg _ (join_space _ _ (hne (.union desc n ds ts)))
  | enum desc n ds vs => exact congrArg _ (join_space _ _ (hne (.enum desc n ds vs)))
  | input desc n ds fs => exact congrArg _ (join_space _ _ (hne (.input desc n ds fs)))

theorem tdefKvs_eq (w : Widths) (d : TDef) :
    tdefKvs d = descKvs d.desc ++ (.name, some (tdefKw d)) :: ((tdefParts w d).map (·.2)).flatten := by
  cases d <;> simp [tdefKvs, tdefKw, tdefParts, TDef.desc]

end Exec
end Gql.Text
