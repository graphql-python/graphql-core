import Gql.Proofs.ExecParse
import Gql.Proofs.ParseDefinition
/-!
The parser model on the tokens of printed type-system definitions and extensions: input value, field, enum value and
operation type definitions and the bracketed lists of them; `parse_definition` on a definition (`parses_tdef`) and on
an extension (`parses_edef`), each kind a case that follows the text of its method.
-/
namespace Gql.Syntax
open Gql Gql.Text
open Gql.Generated

theorem optL_opt (xs : List Ast) : optListO (if xs = [] then none else some xs) = optL xs := by
  cases xs <;> simp [optListO, optL]

/-- What may follow an item of a bracketed list of definitions: the next item or the closing bracket. -/
abbrev itemNext : KV → Prop := NextIn [.name, .string, .blockString, .braceR, .parenR]

/-- A description followed by a NAME starts an item. -/
theorem itemHead_desc_name (d : Desc) (n : List Nat) (rest : List KV) (close : TokKind)
    (hc : close = .braceR ∨ close = .parenR) :
    ∃ k ks, Exec.descKvs d ++ ((.name, some n) :: rest) = k :: ks ∧ itemNext k ∧ k.1 ≠ close := by
  match d with
  | none => exact ⟨_, _, rfl, by simp [NextIn], by rcases hc with rfl | rfl <;> simp⟩
  | some (s, true) => exact ⟨_, _, rfl, by simp [NextIn], by rcases hc with rfl | rfl <;> simp⟩
  | some (s, false) => exact ⟨_, _, rfl, by simp [NextIn], by rcases hc with rfl | rfl <;> simp⟩

theorem ivdKvs_eq (vd : VarDef) : Exec.ivdKvs vd = Exec.descKvs vd.desc ++
    ((.name, some vd.name) :: (.colon, none) :: (vd.ty.kvs ++ (dfltKvs vd.dflt ++ Exec.dirsKvs vd.dirs))) := by
  unfold Exec.ivdKvs dfltKvs
  cases vd.dflt <;> simp

section
variable (cfg : Cfg) (hm : cfg.maxTokens = none)
include hm

theorem parses_ivd {n : Nat} (vd : VarDef) (h : Exec.varDefWf vd) :
    Parses n (parseInputValueDef cfg n) (Exec.ivdKvs vd) (Exec.ivdAst vd) itemNext := by
  obtain ⟨_, _, hty, hsh, hdf, hds⟩ := h
  rw [ivdKvs_eq, parseInputValueDef]
  refine Parses.result ?_ (Parses.desc cfg hm vd.desc (Parses.name cfg hm vd.name
    (Parses.tok cfg hm .colon none (by decide) fun _ _ =>
      Parses.bind (parses_type cfg hm vd.ty hty hsh)
        (Parses.dflt cfg hm vd.dflt hdf
          ((Parses.map (parses_dirs cfg hm true vd.dirs hds) _).mono
            fun k (hk : itemNext k) => ⟨hk.ne .at, hk.ne .parenL⟩)
          fun k (hk : itemNext k) => (dflt_dirs_headD vd.dflt vd.dirs k (hk.ne .bang) (hk.ne .equals)).2)
        fun k (hk : itemNext k) => (dflt_dirs_headD vd.dflt vd.dirs k (hk.ne .bang) (hk.ne .equals)).1))
    fun _ _ => ⟨by simp, by simp⟩)
  rw [mk_ivdNode, dirsAst_opt]; rfl

/-- The items of a list of input value definitions between `close` brackets. -/
theorem items_ivd (close : TokKind) (hc : close = .braceR ∨ close = .parenR) (n : Nat) (xs : List VarDef)
    (h : Exec.ivdsWf xs) : Items (parseInputValueDef cfg n) (close, none) itemNext Exec.ivdAst Exec.ivdKvs n xs :=
  ⟨by rcases hc with rfl | rfl <;> decide, fun a ha => parses_ivd cfg hm a (h a ha),
    fun a _ => by rw [ivdKvs_eq]; exact itemHead_desc_name _ _ _ close hc⟩

theorem parses_ivdList {n : Nat} (o close : TokKind) (ho : o ≠ .eof) (hc : close = .braceR ∨ close = .parenR)
    (xs : List VarDef) (h : Exec.ivdsWf xs) :
    Parses n (parseOptionalMany cfg n o (parseInputValueDef cfg n) close)
      (Exec.bracketKvs o close (Exec.ivdsKvs xs) xs.isEmpty)
      (if xs = [] then none else some (xs.map Exec.ivdAst)) (fun k => xs = [] → k.1 ≠ o) := by
  rw [kvs_eq_flatMap Exec.ivdsKvs Exec.ivdKvs rfl fun _ _ => rfl]
  exact Parses.optMany cfg hm o ho (by rcases hc with rfl | rfl <;> decide) xs (items_ivd cfg hm close hc n xs h)

theorem parses_fd {n : Nat} (f : FDef) (h : Exec.fdWf f) :
    Parses n (parseFieldDefinition cfg n) (Exec.fdKvs f) (Exec.fdAst f) itemNext := by
  obtain ⟨_, _, hargs, hty, hsh, hds⟩ := h
  unfold Exec.fdKvs Exec.argDefsKvs
  simp only [List.append_assoc, List.cons_append]
  rw [parseFieldDefinition, parseArgumentDefs]
  refine Parses.result ?_ (Parses.desc cfg hm f.desc (Parses.name cfg hm f.name
    (Parses.bind (parses_ivdList cfg hm .parenL .parenR (by decide) (Or.inr rfl) f.args hargs)
      (Parses.tok cfg hm .colon none (by decide) fun _ _ =>
        Parses.bind (parses_type cfg hm f.ty hty hsh)
          ((Parses.map (parses_dirs cfg hm true f.dirs hds) _).mono
            fun k (hk : itemNext k) => ⟨hk.ne .at, hk.ne .parenL⟩)
          fun k (hk : itemNext k) => by
            rw [dirsKvs_headD]
            exact ite_kind_ne (hk.ne .bang))
      fun _ _ _ => by simp)) fun _ _ => ⟨by simp, by simp⟩)
  rw [mk_fdNode, dirsAst_opt, optL_map_opt]; rfl

theorem parses_ev {n : Nat} (e : EVDef) (h : Exec.evWf e) :
    Parses n (parseEnumValueDefinition cfg n) (Exec.evKvs e) (Exec.evAst e) itemNext := by
  obtain ⟨_, _, ht, hf, hnl, hds⟩ := h
  unfold Exec.evKvs
  rw [parseEnumValueDefinition]
  have hname : Parses n (parseEnumValueName cfg) [(.name, some e.name)] (Val.nameNode e.name) anyKV := by
    rw [parseEnumValueName]
    refine Parses.cur fun t ⟨_, _, hk⟩ => ?_
    have hv := (tok_of_kv hk).2
    rw [valueIs_false hv "true" ht, valueIs_false hv "false" hf, valueIs_false hv "null" hnl]
    exact Parses.name_only cfg hm e.name _
  refine Parses.result ?_ (Parses.desc cfg hm e.desc (Parses.bind1 hname
    ((Parses.map (parses_dirs cfg hm true e.dirs hds) _).mono
      fun k (hk : itemNext k) => ⟨hk.ne .at, hk.ne .parenL⟩))
    fun _ _ => ⟨by simp, by simp⟩)
  rw [mk_evNode, dirsAst_opt]; rfl

theorem parses_ot {n : Nat} (ot : List Nat × List Nat) (h : Exec.isOpType ot.1 ∧ validName ot.2 = true) (ok : KV → Prop) :
    Parses n (parseOperationTypeDefinition cfg) (Exec.otKvs ot) (Exec.otAst ot) ok := by
  rw [parseOperationTypeDefinition, Exec.otKvs]
  exact Parses.result (mk_otNode _ _) (Parses.bind1 (parses_operationType cfg hm ot.1 h.1)
    (Parses.tok cfg hm .colon none (by decide) fun _ _ =>
      Parses.bind_nil (parses_namedType cfg hm ot.2 ok) (Parses.pure _ _) fun _ h => h))

theorem items_fd (n : Nat) (xs : List FDef) (h : ∀ f ∈ xs, Exec.fdWf f) :
    Items (parseFieldDefinition cfg n) (.braceR, none) itemNext Exec.fdAst Exec.fdKvs n xs :=
  ⟨by decide, fun a ha => parses_fd cfg hm a (h a ha), fun a _ => by
    unfold Exec.fdKvs
    simp only [List.append_assoc, List.cons_append]
    exact itemHead_desc_name _ _ _ .braceR (Or.inl rfl)⟩

theorem items_ev (n : Nat) (xs : List EVDef) (h : ∀ e ∈ xs, Exec.evWf e) :
    Items (parseEnumValueDefinition cfg n) (.braceR, none) itemNext Exec.evAst Exec.evKvs n xs :=
  ⟨by decide, fun a ha => parses_ev cfg hm a (h a ha), fun a _ =>
    itemHead_desc_name _ _ _ .braceR (Or.inl rfl)⟩

theorem items_ot (n : Nat) (xs : List (List Nat × List Nat))
    (h : ∀ ot ∈ xs, Exec.isOpType ot.1 ∧ validName ot.2 = true) :
    Items (parseOperationTypeDefinition cfg) (.braceR, none) itemNext Exec.otAst Exec.otKvs n xs :=
  ⟨by decide, fun a ha => parses_ot cfg hm a (h a ha) _, fun a _ => ⟨_, _, rfl, by simp [NextIn], by simp⟩⟩

end

/-- What may follow a definition that does not end with a block: the end of the document, a description
or a keyword other than `implements`. -/
def defNext (k : KV) : Prop :=
  NextIn [.eof, .string, .blockString, .name] k ∧ k ≠ (.name, some (S "implements"))

theorem defNext.ne {k : KV} (h : defNext k) (t : TokKind) (ht : t ∉ [TokKind.eof, .string, .blockString, .name] := by decide) :
    k.1 ≠ t := h.1.ne t ht

/-- The keyword string of an object-like definition. -/
def objKwS (iface : Bool) : String := if iface then "interface" else "type"

theorem objKw_S (iface : Bool) : Exec.objKw iface = S (objKwS iface) := by cases iface <;> rfl

theorem bracketKvs_length (o c : TokKind) (inner : List KV) (e : Bool) :
    (Exec.bracketKvs o c inner e).length ≤ inner.length + 2 := by
  cases e <;> simp [Exec.bracketKvs]

theorem endsBlock_isEmpty {α : Type} (xs : List α) (h : (!xs.isEmpty) = false) : xs = [] := by
  cases xs <;> simp_all

theorem implKvs_headD (ifs : List (List Nat)) (d : KV) :
    (Exec.implKvs ifs).headD d = if ifs = [] then d else (.name, some (S "implements")) := by
  cases ifs <;> rfl

theorem unionKvs_headD (ts : List (List Nat)) (d : KV) :
    (Exec.unionKvs ts).headD d = if ts = [] then d else (.equals, none) := by
  cases ts <;> rfl

/-- After the directives of a definition comes its block or, when the block is absent, what follows the
definition. -/
theorem dirs_block_follow {o c : TokKind} {inner : List KV} {e : Bool} {k : KV} (h : e = true → defNext k)
    (ho : o = .braceL) : ((Exec.bracketKvs o c inner e).headD k).1 ≠ .at ∧
      ((Exec.bracketKvs o c inner e).headD k).1 ≠ .parenL := by
  rw [bracketKvs_headD]
  cases e with
  | true => exact ⟨(h rfl).ne .at, (h rfl).ne .parenL⟩
  | false => subst ho; exact ⟨by simp, by simp⟩

theorem location_any (t : Token) (l : List Nat) (hv : t.value = some l) (h : Exec.isLocation l) :
    ParserTables.directiveLocations.any (fun s => valueIs t s) = true := by
  unfold Exec.isLocation at h
  simp only [List.mem_map] at h
  obtain ⟨s, hs, rfl⟩ := h
  rw [List.any_eq_true]
  exact ⟨s, hs, by simp [valueIs, hv]⟩

section
variable (cfg : Cfg) (hm : cfg.maxTokens = none)
include hm

/-- `implements A & B`. -/
theorem parses_impl {n : Nat} (ifs : List (List Nat)) :
    Parses n (parseImplementsInterfaces cfg n) (Exec.implKvs ifs)
      (if ifs = [] then none else some (ifs.map namedType))
      (fun k => (ifs = [] → k ≠ (.name, some (S "implements"))) ∧ k.1 ≠ .amp) := by
  rw [parseImplementsInterfaces, Exec.implKvs]
  by_cases hx : ifs = []
  · subst hx
    refine Parses.optKw_no cfg "implements" ?_ fun d hd => hd.1 rfl
    simpa using Parses.pure none _
  · have hemp : ifs.isEmpty = false := by cases ifs <;> simp_all
    simp only [hemp, Bool.false_eq_true, ↓reduceIte]
    refine Parses.optKw_yes cfg hm "implements" ?_
    simp only [↓reduceIte, hx]
    exact (Parses.map (Parses.delimMany cfg hm .amp (by decide) (by decide) (parseNamedType cfg) namedType ifs hx
      (fun nm _ => parses_namedType cfg hm nm anyKV)) some).mono fun k hk => hk.2

/-- `= A | B`. -/
theorem parses_unionMembers {n : Nat} (ts : List (List Nat)) :
    Parses n (parseUnionMemberTypes cfg n) (Exec.unionKvs ts)
      (if ts = [] then none else some (ts.map namedType)) (fun k => (ts = [] → k.1 ≠ .equals) ∧ k.1 ≠ .pipe) := by
  rw [parseUnionMemberTypes, Exec.unionKvs]
  by_cases hx : ts = []
  · subst hx
    refine Parses.optTok_no cfg .equals ?_ fun d hd => hd.1 rfl
    simpa using Parses.pure none _
  · have hemp : ts.isEmpty = false := by cases ts <;> simp_all
    simp only [hemp, Bool.false_eq_true, ↓reduceIte]
    refine Parses.optTok_yes cfg hm .equals none (by decide) ?_
    simp only [↓reduceIte, hx]
    exact (Parses.map (Parses.delimMany cfg hm .pipe (by decide) (by decide) (parseNamedType cfg) namedType ts hx
      (fun nm _ => parses_namedType cfg hm nm anyKV)) some).mono fun k hk => hk.2

omit hm in
/-- After `implements …` comes a directive, the block or, when both are absent, what follows the definition. -/
theorem impl_follow {ifs : List (List Nat)} (ds : List Dir) {β : Type} (xs : List β) {inner : List KV} {k : KV}
    (hk : xs = [] → defNext k) :
    let k' := (Exec.dirsKvs ds ++ Exec.bracketKvs .braceL .braceR inner xs.isEmpty).headD k
    (ifs = [] → k' ≠ (.name, some (S "implements"))) ∧ k'.1 ≠ .amp := by
  rw [headD_append, dirsKvs_headD, bracketKvs_headD]
  split
  · cases hx : xs.isEmpty with
    | true =>
      have hd := hk (by simpa using hx)
      exact ⟨fun _ => hd.2, hd.ne .amp⟩
    | false => exact ⟨fun _ => by simp, by simp⟩
  · exact ⟨fun _ => by simp, by decide⟩

omit hm in
/-- The keyword of a type-system definition selects its parser method. -/
theorem defMethod_tdef (d : TDef) : ∃ m, defMethod d.desc.isSome (Exec.tdefKw d) = some m ∧
    dispatchDefinition cfg n m = match d with
      | .schema .. => parseSchemaDefinition cfg n
      | .scalar .. => parseScalarTypeDefinition cfg n
      | .object iface .. => parseObjectLikeDefinition cfg n (objKwS iface) (Exec.objCls iface)
      | .union .. => parseUnionTypeDefinition cfg n
      | .enum .. => parseEnumTypeDefinition cfg n
      | .input .. => parseInputObjectTypeDefinition cfg n
      | .directive .. => parseDirectiveDefinition cfg n := by
  cases d with
  | schema desc =>
    exact ⟨"schema_definition", defMethod_keywords ("schema", _) (by simp) _, by simp [dispatchDefinition]⟩
  | scalar desc =>
    exact ⟨"scalar_type_definition", defMethod_keywords ("scalar", _) (by simp) _, by simp [dispatchDefinition]⟩
  | object iface desc =>
    cases iface
    · exact ⟨"object_type_definition", defMethod_keywords ("type", _) (by simp) _, by simp [dispatchDefinition, objKwS, Exec.objCls]⟩
    · exact ⟨"interface_type_definition", defMethod_keywords ("interface", _) (by simp) _, by simp [dispatchDefinition, objKwS, Exec.objCls]⟩
  | union desc =>
    exact ⟨"union_type_definition", defMethod_keywords ("union", _) (by simp) _, by simp [dispatchDefinition]⟩
  | enum desc =>
    exact ⟨"enum_type_definition", defMethod_keywords ("enum", _) (by simp) _, by simp [dispatchDefinition]⟩
  | input desc =>
    exact ⟨"input_object_type_definition", defMethod_keywords ("input", _) (by simp) _, by simp [dispatchDefinition]⟩
  | directive desc =>
    exact ⟨"directive_definition", defMethod_keywords ("directive", _) (by simp) _, by simp [dispatchDefinition]⟩

/-- `parse_definition` on the tokens of a printed type-system definition: the keyword selects the
method, and each method follows the printed parts of its kind. -/
theorem parses_tdef {n : Nat} (d : TDef) (h : Exec.tdefWf cfg.dirOnDir d) :
    Parses n (parseDefinition cfg n) (Exec.tdefKvs d) (Exec.tdefAst cfg.dirOnDir d)
      (fun k => Exec.endsBlock (.t d) = false → defNext k) := by
  obtain ⟨m, hm', hdisp⟩ := defMethod_tdef cfg (n := n) d
  suffices hp : Parses n (dispatchDefinition cfg n m) (Exec.tdefKvs d) (Exec.tdefAst cfg.dirOnDir d)
      (fun k => Exec.endsBlock (.t d) = false → defNext k) by
    rw [Exec.tdefKvs_eq Widths.generated] at hp ⊢
    exact Parses.definition d.desc _ m hm' hp
  rw [hdisp]
  cases d with
  | scalar desc nm ds =>
    simp only [Exec.tdefKvs, Exec.endsBlock, forall_const]
    rw [parseScalarTypeDefinition, Exec.tdefAst]
    exact Parses.result (by rw [mk_scalarNode, dirsAst_opt]) (Parses.desc cfg hm desc (Parses.kw cfg hm "scalar"
      (Parses.name cfg hm nm ((Parses.map (parses_dirs cfg hm true ds h.2.2) _).mono
        fun k (hk : defNext k) => ⟨hk.ne .at, hk.ne .parenL⟩))) fun _ _ => ⟨by simp, by simp⟩)
  | union desc nm ds ts =>
    simp only [Exec.tdefKvs, List.append_assoc, List.cons_append, Exec.endsBlock, forall_const]
    rw [parseUnionTypeDefinition, Exec.tdefAst]
    refine Parses.result (by rw [mk_unionNode, dirsAst_opt, optL_map_opt]) (Parses.desc cfg hm desc
      (Parses.kw cfg hm "union" (Parses.name cfg hm nm (Parses.bind (parses_dirs cfg hm true ds h.2.2.1)
        ((Parses.map (parses_unionMembers cfg hm ts) _).mono
          fun k (hk : defNext k) => ⟨fun _ => hk.ne .equals, hk.ne .pipe⟩)
        fun k (hk : defNext k) => ?_))) fun _ _ => ⟨by simp, by simp⟩)
    rw [unionKvs_headD]
    exact ⟨ite_kind_ne (hk.ne .at), ite_kind_ne (hk.ne .parenL)⟩
  | enum desc nm ds xs =>
    simp only [Exec.tdefKvs, List.append_assoc, List.cons_append,
      (kvs_eq_flatMap Exec.evsKvs Exec.evKvs rfl fun _ _ => rfl), Exec.endsBlock, Bool.not_eq_false', List.isEmpty_iff]
    rw [parseEnumTypeDefinition, parseEnumValuesDefinition, Exec.tdefAst]
    exact Parses.result (by rw [mk_enumNode, dirsAst_opt, optL_map_opt]) (Parses.desc cfg hm desc
      (Parses.kw cfg hm "enum" (Parses.name cfg hm nm (Parses.bind (parses_dirs cfg hm true ds h.2.2.1)
        ((Parses.map (Parses.optMany cfg hm .braceL (by decide) (by decide) xs (items_ev cfg hm n xs h.2.2.2)) _).mono
          fun k hk hx => (hk hx).ne .braceL)
        fun k hk => dirs_block_follow (fun he => hk (by simpa using he)) rfl))) fun _ _ => ⟨by simp, by simp⟩)
  | input desc nm ds xs =>
    simp only [Exec.tdefKvs, List.append_assoc, List.cons_append, Exec.endsBlock, Bool.not_eq_false', List.isEmpty_iff]
    rw [parseInputObjectTypeDefinition, parseInputFieldsDefinition, Exec.tdefAst]
    exact Parses.result (by rw [mk_inputNode, dirsAst_opt, optL_map_opt]) (Parses.desc cfg hm desc
      (Parses.kw cfg hm "input" (Parses.name cfg hm nm (Parses.bind (parses_dirs cfg hm true ds h.2.2.1)
        ((Parses.map (parses_ivdList cfg hm .braceL .braceR (by decide) (Or.inl rfl) xs h.2.2.2) _).mono
          fun k hk hx => (hk hx).ne .braceL)
        fun k hk => dirs_block_follow (fun he => hk (by simpa using he)) rfl))) fun _ _ => ⟨by simp, by simp⟩)
  | object iface desc nm ifs ds xs =>
    simp only [Exec.tdefKvs, objKw_S, List.append_assoc, List.cons_append,
      (kvs_eq_flatMap Exec.fdsKvs Exec.fdKvs rfl fun _ _ => rfl), Exec.endsBlock, Bool.not_eq_false',
      List.isEmpty_iff]
    rw [parseObjectLikeDefinition, parseFieldsDefinition, Exec.tdefAst]
    exact Parses.result (by rw [Exec.objCls, mk_objNode, dirsAst_opt, optL_map_opt, optL_map_opt]) (Parses.desc cfg hm desc
      (Parses.kw cfg hm (objKwS iface) (Parses.name cfg hm nm (Parses.bind (parses_impl cfg hm ifs)
        (Parses.bind (parses_dirs cfg hm true ds h.2.2.2.1)
          ((Parses.map (Parses.optMany cfg hm .braceL (by decide) (by decide) xs (items_fd cfg hm n xs h.2.2.2.2))
            _).mono fun k hk hx => (hk hx).ne .braceL)
          fun k hk => dirs_block_follow (fun he => hk (by simpa using he)) rfl)
        fun k hk => impl_follow ds xs hk))) fun _ _ => ⟨by simp, by simp⟩)
  | schema desc ds ots =>
    obtain ⟨_, hds, hone, hots⟩ := h
    have hemp : ots.isEmpty = false := by cases ots <;> simp_all
    simp only [Exec.tdefKvs, Exec.bracketKvs, hemp, Bool.false_eq_true, ↓reduceIte, List.append_assoc,
      List.cons_append, (kvs_eq_flatMap Exec.otsKvs Exec.otKvs rfl fun _ _ => rfl)]
    rw [parseSchemaDefinition, Exec.tdefAst]
    exact Parses.result (by rw [mk_schemaNode, dirsAst_opt]) (Parses.desc cfg hm desc
      (Parses.kw cfg hm "schema" (Parses.bind (parses_dirs cfg hm true ds hds)
        (Parses.map ((Parses.many cfg hm .braceL (by decide) (by decide) ots hone (items_ot cfg hm n ots hots) _).le
          (Nat.le_succ n)) _) fun _ _ => ⟨by simp, by simp⟩)) fun _ _ => ⟨by simp, by simp⟩)
  | directive desc nm args ds rep locs =>
    obtain ⟨_, _, hargs, hds, hdd, hlne, hlocs⟩ := h
    simp only [Exec.tdefKvs, Exec.argDefsKvs, List.append_assoc, List.cons_append, Exec.endsBlock, forall_const]
    rw [parseDirectiveDefinition, parseArgumentDefs, Exec.tdefAst]
    have hloc : ∀ l ∈ locs, Parses n (parseDirectiveLocation cfg) [(.name, some l)] (Val.nameNode l) anyKV :=
      fun l hl => by
        rw [parseDirectiveLocation]
        refine Parses.cur fun t ⟨_, _, hk⟩ => Parses.name cfg hm l ?_
        rw [location_any t l (tok_of_kv hk).2 (hlocs l hl), if_pos rfl]
        exact Parses.pure _ _
    -- the directives are read only under `cfg.dirOnDir`, and there are none otherwise
    have hdirs : Parses n (if cfg.dirOnDir then parseDirectives cfg n true else pure none) (Exec.dirsKvs ds)
        (if ds = [] then none else some (ds.map Exec.dirAst)) (fun k => k.1 ≠ .at ∧ k.1 ≠ .parenL) := by
      cases hf : cfg.dirOnDir with
      | true => exact parses_dirs cfg hm true ds hds
      | false =>
        obtain rfl : ds = [] := hdd.resolve_right (by simp [hf])
        exact Parses.pure _ _
    have hda : (if cfg.dirOnDir = true then Exec.dirsAst ds else Ast.none) = Exec.dirsAst ds := by
      rcases hdd with rfl | h
      · exact ite_self _
      · rw [if_pos h]
    have hlocs' := Parses.delimMany cfg hm .pipe (by decide) (by decide) (parseDirectiveLocation cfg) Val.nameNode
      locs hlne hloc
    have hnext : ∀ k : KV, (((if rep then [((TokKind.name, some (S "repeatable")) : KV)] else []) ++
        ((.name, some (S "on")) :: Exec.delimKvs .pipe locs)).headD k).1 = .name := by
      intro k; cases rep <;> rfl
    refine Parses.result (by rw [mk_directiveNode, optL_map_opt, dirsAst_opt, hda]) (Parses.desc cfg hm desc
      (Parses.kw cfg hm "directive" (Parses.tok cfg hm .at none (by decide) fun _ _ => Parses.name cfg hm nm
        (Parses.bind (parses_ivdList cfg hm .parenL .parenR (by decide) (Or.inr rfl) args hargs)
          (Parses.bind hdirs
            (Parses.optKw cfg hm "repeatable" rep
              (Parses.kw cfg hm "on" ((Parses.map hlocs' _).mono fun k (hk : defNext k) => hk.ne .pipe))
              fun _ _ _ => by simp only [List.headD_cons]; decide)
            fun k _ => by rw [hnext]; exact ⟨by decide, by decide⟩)
          fun k _ _ => ?_))) fun _ _ => ⟨by simp, by simp⟩)
    rw [headD_append, dirsKvs_headD]
    exact ite_kind_ne (by rw [hnext]; decide)

end

theorem truthyO_opt {α : Type} (f : α → Ast) (xs : List α) :
    truthyO (if xs = [] then none else some (xs.map f)) = !xs.isEmpty := by
  cases xs <;> simp [truthyO]

/-- The parser's requirement that an extension extends something. -/
theorem extends_some {α β : Type} {xs : List α} {ys : List β} (h : xs ≠ [] ∨ ys ≠ []) :
    ¬ ((!(!xs.isEmpty || !ys.isEmpty)) = true) := by
  cases xs <;> cases ys <;> simp_all

section
variable (cfg : Cfg) (hm : cfg.maxTokens = none)
include hm

omit hm in
/-- The keyword after `extend` selects the parser method. -/
theorem extMethod_edef (d : EDef) :
    ∃ m, methodFor ParserTables.typeExtensionMethods (some (Exec.tdefKw d.base)) = some m ∧
    dispatchExtension cfg n m = match d with
      | .schema .. => parseSchemaExtension cfg n
      | .scalar .. => parseScalarTypeExtension cfg n
      | .object iface .. => parseObjectLikeExtension cfg n (objKwS iface) (Exec.objExtCls iface)
      | .union .. => parseUnionTypeExtension cfg n
      | .enum .. => parseEnumTypeExtension cfg n
      | .input .. => parseInputObjectTypeExtension cfg n := by
  cases d with
  | schema =>
    exact ⟨"schema_extension", extMethod_keywords ("schema", _) (by simp), by simp [dispatchExtension]⟩
  | scalar =>
    exact ⟨"scalar_type_extension", extMethod_keywords ("scalar", _) (by simp), by simp [dispatchExtension]⟩
  | object iface =>
    cases iface
    · exact ⟨"object_type_extension", extMethod_keywords ("type", _) (by simp), by simp [dispatchExtension, objKwS, Exec.objExtCls]⟩
    · exact ⟨"interface_type_extension", extMethod_keywords ("interface", _) (by simp), by simp [dispatchExtension, objKwS, Exec.objExtCls]⟩
  | union =>
    exact ⟨"union_type_extension", extMethod_keywords ("union", _) (by simp), by simp [dispatchExtension]⟩
  | enum =>
    exact ⟨"enum_type_extension", extMethod_keywords ("enum", _) (by simp), by simp [dispatchExtension]⟩
  | input =>
    exact ⟨"input_object_type_extension", extMethod_keywords ("input", _) (by simp), by simp [dispatchExtension]⟩

/-- `parse_definition` on the tokens of a printed type-system extension: the keyword after `extend`
selects the method, and each method follows the printed parts of its kind. -/
theorem parses_edef {n : Nat} (d : EDef) (h : Exec.edefWf d) :
    Parses n (parseDefinition cfg n) (Exec.edefKvs d) (Exec.edefAst d)
      (fun k => Exec.endsBlock (.e d) = false → defNext k) := by
  obtain ⟨m, hm', hdisp⟩ := extMethod_edef cfg (n := n) d
  suffices hp : Parses n (dispatchExtension cfg n m) (Exec.edefKvs d) (Exec.edefAst d)
      (fun k => Exec.endsBlock (.e d) = false → defNext k) by
    have e : Exec.edefKvs d = (.name, some (S "extend")) :: (.name, some (Exec.tdefKw d.base)) ::
        ((Exec.tdefParts Widths.generated d.base).map (·.2)).flatten := by
      rw [Exec.edefKvs, Exec.tdefKvs_eq Widths.generated]; cases d <;> rfl
    rw [e] at hp ⊢
    exact Parses.extension _ m hm' hp
  rw [hdisp]
  cases d with
  | scalar nm ds =>
    obtain ⟨_, hds, hsome⟩ := h
    simp only [Exec.edefKvs, EDef.base, Exec.tdefKvs, Exec.descKvs, List.nil_append, Exec.endsBlock, forall_const]
    rw [parseScalarTypeExtension, Exec.edefAst]
    refine Parses.kw cfg hm "extend" (Parses.kw cfg hm "scalar" (Parses.name cfg hm nm (Parses.bind_nil
      ((parses_dirs cfg hm true ds hds).mono fun k (hk : defNext k) => ⟨hk.ne .at, hk.ne .parenL⟩) ?_
      fun _ h => h)))
    rw [truthyO_opt, if_neg (by cases ds <;> simp_all), dirsAst_opt]
    exact Parses.result (mk_scalarExtNode _ _) (Parses.pure _ _)
  | union nm ds ts =>
    obtain ⟨_, hds, _, hsome⟩ := h
    simp only [Exec.edefKvs, EDef.base, Exec.tdefKvs, Exec.descKvs, List.nil_append,
      List.cons_append, Exec.endsBlock, forall_const]
    rw [parseUnionTypeExtension, Exec.edefAst]
    refine Parses.kw cfg hm "extend" (Parses.kw cfg hm "union" (Parses.name cfg hm nm
      (Parses.bind (parses_dirs cfg hm true ds hds) (Parses.bind_nil
        ((parses_unionMembers cfg hm ts).mono
          fun k (hk : defNext k) => ⟨fun _ => hk.ne .equals, hk.ne .pipe⟩) ?_ fun _ h => h)
        fun k (hk : defNext k) => ?_)))
    · rw [truthyO_opt, truthyO_opt, if_neg (extends_some hsome), dirsAst_opt, optL_map_opt]
      exact Parses.result (mk_unionExtNode _ _ _) (Parses.pure _ _)
    · rw [unionKvs_headD]
      exact ⟨ite_kind_ne (hk.ne .at), ite_kind_ne (hk.ne .parenL)⟩
  | enum nm ds xs =>
    obtain ⟨_, hds, hxs, hsome⟩ := h
    simp only [Exec.edefKvs, EDef.base, Exec.tdefKvs, Exec.descKvs, List.nil_append, List.cons_append,
      (kvs_eq_flatMap Exec.evsKvs Exec.evKvs rfl fun _ _ => rfl),
      Exec.endsBlock, Bool.not_eq_false', List.isEmpty_iff]
    rw [parseEnumTypeExtension, parseEnumValuesDefinition, Exec.edefAst]
    refine Parses.kw cfg hm "extend" (Parses.kw cfg hm "enum" (Parses.name cfg hm nm
      (Parses.bind (parses_dirs cfg hm true ds hds) (Parses.bind_nil
        ((Parses.optMany cfg hm .braceL (by decide) (by decide) xs (items_ev cfg hm n xs hxs)).mono
          fun k hk hx => (hk hx).ne .braceL) ?_ fun _ h => h)
        fun k hk => dirs_block_follow (fun he => hk (by simpa using he)) rfl)))
    rw [truthyO_opt, truthyO_opt, if_neg (extends_some hsome), dirsAst_opt, optL_map_opt]
    exact Parses.result (mk_enumExtNode _ _ _) (Parses.pure _ _)
  | input nm ds xs =>
    obtain ⟨_, hds, hxs, hsome⟩ := h
    simp only [Exec.edefKvs, EDef.base, Exec.tdefKvs, Exec.descKvs, List.nil_append, List.cons_append,
      Exec.endsBlock, Bool.not_eq_false', List.isEmpty_iff]
    rw [parseInputObjectTypeExtension, parseInputFieldsDefinition, Exec.edefAst]
    refine Parses.kw cfg hm "extend" (Parses.kw cfg hm "input" (Parses.name cfg hm nm
      (Parses.bind (parses_dirs cfg hm true ds hds) (Parses.bind_nil
        ((parses_ivdList cfg hm .braceL .braceR (by decide) (Or.inl rfl) xs hxs).mono
          fun k hk hx => (hk hx).ne .braceL) ?_ fun _ h => h)
        fun k hk => dirs_block_follow (fun he => hk (by simpa using he)) rfl)))
    rw [truthyO_opt, truthyO_opt, if_neg (extends_some hsome), dirsAst_opt, optL_map_opt]
    exact Parses.result (mk_inputExtNode _ _ _) (Parses.pure _ _)
  | object iface nm ifs ds xs =>
    obtain ⟨_, _, hds, hxs, hsome⟩ := h
    simp only [Exec.edefKvs, EDef.base, Exec.tdefKvs, Exec.descKvs, objKw_S, List.nil_append, List.append_assoc,
      List.cons_append, (kvs_eq_flatMap Exec.fdsKvs Exec.fdKvs rfl fun _ _ => rfl), Exec.endsBlock, Bool.not_eq_false',
      List.isEmpty_iff]
    rw [parseObjectLikeExtension, parseFieldsDefinition, Exec.edefAst]
    refine Parses.kw cfg hm "extend" (Parses.kw cfg hm (objKwS iface) (Parses.name cfg hm nm
      (Parses.bind (parses_impl cfg hm ifs) (Parses.bind (parses_dirs cfg hm true ds hds)
        (Parses.bind_nil ((Parses.optMany cfg hm .braceL (by decide) (by decide) xs (items_fd cfg hm n xs hxs)).mono
          fun k hk hx => (hk hx).ne .braceL) ?_ fun _ h => h)
        fun k hk => dirs_block_follow (fun he => hk (by simpa using he)) rfl) fun k hk => impl_follow ds xs hk)))
    rw [truthyO_opt, truthyO_opt, truthyO_opt, if_neg (by cases ifs <;> cases ds <;> cases xs <;> simp_all),
      dirsAst_opt, optL_map_opt, optL_map_opt]
    exact Parses.result (mk_objExtNode _ _ _ _ _) (Parses.pure _ _)
  | schema ds ots =>
    obtain ⟨hds, hots, hsome⟩ := h
    simp only [Exec.edefKvs, EDef.base, Exec.tdefKvs, Exec.descKvs, List.nil_append, List.cons_append,
      (kvs_eq_flatMap Exec.otsKvs Exec.otKvs rfl fun _ _ => rfl),
      Exec.endsBlock, Bool.not_eq_false', List.isEmpty_iff]
    rw [parseSchemaExtension, Exec.edefAst]
    refine Parses.kw cfg hm "extend" (Parses.kw cfg hm "schema"
      (Parses.bind (parses_dirs cfg hm true ds hds) (Parses.bind_nil
        ((Parses.optMany cfg hm .braceL (by decide) (by decide) ots (items_ot cfg hm n ots hots)).mono
          fun k hk hx => (hk hx).ne .braceL) ?_ fun _ h => h)
        fun k hk => dirs_block_follow (fun he => hk (by simpa using he)) rfl))
    rw [truthyO_opt, truthyO_opt, if_neg (by cases ds <;> cases ots <;> simp_all), dirsAst_opt, optL_map_opt]
    exact Parses.result (mk_schemaExtNode _ _) (Parses.pure _ _)

end

end Gql.Syntax
