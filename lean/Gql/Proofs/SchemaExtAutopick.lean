import Gql.Proofs.SchemaExtStage
/-!
C19: base documents without a schema definition.  `build_ast_schema` picks the roots by the names
`Query` / `Mutation` / `Subscription` after `extend_schema_args` ran over the whole document;
`extend_schema` never does.  The two orders agree exactly under `rootsStable` (and when building fails).
-/
namespace Gql.Types
open Gql Gql.Generated

/-- one root: stability is exactly commutation of "override" and "pick by name" -/
theorem pick_iff (inA inB : Bool) (x rA : Option Str) (c : Str) (hr : rA = some c → inA = true) :
    rootStableFor inA inB x c = true ↔
      x.or (if inA = true then some c else rA) = (if (inA || inB) = true then some c else x.or rA) := by
  cases x with
  | none =>
    cases inA <;> cases inB <;> simp [rootStableFor]
    exact fun h => by simpa using hr h
  | some n =>
    cases inA <;> cases inB <;> simp [rootStableFor]

/-- one root of the reference check: a root picked by name among the types of the base is a type of `u` -/
theorem rootOk_comp (u : Schema) (hasA : Str → Bool) (hup : ∀ c, hasA c = true → u.hasType c = true)
    (x rA : Option Str) (c : Str) (hr : ∀ n, rA = some n → hasA n = true) :
    rootOk u (x.or (if hasA c = true then some c else rA)) = rootOk u (x.or rA) := by
  cases x with
  | some n => rfl
  | none =>
    cases h : hasA c with
    | false => rfl
    | true =>
      cases rA with
      | none => exact hup c h
      | some n => exact (hup c h).trans (hup n (hr n rfl)).symm

def pick3 (has : Str → Bool) (r : Option Str × Option Str × Option Str) : Option Str × Option Str × Option Str :=
  (if has SchemaConsts.queryName = true then some SchemaConsts.queryName else r.1,
   if has SchemaConsts.mutationName = true then some SchemaConsts.mutationName else r.2.1,
   if has SchemaConsts.subscriptionName = true then some SchemaConsts.subscriptionName else r.2.2)

theorem autopick_withRoots (u : Schema) (r : Option Str × Option Str × Option Str) :
    autopick (withRoots u r) = withRoots u (pick3 u.hasType r) := rfl

theorem autopick_eq (s : Schema) :
    autopick s = withRoots s (pick3 s.hasType (s.query, s.mutation, s.subscription)) := rfl

/-- when all references resolve, the roots are types of the schema -/
theorem roots_resolve {s : Schema} (h : allRefsResolve s = true) :
    (∀ n, s.query = some n → s.hasType n = true) ∧ (∀ n, s.mutation = some n → s.hasType n = true) ∧
      ∀ n, s.subscription = some n → s.hasType n = true := by
  simp only [allRefsResolve, Bool.and_eq_true] at h
  have key : ∀ o n, rootOk s o = true → o = some n → s.hasType n = true := fun _ _ ho hn => by subst hn; exact ho
  exact ⟨fun n => key _ n h.1.1.2, fun n => key _ n h.1.2, fun n => key _ n h.2⟩

theorem allRefsResolve_withRoots (u : Schema) (r : Option Str × Option Str × Option Str) :
    allRefsResolve (withRoots u r) =
      (u.types.all (typeRefsOk u) && u.directives.all (fun d => argRefsOk u d.args) &&
        rootOk u r.1 && rootOk u r.2.1 && rootOk u r.2.2) :=
  allRefsResolve_congr u _ rfl rfl

theorem withRoots_inj (u : Schema) (r r' : Option Str × Option Str × Option Str) :
    withRoots u r = withRoots u r' ↔ r = r' := by
  obtain ⟨a, b, c⟩ := r; obtain ⟨a', b', c'⟩ := r'
  simp [withRoots]

theorem isOk_andThen_ok {α β : Type} (x : B α) (f : α → β) : (andThen x fun a => .ok (f a)).isOk = x.isOk := by
  cases x <;> rfl

theorem finish_isOk (r : Schema) : (finish r).isOk = allRefsResolve r := by
  unfold finish; cases allRefsResolve r <;> rfl

/-- The heart of the matter: finishing with the roots "picked on the base, then overridden by
the extension" is finishing with the roots "overridden, then picked on the result" exactly when
the extension is root-stable — or the references do not resolve, and then both fail alike. -/
theorem finish_pick_iff (u : Schema) (o rA : Option Str × Option Str × Option Str) (hasA inB : Str → Bool)
    (hU : ∀ c, u.hasType c = (hasA c || inB c))
    (hrA1 : ∀ n, rA.1 = some n → hasA n = true) (hrA2 : ∀ n, rA.2.1 = some n → hasA n = true)
    (hrA3 : ∀ n, rA.2.2 = some n → hasA n = true) :
    finish (withRoots u (or3 o (pick3 hasA rA))) =
        andThen (finish (withRoots u (or3 o rA))) (fun s => .ok (autopick s)) ↔
      ((finish (withRoots u (or3 o rA))).isOk = true →
        rootStableFor (hasA SchemaConsts.queryName) (inB SchemaConsts.queryName) o.1 SchemaConsts.queryName = true ∧
        rootStableFor (hasA SchemaConsts.mutationName) (inB SchemaConsts.mutationName) o.2.1
          SchemaConsts.mutationName = true ∧
        rootStableFor (hasA SchemaConsts.subscriptionName) (inB SchemaConsts.subscriptionName) o.2.2
          SchemaConsts.subscriptionName = true) := by
  have hup : ∀ c, hasA c = true → u.hasType c = true := fun c h => by rw [hU, h]; rfl
  have hall : allRefsResolve (withRoots u (or3 o (pick3 hasA rA))) = allRefsResolve (withRoots u (or3 o rA)) := by
    simp only [allRefsResolve_withRoots, or3, pick3, rootOk_comp u hasA hup _ _ _ hrA1,
      rootOk_comp u hasA hup _ _ _ hrA2, rootOk_comp u hasA hup _ _ _ hrA3]
  rw [finish_isOk]
  unfold finish
  rw [hall]
  cases allRefsResolve (withRoots u (or3 o rA)) with
  | false => simp [andThen]
  | true =>
    simp only [↓reduceIte, andThen_ok, autopick_withRoots, Out.ok.injEq, withRoots_inj, or3, pick3, hU,
      Prod.mk.injEq, pick_iff _ _ o.1 rA.1 _ (hrA1 _), pick_iff _ _ o.2.1 rA.2.1 _ (hrA2 _),
      pick_iff _ _ o.2.2 rA.2.2 _ (hrA3 _), true_imp_iff]

/-- Extending the schema whose roots were picked by name equals extending first and picking by
name afterwards exactly when the extension part `pb` is root-stable over the types of `a0` —
or extending fails, and then both fail alike. -/
theorem stage_autopick_iff (a0 : Schema) (pb : Parts) (hsd : pb.schemaDef = none)
    (hres : allRefsResolve a0 = true) :
    stage (autopick a0) pb = andThen (stage a0 pb) (fun s => .ok (autopick s)) ↔
      ((stage a0 pb).isOk = true → rootsStableParts a0.hasType pb = true) := by
  rw [stage_eq a0, autopick_eq, stage_eq, stageBody_withRoots, andThen_assoc, andThen_assoc]
  cases hu : stageBody a0 pb with
  | err _ | crash _ => simp [andThen, Out.isOk]
  | ok u =>
    obtain ⟨r1, r2, r3⟩ := roots_resolve hres
    simp only [andThen_ok, rootsTriple, hsd, extsRoots_ovr, rootsStableParts, Bool.and_eq_true,
      (extRoots_eq pb).1, (extRoots_eq pb).2.1, (extRoots_eq pb).2.2, and_assoc]
    exact finish_pick_iff u (ovr pb.schemaExts) (a0.query, a0.mutation, a0.subscription) a0.hasType
      (definesType pb) (stageBody_hasType hu) r1 r2 r3

/-- **Extend equals build**: exactly under root stability, or when building `A ++ B` fails (then
extending fails in the same way).  Building `A ++ B` is extending the core result `a0` of `A` by `B`
and then deciding the roots as for `A` alone (`buildFromDefs_append`): with a schema definition in
`A` that is extending; without one it is `stage_autopick_iff`. -/
theorem extend_eq_build_iff_rootsStable (a : Schema) (A B : List Def) (hA : A.all Def.isOther = false)
    (hB : B.all Def.isOther = false) (ha : buildFromDefs A = .ok a)
    (v : ValidExt Schema.empty (collect A) (collect B)) :
    extendDefs a B = buildFromDefs (A ++ B) ↔
      ((buildFromDefs (A ++ B)).isOk = true → rootsStable A B = true) := by
  obtain ⟨a0, hc, rfl, hb⟩ := buildFromDefs_append a A B hA hB ha v
  rw [hb, extendDefs, rootsStable]
  cases (collect A).schemaDef with
  | some d => exact iff_of_true (show extendCore a0 B = _ by cases extendCore a0 B <;> rfl) fun _ => rfl
  | none =>
    have hstage : stage Schema.empty (collect A) = .ok a0 := by
      unfold extendCore at hc
      simpa only [hA, Bool.false_eq_true, ↓reduceIte] using hc
    obtain ⟨hres, hnames⟩ := stage_ok_inv _ _ _ hstage
    have hfun : a0.hasType = definesType (collect A) := funext fun c => by rw [hnames c]; rfl
    simp only [Option.isSome_none, Bool.false_eq_true, ↓reduceIte, Bool.false_or, extendCore, hB,
      isOk_andThen_ok, ← hfun]
    exact stage_autopick_iff a0 (collect B) v.noSchemaDef hres

end Gql.Types
