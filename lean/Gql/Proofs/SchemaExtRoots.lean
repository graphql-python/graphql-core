import Gql.Proofs.SchemaExtAppend
import Gql.Types.SchemaRoots
/-!
C19: root operation types as triples: what operation-type lists and schema extensions do to them
(`opsRoots`, `extsRoots`, `rootsTriple`), independently of the schema that carries them (`withRoots`);
extensions override (`ovr`) whatever the roots were (`or3`).
-/
namespace Gql.Types
open Gql Gql.Generated

/-- Root names after a list of operation type definitions. -/
def opsRoots : Option Str × Option Str × Option Str → List (Op × Str) → Option Str × Option Str × Option Str
  | r, [] => r
  | (_, m, s), (.query, n) :: rest => opsRoots (some n, m, s) rest
  | (q, _, s), (.mutation, n) :: rest => opsRoots (q, some n, s) rest
  | (q, m, _), (.subscription, n) :: rest => opsRoots (q, m, some n) rest

theorem applyOps_eq (s : Schema) (ops : List (Op × Str)) :
    applyOps s ops =
      { s with query := (opsRoots (s.query, s.mutation, s.subscription) ops).1
               mutation := (opsRoots (s.query, s.mutation, s.subscription) ops).2.1
               subscription := (opsRoots (s.query, s.mutation, s.subscription) ops).2.2 } := by
  induction ops generalizing s with
  | nil => cases s; rfl
  | cons p ps ih =>
    obtain ⟨o, n⟩ := p
    cases o <;> simp only [applyOps, opsRoots] <;> rw [ih]

/-- Roots after the schema extensions `xs`, starting from roots `r`. -/
def extsRoots (r : Option Str × Option Str × Option Str) (xs : List (List (Op × Str))) :=
  xs.foldl opsRoots r

theorem foldl_applyOps_eq (s : Schema) (xs : List (List (Op × Str))) :
    xs.foldl applyOps s =
      { s with query := (extsRoots (s.query, s.mutation, s.subscription) xs).1
               mutation := (extsRoots (s.query, s.mutation, s.subscription) xs).2.1
               subscription := (extsRoots (s.query, s.mutation, s.subscription) xs).2.2 } := by
  induction xs generalizing s with
  | nil => cases s; rfl
  | cons x xs ih =>
    simp only [List.foldl_cons, extsRoots]
    rw [ih, applyOps_eq]
    rfl

/-- Roots after a document's schema definition and schema extensions, from the old roots. -/
def rootsTriple (p : Parts) (r : Option Str × Option Str × Option Str) : Option Str × Option Str × Option Str :=
  extsRoots (match p.schemaDef with
    | some (_, ops) => opsRoots r ops
    | none => r) p.schemaExts

theorem rootsOf_eq (p : Parts) (s : Schema) :
    rootsOf p s =
      { s with query := (rootsTriple p (s.query, s.mutation, s.subscription)).1
               mutation := (rootsTriple p (s.query, s.mutation, s.subscription)).2.1
               subscription := (rootsTriple p (s.query, s.mutation, s.subscription)).2.2 } := by
  unfold rootsOf rootsTriple
  rw [foldl_applyOps_eq]
  cases hsd : p.schemaDef with
  | none => rfl
  | some d =>
    obtain ⟨dd, ops⟩ := d
    simp only [applyOps_eq]

theorem rootsTriple_merge (pa pb : Parts) (h : pb.schemaDef = none) (r : Option Str × Option Str × Option Str) :
    rootsTriple (pa.merge pb) r = rootsTriple pb (rootsTriple pa r) := by
  unfold rootsTriple
  simp only [Parts.merge, h, extsRoots, List.foldl_append]

def withRoots (s : Schema) (r : Option Str × Option Str × Option Str) : Schema :=
  { s with query := r.1, mutation := r.2.1, subscription := r.2.2 }

def or3 (o r : Option Str × Option Str × Option Str) : Option Str × Option Str × Option Str :=
  (o.1.or r.1, o.2.1.or r.2.1, o.2.2.or r.2.2)

theorem opsRoots_or3 (b r : Option Str × Option Str × Option Str) (ops : List (Op × Str)) :
    opsRoots (or3 b r) ops = or3 (opsRoots b ops) r := by
  induction ops generalizing b with
  | nil => simp [opsRoots]
  | cons p ps ih =>
    obtain ⟨_ | _ | _, n⟩ := p <;> obtain ⟨b1, b2, b3⟩ := b <;> simp only [opsRoots, ← ih] <;> rfl

theorem extsRoots_or3 (b r : Option Str × Option Str × Option Str) (xs : List (List (Op × Str))) :
    extsRoots (or3 b r) xs = or3 (extsRoots b xs) r := by
  induction xs generalizing b with
  | nil => rfl
  | cons x xs ih =>
    simp only [extsRoots, List.foldl_cons] at ih ⊢
    rw [opsRoots_or3, ih]

/-- The roots a list of schema extensions sets, whatever the roots were before. -/
def ovr (xs : List (List (Op × Str))) : Option Str × Option Str × Option Str := extsRoots (none, none, none) xs

theorem extsRoots_ovr (r : Option Str × Option Str × Option Str) (xs : List (List (Op × Str))) :
    extsRoots r xs = or3 (ovr xs) r := by
  have h : r = or3 (none, none, none) r := by simp [or3]
  rw [h, extsRoots_or3]
  rfl

theorem extRoots_eq (p : Parts) :
    (extRoots p).query = (ovr p.schemaExts).1 ∧ (extRoots p).mutation = (ovr p.schemaExts).2.1 ∧
    (extRoots p).subscription = (ovr p.schemaExts).2.2 := by
  unfold extRoots
  rw [foldl_applyOps_eq]
  exact ⟨rfl, rfl, rfl⟩

end Gql.Types
