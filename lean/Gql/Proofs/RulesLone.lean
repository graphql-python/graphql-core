import Gql.Proofs.RulesRun
/-!
C12 — `rule_iff_spec` for LoneAnonymousOperation: a rule whose private state is set once, at the document node, and
only read below it.
-/
namespace Gql.Validation.Rules
open Gql.Validation
variable {τ : Type}

namespace Spec
/-- "If the document defines more than one operation, no operation definition is anonymous" (spec §5.2.2.1). -/
def loneAnonymousOperation (doc : ATree) : Prop :=
  (opDefs doc).length > 1 → ∀ n ∈ doc.nodes, n.kind = "operation_definition" → (n.kid "name").isSome = true
end Spec

def loneReports (doc : ATree) (s : RS) (ph : Phase) (i : Info) : List RErr :=
  ((loneAnonymousOperation (τ := Unit) doc).step s ph i TI.init).2.2

theorem lone_quiet (doc : ATree) :
    (loneAnonymousOperation (τ := τ) doc).QuietOn (fun k => k != "document") (loneReports doc) := by
  intro s ph i ti hp
  have hk : (i.kind == "document") = false := by simpa using hp
  simp only [loneReports, loneAnonymousOperation, withNode]
  split
  · cases ph
    · simp only [hk, Bool.false_eq_true, if_false]
      split <;> rfl
    · rfl
  · rfl

theorem lone_reports_at (doc n : ATree) (s : RS) (hfind : doc.find n.info.id = some n) (hk : n.kind ≠ "document") :
    loneReports doc s .enter n.info =
      if (n.kid "name").isNone && s.count > 1 then [⟨"LoneAnonymousOperationRule", "", [n.id]⟩] else [] := by
  have hk' : (n.info.kind == "document") = false := by simpa [ATree.kind] using hk
  simp only [loneReports, loneAnonymousOperation, withNode, hfind, hk', Bool.false_eq_true, if_false]
  split <;> rfl

theorem loneAnonymousOperation_iff (tbl : TITable) (L : Lookups τ) (doc : ATree) (hk : doc.kind = "document")
    (hu : doc.uniqueIds) (hnd : ∀ n ∈ ATree.nodesList doc.children, n.kind ≠ "document") :
    validate tbl L none [(loneAnonymousOperation doc, RS.init)] doc.erase = [] ↔ Spec.loneAnonymousOperation doc := by
  rw [validate_nil_iff_run tbl L _ (fun _ _ _ _ => rfl) (loneAnonymousOperation_nb _) _ _ hu]
  have hk' : doc.info.kind = "document" := hk
  -- entering the document node sets the count; nothing is called when it is left
  have hE : (loneAnonymousOperation (τ := τ) doc).call RS.init .enter doc.info TI.init =
      (Action.idle, { RS.init with count := (opDefs doc).length }, []) := by
    simp [Rule.call, Rule.handles, loneAnonymousOperation, withNode, doc.find_root, hk', opDefs]
  have hL : ∀ s, (loneAnonymousOperation (τ := τ) doc).call s .leave doc.info TI.init = (Action.idle, s, []) := fun _ => rfl
  have hP : ∀ j ∈ Tree.infosList (ATree.eraseList doc.children), (j.kind != "document") = true := by
    intro j hj
    rw [ATree.infos_erase.2] at hj
    obtain ⟨n, hn, rfl⟩ := List.mem_map.mp hj
    simpa [ATree.kind] using hnd n hn
  rw [doc.erase_eq, Rule.run]
  simp only [hE, hL, reduceCtorEq, if_false, List.nil_append, List.append_nil]
  rw [((Rule.run_quiet _ _ _ (lone_quiet (τ := τ) doc) TI.init _).2 _ hP).2, ATree.infos_erase.2]
  -- below the document node: an anonymous operation is reported iff the count exceeds one
  have key : ∀ n ∈ ATree.nodesList doc.children,
      (loneAnonymousOperation (τ := τ) doc).QuietAt (loneReports doc) { RS.init with count := (opDefs doc).length } n.info ↔
      (n.kind = "operation_definition" → (opDefs doc).length > 1 → (n.kid "name").isSome = true) := by
    intro n hn
    have hE : (loneAnonymousOperation (τ := τ) doc).hEnter n.info.kind = true ↔ n.kind = "operation_definition" := by
      show (n.info.kind == "document" || n.info.kind == "operation_definition") = true ↔ n.info.kind = _
      simp [show n.info.kind ≠ _ from hnd n hn]
    simp only [Rule.QuietAt, hE, lone_reports_at doc n _
      (ATree.find_of_mem.1 doc hu n (doc.nodes_eq ▸ List.mem_cons_of_mem _ hn)) (hnd n hn)]
    refine ⟨fun h hop hc => ?_, fun h => ⟨fun hop => ?_, fun hh => absurd hh Bool.false_ne_true⟩⟩
    · have h1 := h.1 hop
      cases hnm : n.kid "name" with
      | some _ => rfl
      | none => simp [hnm, hc] at h1
    · by_cases hc : (opDefs doc).length > 1
      · simp [Option.isNone_iff_eq_none, Option.isSome_iff_ne_none.mp (h hop hc)]
      · simp [hc]
  unfold Spec.loneAnonymousOperation
  constructor
  · intro h hc n hn hop
    rcases List.mem_cons.mp (doc.nodes_eq ▸ hn) with rfl | hn
    · rw [hk] at hop
      exact absurd hop (by decide)
    · exact (key n hn).mp (h n.info (List.mem_map_of_mem hn)) hop hc
  · intro h j hj
    obtain ⟨n, hn, rfl⟩ := List.mem_map.mp hj
    exact (key n hn).mpr (fun hop hc => h hc n (doc.nodes_eq ▸ List.mem_cons_of_mem _ hn) hop)

end Gql.Validation.Rules
