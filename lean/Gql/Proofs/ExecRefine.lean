import Gql.Proofs.ExecValue
import Gql.Proofs.SpecFacts

/-!
C02 — request level: `Impl.executeRequest` refines `Spec.executeRequest`.
-/

namespace Gql.Exec.Refine
open Gql.Exec Gql.Exec.Impl

abbrev mkCtx (ops : Ops) (s : Schema) (doc : Doc) (vars : Vars) : Ctx :=
  { ops := ops, schema := s, doc := doc, vars := vars }

theorem childOf_rel (cx : Ctx) (hops : OpsOk cx.ops) (root : RVal) :
    ChildRel cx (childOf cx root) (Spec.childOf (toSpec cx) root) := by
  intro name args t fds path
  exact completeValue_sim cx hops (fun _ _ _ => collectFields_noCrash _ _ _ _) (root.child name args) t
    fds path

/-- The refinement at request level, for a default memo satisfying its invariant. -/
theorem executeRequest_refines (ops : Ops) (hops : OpsOk ops) (s : Schema) (doc : Doc)
    (opName : Option Name) (vars : Vars) (root : RVal) (dm : DMemo)
    (hdm : DInv (mkCtx ops s doc vars) dm) :
    ∃ dm', DInv (mkCtx ops s doc vars) dm' ∧
      executeRequest ops s doc opName vars root dm =
        (.ok (Spec.executeRequest ops s doc opName vars root), dm') := by
  have hcx : toSpec (mkCtx ops s doc vars) = { ops := ops, schema := s, doc := doc, vars := vars } := rfl
  unfold executeRequest Spec.executeRequest
  rw [show selectOp doc.ops opName = Spec.getOperation doc.ops opName from rfl]
  cases hop : Spec.getOperation doc.ops opName with
  | none => exact ⟨dm, hdm, rfl⟩
  | some op =>
    simp only
    rw [show Spec.rootType s op.kind = rootType s op.kind from rfl]
    cases hr : rootType s op.kind with
    | none => exact ⟨dm, hdm, rfl⟩
    | some rt =>
      simp only
      have hcol := collectRoot_rel (mkCtx ops s doc vars) hops rt (Spec.rootType_object hr) op.sels
        (initState dm).heap
      rw [hcx] at hcol
      revert hcol
      cases hs : Spec.collectFields { ops := ops, schema := s, doc := doc, vars := vars } rt op.sels with
      | crash c => exact absurd hs (collectFields_noCrash _ _ _ _)
      | err k =>
        simp only [CollectPost]
        intro h
        rw [h]
        exact ⟨dm, hdm, rfl⟩
      | ok G =>
        simp only [CollectPost]
        rintro ⟨g, heap', e1, rfl, e3, _, e5⟩
        rw [e1]
        simp only
        obtain ⟨st', h⟩ := executeFields_sim (mkCtx ops s doc vars) hops rt (childOf _ root)
          (Spec.childOf _ root) (childOf_rel _ hops root) [] g { initState dm with heap := heap' }
          (by intro e he; cases he) hdm (by intro p _ o ho; cases ho) e5 (by rw [← keys_nodes]; exact e3)
        rw [hcx, show asList ([] : IPath) = [] from rfl] at h
        have e1' := fun es l (hp : Post (mkCtx ops s doc vars) { initState dm with heap := heap' } st' [] true es l) =>
          (show st'.errors = es ∧ st'.log = l by simpa [initState] using And.intro hp.errors hp.log)
        cases hout : (Spec.executeGroups { ops := ops, schema := s, doc := doc, vars := vars } rt
            (Spec.childOf { ops := ops, schema := s, doc := doc, vars := vars } root) [] (nodes g)).out with
        | some kvs =>
          simp only [hout] at h
          rw [h.1]
          exact ⟨st'.dmemo, h.2.dmemo, by simp [(e1' _ _ h.2).1, (e1' _ _ h.2).2]⟩
        | none =>
          simp only [hout] at h
          obtain ⟨e, es, he, herrs, hp⟩ := h
          rw [he]
          -- the error that nulls `data` is recorded: no nulled position is the root
          have hnone : hasNulledOpt st'.positions none = false := by
            obtain ⟨ps, hps, hq⟩ := hp.positions
            simp only [hasNulledOpt, List.contains_eq_mem, decide_eq_false_iff_not, hps, initState,
              List.nil_append]
            intro hmem
            obtain ⟨q, hq', _⟩ := hq none hmem
            cases hq'
          exact ⟨st'.dmemo, hp.dmemo, by
            simp [addError, hnone, executeRequest.locateRoot, (e1' _ _ hp).1, (e1' _ _ hp).2, herrs]⟩

end Gql.Exec.Refine
