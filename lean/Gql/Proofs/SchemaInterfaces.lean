import Gql.Proofs.SchemaIff
/-!
Lemmas for C20: the interfaces family — `validate_interfaces` reports nothing exactly
when the specification's IsValidImplementation holds for every declared interface.
-/
namespace Gql.Types
open Gql

/-- every member of every union type of the schema is an Object type (what the unions family
checks; `is_type_sub_type_of` lets an interface listed in a union pass as its sub-type) -/
def UnionsOk (s : RawSchema) : Prop :=
  ∀ t ∈ s.types, ∀ ms, t.defn = .union ms → ms.all s.isObject = true

theorem isInterface_lookup {s : RawSchema} {n : Str} (h : s.isInterface n = true) :
    ∃ is fs, s.lookup n = some (.interface is fs) := by
  unfold RawSchema.isInterface at h
  split at h
  · rename_i is fs hl; exact ⟨is, fs, hl⟩
  · simp at h

theorem namedSubType_eq (s : RawSchema) (hu : UnionsOk s) (a b : Str) :
    (a == b || isNamedSubType s a b) = Spec.isSubType s a b := by
  have hi : s.isInterface b = match s.lookup b with | some (.interface _ _) => true | _ => false := rfl
  have hbeq : (a == b) = decide (a = b) := by by_cases h : a = b <;> simp [h]
  rw [isNamedSubType, Spec.isSubType, hi, hbeq]
  cases hl : s.lookup b with
  | none => simp
  | some d =>
    cases d with
    | union ms =>
      -- a member of a union is an Object type, so the code's "object or interface" is "object"
      obtain ⟨t, ht, _, hd⟩ := lookup_mem hl
      by_cases hc : a ∈ ms
      · simp [hc, List.all_eq_true.mp (hu t ht ms hd) a hc]
      · simp [hc]
    | interface _ _ | scalar _ | object _ _ | enum _ | input _ _ => simp

/-- `is_type_sub_type_of` is the specification's IsValidImplementationFieldType -/
theorem isTypeSubTypeOf_eq (s : RawSchema) (hu : UnionsOk s) : ∀ (a b : TRef),
    isTypeSubTypeOf s a b = Spec.validImplementationFieldType s a b
  | .nonNull a, .nonNull b => by
    simp only [isTypeSubTypeOf, Spec.validImplementationFieldType]; exact isTypeSubTypeOf_eq s hu a b
  | .named _, .nonNull _ | .list _, .nonNull _ => by simp [isTypeSubTypeOf, Spec.validImplementationFieldType]
  | .nonNull a, .named b => by
    simp only [isTypeSubTypeOf, Spec.validImplementationFieldType]; exact isTypeSubTypeOf_eq s hu a (.named b)
  | .nonNull a, .list b => by
    simp only [isTypeSubTypeOf, Spec.validImplementationFieldType]; exact isTypeSubTypeOf_eq s hu a (.list b)
  | .list a, .list b => by
    simp only [isTypeSubTypeOf, Spec.validImplementationFieldType]; exact isTypeSubTypeOf_eq s hu a b
  | .named _, .list _ | .list _, .named _ => by simp [isTypeSubTypeOf, Spec.validImplementationFieldType]
  | .named a, .named b => by
    simp only [isTypeSubTypeOf, Spec.validImplementationFieldType]; exact namedSubType_eq s hu a b

theorem find_beq_eq_decide {α : Type} (l : List α) (key : α → Str) (n : Str) :
    l.find? (fun x => key x == n) = l.find? (fun x => decide (key x = n)) := by
  congr 1
  funext x
  by_cases h : key x = n <;> simp [h]

theorem find_isNone_iff_any {α : Type} (l : List α) (key : α → Str) (n : Str) :
    (l.find? (fun x => key x == n)).isNone = !l.any (fun x => decide (key x = n)) := by
  rw [Bool.eq_iff_iff]; simp

theorem validateIfaceArg_nil (tn ic : Str) (tfArgs : List InputValue) (ia : InputValue) :
    validateIfaceArg tn ic tfArgs ia = [] ↔ Spec.hasSameArg tfArgs ia = true := by
  unfold validateIfaceArg Spec.hasSameArg
  rw [find_beq_eq_decide tfArgs (·.name) ia.name]
  cases tfArgs.find? (fun a => decide (a.name = ia.name)) with
  | none => simp
  | some ta =>
    simp only [ite_singleton_nil, Bool.not_eq_false', isEqualType_iff, decide_eq_true_eq]
    exact eq_comm

theorem validateExtraArg_nil (tn iface tfName : Str) (ifldArgs : List InputValue) (ta : InputValue) :
    validateExtraArg tn iface tfName ifldArgs ta = [] ↔
      (ifldArgs.any (fun ia => decide (ia.name = ta.name)) || !Spec.required ta) = true := by
  unfold validateExtraArg
  rw [ite_singleton_nil, find_isNone_iff_any, isRequired_eq]
  cases ifldArgs.any (fun ia => decide (ia.name = ta.name)) <;> cases Spec.required ta <;> simp

theorem validateIfaceField_nil (s : RawSchema) (hu : UnionsOk s) (tn iface : Str)
    (tFields : List Field) (ifld : Field) :
    validateIfaceField s tn iface tFields ifld = [] ↔ Spec.implementsField s tFields ifld = true := by
  unfold validateIfaceField Spec.implementsField
  rw [find_beq_eq_decide tFields (·.name) ifld.name]
  cases tFields.find? (fun f => decide (f.name = ifld.name)) with
  | none => simp
  | some tf =>
    simp only [List.append_eq_nil_iff, ite_nil, List.flatMap_eq_nil_iff, Bool.and_eq_true,
      List.all_eq_true, isTypeSubTypeOf_eq s hu, validateIfaceArg_nil, validateExtraArg_nil,
      Bool.not_eq_true', Bool.not_eq_false, Bool.or_eq_true, not_and]
    refine and_congr ⟨fun ⟨⟨a, b⟩, c⟩ => ⟨⟨b, c⟩, a⟩, fun ⟨⟨b, c⟩, a⟩ => ⟨⟨a, b⟩, c⟩⟩ ?_
    cases tf.deprecated <;> simp

theorem validateImplements_nil (s : RawSchema) (hu : UnionsOk s) (tn i : Str) (tFields : List Field)
    (hi : s.isInterface i = true) :
    validateImplements s tn i tFields = [] ↔
      (match s.fieldsOf i with
       | some ifs => ifs.all (Spec.implementsField s tFields)
       | none => false) = true := by
  obtain ⟨is, fs, hl⟩ := isInterface_lookup hi
  unfold validateImplements
  have hf : s.fieldsOf i = some fs := by simp [RawSchema.fieldsOf, hl]
  simp only [hf, List.flatMap_eq_nil_iff, List.all_eq_true, validateIfaceField_nil s hu]

/-- "If implementedType declares it implements any interfaces, type must also declare it
implements those interfaces" is what `validate_type_implements_ancestors` reports on. -/
theorem validateAncestors_nil (s : RawSchema) (tn : Str) (tIfaces : List Str) (i : Str) :
    validateAncestors s tn tIfaces i = [] ↔ (s.ifacesOf i).all tIfaces.contains = true := by
  unfold validateAncestors
  rw [List.flatMap_eq_nil_iff, List.all_eq_true]
  refine forall_congr' fun tr => imp_congr_right fun _ => ?_
  by_cases h : tIfaces.contains tr = true
  · have h' : tr ∈ tIfaces := by simpa using h
    simp [h']
  · simp only [h, Bool.false_eq_true, ↓reduceIte, iff_false]
    split <;> simp

theorem validateIfacesLoop_nil (s : RawSchema) (tn : Str) (tIfaces : List Str) (tFields : List Field) :
    ∀ (is seen : List Str),
    validateIfacesLoop s tn tIfaces tFields is seen = [] ↔
      (∀ i ∈ is, (s.isInterface i = true ∧ tn ≠ i ∧
        validateAncestors s tn tIfaces i = [] ∧ validateImplements s tn i tFields = []) ∧ i ∉ seen) ∧ is.Nodup :=
  seenLoop_nil (validateIfacesLoop s tn tIfaces tFields) _ (fun _ => rfl) fun i is seen => by
    rw [validateIfacesLoop]
    by_cases hi : s.isInterface i = true <;> by_cases hs : i ∈ seen <;> simp [hi, hs, and_assoc]

theorem validateInterfaces_nil (s : RawSchema) (hu : UnionsOk s) (tn : Str) (ifaces : List Str)
    (fields : List Field) :
    validateInterfaces s tn ifaces fields = [] ↔ Spec.implementsOk s tn ifaces fields = true := by
  have item : ∀ i, (s.isInterface i = true ∧ tn ≠ i ∧ validateAncestors s tn ifaces i = [] ∧
      validateImplements s tn i fields = []) ↔ _ := fun i => and_congr_right fun hi =>
    and_congr_right fun _ => and_congr (validateAncestors_nil s tn ifaces i) (validateImplements_nil s hu tn i fields hi)
  unfold validateInterfaces Spec.implementsOk
  rw [validateIfacesLoop_nil]
  simp only [item, List.not_mem_nil, not_false_eq_true, and_true, Bool.and_eq_true, List.all_eq_true,
    decide_eq_true_eq, Bool.not_eq_true', List.contains_eq_mem, decide_eq_false_iff_not, imp_and, forall_and, and_assoc]
  exact ⟨fun ⟨a, b, c, d, e⟩ => ⟨a, e, fun h => b tn h rfl, c, d⟩,
    fun ⟨a, e, b, c, d⟩ => ⟨a, fun i hi he => b (he ▸ hi), c, d, e⟩⟩

end Gql.Types
