import Gql.Proofs.TokenStable
/-!
# Replacing the ignored material after a token

Prefix derivations (`PrefixFrom`), splitting a derivation at the end of a token, stability of
the prefix when the continuation changes, and the gap-replacement theorem on the grammar (`gap_replace`);
at the end, the two directions of "the lexer returns exactly the grammar's token sequence" in the form
the property files use them.
-/
open Gql Gql.Text
namespace Gql.Spec.Lex

/-- Derivation of the tokens of a prefix `pre` of the text `pre ++ z` that ends right after a
token (or is empty): every item lies inside `pre`, and an Ignored item is never the last one. -/
inductive PrefixFrom : Nat → List Nat → List Nat → List SpecToken → Prop
  | nil (off : Nat) (z : List Nat) : PrefixFrom off [] z []
  | ignored {off : Nat} {pre z : List Nat} {n : Nat} {ts : List SpecToken} :
      ignoredLen (pre ++ z) = some n → n < pre.length →
      PrefixFrom (off + n) (pre.drop n) z ts → PrefixFrom off pre z ts
  | token {off : Nat} {pre z : List Nat} {m : Match} {ts : List SpecToken} :
      ignoredLen (pre ++ z) = none → lexToken? (pre ++ z) = some m → 0 < m.len → m.len ≤ pre.length →
      PrefixFrom (off + m.len) (pre.drop m.len) z ts →
      PrefixFrom off pre z (⟨m.kind, off, off + m.len, m.value⟩ :: ts)

theorem PrefixFrom.join {off : Nat} {pre z : List Nat} {ts1 ts2 : List SpecToken}
    (h1 : PrefixFrom off pre z ts1) (h2 : SpecTokensFrom (off + pre.length) z ts2) :
    SpecTokensFrom off (pre ++ z) (ts1 ++ ts2) := by
  induction h1 with
  | nil off z => simpa using h2
  | @ignored off pre z n ts hig hn _ ih =>
    refine .ignored hig ?_
    rw [List.drop_append_of_le_length (by omega)]
    apply ih
    have : off + n + (pre.drop n).length = off + pre.length := by simp; omega
    rw [this]; exact h2
  | @token off pre z m ts hig hm hpos hn _ ih =>
    refine .token hig hm hpos ?_
    rw [List.drop_append_of_le_length hn]
    apply ih
    have : off + m.len + (pre.drop m.len).length = off + pre.length := by simp; omega
    rw [this]; exact h2

theorem SpecTokensFrom.spans {off : Nat} {s : List Nat} {ts : List SpecToken}
    (h : SpecTokensFrom off s ts) : ∀ t ∈ ts, off ≤ t.start ∧ (t.kind ≠ .eof → t.start < t.stop) := by
  induction h with
  | eof off => intro t ht; simp at ht; subst ht; simp
  | ignored _ _ ih => intro t ht; have := ih t ht; exact ⟨by omega, this.2⟩
  | @token off s m ts _ _ hpos _ ih =>
    intro t ht
    rcases List.mem_cons.mp ht with h | h
    · subst h; exact ⟨Nat.le_refl _, fun _ => by simp; omega⟩
    · have := ih t h; exact ⟨by omega, this.2⟩

/-- A derivation of `pre ++ z` with a token that ends exactly at `|pre|` (or `pre` empty) splits
into a prefix derivation and a derivation of `z`. -/
theorem SpecTokensFrom.split {off : Nat} {pre z : List Nat} {ts : List SpecToken}
    (h : SpecTokensFrom off (pre ++ z) ts)
    (hb : pre = [] ∨ ∃ t ∈ ts, t.kind ≠ .eof ∧ t.stop = off + pre.length) :
    ∃ ts1 ts2, ts = ts1 ++ ts2 ∧ PrefixFrom off pre z ts1 ∧ SpecTokensFrom (off + pre.length) z ts2 := by
  -- nothing to split off an empty prefix; otherwise walk down to the token that ends at `|pre|`
  rcases hb with rfl | hb
  · exact ⟨[], ts, rfl, .nil _ _, h⟩
  generalize hs : pre ++ z = s at h
  induction h generalizing pre with
  | eof off =>
    obtain ⟨t, ht, hk, _⟩ := hb
    cases List.mem_singleton.mp ht; exact absurd rfl hk
  | @ignored off s n ts hig hrest ih =>
    obtain ⟨t, ht, hk, hstop⟩ := hb
    subst hs
    have hn : n < pre.length := by have ⟨h1, h2⟩ := hrest.spans t ht; have := h2 hk; omega
    have hlen : off + n + (pre.drop n).length = off + pre.length := by simp; omega
    obtain ⟨ts1, ts2, hts, hp1, hp2⟩ := ih (pre := pre.drop n) ⟨t, ht, hk, by rw [hstop, hlen]⟩
      (List.drop_append_of_le_length (by omega)).symm
    exact ⟨ts1, ts2, hts, .ignored hig hn hp1, hlen ▸ hp2⟩
  | @token off s m ts hig hm hpos hrest ih =>
    obtain ⟨t, ht, hk, hstop⟩ := hb
    subst hs
    rcases List.mem_cons.mp ht with rfl | ht
    · -- the token itself ends at `|pre|`
      have hn : m.len = pre.length := by simpa using hstop
      rw [hn, List.drop_left] at hrest
      exact ⟨[_], ts, rfl, .token hig hm hpos (by omega) (by rw [hn, List.drop_length]; exact .nil _ _),
        hn ▸ hrest⟩
    · have hn : m.len ≤ pre.length := by have ⟨h1, h2⟩ := hrest.spans t ht; have := h2 hk; omega
      have hlen : off + m.len + (pre.drop m.len).length = off + pre.length := by simp; omega
      obtain ⟨ts1, ts2, hts, hp1, hp2⟩ := ih (pre := pre.drop m.len) ⟨t, ht, hk, by rw [hstop, hlen]⟩
        (List.drop_append_of_le_length hn).symm
      exact ⟨_ :: ts1, ts2, by rw [hts]; rfl, .token hig hm hpos hn hp1, hlen ▸ hp2⟩

/-- A continuation that cannot extend any token: empty, or starting with a code point that is
no NameContinue, no digit, no `.` and no `"`. -/
def Inert (z : List Nat) : Prop :=
  HeadAll (fun d => ¬ NameContinue d ∧ ¬ Digit d ∧ d ≠ 46 ∧ d ≠ 34) z

theorem compat_of_inert (t z : List Nat) (h : Inert z) : Compat t z := by
  cases t with
  | nil => trivial
  | cons c t' =>
    refine headAll_mono h (fun d hd => ⟨fun _ => hd.1, fun _ => ⟨hd.2.1, hd.2.2.1, ?_⟩, fun _ _ => hd.2.2.2⟩)
    intro hns; exact hd.1 (by unfold NameStart at hns; unfold NameContinue; rcases hns with h | h <;> simp [h])

theorem compat_head (t : List Nat) (c : Nat) (w w' : List Nat) (h : Compat t (c :: w)) : Compat t (c :: w') := by
  cases t with
  | nil => trivial
  | cons a t' => exact h

theorem inert_of_ignoredStart (c : Nat) (r : List Nat) (h : IgnoredStart c) : Inert (c :: r) := by
  unfold IgnoredStart at h
  show ¬ NameContinue c ∧ ¬ Digit c ∧ c ≠ 46 ∧ c ≠ 34
  unfold NameContinue Letter Digit
  omega

theorem ignoredLen_none_head' {c : Nat} {r r' : List Nat} (h : ignoredLen (c :: r) = none) :
    ignoredLen (c :: r') = none := by
  cases h' : ignoredLen (c :: r') with
  | none => rfl
  | some n =>
    obtain ⟨k, hk⟩ := ignoredLen_start_some r (ignoredLen_some_start h')
    rw [hk] at h; simp at h

theorem lexToken?_start_scalar {c : Nat} {r : List Nat} {m : Match} (h : lexToken? (c :: r) = some m) :
    Scalar c := by
  by_cases hs : Scalar c
  · exact hs
  · exfalso
    unfold Scalar at hs
    have h1 : ¬ Gql.Text.PunctStart c := by unfold Gql.Text.PunctStart; omega
    have h2 : ¬ NameStart c := by unfold NameStart Letter; omega
    have h3 : ¬ Digit c := by unfold Digit; omega
    rw [Gql.Text.lexToken?_none c r h1 h2 h3 (by omega) (by omega)] at h
    simp at h

theorem ignoredStart_scalar {c : Nat} (h : IgnoredStart c) : Scalar c := by
  unfold IgnoredStart at h; unfold Scalar; omega

theorem PrefixFrom.head_scalar {off : Nat} {c : Nat} {r z : List Nat} {ts : List SpecToken}
    (h : PrefixFrom off (c :: r) z ts) : Scalar c := by
  cases h with
  | ignored hig _ _ => exact ignoredStart_scalar (ignoredLen_some_start (by simpa using hig))
  | token _ hm _ _ _ => exact lexToken?_start_scalar (by simpa using hm)

/-- Prefix stability: the tokens of a prefix that ends right after a token do not depend on the
continuation, as long as the new continuation cannot extend the last token. -/
theorem PrefixFrom.stable {off : Nat} {pre z : List Nat} {ts : List SpecToken}
    (h : PrefixFrom off pre z ts) (z' : List Nat) (hz' : Inert z') : PrefixFrom off pre z' ts := by
  induction h with
  | nil off z => exact .nil _ _
  | @ignored off pre z n ts hig hn hrest ih =>
    -- the item ends inside `pre`, in front of the first code point of the next item
    refine .ignored (ignoredLen_inside hig hn (fun c hc => ?_) z') hn ih
    obtain ⟨hlt, rfl⟩ := List.getElem?_eq_some_iff.mp hc
    rw [List.drop_eq_getElem_cons hlt] at hrest
    exact hrest.head_scalar
  | @token off pre z m ts hig hm hpos hn hrest ih =>
    obtain ⟨hcx, hst⟩ := lexToken?_retarget hig hm hpos
    rw [List.take_append_of_le_length hn] at hcx hst
    rw [List.drop_append_of_le_length hn] at hcx
    have hcy : Compat (pre.take m.len) (pre.drop m.len ++ z') := by
      cases hW : pre.drop m.len with
      | nil => simpa using compat_of_inert _ _ hz'
      | cons c W =>
        rw [hW] at hcx
        exact compat_head _ c _ _ hcx
    have hm2 := hst _ hcy
    rw [← List.append_assoc, List.take_append_drop] at hm2
    refine .token ?_ hm2 hpos hn ih
    match pre, hn, hig with
    | [], hn, _ => simp at hn; omega
    | a :: pre', _, hig => exact ignoredLen_none_head' hig

theorem IgnoredRun.inert {s : List Nat} {k : Nat} (h : IgnoredRun s k) (hk : 0 < k) : Inert s := by
  cases h with
  | zero => exact absurd hk (Nat.lt_irrefl 0)
  | step hig _ =>
    match s, hig with
    | c :: r, hig => exact inert_of_ignoredStart c r (ignoredLen_some_start hig)

/-- Gap replacement on the grammar: in a text `pre ++ G ++ post` whose prefix `pre` ends right
after a token (or is empty) and where `G` is a run of Ignored items, `G` may be replaced by any
other run of Ignored items `G'` that keeps the last token of `pre` separated from `post`
(`Inert (G' ++ post)`: non-empty `G'`, or a `post` that cannot extend a token): the kinds and
values of all tokens, before and after the gap, are unchanged. -/
theorem gap_replace (pre G G' post : List Nat) (ts : List SpecToken)
    (h : SpecTokens (pre ++ (G ++ post)) ts)
    (hb : pre = [] ∨ ∃ t ∈ ts, t.kind ≠ .eof ∧ t.stop = pre.length)
    (hG : IgnoredRun (G ++ post) G.length) (hG' : IgnoredRun (G' ++ post) G'.length)
    (hI : Inert (G' ++ post)) :
    ∃ ts', SpecTokens (pre ++ (G' ++ post)) ts' ∧ kv ts' = kv ts := by
  obtain ⟨ts1, ts2, hts, hp1, hp2⟩ := SpecTokensFrom.split h (by simpa using hb)
  -- the tokens of `post`, read after `G`, are those read after `G'` at other offsets
  have h3 := hG.tokens_iff.1 hp2
  rw [List.drop_left] at h3
  obtain ⟨ts2', h4, hkv⟩ := h3.shift (0 + pre.length + G'.length)
  have h5 := (hp1.stable (G' ++ post) hI).join (hG'.tokens_iff.2 (by rw [List.drop_left]; exact h4))
  exact ⟨ts1 ++ ts2', h5, by simp only [hts, kv, List.map_append] at hkv ⊢; rw [hkv]⟩
end Gql.Spec.Lex

namespace Gql.Text
open Gql.Spec.Lex

/-! The lexer succeeds exactly on the texts that have a token sequence, and returns it. -/

theorem lexAll_of_SpecTokens (body : List Nat) (ss : List SpecToken) (h : SpecTokens body ss) :
    ∃ ts, lexAll body = .ok ts ∧ sig ts = ss := by
  have hA := lexAll_agree_all body
  rw [(specTokenize_iff body ss).mpr h] at hA
  cases hl : lexAll body with
  | ok ts =>
    rw [hl] at hA
    have : some ss = some (sig ts) := hA
    exact ⟨ts, rfl, (Option.some.inj this).symm⟩
  | err e => rw [hl] at hA; exact absurd hA (by simp [LexAgree])
  | crash c => rw [hl] at hA; exact hA.elim

theorem SpecTokens_of_lexAll (body : List Nat) (ts : List Token) (h : lexAll body = .ok ts) :
    SpecTokens body (sig ts) := by
  have hA := lexAll_agree_all body
  rw [h] at hA
  exact (specTokenize_iff _ _).mp hA

end Gql.Text
