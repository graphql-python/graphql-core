import Gql.Proofs.IncExecRef
import Gql.Proofs.ExecFuel
/-!
C04 §6, second stage: documents with inline fragments and fragment spreads but **no `@defer`
directive** on any of them (operations and fragment definitions).  The collection of the
incremental executor model (shared grouped field set, tri-state visited map) is simulated by C02's
implementation model of `collect_fields` (shared groups, visited list); C02's refinement
(`collectSubfields_rel`) then gives the specification's CollectFields.  Above collection, and for
the root, the recursion is the one of `Gql.Proofs.IncExecRef`.
-/
namespace Gql.Async.IncExec
open Gql.Exec Gql.Async
open Gql.Exec.Refine (OpsOk dirOut)

def noDeferDirs (dirs : List Directive) : Bool := dirs.all (fun d => !(d.name == "defer"))

mutual
def noDeferSel : Selection → Bool
  | .field _ _ _ _ sels => noDeferSels sels
  | .inline _ dirs sels => noDeferDirs dirs && noDeferSels sels
  | .spread _ dirs => noDeferDirs dirs
def noDeferSels : List Selection → Bool
  | [] => true
  | x :: rest => noDeferSel x && noDeferSels rest
end

/-- no `@defer` on any inline fragment or fragment spread of the document -/
def noDeferDoc (d : Doc) : Bool :=
  d.ops.all (fun op => noDeferSels op.sels) && d.frags.all (fun f => noDeferSels f.sels)

def PND (sels : List Selection) : Prop := noDeferSels sels = true

theorem stripDirs_id (dirs : List Directive) (h : noDeferDirs dirs = true) : stripDirs dirs = dirs := by
  unfold stripDirs
  rw [List.filter_eq_self]
  simpa [noDeferDirs] using h

mutual
theorem stripSel_id_nd : ∀ s : Selection, noDeferSel s = true → stripSel s = s
  | .field a n args dirs sels, h => by
    simp only [noDeferSel] at h
    simp only [stripSel, stripSels_id_nd sels h]
  | .inline c dirs sels, h => by
    simp only [noDeferSel, Bool.and_eq_true] at h
    simp only [stripSel, stripDirs_id dirs h.1, stripSels_id_nd sels h.2]
  | .spread n dirs, h => by
    simp only [noDeferSel] at h
    simp only [stripSel, stripDirs_id dirs h]
theorem stripSels_id_nd : ∀ l : List Selection, noDeferSels l = true → stripSels l = l
  | [], _ => rfl
  | x :: rest, h => by
    simp only [noDeferSels, Bool.and_eq_true] at h
    simp only [stripSels, stripSel_id_nd x h.1, stripSels_id_nd rest h.2]
end

theorem map_eq_self {α : Type} (f : α → α) (l : List α) (h : ∀ x ∈ l, f x = x) : l.map f = l :=
  (List.map_congr_left h).trans (List.map_id' l)

theorem stripDefer_id (d : Doc) (h : noDeferDoc d = true) : stripDefer d = d := by
  simp only [noDeferDoc, Bool.and_eq_true, List.all_eq_true] at h
  unfold stripDefer
  rw [map_eq_self _ d.ops (fun op hop => by simp only [stripSels_id_nd _ (h.1 op hop)]),
    map_eq_self _ d.frags (fun f hf => by simp only [stripSels_id_nd _ (h.2 f hf)])]

theorem getDeferUsage_off (cx : Impl.Ctx) (dirs : List Directive) (h : noDeferDirs dirs = true) :
    getDeferUsage cx dirs = some .off := by
  unfold getDeferUsage
  have : dirs.find? (fun d => d.name == "defer") = none := by
    rw [List.find?_eq_none]
    intro d hd
    simp only [noDeferDirs, List.all_eq_true] at h
    simpa using h d hd
  simp only [this]

theorem visitedGet_visitedSet (n m : Name) (b : Bool) :
    ∀ l : List (Name × Bool), visitedGet n (visitedSet m b l) =
      if m = n then some b else visitedGet n l
  | [] => by simp [visitedSet, visitedGet]
  | (k, b') :: rest => by
    by_cases hk : k = m
    · subst hk
      by_cases hn : k = n
      · simp [visitedSet, visitedGet, hn]
      · simp [visitedSet, visitedGet, hn]
    · by_cases hn : k = n
      · subst hn
        simp [visitedSet, visitedGet, hk, Ne.symm hk]
      · simp [visitedSet, visitedGet, hk, hn, visitedGet_visitedSet n m b rest]

structure R (st : CState) (ist : Impl.CState) : Prop where
  nu : st.newUsages = []
  grp : toGroups st.grouped = Refine.nodes ist.groups
  fo : FOg PND st.grouped
  vis : ∀ n, visitedGet n st.visited = if ist.visited.contains n then some false else none

/-- C02's collection ran out of fuel (excluded afterwards), or answered with a related state -/
def Post (st' : CState) : Out Impl.Exn Impl.CState → Prop
  | .ok ist' => R st' ist'
  | .err _ => False
  | .crash _ => True

theorem Post.guard {cx : Impl.Ctx} {dirs : List Directive} {st st' : CState} {ist : Impl.CState}
    {X : Option CState} {Y : Out Impl.Exn Impl.CState} (hr : R st ist)
    (h : (match Impl.shouldInclude cx dirs with
      | .ok true => X
      | .ok false => some st
      | _ => none) = some st')
    (hXY : X = some st' → Post st' Y) :
    Post st' (match Impl.shouldInclude cx dirs with
      | .ok true => Y
      | .ok false => .ok ist
      | .err e => .err e
      | .crash c => .crash c) := by
  cases hsi : Impl.shouldInclude cx dirs with
  | ok b =>
    cases b with
    | true => exact hXY (by simpa [hsi] using h)
    | false =>
      simp only [hsi, Option.some.injEq] at h
      exact h ▸ hr
  | err e => simp [hsi] at h
  | crash c => simp [hsi] at h

section
variable (cx : Impl.Ctx) (rt : Name)
variable (hdoc : ∀ n fr, cx.doc.frag n = some fr → noDeferSels fr.sels = true)
variable (recur : Option Nat → List Selection → CState → Option CState)
variable (irecur : List Selection → Impl.CState → Out Impl.Exn Impl.CState)
variable (hrec : ∀ sels st ist st', noDeferSels sels = true → R st ist →
  recur none sels st = some st' → Post st' (irecur sels ist))

include hdoc hrec in
mutual
theorem collectSels_nd : ∀ (sels : List Selection) (st : CState) (ist : Impl.CState) (st' : CState),
    noDeferSels sels = true → R st ist → collectSels cx rt recur none sels st = some st' →
    Post st' (Impl.collectSels cx rt irecur sels ist)
  | [], st, ist, st', _, hr, h => by
    simp only [collectSels, Option.some.injEq] at h
    subst h
    simpa [Impl.collectSels, Post] using hr
  | sel :: rest, st, ist, st', hf, hr, h => by
    simp only [noDeferSels, Bool.and_eq_true] at hf
    rw [collectSels] at h
    rw [Impl.collectSels]
    cases hs : collectSel cx rt recur none sel st with
    | none => simp [hs] at h
    | some st1 =>
      simp only [hs] at h
      have h1 := collectSel_nd sel st ist st1 hf.1 hr hs
      cases hi : Impl.collectSel cx rt irecur sel ist with
      | ok ist1 =>
        simp only [hi, Post] at h1 ⊢
        exact collectSels_nd rest st1 ist1 st' hf.2 h1 h
      | err e => simp [hi, Post] at h1
      | crash c => simp [Post]

theorem collectSel_nd : ∀ (sel : Selection) (st : CState) (ist : Impl.CState) (st' : CState),
    noDeferSel sel = true → R st ist → collectSel cx rt recur none sel st = some st' →
    Post st' (Impl.collectSel cx rt irecur sel ist)
  | .field a n args dirs subs, st, ist, st', hf, hr, h => by
    simp only [noDeferSel] at hf
    rw [collectSel] at h
    rw [Impl.collectSel]
    refine Post.guard hr h fun h => ?_
    cases h
    refine ⟨hr.nu, ?_, FOg_addField _ _ _ hr.fo ⟨rfl, hf⟩, hr.vis⟩
    simp only [toGroups_addField, Refine.nodes_addField, hr.grp]
  | .inline cond dirs subs, st, ist, st', hf, hr, h => by
    simp only [noDeferSel, Bool.and_eq_true] at hf
    rw [collectSel] at h
    rw [Impl.collectSel]
    refine Post.guard hr h fun h => ?_
    simp only [getDeferUsage_off cx dirs hf.1] at h
    by_cases hcm : Impl.condMatch cx.schema cond rt = true
    · simp only [hcm, if_true] at h ⊢
      exact collectSels_nd subs st ist st' hf.2 hr h
    · simp only [hcm, Bool.false_eq_true, if_false, Option.some.injEq] at h ⊢
      exact h ▸ hr
  | .spread name dirs, st, ist, st', hf, hr, h => by
    simp only [noDeferSel] at hf
    rw [collectSel] at h
    rw [Impl.collectSel]
    refine Post.guard hr h fun h => ?_
    cases hfr : cx.doc.frag name with
    | none =>
      simp only [hfr, Option.some.injEq] at h
      exact h ▸ hr
    | some fr =>
      simp only [hfr, getDeferUsage_off cx dirs hf] at h
      by_cases hcm : Impl.condMatch cx.schema (some fr.cond) rt = true
      · simp only [hcm, Bool.not_true, Bool.false_eq_true, if_false] at h ⊢
        have hv := hr.vis name
        by_cases hc : ist.visited.contains name = true
        · simp only [hc, if_true] at hv ⊢
          simp only [hv, if_true, Option.some.injEq] at h
          exact h ▸ hr
        · simp only [hc, Bool.false_eq_true, if_false] at hv ⊢
          simp only [hv, reduceCtorEq, if_false] at h
          -- both enter the fragment, each with the name marked in its own map
          refine hrec fr.sels _ _ st' (hdoc name fr hfr) ?_ h
          refine ⟨hr.nu, hr.grp, hr.fo, fun n => ?_⟩
          simp only [visitedGet_visitedSet, List.contains_cons]
          by_cases hn : name = n
          · subst hn
            simp
          · have hn' : (n == name) = false := by simpa using Ne.symm hn
            simp only [hn, if_false, hn', Bool.false_or]
            exact hr.vis n
      · simp only [hcm, Bool.not_false, if_true, Option.some.injEq] at h ⊢
        exact h ▸ hr
end
end

theorem collectFuel_nd (cx : Impl.Ctx) (rt : Name)
    (hdoc : ∀ n fr, cx.doc.frag n = some fr → noDeferSels fr.sels = true) :
    ∀ (m k : Nat) (sels : List Selection) (st : CState) (ist : Impl.CState) (st' : CState),
      noDeferSels sels = true → R st ist → collectFuel cx rt m none sels st = some st' →
      Post st' (Impl.collectFuel cx rt k sels ist)
  | 0, _, _, _, _, _, _, _, h => by simp [collectFuel] at h
  | m + 1, 0, _, _, _, _, _, _, _ => by simp [Impl.collectFuel, Post]
  | m + 1, k + 1, sels, st, ist, st', hf, hr, h => by
    rw [collectFuel] at h
    rw [Impl.collectFuel]
    exact collectSels_nd cx rt hdoc _ _
      (fun sels st ist st' hf hr h => collectFuel_nd cx rt hdoc m k sels st ist st' hf hr h)
      sels st ist st' hf hr h

def conv (fd : FD) : Impl.FieldDetails := { serial := 0, node := fd.node }

theorem collectSubLoop_nd (cx : Impl.Ctx) (rt : Name)
    (hdoc : ∀ n fr, cx.doc.frag n = some fr → noDeferSels fr.sels = true) :
    ∀ (fds : List FD) (st : CState) (ist : Impl.CState) (st' : CState),
      FOfds PND fds → R st ist → collectSubLoop cx rt fds st = some st' →
      Post st' (Impl.collectSubLoop cx rt (fds.map conv) ist)
  | [], st, ist, st', _, hr, h => by
    simp only [collectSubLoop, Option.some.injEq] at h
    subst h
    simpa [Impl.collectSubLoop, Post] using hr
  | fd :: rest, st, ist, st', hfo, hr, h => by
    rw [collectSubLoop] at h
    rw [List.map_cons, Impl.collectSubLoop]
    have hfd := hfo fd List.mem_cons_self
    cases hs : collectFuel cx rt (fuelOf cx.doc) fd.du fd.node.sels st with
    | none => simp [hs] at h
    | some st1 =>
      simp only [hs] at h
      rw [hfd.1] at hs
      have h1 := collectFuel_nd cx rt hdoc _ (Impl.fuelOf cx.doc) _ st ist st1 hfd.2 hr hs
      simp only [conv] at h1 ⊢
      cases hi : Impl.collectFuel cx rt (Impl.fuelOf cx.doc) fd.node.sels ist with
      | ok ist1 =>
        simp only [hi, Post] at h1 ⊢
        exact collectSubLoop_nd cx rt hdoc rest st1 ist1 st'
          (fun x hx => hfo x (List.mem_cons_of_mem _ hx)) h1 h
      | err e => simp [hi, Post] at h1
      | crash c => simp [Post]

theorem R_init (base : Nat) (heap : List FieldNode) :
    R (initC base) { groups := [], visited := [], heap := heap } :=
  ⟨rfl, rfl, fun e he => by simp [initC] at he, fun n => by simp [initC, visitedGet]⟩

theorem agree_toSpec (cx : Impl.Ctx) : Agree cx (Refine.toSpec cx) := ⟨rfl, rfl, rfl⟩

/-- A state related to C02's answer (`Post`), when that answer refines the specification's
CollectFields (`Refine.CollectPost`), holds the specification's groups. -/
theorem post_collectFields {st : CState} {io : Out Impl.Exn Impl.CState} {heap : List FieldNode}
    {scx : Spec.Ctx} {rt : Name} {sels : List Selection} (hpost : Post st io)
    (hc2 : Refine.CollectPost heap
      (match (generalizing := false) io with
        | .ok s => .ok (s.groups, s.heap)
        | .err e => .err e
        | .crash c => .crash c) (Spec.collectFields scx rt sels)) :
    st.newUsages = [] ∧ FOg PND st.grouped ∧
      Spec.collectFields scx rt sels = .ok (toGroups st.grouped) := by
  cases hsp : Spec.collectFields scx rt sels with
  | crash c => exact absurd hsp (Refine.collectFields_noCrash _ _ _ c)
  | err e =>
    rw [hsp] at hc2
    cases io with
    | err => exact hpost.elim
    | _ => cases hc2
  | ok G =>
    rw [hsp] at hc2
    obtain ⟨g, heap', e1, e2, _⟩ := hc2
    cases io with
    | ok ist =>
      cases e1
      exact ⟨hpost.nu, hpost.fo, by rw [hpost.grp, e2]⟩
    | _ => cases e1

theorem collectOK_nd (cx : Impl.Ctx) (hops : OpsOk cx.ops)
    (hdoc : ∀ n fr, cx.doc.frag n = some fr → noDeferSels fr.sels = true) :
    CollectOK cx (Refine.toSpec cx) PND where
  sub := by
    intro rt fds st hrt hfo hs
    have hn : (fds.map conv).map (·.node) = nodes fds := by
      simp [nodes, conv, List.map_map, Function.comp_def]
    have := post_collectFields (collectSubLoop_nd cx rt hdoc fds _ _ st hfo (R_init 0 []) hs)
      (Refine.collectSubfields_rel cx hops rt hrt (fds.map conv) [])
    rwa [hn] at this

/-- For a document without `@defer` (inline fragments, fragment spreads, type conditions,
`@skip`/`@include` allowed): the tree `c.ref` of the cut the incremental executor model produces
is, as a JSON value, the `data` of the specification's response to the document with `@defer`
disabled (here: the document itself), and that response has no errors. -/
theorem incCut_ref_nd {ops : Ops} {s : Schema} {doc : Doc} {opName : Option Name} {vars : Vars}
    {root : RVal} {c : Cut} (hops : OpsOk ops) (hnd : noDeferDoc doc = true)
    (h : incCut ops s doc opName vars root = some c) :
    (Spec.executeRequest ops s (stripDefer doc) opName vars root).errors = [] ∧
    toJ (Spec.executeRequest ops s (stripDefer doc) opName vars root).data = some c.ref := by
  have hnd' := hnd
  simp only [noDeferDoc, Bool.and_eq_true, List.all_eq_true] at hnd'
  refine incCut_ref_gen (P := PND) ?_
    (fun op hop => ⟨hnd'.1 op hop, stripSels_id_nd _ (hnd'.1 op hop)⟩) h
  rw [stripDefer_id doc hnd]
  exact collectOK_nd (Impl.Ctx.mk ops s doc vars) hops
    fun n fr hfr => hnd'.2 fr (Refine.frag_mem hfr).1

/-- the document class for which `c.ref` = the specification's response is proved: every operation
selects fields only (fragment definitions unreachable), or no inline fragment / fragment spread of
the document (operations and fragment definitions) carries `@defer` -/
def refClassDoc (d : Doc) : Bool := fieldsOnlyDoc d || noDeferDoc d

theorem incCut_ref_class {ops : Ops} {s : Schema} {doc : Doc} {opName : Option Name} {vars : Vars}
    {root : RVal} {c : Cut} (hops : OpsOk ops) (hcl : refClassDoc doc = true)
    (h : incCut ops s doc opName vars root = some c) :
    (Spec.executeRequest ops s (stripDefer doc) opName vars root).errors = [] ∧
    toJ (Spec.executeRequest ops s (stripDefer doc) opName vars root).data = some c.ref := by
  simp only [refClassDoc, Bool.or_eq_true] at hcl
  rcases hcl with hfo | hnd
  · exact incCut_ref_fo hops hfo h
  · exact incCut_ref_nd hops hnd h

end Gql.Async.IncExec
