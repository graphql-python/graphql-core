import Gql.Exec.Overlap
import Gql.Exec.SpecMerge
import Gql.Proofs.Util.Assoc
/-! Lemmas for C14: the rule's three tables. The two pair sets (`PairSet`, `OrderedPairSet`) and why a
hit is harmless; the cache of field maps, read under any invariant of the form "every entry was
collected from the member with that identity" (`getFields_inv`, `getReferenced_eq`). -/
namespace Gql.Exec
open Overlap

/-- `has(…, flag)` answers `True` exactly when an entry exists whose flag is *not stronger* than
the queried one: an entry made under `False` (not mutually exclusive) answers both queries, an
entry made under `True` answers only `True` queries. -/
theorem flagHas_iff (stored : Option Bool) (q : Bool) :
    flagHas stored q = true ↔ ∃ r, stored = some r ∧ (r = true → q = true) := by
  cases stored with
  | none => simp [flagHas]
  | some r => cases r <;> cases q <;> simp [flagHas]

theorem pairKey_comm (a b : String) : pairKey a b = pairKey b a := by
  unfold pairKey
  by_cases h1 : a < b
  · have h2 : ¬ b < a := String.lt_asymm h1
    simp [h1, h2]
  · by_cases h2 : b < a
    · simp [h1, h2]
    · have : a = b := String.le_antisymm h2 h1
      simp [this]

theorem pairKey_eq {a b c d : String} (h : pairKey a b = pairKey c d) :
    (a = c ∧ b = d) ∨ (a = d ∧ b = c) := by
  simp only [pairKey] at h
  split at h <;> split at h <;> simp only [Prod.mk.injEq] at h
  · exact Or.inl h
  · exact Or.inr h
  · exact Or.inr ⟨h.2, h.1⟩
  · exact Or.inl ⟨h.2, h.1⟩

section assoc
variable {κ β : Type} [BEq κ] [LawfulBEq κ]

theorem assocGet_eq (m : List (κ × β)) (k : κ) : assocGet m k = m.lookup k :=
  (List.lookup_eq_find? m k).symm

theorem assocSet_eq (m : List (κ × β)) (k : κ) (v : β) : assocSet m k v = m.assign k v := by
  induction m with
  | nil => rfl
  | cons e es ih => simp only [assocSet, List.assign, ih]

theorem assocGet_assocSet_same (m : List (κ × β)) (k : κ) (v : β) :
    assocGet (assocSet m k v) k = some v := by
  simp [assocGet_eq, assocSet_eq, List.lookup_assign]

theorem assocGet_assocSet_other (m : List (κ × β)) (k k' : κ) (v : β) (hne : k ≠ k') :
    assocGet (assocSet m k v) k' = assocGet m k' := by
  simp [assocGet_eq, assocSet_eq, List.lookup_assign, hne]

theorem mem_of_assocGet {m : List (κ × β)} {k : κ} {v : β} (h : assocGet m k = some v) :
    (k, v) ∈ m :=
  List.mem_of_lookup (assocGet_eq m k ▸ h)

theorem assocGet_of_mem_nodup {m : List (κ × β)} (hn : (m.map (·.1)).Nodup) {k : κ} {v : β}
    (h : (k, v) ∈ m) : assocGet m k = some v :=
  assocGet_eq m k ▸ List.lookup_of_mem_nodup hn h

end assoc

/-- `PairSet.has(a, b, x) == PairSet.has(b, a, x)` -/
theorem cmpHas_comm (σ : St) (a b : String) (q : Bool) : σ.cmpHas a b q = σ.cmpHas b a q := by
  simp [St.cmpHas, pairKey_comm a b]

theorem cmpHas_cmpAdd (σ : St) (a b : String) (r q : Bool) :
    (σ.cmpAdd a b r).cmpHas a b q = true ↔ (r = true → q = true) := by
  simp [St.cmpHas, St.cmpAdd, assocGet_assocSet_same, flagHas_iff]

theorem cfpHas_cfpAdd (σ : St) (a : Nat) (b : String) (r q : Bool) :
    (σ.cfpAdd a b r).cfpHas a b q = true ↔ (r = true → q = true) := by
  simp [St.cfpHas, St.cfpAdd, assocGet_assocSet_same, flagHas_iff]

/-- The comparison is only ever skipped (`has` = true) under a flag at least as weak as a stored
one, and the entry is only ever overwritten by a *stronger* comparison (`True → False`):
if `has(q)` fails although an entry `r` exists, then `r = True` and `q = False`. -/
theorem flagHas_false_of_some {r q : Bool} (h : flagHas (some r) q = false) :
    r = true ∧ q = false := by
  cases r <;> cases q <;> simp [flagHas] at h ⊢

namespace Spec

/-- `t` asks for at least what `s` asks for: same pair, and full merging if `s` does. -/
def Covers (t s : State) : Prop := t.a = s.a ∧ t.b = s.b ∧ (s.full = true → t.full = true)

theorem direct_covers {sc : Schema} {s t : State} (h : Covers t s) (hd : direct sc s = true) :
    direct sc t = true := by
  obtain ⟨ha, hb, hf⟩ := h
  simp only [direct, typesOf, ha, hb, Bool.or_eq_true, Bool.and_eq_true] at hd ⊢
  exact hd.imp_right fun ⟨⟨h1, h2⟩, h3⟩ => ⟨⟨hf h1, h2⟩, h3⟩

theorem deeper_mono {sc : Schema} {a b : FieldInst} {f f' : Bool} (hf : f = true → f' = true)
    (h : deeper sc ⟨a, b, f⟩ = true) : deeper sc ⟨a, b, f'⟩ = true := by
  simp only [deeper, Bool.and_eq_true] at h ⊢
  exact ⟨hf h.1, h.2⟩

/-- `leafStop` does not look at `full` and `deeper` only grows with it: the covering state has the
successors of the covered one, under a flag that covers theirs -/
theorem step_covers {sc : Schema} {d : Doc} {s t s' : State} (h : Covers t s)
    (hs : Step sc d s s') : ∃ t', Step sc d t t' ∧ Covers t' s' := by
  obtain ⟨_, _, sf⟩ := s
  obtain ⟨a, b, tf⟩ := t
  obtain ⟨rfl, rfl, hf⟩ := h
  have hm : deeper sc ⟨a, b, sf⟩ = true → deeper sc ⟨a, b, tf⟩ = true := deeper_mono hf
  simp only [Step, succs] at hs ⊢
  split at hs
  · cases hs
  · rename_i hc
    obtain ⟨p, hp, rfl⟩ := List.mem_map.1 hs
    refine ⟨⟨p.1, p.2, deeper sc ⟨a, b, tf⟩⟩, ?_, rfl, rfl, hm⟩
    rw [if_neg fun h2 => hc ?_]
    · exact List.mem_map.2 ⟨p, hp, rfl⟩
    · simp only [Bool.and_eq_true, Bool.not_eq_true'] at h2 ⊢
      exact ⟨Bool.eq_false_iff.2 fun hd => Bool.noConfusion ((hm hd).symm.trans h2.1), h2.2⟩

/-- Everything a shape-only / exclusive comparison of a pair can find, the non-exclusive
comparison of the same pair finds too.  This is what makes it sound that a pair-set entry made
with `are_mutually_exclusive = False` also answers a query with `True`. -/
theorem reach_covers {sc : Schema} {d : Doc} {s s' : State} (hr : Reach sc d s s') :
    ∀ {t : State}, Covers t s → direct sc s' = true →
      ∃ t', Reach sc d t t' ∧ direct sc t' = true := by
  induction hr with
  | refl st => exact fun {t} hc hd => ⟨t, Reach.refl t, direct_covers hc hd⟩
  | step hst _ ih =>
    intro t hc hd
    obtain ⟨t1, ht1, hc1⟩ := step_covers hc hst
    obtain ⟨t', hr', hd'⟩ := ih hc1 hd
    exact ⟨t', Reach.step ht1 hr', hd'⟩

end Spec

/-- A `has(…, flag)` hit on either pair set: an entry `r` exists with `r → flag`, and whatever the
skipped comparison (`full = ¬flag`) could find, the recorded one (`full = ¬r`) finds too. -/
theorem flagHas_sound {stored : Option Bool} {flag : Bool} (h : flagHas stored flag = true) :
    ∃ r, stored = some r ∧ (r = true → flag = true) ∧
      ∀ (sc : Schema) (d : Doc) (x y : Spec.FieldInst) (st : Spec.State),
        Spec.Reach sc d ⟨x, y, !flag⟩ st → Spec.direct sc st = true →
        ∃ st', Spec.Reach sc d ⟨x, y, !r⟩ st' ∧ Spec.direct sc st' = true := by
  obtain ⟨r, hr, himp⟩ := (flagHas_iff _ _).1 h
  refine ⟨r, hr, himp, fun sc d x y st hreach hd => Spec.reach_covers hreach ⟨rfl, rfl, ?_⟩ hd⟩
  cases r
  · exact fun _ => rfl
  · rw [himp rfl]; exact id

/-- every entry of the cache of field maps was collected (`J`) from the member of `X` with that
identity -/
def CacheInv {α : Type} (X : α → Prop) (key : α → Nat) (J : α → Cached → Prop) (σ : St) : Prop :=
  ∀ i c, assocGet σ.cache i = some c → ∃ x, X x ∧ key x = i ∧ J x c

/-- Reading (and filling) the cache for a member `x` of `X`, identities being unique on `X`: the
invariant is kept, what is returned was collected from `x`, the pair sets are untouched. -/
theorem getFields_inv {α : Type} {X : α → Prop} {key : α → Nat} {J : α → Cached → Prop}
    (hU : ∀ x, X x → ∀ y, X y → key x = key y → x = y) {s : Schema} {d : Doc} {σ : St}
    (hσ : CacheInv X key J σ) {x : α} (hx : X x) (p : Option String) {ss : SelSet}
    (hk : key x = ss.id)
    (hnew : J x (computeFields s d p ss)) :
    CacheInv X key J (getFields s d σ p ss).1 ∧ J x (getFields s d σ p ss).2 ∧
      (getFields s d σ p ss).1.cfp = σ.cfp ∧ (getFields s d σ p ss).1.cmp = σ.cmp := by
  unfold getFields
  cases hg : assocGet σ.cache ss.id with
  | some c =>
    obtain ⟨y, hy, hky, hj⟩ := hσ _ _ hg
    cases hU y hy x hx (hky.trans hk.symm)
    exact ⟨hσ, hj, rfl, rfl⟩
  | none =>
    refine ⟨fun i c hi => ?_, hnew, rfl, rfl⟩
    by_cases hid : ss.id = i
    · subst hid
      simp only [assocGet_assocSet_same, Option.some.injEq] at hi
      exact ⟨x, hx, hk, hi ▸ hnew⟩
    · simp only [assocGet_assocSet_other _ _ _ _ hid] at hi
      exact hσ i c hi

/-- `get_referenced_fields_and_fragment_spreads` looks the fragment's selection set up under the
key `get_fields_and_fragment_spreads` uses: it is that function at the fragment's type condition -/
theorem getReferenced_eq (s : Schema) (d : Doc) (σ : St) (fr : FragDef) :
    getReferenced s d σ fr = getFields s d σ (s.typeFromAst fr.typeCond) fr.ss := by
  unfold getReferenced
  cases hg : assocGet σ.cache fr.ss.id with
  | some c => simp only [getFields, hg]
  | none => rfl

end Gql.Exec
