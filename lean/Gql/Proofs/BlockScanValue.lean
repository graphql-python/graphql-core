import Gql.Proofs.StringRoundtrip
import Gql.Proofs.LexerBlock
import Gql.Proofs.BlockEscape
/-!
The grammar's recogniser `blockRest` inverts `escapeTQ`: on `escapeTQ V` followed by `"""` it
returns `V`, for every `Paired` raw text `V` whose end is not open (`blockRest_escapeTQ`).
`RawOf v V` collects what makes `V` the raw text of a literal with value `v`; for such `V` the
grammar's `lexToken?` (`lexToken?_raw`) and, through `readBlockStringLoop_agree`, the
lexer's block string loop (`scan_raw`) read `"""`, `escapeTQ V`, `"""` as a token with value `v`.
-/
namespace Gql.Text

def tokOf (x : LexOut (Token × LexState)) : LexOut Token := x >>= fun p => pure p.1

@[simp] theorem tokOf_ok (t : Token) (s : LexState) : tokOf (.ok (t, s)) = .ok t := rfl

theorem tokOf_bind_ok {x : LexOut (Token × LexState)} : tokOf x = x >>= fun p => pure p.1 := rfl

/-- Lines of `v` (split at LF) when the current line already holds `cur`. -/
def linesFrom (cur : List Nat) : List Nat → List (List Nat)
  | [] => [cur]
  | c :: r => if c = 10 then cur :: linesFrom [] r else linesFrom (cur ++ [c]) r

def blockTok (st : LexState) (start stop : Nat) (lines : List (List Nat)) : Token :=
  mkToken st .blockString start stop (some (joinLines (dedentBlockStringLines lines)))

open Gql.Spec.Lex Gql.Text.Pairs

/-- One source character that starts neither `"""` nor `\"""`. -/
theorem blockRest_char (f k : Nat) (s : List Nat) (h3 : s.take 3 ≠ [34, 34, 34])
    (h4 : s.take 4 ≠ [92, 34, 34, 34]) (hk : sourceCharLen s = some k) :
    blockRest (f + 1) s = consB k (s.take k) (blockRest f (s.drop k)) := by
  rw [blockRest_succ, if_neg h3, if_neg h4, hk]

/-- `blockRest` inverts `escapeTQ`. -/
theorem blockRest_escapeTQ (rest : List Nat) {V : List Nat} (hp : Paired V) (hopen : endsOpen V = false) :
    ∀ f, V.length < f →
      blockRest f (escapeTQ V ++ 34 :: 34 :: 34 :: rest) = some ((escapeTQ V).length + 3, V) := by
  induction hn : V.length using Nat.strongRecOn generalizing V with
  | _ n ih =>
    subst hn
    intro f hf
    obtain ⟨f, rfl⟩ : ∃ g, f = g + 1 := ⟨f - 1, by omega⟩
    rcases V with _ | ⟨c, r⟩
    · rw [blockRest_succ]; rfl
    by_cases htq : ∃ r', c = 34 ∧ r = 34 :: 34 :: r'
    · obtain ⟨r, rfl, rfl⟩ := htq
      have hr : Paired r := ((hp.tail_of_scalar (by decide)).tail_of_scalar (by decide)).tail_of_scalar (by decide)
      rw [escapeTQ_qqq, blockRest_succ, if_neg (by simp), if_pos (by simp)]
      simp only [List.cons_append, List.drop_succ_cons, List.drop_zero]
      rw [ih _ (by simp only [List.length_cons]; omega) hr (by rw [endsOpen] at hopen; exact hopen) rfl f (by simp only [List.length_cons] at hf; omega)]
      simp [consB]
    rcases hp.cases with ⟨hsc, hr⟩ | ⟨b, r, rfl, hns, hl, ht, hr⟩
    · -- a scalar value: the look-ahead after a quote or a backslash fails
      rw [escapeTQ_cons_nt htq, List.cons_append,
        blockRest_char f 1 _
          (fun h => by
            obtain rfl : c = 34 := (List.cons.inj h).1
            exact look2 r _ (fun r' hr' => htq ⟨r', rfl, hr'⟩) hopen (List.cons.inj h).2)
          (fun h => by
            obtain rfl : c = 92 := (List.cons.inj h).1
            exact look3 r _ hopen (List.cons.inj h).2)
          (sourceCharLen_eq_some.2 (.inl ⟨c, _, rfl, (isScalar_iff c).mp hsc, rfl⟩))]
      simp only [List.drop_succ_cons, List.drop_zero, List.take_succ_cons, List.take_zero]
      rw [ih _ (by simp only [List.length_cons]; omega) hr (endsOpen_tail htq hopen) rfl f (by simp only [List.length_cons] at hf; omega)]
      simp [consB]
    · -- a surrogate pair: neither half is a quote or a backslash
      have hc : c ≠ 34 ∧ c ≠ 92 := by constructor <;> rintro rfl <;> exact absurd hns (by decide)
      have hb : b ≠ 34 := by rintro rfl; exact absurd ht (by decide)
      rw [escapeTQ_ne _ hc.1, escapeTQ_ne _ hb, List.cons_append, List.cons_append,
        blockRest_char f 2 _ (fun h => by exact hc.1 (List.cons.inj h).1) (fun h => by exact hc.2 (List.cons.inj h).1)
          (sourceCharLen_eq_some.2 (.inr ⟨c, b, _, rfl, mt (isScalar_iff c).mpr (by simp [hns]),
            ⟨(isLeadSurrogate_iff c).mp hl, (isTrailSurrogate_iff b).mp ht⟩, rfl⟩))]
      simp only [List.drop_succ_cons, List.drop_zero, List.take_succ_cons, List.take_zero]
      rw [ih _ (by simp only [List.length_cons]; omega) hr
        (endsOpen_tail (fun ⟨_, e, _⟩ => hb e) (endsOpen_tail (fun ⟨_, e, _⟩ => hc.1 e) hopen)) rfl f
        (by simp only [List.length_cons] at hf; omega)]
      simp [consB]

/-- A successful `blockRest` at `p` is what the loop started at `p` returns. -/
theorem scan_of_blockRest (body : List Nat) (st : LexState) (start p ls : Nat) {f n : Nat} {raw : List Nat}
    (hf : body.length - p ≤ f) (h : blockRest f (body.drop p) = some (n, raw)) :
    tokOf (readBlockStringLoop body st start p p ls [] []) =
      .ok (blockTok st start (p + n) (splitLinesAux [] raw)) := by
  have hag := readBlockStringLoop_agree body st start p f p ls [] [] hf (Nat.le_refl _)
  rw [h] at hag
  obtain ⟨st', e⟩ := hag
  rw [e, slice_self]
  rfl

/-- Without CR the specification's line split is the split at LF. -/
theorem splitLinesAux_eq_linesFrom (v : List Nat) (h13 : ∀ c ∈ v, c ≠ 13) :
    ∀ cur, splitLinesAux cur v = linesFrom cur v := by
  induction v with
  | nil => intro cur; rfl
  | cons c r ih =>
    intro cur
    have hr := ih (fun d hd => h13 d (by simp [hd]))
    by_cases h10 : c = 10
    · subst h10; rw [splitLinesAux_lf, hr]; simp [linesFrom]
    · rw [splitLinesAux_plain cur c r h10 (h13 c (by simp)), hr]; simp [linesFrom, h10]

/-- `V` can stand, escaped, between the quotes of a block string literal, and its value is `v`:
the text is `Paired` without CR, its end is not open, and its lines dedent to those of `v`. -/
structure RawOf (v V : List Nat) : Prop where
  paired : Paired V
  no_cr : ∀ c ∈ V, c ≠ 13
  closed : endsOpen V = false
  value : joinLines (dedentBlockStringLines (linesFrom [] V)) = v

/-- The lexer's loop on an escaped raw text between quotes, wherever it stands. -/
theorem scan_raw {v V : List Nat} (h : RawOf v V) (body : List Nat) (st : LexState) (start p ls : Nat)
    (rest : List Nat) (hbody : body.drop p = [34, 34, 34] ++ (escapeTQ V ++ [34, 34, 34]) ++ rest) :
    tokOf (readBlockStringLoop body st start (p + 3) (p + 3) ls [] []) =
      .ok (mkToken st .blockString start (p + ([34, 34, 34] ++ (escapeTQ V ++ [34, 34, 34])).length) (some v)) := by
  have hdrop : body.drop (p + 3) = escapeTQ V ++ 34 :: 34 :: 34 :: rest := by
    rw [← List.drop_drop, hbody]; simp
  rw [scan_of_blockRest body st start (p + 3) ls (f := body.length - (p + 3) + V.length + 1) (by omega)
      (hdrop ▸ blockRest_escapeTQ rest h.paired h.closed _ (by omega)),
    splitLinesAux_eq_linesFrom V h.no_cr, blockTok, h.value]
  simp only [List.length_append, List.length_cons, List.length_nil]
  rw [show ∀ L, p + 3 + (L + 3) = p + (0 + 1 + 1 + 1 + (L + (0 + 1 + 1 + 1))) from fun L => by omega]

/-- The grammar on an escaped raw text between quotes. -/
theorem lexToken?_raw {v V : List Nat} (h : RawOf v V) (rest : List Nat) :
    lexToken? ([34, 34, 34] ++ (escapeTQ V ++ [34, 34, 34]) ++ rest) =
      some ⟨.blockString, ([34, 34, 34] ++ (escapeTQ V ++ [34, 34, 34])).length, some v⟩ := by
  have hb := blockRest_escapeTQ rest h.paired h.closed
    (escapeTQ V ++ 34 :: 34 :: 34 :: rest).length (by have := length_le_escapeTQ V; simp; omega)
  simp only [List.append_assoc, List.cons_append, List.nil_append]
  rw [lexToken?_cons, if_pos rfl, if_pos (by rfl)]
  simp only [blockString?, hb, blockStringValue, splitLines, splitLinesAux_eq_linesFrom V h.no_cr,
    ← dedent_eq_spec, ← joinLines_eq, h.value]
  simp

end Gql.Text
