import Gql.Proofs.Frame
/-!
`_add_groups`: whatever the order of the list and the depth of the recursion to the parents,
the effect is a sequence of `attachGroup` steps over pairwise distinct groups of the list
(the `visited` set guarantees it).  Each step keeps the forest: both writes of `attachGroup` are
instances of `Forest.setGroup`.  At the end what the operations built on it (`attachSeq`, `addGroups`,
`integrateWork`) do on every queue: the `Grow` lemmas, the task nodes left alone by `_add_groups`, and
the normal form of `_maybe_integrate_work` without producing task.
-/
namespace Gql.Async

def attachSeq (σ : Static) (hpt : Bool) (S : List Nat) (r : WQ × List Nat) : WQ × List Nat :=
  S.foldl (fun r x => attachGroup σ hpt x r) r

theorem attachSeq_append (σ : Static) (hpt : Bool) (a b : List Nat) (r : WQ × List Nat) :
    attachSeq σ hpt (a ++ b) r = attachSeq σ hpt b (attachSeq σ hpt a r) := by
  simp [attachSeq]

theorem addGroup_visited (σ : Static) (gs : List Nat) (hpt : Bool) (n g : Nat)
    (acc : WQ × List Nat × List Nat) (hv : g ∈ acc.2.2) : addGroup σ gs hpt (n + 1) g acc = acc := by
  unfold addGroup; simp [hv]

theorem addGroup_leaf (σ : Static) (gs : List Nat) (hpt : Bool) (n g : Nat)
    (acc : WQ × List Nat × List Nat) (hv : g ∉ acc.2.2)
    (hp : ∀ p, σ.parent g = some p → p ∉ gs) :
    addGroup σ gs hpt (n + 1) g acc =
      ((attachGroup σ hpt g (acc.1, acc.2.1)).1, (attachGroup σ hpt g (acc.1, acc.2.1)).2, g :: acc.2.2) := by
  unfold addGroup
  cases h : σ.parent g with
  | none => simp [hv]
  | some p => simp [hv, hp p h]

theorem addGroup_rec (σ : Static) (gs : List Nat) (hpt : Bool) (n g p : Nat)
    (acc : WQ × List Nat × List Nat) (hv : g ∉ acc.2.2) (hp : σ.parent g = some p) (hpg : p ∈ gs) :
    addGroup σ gs hpt (n + 1) g acc =
      ((attachGroup σ hpt g ((addGroup σ gs hpt n p (acc.1, acc.2.1, g :: acc.2.2)).1,
          (addGroup σ gs hpt n p (acc.1, acc.2.1, g :: acc.2.2)).2.1)).1,
       (attachGroup σ hpt g ((addGroup σ gs hpt n p (acc.1, acc.2.1, g :: acc.2.2)).1,
          (addGroup σ gs hpt n p (acc.1, acc.2.1, g :: acc.2.2)).2.1)).2,
       (addGroup σ gs hpt n p (acc.1, acc.2.1, g :: acc.2.2)).2.2) := by
  conv => lhs; unfold addGroup
  simp [hv, hp, hpg]

/-- One call of `_add_group` on a group of the list attaches, in order, the groups `S` it newly marks
as visited. -/
theorem addGroup_seq (σ : Static) (gs : List Nat) (hpt : Bool) (fuel : Nat) :
    ∀ g ∈ gs, ∀ (acc : WQ × List Nat × List Nat), acc.2.2.Nodup → ∃ S,
      ((addGroup σ gs hpt fuel g acc).1, (addGroup σ gs hpt fuel g acc).2.1)
        = attachSeq σ hpt S (acc.1, acc.2.1) ∧
      (addGroup σ gs hpt fuel g acc).2.2 = S ++ acc.2.2 ∧ (S ++ acc.2.2).Nodup ∧ ∀ x ∈ S, x ∈ gs := by
  induction fuel with
  | zero => intro g _ acc hn; exact ⟨[], rfl, rfl, hn, nofun⟩
  | succ n ih =>
    intro g hg acc hn
    by_cases hv : g ∈ acc.2.2
    · rw [addGroup_visited σ gs hpt n g acc hv]; exact ⟨[], rfl, rfl, hn, nofun⟩
    · have hn' : (g :: acc.2.2).Nodup := List.nodup_cons.mpr ⟨hv, hn⟩
      by_cases hrecur : ∃ p, σ.parent g = some p ∧ p ∈ gs
      · -- the parent's call comes first, with `g` already marked
        obtain ⟨p, hp, hpg⟩ := hrecur
        rw [addGroup_rec σ gs hpt n g p acc hv hp hpg]
        obtain ⟨S1, b1, b2, b3, b4⟩ := ih p hpg (acc.1, acc.2.1, g :: acc.2.2) hn'
        -- `(S1 ++ [g]) ++ acc.2.2` is `S1 ++ g :: acc.2.2`
        refine ⟨S1 ++ [g], ?_, by rw [List.append_assoc]; exact b2, by rw [List.append_assoc]; exact b3,
          fun x hx => (List.mem_append.mp hx).elim (b4 x) fun h => List.mem_singleton.mp h ▸ hg⟩
        simp only
        rw [attachSeq_append, ← b1]
        rfl
      · rw [addGroup_leaf σ gs hpt n g acc hv (fun p hp hpg => hrecur ⟨p, hp, hpg⟩)]
        exact ⟨[g], rfl, rfl, hn', by simpa using hg⟩

theorem addGroups_seq (σ : Static) (q : WQ) (gs : List Nat) (hpt : Bool) :
    ∃ S, addGroups σ q gs hpt = attachSeq σ hpt S (q, []) ∧ S.Nodup ∧ ∀ x ∈ S, x ∈ gs := by
  unfold addGroups
  simp only
  have key : ∀ (l : List Nat) (acc : WQ × List Nat × List Nat), (∀ x ∈ l, x ∈ gs) → acc.2.2.Nodup → ∃ S,
      ((l.foldl (fun acc g => addGroup σ gs hpt (gs.length + 1) g acc) acc).1,
       (l.foldl (fun acc g => addGroup σ gs hpt (gs.length + 1) g acc) acc).2.1)
        = attachSeq σ hpt S (acc.1, acc.2.1) ∧
      (S ++ acc.2.2).Nodup ∧ ∀ x ∈ S, x ∈ gs := by
    intro l
    induction l with
    | nil => intro acc _ hn; exact ⟨[], rfl, hn, nofun⟩
    | cons g l ih =>
      intro acc hl hn
      simp only [List.foldl_cons]
      obtain ⟨S1, a1, a2, a3, a4⟩ := addGroup_seq σ gs hpt (gs.length + 1) g (hl g (.head _)) acc hn
      obtain ⟨S2, c1, c2, c3⟩ := ih (addGroup σ gs hpt (gs.length + 1) g acc)
        (fun x hx => hl x (.tail _ hx)) (a2 ▸ a3)
      refine ⟨S1 ++ S2, by rw [c1, attachSeq_append, a1], ?_,
        fun x hx => (List.mem_append.mp hx).elim (a4 x) (c3 x)⟩
      -- the visited list is `S2 ++ S1 ++ acc.2.2`
      rw [a2, ← List.append_assoc] at c2
      exact (List.perm_append_comm.append_right _).nodup_iff.mp c2
  obtain ⟨S, e, hn, hs⟩ := key gs (q, [], []) (fun x hx => hx) .nil
  exact ⟨S, e, by simpa using hn, hs⟩

theorem attachGroup_snd (σ : Static) (hpt : Bool) (g : Nat) (r : WQ × List Nat) :
    (attachGroup σ hpt g r).2 = r.2 ++ (if !hpt && (σ.parent g).isNone then [g] else []) := by
  unfold attachGroup
  simp only
  cases hp : σ.parent g with
  | none => cases hpt <;> simp
  | some p => simp only; split <;> simp

theorem attachSeq_snd (σ : Static) (hpt : Bool) (S : List Nat) (r : WQ × List Nat) :
    (attachSeq σ hpt S r).2 = r.2 ++ S.filter (fun x => !hpt && (σ.parent x).isNone) := by
  induction S generalizing r with
  | nil => simp [attachSeq]
  | cons g S ih =>
    have : attachSeq σ hpt (g :: S) r = attachSeq σ hpt S (attachGroup σ hpt g r) := rfl
    rw [this, ih, attachGroup_snd]
    by_cases h : (!hpt && (σ.parent g).isNone) = true <;> simp [h]

theorem attach_forest (σ : Static) (hpt : Bool) (g : Nat) (r : WQ × List Nat) (X : List Nat)
    (f : Forest σ r.1) (k : KnownIn X r.1) (hg : g ∉ X) :
    Forest σ (attachGroup σ hpt g r).1 ∧ KnownIn (g :: X) (attachGroup σ hpt g r).1 := by
  unfold attachGroup
  simp only
  have h1 := f.setGroup (k.mono fun x hx => .tail g hx) g {} (.head _) .nil nofun
  split
  · split <;> exact h1
  · rename_i p hp
    split
    · rename_i pn hpn
      -- the children `p` has so far were listed before `g` got its node, so `g` is not among them
      have old : ∀ c ∈ pn.children, c ∈ X := fun c hc =>
        k.children p c ((hasChild_aset ⟨pn, hpn, hc⟩).resolve_left fun h => nomatch h.2)
      refine h1.1.setGroup h1.2 p _ (h1.2.nodes p ⟨pn, hpn⟩) ?_ fun c hc => ?_
      · exact List.nodup_append.mpr ⟨h1.1.nodup p pn hpn, by simp,
          fun a ha b hb e => hg (List.mem_singleton.mp hb ▸ e ▸ old a ha)⟩
      · rcases List.mem_append.mp hc with hc | hc
        · exact ⟨h1.1.parent p c ⟨pn, hpn, hc⟩, h1.1.notRoot p c ⟨pn, hpn, hc⟩, .tail g (old c hc)⟩
        · cases List.mem_singleton.mp hc
          exact ⟨hp, fun h => hg (k.roots g h), .head _⟩
    · exact h1

theorem attachSeq_forest (σ : Static) (hpt : Bool) (S : List Nat) (r : WQ × List Nat) (X : List Nat)
    (f : Forest σ r.1) (k : KnownIn X r.1) (hn : S.Nodup) (hS : ∀ x ∈ S, x ∉ X) :
    Forest σ (attachSeq σ hpt S r).1 ∧ KnownIn (S ++ X) (attachSeq σ hpt S r).1 := by
  induction S generalizing r X with
  | nil => exact ⟨f, k⟩
  | cons g S ih =>
    have hn' := List.nodup_cons.mp hn
    obtain ⟨f1, k1⟩ := attach_forest σ hpt g r X f k (hS g (.head _))
    obtain ⟨f2, k2⟩ := ih (attachGroup σ hpt g r) (g :: X) f1 k1 hn'.2 fun x hx hm =>
      (List.mem_cons.mp hm).elim (fun e => hn'.1 (e ▸ hx)) (hS x (.tail _ hx))
    exact ⟨f2, k2.mono fun x hx => List.perm_middle.mem_iff.mp hx⟩

theorem attachSeq_grow (σ : Static) (hpt : Bool) (S : List Nat) (r : WQ × List Nat) :
    Grow S r.1 (attachSeq σ hpt S r).1 := by
  induction S generalizing r with
  | nil => exact .refl _ _
  | cons g S ih =>
    exact ((attachGroup_grow σ hpt g r).mono (fun x hx => by simp at hx; simp [hx])).trans
      ((ih (attachGroup σ hpt g r)).mono (fun x hx => .tail _ hx))

theorem addGroups_grow (σ : Static) (q : WQ) (gs : List Nat) (hpt : Bool) :
    Grow gs q (addGroups σ q gs hpt).1 := by
  obtain ⟨S, hS, _, hsub⟩ := addGroups_seq σ q gs hpt
  rw [hS]; exact (attachSeq_grow σ _ S (q, [])).mono hsub

/-- The test for an empty list in front of `_add_groups` changes nothing. -/
theorem addGroups_isEmpty (σ : Static) (q : WQ) (gs : List Nat) (hpt : Bool) :
    (if gs.isEmpty then (q, []) else addGroups σ q gs hpt) = addGroups σ q gs hpt := by
  cases gs <;> rfl

theorem addGroups_taskNodes (σ : Static) (q : WQ) (gs : List Nat) (hpt : Bool) :
    (addGroups σ q gs hpt).1.taskNodes = q.taskNodes := by
  obtain ⟨S, hS, _⟩ := addGroups_seq σ q gs hpt
  rw [hS]
  refine foldl_rel1 (fun q q' => q'.taskNodes = q.taskNodes) (fun _ => rfl) (fun h1 h2 => h2.trans h1)
    _ S (q, []) fun r g => ?_
  unfold attachGroup
  simp only
  split
  · split <;> rfl
  · split <;> rfl

/-- `_maybe_integrate_work` without producing task: the streams become roots, and the tests for
empty lists change nothing. -/
theorem integrateWork_root (σ : Static) (q : WQ) (w : Work) :
    integrateWork σ q (some w) none =
      (w.tasks.foldl (addTask σ) (addGroups σ q w.groups false).1, (addGroups σ q w.groups false).2, w.streams) := by
  obtain ⟨gs, ts, ss⟩ := w
  cases gs <;> cases ss <;> rfl

theorem integrateWork_grow (σ : Static) (q : WQ) (wo : Option Work) (pt : Option Nat) :
    Grow ((wo.map (·.groups)).getD []) q (integrateWork σ q wo pt).1 := by
  unfold integrateWork
  cases wo with
  | none => exact .refl _ q
  | some w =>
    simp only [addGroups_isEmpty]
    have h2 := (addGroups_grow σ q w.groups pt.isSome).trans (foldl_rel (Grow w.groups) (.refl _) .trans
      (addTask σ) w.tasks _ (fun q t => (addTask_upd σ q t).grow))
    split
    · exact h2
    · exact h2.trans (addStreams_grow _ _ _ _)

end Gql.Async
