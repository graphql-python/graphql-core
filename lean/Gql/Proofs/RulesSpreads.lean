import Gql.Validation.Rules
/-!
C12 — `get_fragment_spreads(selection_set)` returns exactly the fragment spreads of the selection set: those among its
selections and, recursively, those of the selection sets of its other selections (fields, inline fragments).  The
loop theorem also says that the fuel the model gives the loop (the number of nodes of the selection set) is enough
(`spreads_fuel_enough`).
-/
namespace Gql.Validation.Rules

namespace Spec
/-- `sp` is a fragment spread of the selection set `ss` (spec §5.5.2: "the spreads of a selection set", not looking
into the fragments they name). -/
inductive SpreadIn : ATree → ATree → Prop
  | here {ss sp : ATree} : sp ∈ ss.kids "selections" → sp.kind = "fragment_spread" → SpreadIn ss sp
  | deeper {ss x ss' sp : ATree} : x ∈ ss.kids "selections" → x.kind ≠ "fragment_spread" →
      x.kid "selection_set" = some ss' → SpreadIn ss' sp → SpreadIn ss sp
end Spec
open Spec

namespace ATree

theorem sizeList_append (a b : List ATree) : sizeList (a ++ b) = sizeList a + sizeList b := by
  induction a with
  | nil => simp only [List.nil_append, sizeList, Nat.zero_add]
  | cons t ts ih => simp only [List.cons_append, sizeList, ih, Nat.add_assoc]

theorem sizeList_reverse (a : List ATree) : sizeList a.reverse = sizeList a := by
  induction a with
  | nil => rfl
  | cons t ts ih => simp only [List.reverse_cons, sizeList_append, sizeList, ih, Nat.zero_add, Nat.add_comm (size t)]

theorem size_le_of_mem {t : ATree} {a : List ATree} (h : t ∈ a) : size t ≤ sizeList a := by
  induction a with
  | nil => simp at h
  | cons x xs ih =>
    rcases List.mem_cons.mp h with rfl | h'
    · rw [sizeList]; exact Nat.le_add_right _ _
    · rw [sizeList]; exact Nat.le_trans (ih h') (Nat.le_add_left _ _)

theorem sizeList_filterMap_le {g : ATree → Option ATree} (hg : ∀ x k, g x = some k → size k ≤ size x)
    (a : List ATree) : sizeList (a.filterMap g) ≤ sizeList a := by
  induction a with
  | nil => exact Nat.le_refl _
  | cons x xs ih =>
    cases h : g x with
    | none => simp only [List.filterMap_cons, h, sizeList]; exact Nat.le_trans ih (Nat.le_add_left _ _)
    | some k => simp only [List.filterMap_cons, h, sizeList]; exact Nat.add_le_add (hg x k h) ih

theorem sizeList_filter_le (p : ATree → Bool) (a : List ATree) : sizeList (a.filter p) ≤ sizeList a := by
  rw [← List.filterMap_eq_filter]
  refine sizeList_filterMap_le (fun x k h => ?_) a
  simp only [Option.guard, Option.ite_none_right_eq_some, Option.some.injEq] at h
  exact Nat.le_of_eq (congrArg size h.2.symm)

theorem sizeList_kids_lt (x : ATree) (f : String) : sizeList (x.kids f) < size x := by
  have := sizeList_filter_le (fun c => c.field == f) x.children
  cases x; exact Nat.lt_of_le_of_lt this (Nat.lt_add_of_pos_left Nat.one_pos)

theorem size_kid_le (f : String) (x k : ATree) (h : x.kid f = some k) : size k ≤ size x :=
  Nat.le_trans (size_le_of_mem (List.mem_of_mem_head? (Option.mem_def.mpr h))) (Nat.le_of_lt (sizeList_kids_lt x f))

end ATree

/-- One unfolding of `SpreadIn`, in the terms of one round of the loop: a spread of `s` is one of the spreads among
its selections, or a spread of one of the selection sets the round pushes. -/
theorem spreadIn_iff (s sp : ATree) : SpreadIn s sp ↔
    sp ∈ (s.kids "selections").filter (fun x => x.kind == "fragment_spread") ∨
    ∃ s' ∈ ((s.kids "selections").filter (fun x => x.kind != "fragment_spread")).filterMap
      (fun x => x.kid "selection_set"), SpreadIn s' sp := by
  constructor
  · rintro (⟨hm, hk⟩ | ⟨hm, hk, hss, hin⟩)
    · exact Or.inl (List.mem_filter.mpr ⟨hm, by simpa using hk⟩)
    · exact Or.inr ⟨_, List.mem_filterMap.mpr ⟨_, List.mem_filter.mpr ⟨hm, by simpa using hk⟩, hss⟩, hin⟩
  · rintro (h | ⟨s', h, hin⟩)
    · have := List.mem_filter.mp h
      exact .here this.1 (by simpa using this.2)
    · obtain ⟨x, hx, hk⟩ := List.mem_filterMap.mp h
      have := List.mem_filter.mp hx
      exact .deeper this.1 (by simpa using this.2) hk hin

open ATree in
theorem spreadsLoop_spec : ∀ (fuel : Nat) (stack acc : List ATree), sizeList stack ≤ fuel →
    (spreadsLoop fuel stack acc).2 = false ∧
      ∀ sp, sp ∈ (spreadsLoop fuel stack acc).1 ↔ sp ∈ acc ∨ ∃ s ∈ stack, SpreadIn s sp := by
  intro fuel
  induction fuel with
  | zero =>
    intro stack acc h
    cases stack with
    | nil => simp [spreadsLoop]
    | cons s st => cases s; simp [sizeList, size] at h
  | succ fuel ih =>
    intro stack acc h
    cases stack with
    | nil => simp [spreadsLoop]
    | cons s st =>
      rw [spreadsLoop]
      have hlt := Nat.lt_of_le_of_lt (Nat.le_trans
        (sizeList_filterMap_le (size_kid_le "selection_set") _)
        (sizeList_filter_le (fun x => x.kind != "fragment_spread") _)) (sizeList_kids_lt s "selections")
      have ih := ih _ (acc ++ (s.kids "selections").filter (fun x => x.kind == "fragment_spread"))
        (show sizeList ((((s.kids "selections").filter (fun x => x.kind != "fragment_spread")).filterMap
          (fun x => x.kid "selection_set")).reverse ++ st) ≤ fuel by
          rw [sizeList_append, sizeList_reverse]
          exact Nat.le_of_lt_succ (Nat.lt_of_lt_of_le (Nat.add_lt_add_right hlt _) h))
      refine ⟨ih.1, fun sp => ?_⟩
      simp only [ih.2 sp, List.mem_append, List.mem_reverse, List.mem_cons, or_and_right, exists_or, exists_eq_left,
        spreadIn_iff s sp, or_assoc]

theorem getSpreads_mem_iff (ss sp : ATree) : sp ∈ (getSpreads ss).1 ↔ SpreadIn ss sp := by
  simp [getSpreads, (spreadsLoop_spec ss.size [ss] [] (by simp [ATree.sizeList])).2]

theorem spreads_fuel_enough (selSet : ATree) : (getSpreads selSet).2 = false :=
  (spreadsLoop_spec _ [selSet] [] (by simp [ATree.sizeList])).1

end Gql.Validation.Rules
