import Gql.Text.Location
/-!
`get_location` against the specification's line and column (C10-1, C10-5).

`scan s n c` counts what `re.split` counts: the terminators of `s` and the length of its last line.
`splitNLAux_shape` reads `get_location` off it; `scan_terms` ties the scan of a first part `s` of a
text `s ++ t` to the specification's terminators of the whole text, provided the cut does not fall
inside a CR LF (`NoSplit`); `scan_append` lets the scan go on over `t` under the same proviso
(`LexerLines` follows the lexer with it).  `splitNL_eq_lines`: the lines `re.split` returns are the
specification's `lines` (C10-5b).
-/
namespace Gql.Text
open Spec

/-- Scan of a prefix keeping (number of terminators seen, length of the current line). -/
def scan : List Nat → Nat → Nat → Nat × Nat
  | [], n, c => (n, c)
  | 13 :: 10 :: rest, n, _ => scan rest (n + 1) 0
  | 13 :: rest, n, _ => scan rest (n + 1) 0
  | 10 :: rest, n, _ => scan rest (n + 1) 0
  | _ :: rest, n, c => scan rest n (c + 1)

theorem scan_shift (s : List Nat) (n c k : Nat) :
    scan s (n + k) c = ((scan s n c).1 + k, (scan s n c).2) := by
  fun_induction scan s n c <;> simp_all [scan] <;> grind

theorem splitNLAux_ne_nil (s cur : List Nat) : splitNLAux s cur ≠ [] := by
  fun_induction splitNLAux s cur <;> simp_all

theorem splitNLAux_shape (s : List Nat) (cur : List Nat) :
    ∃ last, (splitNLAux s cur).getLast? = some last ∧
      (splitNLAux s cur).length = (scan s 0 cur.length).1 + 1 ∧
      last.length = (scan s 0 cur.length).2 := by
  fun_induction splitNLAux s cur
  · simp [scan]
  all_goals
    rename_i ih
    obtain ⟨last, h1, h2, h3⟩ := ih
    refine ⟨last, ?_, ?_, ?_⟩
    · simp_all [List.getLast?_cons]
      try (cases h : splitNLAux _ [] <;> simp_all [splitNLAux_ne_nil])
    · simp_all [scan, scan_shift _ 0 _ 1]
    · simp_all [scan, scan_shift _ 0 _ 1]

theorem terms_end_gt (body : List Nat) (i : Nat) : ∀ t ∈ terms body i, i < t.2 := by
  have step : ∀ {i k : Nat} {ts : List (Nat × Nat)}, 0 < k → (∀ t ∈ ts, i + k < t.2) →
      ∀ t ∈ (i, i + k) :: ts, i < t.2 := by
    intro i k ts hk ih t ht
    rcases List.mem_cons.mp ht with rfl | ht
    · exact Nat.lt_add_of_pos_right hk
    · exact Nat.lt_trans (Nat.lt_add_of_pos_right hk) (ih t ht)
  fun_induction terms body i
  · exact nofun
  · rename_i ih; exact step (by decide) ih
  · rename_i ih; exact step (by decide) ih
  · rename_i ih; exact step (by decide) ih
  · rename_i ih; exact fun t ht => Nat.lt_trans (Nat.lt_succ_self _) (ih t ht)

theorem filter_terms_le (body : List Nat) (i j : Nat) (h : j ≤ i) :
    (terms body i).filter (fun t => t.2 ≤ j) = [] := by
  simp only [List.filter_eq_nil_iff]
  intro t ht
  have := terms_end_gt body i t ht
  simp; omega

theorem scan_cr (l : List Nat) (n c : Nat) (h : ∀ r, l = 10 :: r → False) :
    scan (13 :: l) n c = scan l (n + 1) 0 := by
  rw [scan]; exact h

theorem scan_other (x : Nat) (t : List Nat) (n k : Nat) (h13 : x ≠ 13) (h10 : x ≠ 10) :
    scan (x :: t) n k = scan t n (k + 1) := by
  rw [scan]
  · intro r hx _; exact h13 hx
  · intro hx; exact h13 hx
  · intro hx; exact h10 hx

theorem lastEnd_cons (t : Nat × Nat) (ts : List (Nat × Nat)) :
    lastEnd (t :: ts) = if ts = [] then t.2 else lastEnd ts := by
  cases ts <;> simp [lastEnd, List.getLast?_cons_cons]

@[simp] theorem lastEnd_nil : lastEnd [] = 0 := rfl

/-- The arithmetic of one terminator `(i, i + k)` in front of the list `T` of the later ones. -/
theorem scan_take_step (T : List (Nat × Nat)) (i k q n c : Nat) (r : Nat × Nat)
    (h : let ts := T.filter (fun t => t.2 ≤ i + k + q)
      r.1 = n + 1 + ts.length ∧ r.2 = (if ts = [] then 0 + q else i + k + q - lastEnd ts)) :
    let ts := ((i, i + k) :: T).filter (fun t => t.2 ≤ i + (q + k))
    r.1 = n + ts.length ∧ r.2 = (if ts = [] then c + (q + k) else i + (q + k) - lastEnd ts) := by
  have e : i + (q + k) = i + k + q := by omega
  have e2 : i + k ≤ i + k + q := by omega
  simp only [e, List.filter_cons, e2, decide_true, if_true, lastEnd_cons] at h ⊢
  obtain ⟨t1, t2⟩ := h
  refine ⟨by rw [t1]; simp; omega, ?_⟩
  rw [t2]; simp
  split <;> omega

/-- `l ++ m` does not cut a CR LF pair in two. -/
def NoSplit (l m : List Nat) : Prop := ¬ (l.getLast? = some 13 ∧ m.head? = some 10)

theorem NoSplit.tail {x : Nat} {l m : List Nat} (h : NoSplit (x :: l) m) : NoSplit l m := by
  intro ⟨a, b⟩
  cases l with
  | nil => simp at a
  | cons y ys => exact h ⟨by simpa [List.getLast?_cons_cons] using a, b⟩

/-- After a CR that no LF follows in `l`, none follows in `l ++ m` either. -/
theorem NoSplit.not_lf {l m : List Nat} (h : NoSplit (13 :: l) m) (hne : ∀ r, l = 10 :: r → False) :
    ∀ r, l ++ m = 10 :: r → False := by
  intro r hr
  cases l with
  | nil => exact h ⟨rfl, by rw [List.nil_append] at hr; rw [hr]; rfl⟩
  | cons x xs => exact hne xs (by rw [(List.cons.inj hr).1])

theorem noSplit_take_drop (body : List Nat) (p : Nat) (hin : ¬ insideCRLF body p) :
    NoSplit (body.take p) (body.drop p) := by
  intro ⟨a, b⟩
  rw [List.head?_drop] at b
  have hlt : p < body.length := (List.getElem?_eq_some_iff.mp b).1
  have hpos : 0 < p := Nat.pos_of_ne_zero fun e => by subst e; simp at a
  refine hin ⟨hpos, ?_, b⟩
  rw [← a, List.getLast?_eq_getElem?, List.length_take, Nat.min_eq_left (Nat.le_of_lt hlt),
    List.getElem?_take_of_lt (by omega)]

/-- The scan of a text cut anywhere but inside a CR LF goes on from the scan of its first part. -/
theorem scan_append (l m : List Nat) (n k : Nat) (h : NoSplit l m) :
    scan (l ++ m) n k = scan m (scan l n k).1 (scan l n k).2 := by
  fun_induction scan l n k
  · rfl
  · rename_i ih; simp only [List.cons_append, scan]; exact ih h.tail.tail
  · rename_i hne ih; rw [List.cons_append, scan_cr _ _ _ (h.not_lf hne)]; exact ih h.tail
  · rename_i ih; simp only [List.cons_append, scan]; exact ih h.tail
  · rename_i x rest n k _ h2 h3 ih
    rw [List.cons_append, scan_other x _ _ _ h2 h3]; exact ih h.tail

/-- The scan of the first part `s` of a text `s ++ t`, by the specification's terminators of the
whole text that end inside `s`. -/
theorem scan_terms (s t : List Nat) (n c : Nat) (h : NoSplit s t) : ∀ i,
    let ts := (terms (s ++ t) i).filter (fun x => x.2 ≤ i + s.length)
    (scan s n c).1 = n + ts.length ∧
      (scan s n c).2 = (if ts = [] then c + s.length else i + s.length - lastEnd ts) := by
  fun_induction scan s n c
  · intro i; simp [filter_terms_le t i i (Nat.le_refl i)]
  · rename_i rest n _ ih
    intro i
    simp only [List.cons_append, terms, List.length_cons]
    exact scan_take_step _ i 2 rest.length n _ _ (ih h.tail.tail (i + 2))
  · rename_i rest n _ hne ih
    intro i
    rw [List.cons_append, terms]
    · simp only [List.length_cons]
      exact scan_take_step _ i 1 rest.length n _ _ (ih h.tail (i + 1))
    · exact h.not_lf hne
  · rename_i rest n _ ih
    intro i
    simp only [List.cons_append, terms, List.length_cons]
    exact scan_take_step _ i 1 rest.length n _ _ (ih h.tail (i + 1))
  · rename_i x rest n c h1 h2 h3 ih
    intro i
    have := ih h.tail (i + 1)
    rw [List.cons_append, terms]
    · simp only [List.length_cons, show i + (rest.length + 1) = i + 1 + rest.length by omega] at this ⊢
      refine ⟨this.1, ?_⟩
      rw [this.2]; split <;> omega
    · intro r hx _; exact h2 hx
    · intro hx; exact h2 hx
    · intro hx; exact h3 hx

/-- The specification's line and column, read off the scan of the prefix. -/
theorem lineCol_eq_scan (body : List Nat) (p : Nat) (hp : p ≤ body.length)
    (hin : ¬ insideCRLF body p) :
    lineCol body p = (1 + (scan (body.take p) 0 0).1, 1 + (scan (body.take p) 0 0).2) := by
  have := scan_terms _ _ 0 0 (noSplit_take_drop body p hin) 0
  simp only [List.take_append_drop, List.length_take, Nat.min_eq_left hp, Nat.zero_add] at this
  rw [this.1, this.2, lineCol]
  split
  · next h => simp [h]
  · rfl

/-- `get_location` never raises. -/
theorem getLocation_no_crash (body : List Nat) (p : Nat) : ¬ (getLocation body p).isCrash := by
  unfold getLocation splitNL
  obtain ⟨last, h, _, _⟩ := splitNLAux_shape (body.take p) []
  simp [h, Out.isCrash]

/-- `get_location` is the specification's line/column for every offset that does not fall
between a CR and its LF. -/
theorem getLocation_eq_spec (body : List Nat) (p : Nat) (hp : p ≤ body.length)
    (hin : ¬ insideCRLF body p) : getLocation body p = .ok (lineCol body p) := by
  unfold getLocation splitNL
  obtain ⟨last, h, h1, h2⟩ := splitNLAux_shape (body.take p) []
  simp only [h, h1, h2, lineCol_eq_scan body p hp hin, List.length_nil, Nat.add_comm]

theorem scan_fst_ge (s : List Nat) (n c : Nat) : n ≤ (scan s n c).1 := by
  fun_induction scan s n c <;> omega

/-- A longer text has at least as many line terminators, also when the cut falls inside a CR LF. -/
theorem scan_fst_mono (l m : List Nat) (n c : Nat) : ∀ c', (scan l n c).1 ≤ (scan (l ++ m) n c').1 := by
  fun_induction scan l n c
  · exact fun c' => scan_fst_ge m _ c'
  · rename_i ih; intro c'; simp only [List.cons_append, scan]; exact ih 0
  · rename_i rest n _ hne ih
    intro c'
    cases rest with
    | nil =>
      -- the cut may fall between this CR and an LF
      rw [List.cons_append, List.nil_append]
      by_cases hm : ∃ r, m = 10 :: r
      · obtain ⟨r, rfl⟩ := hm; exact scan_fst_ge r (n + 1) 0
      · rw [scan_cr _ _ _ (fun r hr => hm ⟨r, hr⟩)]; exact scan_fst_ge m (n + 1) 0
    | cons x xs =>
      rw [List.cons_append, scan_cr _ _ _ (fun r hr => hne xs (by rw [(List.cons.inj hr).1]))]
      exact ih 0
  · rename_i ih; intro c'; simp only [List.cons_append, scan]; exact ih 0
  · rename_i x rest n c _ h2 h3 ih
    intro c'; rw [List.cons_append, scan_other x _ _ _ h2 h3]; exact ih _

theorem scan_pad (k : Nat) (body : List Nat) (n c : Nat) :
    scan (List.replicate k 32 ++ body) n c = scan body n (c + k) := by
  induction k generalizing c with
  | zero => simp
  | succ k ih =>
    simp only [List.replicate_succ, List.cons_append]
    rw [scan]
    · rw [ih]; congr 1; omega
    all_goals simp

theorem splitNL_length (s : List Nat) : (splitNL s).length = (scan s 0 0).1 + 1 := by
  obtain ⟨_, _, h, _⟩ := splitNLAux_shape s []
  simpa [splitNL] using h

/-- Rendering never fails on a location that came from `get_location` on the same source:
the subscript `lines[line_index]` of `print_source_location` is in range, whatever the
configured column offset. -/
theorem excerpt_no_crash (body : List Nat) (p colOffset : Nat) (loc : Nat × Nat)
    (h : getLocation body p = .ok loc) : (excerptLine body colOffset loc.1).isOk := by
  unfold getLocation at h
  simp only at h
  split at h
  · next last hl =>
    simp only [Out.ok.injEq] at h
    subst h
    unfold excerptLine
    have h1 := splitNL_length (body.take p)
    have h2 := splitNL_length (List.replicate colOffset 32 ++ body)
    rw [scan_pad] at h2
    have h3 := scan_fst_mono (body.take p) (body.drop p) 0 0 (0 + colOffset)
    rw [List.take_append_drop] at h3
    simp only
    rw [if_neg (by omega)]
    unfold Out.index
    have : (splitNL (body.take p)).length - 1 <
        (splitNL (List.replicate colOffset 32 ++ body)).length := by omega
    simp [List.getElem?_eq_getElem this, Out.isOk]
  · simp at h

theorem sliceOf_self (body : List Nat) (a : Nat) : sliceOf body a a = [] := by
  simp [sliceOf]

theorem sliceOf_snoc (body : List Nat) (j i c : Nat) (hji : j ≤ i) (h : body[i]? = some c) :
    sliceOf body j (i + 1) = sliceOf body j i ++ [c] := by
  unfold sliceOf
  have hlen : i < body.length := by
    rcases Nat.lt_or_ge i body.length with h' | h'
    · exact h'
    · rw [List.getElem?_eq_none h'] at h; exact absurd h (by simp)
  have : i + 1 - j = (i - j) + 1 := by omega
  rw [this, List.take_succ]
  congr 1
  simp [List.getElem?_drop]
  have : j + (i - j) = i := by omega
  rw [this, h]

/-- `re.split` on the terminator regex yields exactly the stretches between terminators. -/
theorem splitNLAux_eq_linesOf (s : List Nat) (cur : List Nat) :
    ∀ (pre : List Nat) (j : Nat), j ≤ pre.length →
      cur.reverse = sliceOf (pre ++ s) j pre.length →
      splitNLAux s cur = linesOf (pre ++ s) (terms s pre.length) j := by
  fun_induction splitNLAux s cur
  · intro pre j hj hc
    simp [terms, linesOf, hc]
  · rename_i rest cur ih
    intro pre j hj hc
    simp only [terms, linesOf]
    rw [hc]
    congr 1
    have := ih (pre ++ [13, 10]) (pre.length + 2) (by simp) (by simp [sliceOf_self])
    simpa [List.append_assoc] using this
  · rename_i rest cur hne ih
    intro pre j hj hc
    rw [terms]
    · simp only [linesOf]
      rw [hc]
      congr 1
      have := ih (pre ++ [13]) (pre.length + 1) (by simp) (by simp [sliceOf_self])
      simpa [List.append_assoc] using this
    · exact hne
  · rename_i rest cur ih
    intro pre j hj hc
    simp only [terms, linesOf]
    rw [hc]
    congr 1
    have := ih (pre ++ [10]) (pre.length + 1) (by simp) (by simp [sliceOf_self])
    simpa [List.append_assoc] using this
  · rename_i c rest cur h1 h2 h3 ih
    intro pre j hj hc
    have ht : terms (c :: rest) pre.length = terms rest (pre.length + 1) := by
      rw [terms]
      · intro r hx _; exact h2 hx
      · intro hx; exact h2 hx
      · intro hx; exact h3 hx
    rw [ht]
    have hget : (pre ++ c :: rest)[pre.length]? = some c := by simp
    have := ih (pre ++ [c]) j (by simp; omega) (by
      simp only [List.reverse_cons, List.append_assoc, List.singleton_append, List.length_append,
        List.length_singleton]
      rw [sliceOf_snoc _ j pre.length c hj hget, hc])
    simpa [List.append_assoc] using this

theorem splitNL_eq_lines (body : List Nat) : splitNL body = lines body := by
  have := splitNLAux_eq_linesOf body [] [] 0 (by simp) (by simp [sliceOf_self])
  simpa [splitNL, lines] using this

end Gql.Text
