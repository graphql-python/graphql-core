import Gql.Values.Enum
import Gql.Proofs.Util.Assoc
/-!
C15/C16: the CPython laws the theorems assume; for each helper at the end of scalars.py, what a returned
value (`*_ok`) or an exception other than `GraphQLError` (`*_crash`) says about the input; the enum's
`_value_lookup` and scan as first matches (`List.find?`).
-/
namespace Gql.Values
open Gql Gql.Generated.ScalarConsts

/-- What the theorems assume about CPython's conversions (spot-checked by the harness on
every generated case, never axioms: hypotheses of the theorems that need them). -/
structure PyConv.Laws (c : PyConv) : Prop where
  /-- `float(int)` returns a finite float or raises `OverflowError` (never `inf`/`nan`) -/
  floatOfInt_finite : ∀ z f, c.floatOfInt z = some f → f.isFinite = true
  /-- `float(int)` is a whole number -/
  floatOfInt_integral : ∀ z f, c.floatOfInt z = some f → f.isIntegral = true
  /-- integers up to 2^53 in magnitude convert exactly -/
  floatOfInt_small : ∀ z : Int, -(2 ^ 53) ≤ z → z ≤ 2 ^ 53 → c.floatOfInt z = some (PyFloat.ofInt z)

theorem inIntRange_iff (z : Int) : inIntRange z = true ↔ -(2 ^ 31) ≤ z ∧ z ≤ 2 ^ 31 - 1 := by
  unfold inIntRange graphqlMinInt graphqlMaxInt
  simp only [Bool.and_eq_true, decide_eq_true_eq]
  omega

section
variable {c : PyConv} {z : Int} {f : PyFloat} {s : List Nat} {o : PyObj} {r : PyVal} {k : String}

theorem PyFloat.fin_of_isFinite (h : f.isFinite = true) : ∃ neg m e, f = .fin neg m e := by
  cases f <;> first | exact ⟨_, _, _, rfl⟩ | cases h

theorem parseIntLiteral_ok {l : Lit} (h : parseIntLiteral c l = .ok r) : ∃ n, r = .int n ∧ inIntRange n = true := by
  unfold parseIntLiteral at h
  repeat' split at h
  all_goals cases h
  exact ⟨_, rfl, by simp_all⟩

theorem parseFloatLiteral_ok {l : Lit} (h : parseFloatLiteral c l = .ok r) : ∃ x, r = .float x ∧ x.isFinite = true := by
  unfold parseFloatLiteral at h
  repeat' split at h
  all_goals cases h
  all_goals exact ⟨_, rfl, by simp_all⟩

theorem coerceIntFromInt_ok (h : coerceIntFromInt z = .ok r) :
    r = .int z ∧ inIntRange z = true := by
  unfold coerceIntFromInt at h
  split at h <;> cases h
  simp_all

theorem coerceIntFromFloat_ok (h : coerceIntFromFloat f = .ok r) :
    r = .int f.truncInt ∧ f.isFinite = true ∧ f.isIntegral = true ∧ inIntRange f.truncInt = true := by
  unfold coerceIntFromFloat at h
  repeat' split at h
  all_goals cases h
  simp_all

theorem coerceIntFromString_ok (h : coerceIntFromString c s = .ok r) :
    ∃ n, c.intOfStr s = some n ∧ r = .int n ∧ inIntRange n = true := by
  unfold coerceIntFromString at h
  repeat' split at h
  all_goals cases h
  simp_all

theorem coerceFloatFromFloat_ok (h : coerceFloatFromFloat f = .ok r) :
    r = .float f ∧ f.isFinite = true := by
  unfold coerceFloatFromFloat at h
  split at h <;> cases h
  simp_all

theorem coerceFloatFromString_ok (h : coerceFloatFromString c s = .ok r) :
    ∃ f, c.floatOfStr s = some f ∧ r = .float f ∧ f.isFinite = true := by
  unfold coerceFloatFromString at h
  repeat' split at h
  all_goals cases h
  simp_all

theorem coerceFloatFromInt_ok (h : coerceFloatFromInt c z = .ok r) :
    ∃ f, c.floatOfInt z = some f ∧ r = .float f ∧ f.isFinite = true ∧ f.truncInt = z := by
  unfold coerceFloatFromInt at h
  split at h
  · cases h
  · rename_i num hnum
    cases num <;> simp only [PyFloat.toIntPy] at h
    all_goals first | cases h | skip
    split at h <;> cases h
    exact ⟨_, hnum, rfl, rfl, by simp_all⟩

theorem strOfIntPy_ok (h : strOfIntPy c z = .ok r) :
    ∃ s, c.strOfInt z = some s ∧ r = .str s := by
  unfold strOfIntPy at h
  split at h <;> cases h
  exact ⟨_, ‹_›, rfl⟩

theorem coerceIdFromFloat_ok (h : coerceIdFromFloat c f = .ok r) :
    f.isFinite = true ∧ f.isIntegral = true ∧ ∃ s, c.strOfInt f.truncInt = some s ∧ r = .str s := by
  unfold coerceIdFromFloat at h
  repeat' split at h
  all_goals first | cases h | exact ⟨by simp_all, by simp_all, strOfIntPy_ok h⟩

theorem strOfObj_ok (h : strOfObj o = .ok r) : ∃ s, r = .str s := by
  unfold strOfObj at h
  repeat' split at h
  all_goals cases h
  exact ⟨_, rfl⟩

theorem coerceFloatFromInt_crash (h : coerceFloatFromInt c z = .crash k) :
    ∃ f, c.floatOfInt z = some f ∧ f.isFinite = false := by
  unfold coerceFloatFromInt at h
  split at h
  · cases h
  · rename_i num hnum
    refine ⟨num, hnum, ?_⟩
    cases num <;> simp only [PyFloat.toIntPy] at h
    · rfl
    · rfl
    · split at h <;> cases h

theorem strOfIntPy_crash (h : strOfIntPy c z = .crash k) :
    c.strOfInt z = none := by
  unfold strOfIntPy at h
  split at h
  · assumption
  · cases h

theorem strOfObj_crash (h : strOfObj o = .crash k) :
    o.builtin = false ∧ o.strResult = none := by
  unfold strOfObj at h
  repeat' split at h
  all_goals cases h
  exact ⟨by simp_all, ‹_›⟩

end

theorem dictGet_eq (kvs : List (List Nat × PyVal)) (k : List Nat) :
    PyVal.dictGet kvs k = kvs.lookup k := by
  induction kvs with
  | nil => rfl
  | cons x r ih =>
    obtain ⟨k', v⟩ := x
    rw [PyVal.dictGet, List.lookup_cons_ite, ih]

namespace EnumType

theorem coerceInputValue_ok {e : EnumType} {v r : PyVal} (h : e.coerceInputValue v = .ok r) :
    ∃ s, v = .str s ∧ e.valueOf s = some r := by
  unfold coerceInputValue at h
  repeat' split at h
  all_goals cases h
  exact ⟨_, rfl, ‹_›⟩

theorem coerceInputLiteral_ok {e : EnumType} {l : Lit} {r : PyVal} (h : e.coerceInputLiteral l = .ok r) :
    ∃ s, l = .enum s ∧ e.valueOf s = some r := by
  unfold coerceInputLiteral at h
  repeat' split at h
  all_goals cases h
  exact ⟨_, rfl, ‹_›⟩

/-- the key under which `_value_lookup` files a value: `None`/`Undefined` go by their name -/
def norm (name : List Nat) (v : PyVal) : PyVal := if v.isNullish then PyVal.str name else v

/-- the dict lookup and the scan are first matches -/
theorem lookupFind_eq (l : List (PyVal × List Nat)) (k : PyVal) :
    lookupFind l k = (l.find? (PyVal.pyEq ·.1 k)).map (·.2) := by
  induction l with
  | nil => rfl
  | cons x l ih => obtain ⟨a, b⟩ := x; rw [lookupFind, List.find?_cons, ih]; cases PyVal.pyEq a k <;> rfl

theorem scan_eq (v : PyVal) (vals : List (List Nat × PyVal)) :
    scan v vals = (vals.find? (PyVal.pyEq ·.2 v)).map (·.1) := by
  induction vals with
  | nil => rfl
  | cons x l ih => obtain ⟨a, b⟩ := x; rw [scan, List.find?_cons, ih]; cases PyVal.pyEq b v <;> rfl

/-- `_value_lookup` holds, in definition order, some of the names under their (normalised) values -/
theorem buildLookup_sublist (acc : List (PyVal × List Nat)) (vals : List (List Nat × PyVal)) :
    (buildLookup acc vals).Sublist (acc ++ vals.map fun p => (norm p.1 p.2, p.1)) := by
  induction vals generalizing acc with
  | nil => simp [buildLookup]
  | cons hd tl ih =>
    obtain ⟨n0, v0⟩ := hd
    have skip := (ih acc).trans ((List.sublist_cons_self (norm n0 v0, n0) _).append_left acc)
    simp only [buildLookup]
    rw [show (if v0.isNullish = true then PyVal.str n0 else v0) = norm n0 v0 from rfl]
    split
    · exact skip
    · split
      · exact skip
      · have := ih (acc ++ [(norm n0 v0, n0)])
        rwa [List.append_assoc] at this

theorem dictGet_of_mem_nodup {kvs : List (List Nat × PyVal)} {k : List Nat} {v : PyVal}
    (hnd : (kvs.map (·.1)).Nodup) (h : (k, v) ∈ kvs) : PyVal.dictGet kvs k = some v :=
  dictGet_eq .. ▸ List.lookup_of_mem_nodup hnd h

/-- the serialised name and the internal value it stands for -/
theorem coerceOutputValue_ok {e : EnumType} {v r : PyVal} (h : e.coerceOutputValue v = .ok r) :
    ∃ name w, r = .str name ∧ (name, w) ∈ e.values ∧
      (PyVal.pyEq (norm name w) v = true ∨ PyVal.pyEq w v = true) := by
  unfold coerceOutputValue at h
  rw [lookupFind_eq, scan_eq] at h
  split at h
  · split at h
    · rename_i name hf
      obtain ⟨⟨k', _⟩, hfind, rfl⟩ := Option.map_eq_some_iff.1 hf
      obtain ⟨⟨_, w⟩, hw, heq⟩ := List.mem_map.1 ((buildLookup_sublist [] _).subset (List.mem_of_find?_eq_some hfind))
      cases heq
      exact ⟨_, w, (Out.ok.inj h).symm, hw, .inl (List.find?_some hfind :)⟩
    · cases h
  · split at h
    · rename_i name hf
      obtain ⟨⟨_, w⟩, hfind, rfl⟩ := Option.map_eq_some_iff.1 hf
      exact ⟨_, w, (Out.ok.inj h).symm, List.mem_of_find?_eq_some hfind, .inr (List.find?_some hfind :)⟩
    · cases h

end EnumType
end Gql.Values
