import Gql.Proofs.SchemaValidate
/-!
Lemmas for C20: the error list of each rule family is empty exactly when the
specification's rule for that family holds.
-/
namespace Gql.Types
open Gql

theorem mapOk_eq_ok_nil {α β : Type} (g : α → List β) (x : Out Unit α) :
    Out.mapOk g x = .ok [] ↔ ∃ a, x = .ok a ∧ g a = [] := by
  cases x <;> simp [Out.mapOk]

theorem outFlatMap_eq_ok_nil {α β : Type} (f : α → Out Unit (List β)) :
    ∀ l : List α, outFlatMap f l = .ok [] ↔ ∀ x ∈ l, f x = .ok []
  | [] => by simp [outFlatMap]
  | x :: xs => by
    rw [outFlatMap, List.forall_mem_cons, ← outFlatMap_eq_ok_nil f xs]
    cases f x with
    | ok e => cases outFlatMap f xs <;> simp
    | err _ | crash _ => simp

theorem validateName_nil (n : Str) : validateName n = [] ↔ Spec.nameOk n = true := by
  unfold validateName Spec.nameOk
  cases startsWithDunder n <;> simp

theorem validateEnum_nil (en : Str) (vs : List Str) :
    validateEnum en vs = [] ↔ (!vs.isEmpty && vs.all Spec.nameOk) = true := by
  unfold validateEnum
  cases vs with
  | nil => simp
  | cons v vs => simp [List.flatMap_eq_nil_iff, validateName_nil]

/-- A loop over items with a `seen` accumulator that reports an item that is bad or was seen before,
and otherwise goes on with the item added to `seen`: it reports nothing exactly when every item is
good, none was seen, and no item occurs twice. -/
theorem seenLoop_nil {α ε : Type} (loop : List α → List α → List ε) (Good : α → Prop)
    (hnil : ∀ seen, loop [] seen = [])
    (hcons : ∀ x xs seen, loop (x :: xs) seen = [] ↔ (Good x ∧ x ∉ seen) ∧ loop xs (x :: seen) = []) :
    ∀ xs seen, loop xs seen = [] ↔ (∀ x ∈ xs, Good x ∧ x ∉ seen) ∧ xs.Nodup
  | [], seen => by simp [hnil]
  | x :: xs, seen => by
    rw [hcons, seenLoop_nil loop Good hnil hcons xs (x :: seen)]
    simp only [List.mem_cons, forall_eq_or_imp, not_or, List.nodup_cons]
    exact ⟨fun ⟨g, a, b⟩ => ⟨⟨g, fun y hy => ⟨(a y hy).1, (a y hy).2.2⟩⟩, fun hx => (a x hx).2.1 rfl, b⟩,
      fun ⟨⟨g, a⟩, b1, b2⟩ => ⟨g, fun y hy => ⟨(a y hy).1, fun e => b1 (e ▸ hy), (a y hy).2⟩, b2⟩⟩

theorem unionLoop_nil (s : RawSchema) (un : Str) : ∀ (ms seen : List Str),
    unionLoop s un ms seen = [] ↔ (∀ m ∈ ms, s.isObject m = true ∧ m ∉ seen) ∧ ms.Nodup :=
  seenLoop_nil (unionLoop s un) (s.isObject · = true) (fun _ => rfl) fun m ms seen => by
    rw [unionLoop]
    by_cases ho : s.isObject m = true <;> by_cases hs : m ∈ seen <;> simp [ho, hs]

theorem validateUnion_nil (s : RawSchema) (un : Str) (ms : List Str) :
    validateUnion s un ms = [] ↔ (!ms.isEmpty && decide ms.Nodup && ms.all s.isObject) = true := by
  unfold validateUnion
  cases ms with
  | nil => simp
  | cons m ms =>
    simp only [List.isEmpty_cons, Bool.false_eq_true, ↓reduceIte, List.nil_append, unionLoop_nil,
      List.not_mem_nil, not_false_eq_true, and_true, Bool.not_false, Bool.true_and,
      Bool.and_eq_true, decide_eq_true_eq, List.all_eq_true]
    exact And.comm

/-- The loop's two results separately: one error per root that is not an Object type, and the
Object roots entered into the map in order. -/
theorem rootsLoop_eq (s : RawSchema) : ∀ (ops : List Nat) (m : List (Str × List Nat)),
    rootsLoop s ops m =
      (ops.filterMap (fun op => (s.root op).bind fun n =>
          if s.isObject n then none else some ⟨.rootNotObject, opName op⟩),
       (ops.filterMap (fun op => (s.root op).bind fun n =>
          if s.isObject n then some (n, op) else none)).foldl (fun m p => groupAdd m p.1 p.2) m)
  | [], m => rfl
  | op :: ops, m => by
    unfold rootsLoop
    cases hr : s.root op with
    | none => simp [rootsLoop_eq s ops, hr]
    | some n => by_cases ho : s.isObject n = true <;> simp [rootsLoop_eq s ops, hr, ho]

/-- no name was entered twice -/
def Single (m : List (Str × List Nat)) : Prop := ∀ g ∈ m, g.2.length ≤ 1

theorem groupAdd_ne_nil (n : Str) (op : Nat) : ∀ m : List (Str × List Nat),
    (∀ g ∈ m, g.2 ≠ []) → ∀ g ∈ groupAdd m n op, g.2 ≠ []
  | [], _ => by simp [groupAdd]
  | (k, ops) :: rest, h => by
    have ih := groupAdd_ne_nil n op rest (fun g hg => h g (List.mem_cons_of_mem _ hg))
    unfold groupAdd
    split <;> intro g hg <;> rcases List.mem_cons.mp hg with rfl | hg
    · simp
    · exact h g (List.mem_cons_of_mem _ hg)
    · exact h _ List.mem_cons_self
    · exact ih g hg

theorem mem_keys_groupAdd (n : Str) (op : Nat) (k : Str) : ∀ m : List (Str × List Nat),
    k ∈ (groupAdd m n op).map (·.1) ↔ k ∈ m.map (·.1) ∨ k = n
  | [] => by simp [groupAdd]
  | (k', ops) :: rest => by
    unfold groupAdd
    split
    · next h =>
      cases eq_of_beq h
      simp only [List.map_cons, List.mem_cons]
      exact ⟨.inl, fun h => h.elim id .inl⟩
    · simp only [List.map_cons, List.mem_cons, mem_keys_groupAdd n op k rest, or_assoc]

theorem groupAdd_single (n : Str) (op : Nat) : ∀ m : List (Str × List Nat), (∀ g ∈ m, g.2 ≠ []) →
    (Single (groupAdd m n op) ↔ Single m ∧ n ∉ m.map (·.1))
  | [], _ => by simp [groupAdd, Single]
  | (k, ops) :: rest, h => by
    have ih := groupAdd_single n op rest (fun g hg => h g (List.mem_cons_of_mem _ hg))
    unfold groupAdd
    by_cases hk : k = n
    · -- the group of `n` is not empty, so with `op` it has two operations
      subst hk
      simp only [beq_self_eq_true, ↓reduceIte, List.map_cons, List.mem_cons, true_or, not_true_eq_false,
        and_false, iff_false]
      intro hs
      have h2 := hs (k, ops ++ [op]) List.mem_cons_self
      cases ops with
      | nil => exact h _ List.mem_cons_self rfl
      | cons _ _ => simp at h2
    · have hk' : (k == n) = false := by simpa using hk
      simp only [Single] at ih ⊢
      simp only [hk', Bool.false_eq_true, ↓reduceIte, List.mem_cons, forall_eq_or_imp, ih, List.map_cons,
        not_or, and_assoc]
      constructor
      · rintro ⟨a, b, c⟩; exact ⟨a, b, fun e => hk e.symm, c⟩
      · rintro ⟨a, b, _, c⟩; exact ⟨a, b, c⟩

/-- `root_types_map` groups the roots by type: every group has one operation exactly when the
names entered are pairwise different (and new to the map). -/
theorem foldl_groupAdd_single : ∀ (ps : List (Str × Nat)) (m : List (Str × List Nat)),
    (∀ g ∈ m, g.2 ≠ []) →
    (Single (ps.foldl (fun m p => groupAdd m p.1 p.2) m) ↔
      Single m ∧ (ps.map (·.1)).Nodup ∧ ∀ p ∈ ps, p.1 ∉ m.map (·.1))
  | [], m, _ => by simp
  | (n, op) :: ps, m, h => by
    rw [List.foldl_cons, foldl_groupAdd_single ps _ (groupAdd_ne_nil n op m h), groupAdd_single n op m h]
    simp only [mem_keys_groupAdd, not_or, imp_and, forall_and, List.map_cons, List.nodup_cons,
      List.forall_mem_cons, and_assoc]
    exact ⟨fun ⟨a, b, c, d, e⟩ => ⟨a, fun hn => let ⟨p, hp, e'⟩ := List.mem_map.mp hn; e p hp e', c, b, d⟩,
      fun ⟨a, e, c, b, d⟩ => ⟨a, b, c, d, fun p hp e' => e (List.mem_map.mpr ⟨p, hp, e'⟩)⟩⟩

theorem rootErrs_nil (s : RawSchema) (ops : List Nat) :
    ops.filterMap (fun op => (s.root op).bind fun n =>
      if s.isObject n then none else some (⟨.rootNotObject, opName op⟩ : Err)) = [] ↔
      ∀ op ∈ ops, ∀ n, s.root op = some n → s.isObject n = true := by
  simp [List.filterMap_eq_nil_iff, Option.bind_eq_none_iff]

theorem objectRoots_names (s : RawSchema) : ∀ (ops : List Nat),
    (∀ op ∈ ops, ∀ n, s.root op = some n → s.isObject n = true) →
    (ops.filterMap (fun op => (s.root op).bind fun n =>
      if s.isObject n then some (n, op) else none)).map (·.1) = ops.filterMap s.root
  | [], _ => rfl
  | op :: ops, h => by
    have ih := objectRoots_names s ops (fun o ho => h o (List.mem_cons_of_mem _ ho))
    cases hr : s.root op with
    | none => simp [hr, ih]
    | some n => simp [hr, h op List.mem_cons_self n hr, ih]

theorem rootsLoop_nil (s : RawSchema) (ops : List Nat) :
    (rootsLoop s ops []).1 = [] ∧ Single (rootsLoop s ops []).2 ↔
      (∀ op ∈ ops, ∀ n, s.root op = some n → s.isObject n = true) ∧ (ops.filterMap s.root).Nodup := by
  rw [rootsLoop_eq, rootErrs_nil, foldl_groupAdd_single _ [] (List.forall_mem_nil _)]
  refine and_congr_right fun h => ?_
  rw [objectRoots_names s ops h]
  exact ⟨fun c => c.2.1, fun c => ⟨List.forall_mem_nil _, c, fun _ _ => List.not_mem_nil⟩⟩

/-- §3.3 in terms of the three roots as a list -/
theorem rootsOk_iff (s : RawSchema) : Spec.rootsOk s = true ↔ s.query.isSome = true ∧
    (∀ op ∈ [0, 1, 2], ∀ n, s.root op = some n → s.isObject n = true) ∧
    ([0, 1, 2].filterMap s.root).Nodup := by
  have e : Spec.rootsOk s = (s.query.isSome && s.query.all s.isObject && s.mutation.all s.isObject &&
      s.subscription.all s.isObject && decide [s.query, s.mutation, s.subscription].reduceOption.Nodup) := by
    unfold Spec.rootsOk
    cases s.query <;> cases s.mutation <;> cases s.subscription <;> rfl
  rw [e, show [s.query, s.mutation, s.subscription].reduceOption = [0, 1, 2].filterMap s.root from rfl]
  simp only [Bool.and_eq_true, decide_eq_true_eq, List.forall_mem_cons, List.not_mem_nil,
    false_imp_iff, implies_true, and_true, RawSchema.root, and_assoc, Option.all_eq_true]

theorem validateRootTypes_nil (s : RawSchema) : validateRootTypes s = [] ↔ Spec.rootsOk s = true := by
  have hgroups : (rootsLoop s [0, 1, 2] []).2.flatMap
      (fun g => if g.2.length > 1 then [(⟨.rootsNotDistinct, g.1⟩ : Err)] else []) = [] ↔
        Single (rootsLoop s [0, 1, 2] []).2 := by simp [List.flatMap_eq_nil_iff, Single]
  have hq : (if s.query.isNone = true then [(⟨.queryMissing, []⟩ : Err)] else []) = [] ↔
      s.query.isSome = true := by cases s.query <;> simp
  unfold validateRootTypes
  rw [List.append_eq_nil_iff, List.append_eq_nil_iff, hgroups, and_assoc, rootsLoop_nil, rootsOk_iff, hq]

/-- The `_defaults` family as a property of a model of `validate_default_value`: at an input
type it reports nothing exactly when the default (if any) coerces to the declared type. -/
def DefaultsAgree (s : RawSchema) (dflt : RawSchema → InputValue → Str → Out Unit (List Err)) : Prop :=
  ∀ (a : InputValue) (c : Str), s.isInputType a.type = true →
    (dflt s a c = .ok [] ↔ Spec.defaultOk s a = true)

theorem isRequired_eq (a : InputValue) : a.isRequired = Spec.required a := by
  unfold InputValue.isRequired Spec.required
  cases a.default <;> cases a.legacyDefault <;> simp

theorem ite_nil {α : Type} (p : Prop) [Decidable p] (e : α) :
    (if p then [e] else []) = [] ↔ ¬ p := by
  by_cases h : p <;> simp [h]

theorem ite_singleton_nil {α : Type} (c : Bool) (e : α) :
    (if c = true then [e] else []) = [] ↔ c = false := by
  cases c <;> simp

/-- errors reported before and after those of a call that may raise -/
theorem mapOk_wrap_nil {α : Type} (pre post : List α) (x : Out Unit (List α)) :
    Out.mapOk (fun d => pre ++ d ++ post) x = .ok [] ↔ pre = [] ∧ x = .ok [] ∧ post = [] := by
  cases x <;> simp [Out.mapOk]

theorem mapOk_append_nil {α : Type} (pre : List α) (x : Out Unit (List α)) :
    Out.mapOk (fun d => pre ++ d) x = .ok [] ↔ pre = [] ∧ x = .ok [] := by
  simpa using mapOk_wrap_nil pre [] x

section
variable (s : RawSchema) (dflt : RawSchema → InputValue → Str → Out Unit (List Err))
  (H : DefaultsAgree s dflt)
include H

theorem validateArg_nil (base : Str) (a : InputValue) :
    validateArg s dflt base a = .ok [] ↔ Spec.inputValueOk s a = true := by
  unfold validateArg Spec.inputValueOk
  simp only [mapOk_append_nil, List.append_eq_nil_iff, validateName_nil, ite_nil, isRequired_eq,
    Bool.and_eq_true, Bool.not_eq_true', Bool.not_eq_false, not_and, Bool.not_eq_true, Bool.and_eq_false_imp]
  exact and_congr_right fun h => H a _ h.1.2

theorem validateArgs_nil (base : Str) (as : List InputValue) :
    outFlatMap (validateArg s dflt base) as = .ok [] ↔ as.all (Spec.inputValueOk s) = true := by
  rw [outFlatMap_eq_ok_nil, List.all_eq_true]
  exact forall_congr' fun a => imp_congr_right fun _ => validateArg_nil s dflt H base a

theorem validateDirective_nil (d : Directive) :
    validateDirective s dflt d = .ok [] ↔ Spec.directiveOk s d = true := by
  unfold validateDirective Spec.directiveOk
  simp only [mapOk_append_nil, List.append_eq_nil_iff, validateName_nil, ite_singleton_nil,
    validateArgs_nil s dflt H, Bool.and_eq_true, beq_eq_false_iff_ne, decide_eq_true_eq]

theorem validateDirectives_nil :
    validateDirectives s dflt = .ok [] ↔ s.directives.all (Spec.directiveOk s) = true := by
  unfold validateDirectives
  rw [outFlatMap_eq_ok_nil, List.all_eq_true]
  exact forall_congr' fun d => imp_congr_right fun _ => validateDirective_nil s dflt H d

theorem validateField_nil (tn : Str) (f : Field) :
    validateField s dflt tn f = .ok [] ↔ Spec.fieldOk s f = true := by
  unfold validateField Spec.fieldOk
  simp only [mapOk_append_nil, List.append_eq_nil_iff, validateName_nil, ite_singleton_nil,
    validateArgs_nil s dflt H, Bool.and_eq_true, Bool.not_eq_false']

theorem validateFields_nil (tn : Str) (fs : List Field) :
    validateFields s dflt tn fs = .ok [] ↔ Spec.fieldsOk s fs = true := by
  unfold validateFields Spec.fieldsOk
  simp only [mapOk_append_nil, ite_singleton_nil, outFlatMap_eq_ok_nil, validateField_nil s dflt H,
    Bool.and_eq_true, Bool.not_eq_true', List.all_eq_true]

theorem validateInputField_nil (tn : Str) (o : Bool) (f : InputValue) :
    validateInputField s dflt tn o f = .ok [] ↔ Spec.inputFieldOk s o f = true := by
  unfold validateInputField Spec.inputFieldOk Spec.inputValueOk
  simp only [mapOk_wrap_nil, List.append_eq_nil_iff, validateName_nil, ite_nil, isRequired_eq,
    Bool.and_eq_true, Bool.not_eq_true', Bool.not_eq_false, not_and, Bool.not_eq_true, Bool.and_eq_false_imp]
  rw [and_assoc (c := _ = true)]
  refine and_congr_right fun h => and_congr (H f _ h.1.2) ?_
  cases o <;> simp

theorem validateInputFields_nil (tn : Str) (fs : List InputValue) (o : Bool) :
    validateInputFields s dflt tn fs o = .ok [] ↔
      (!fs.isEmpty && fs.all (Spec.inputFieldOk s o)) = true := by
  unfold validateInputFields
  simp only [mapOk_append_nil, ite_singleton_nil, outFlatMap_eq_ok_nil, validateInputField_nil s dflt H,
    Bool.and_eq_true, Bool.not_eq_true', List.all_eq_true]
end

/-- `is_equal_type` is structural equality (invariant argument types) -/
theorem isEqualType_iff : ∀ (a b : TRef), isEqualType a b = true ↔ a = b
  | .named a, .named b => by simp [isEqualType]
  | .nonNull a, .nonNull b => by simp [isEqualType, isEqualType_iff a b]
  | .list a, .list b => by simp [isEqualType, isEqualType_iff a b]
  | .named _, .list _ | .named _, .nonNull _ | .list _, .named _ | .list _, .nonNull _
  | .nonNull _, .named _ | .nonNull _, .list _ => by simp [isEqualType]

theorem validateSchema_nil_iff (s : RawSchema) :
    validateSchema s = .ok [] ↔
      validateRootTypes s = [] ∧ validateDirectives s validateDefault = .ok [] ∧
      ∃ st, validateTypesLoop s validateDefault s.types ⟨[], [], false⟩ = .ok ([], st) := by
  obtain ⟨ds, ts, st, h1, h2, h3⟩ := validateSchemaWith_eq s validateDefault (validateDefault_isOk s)
  simp [validateSchema, h1, h2, h3, Out.mapOk, List.append_eq_nil_iff]

end Gql.Types
