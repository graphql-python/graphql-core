import Gql.Proofs.RulesReach
/-!
C12-7 — the getters derived from `get_recursively_referenced_fragments`, over the spread graph `Spec.Reaches`:
`get_recursive_variable_usages` (`recUsages_forall_iff`) and the used fragment names of NoUnusedFragments
(`usedFragmentNames_mem_iff`).
-/
namespace Gql.Validation.Rules
open Gql.Validation

theorem recUsages_forall_iff (doc op : ATree) (hk : op.kind = "operation_definition") (P : ATree → Option String → Prop) :
    (∀ u ∈ getRecUsages doc op, u.fragVar = false → P u.node u.name) ↔
      (∀ x ∈ variablesIn op, P x x.nameValue) ∧
      (∀ ss, op.kid "selection_set" = some ss → ∀ m f, Spec.Reaches doc ss m → getFragment doc m = some f →
        ∀ x ∈ variablesIn f, fragVarDefined doc f.nameValue x.nameValue = false → P x x.nameValue) := by
  have hne : ("operation_definition" == "fragment_definition") = false := by decide
  unfold getRecUsages
  rw [List.forall_mem_append]
  apply and_congr
  · simp only [getUsages, List.mem_map, hk, hne, Bool.false_and]
    constructor
    · intro h x hx; exact h ⟨x, x.nameValue, false⟩ ⟨x, hx, rfl⟩ rfl
    · rintro h u ⟨x, hx, rfl⟩ _; exact h x hx
  · simp only [List.mem_flatMap, getRecFrags_mem_iff]
    constructor
    · intro h ss hss m f hr hg x hx hfv
      have hkf := getFragment_kind hg
      exact h ⟨x, x.nameValue, (f.kind == "fragment_definition") && fragVarDefined doc f.nameValue x.nameValue⟩
        ⟨f, ⟨ss, hss, m, hr, hg⟩, by simp only [getUsages, List.mem_map]; exact ⟨x, hx, rfl⟩⟩ (by simp [hfv])
    · rintro h u ⟨f, ⟨ss, hss, m, hr, hg⟩, hu⟩ hfv
      have hkf := getFragment_kind hg
      simp only [getUsages, List.mem_map] at hu
      obtain ⟨x, hx, rfl⟩ := hu
      simp only at hfv ⊢
      exact h ss hss m f hr hg x hx (by simpa [hkf] using hfv)

theorem usedFragmentNames_mem_iff (doc : ATree) (ops : List ATree) (nm : String) :
    nm ∈ usedFragmentNames doc ops ↔
      ∃ op ∈ ops, ∃ ss, op.kid "selection_set" = some ss ∧ Spec.Reaches doc ss nm ∧
        (getFragment doc nm).isSome = true := by
  unfold usedFragmentNames
  simp only [List.mem_flatMap, List.mem_filterMap, getRecFrags_mem_iff]
  constructor
  · rintro ⟨op, hop, f, ⟨ss, hss, n, hr, hg⟩, hname⟩
    cases (getFragment_name hg).symm.trans hname
    exact ⟨op, hop, ss, hss, hr, by simp [hg]⟩
  · rintro ⟨op, hop, ss, hss, hr, hd⟩
    obtain ⟨f, hf⟩ := Option.isSome_iff_exists.mp hd
    exact ⟨op, hop, f, ⟨ss, hss, nm, hr, hf⟩, getFragment_name hf⟩

end Gql.Validation.Rules
