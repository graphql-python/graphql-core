import Gql.Proofs.ExecSim
import Gql.Proofs.SpecFacts

/-!
C02 — `get_argument_values` (with the memo of coerced defaults) computes CoerceArgumentValues.
-/

namespace Gql.Exec.Refine
open Gql.Exec Gql.Exec.Impl

def argOut (acc : ArgMap) (name : Name) : Option (Option PyVal) → Out Exn ArgMap
  | some (some v) => .ok (acc.set name v)
  | some none => .ok acc
  | none => .err (.raw .argCoercion)

theorem DInv.push {cx : Ctx} {dm : DMemo} (h : DInv cx dm) (owner field : Name) (i : Nat)
    (fdef : FieldDef) (a : ArgDef) (lit : Value) (v : PyVal)
    (hf : cx.schema.getField owner field = some fdef) (ha : fdef.args[i]? = some a)
    (hd : a.default = some lit) (hv : cx.ops.coerceLiteral cx.schema [] a.type lit = some v) :
    DInv cx (dm ++ [((owner, field, i), v)]) := by
  intro e he fdef' a' lit' hf' ha' hd'
  rcases List.mem_append.1 he with he | he
  · exact h e he fdef' a' lit' hf' ha' hd'
  · simp only [List.mem_singleton] at he
    subst he
    simp only at hf' ha'
    rw [hf] at hf'
    cases hf'
    rw [ha] at ha'
    cases ha'
    rw [hd] at hd'
    cases hd'
    exact hv

/-- a hit in a memo (an association list read with `find?`) is an entry of it -/
theorem memo_mem {κ ν : Type} [BEq κ] [LawfulBEq κ] {m : List (κ × ν)} {k : κ} {v : ν}
    (h : (m.find? (fun e => e.1 == k)).map (·.2) = some v) : (k, v) ∈ m := by
  obtain ⟨⟨k', v'⟩, hf, rfl⟩ := Option.map_eq_some_iff.1 h
  have : k' = k := by simpa using List.find?_some hf
  exact this ▸ List.mem_of_find?_eq_some hf

/-- `maybe_use_default_value` on an argument with a default: the default coerced (once: the memo) -/
theorem useDefault_eq (cx : Ctx) (owner field : Name) (i : Nat) (fdef : FieldDef) (a : ArgDef)
    (hf : cx.schema.getField owner field = some fdef) (ha : fdef.args[i]? = some a)
    {lit : Value} (hdef : a.default = some lit) (acc : ArgMap) (st : EState) (hd : DInv cx st.dmemo) :
    ∃ dm', DInv cx dm' ∧
      useDefault cx (owner, field, i) a acc st =
        (argOut acc a.name ((cx.ops.coerceLiteral cx.schema [] a.type lit).map some),
          { st with dmemo := dm' }) := by
  unfold useDefault
  simp only [hdef]
  cases hg : dmemoGet st.dmemo (owner, field, i) with
  | some v =>
    have := hd _ (memo_mem hg) fdef a lit hf ha hdef
    simp only at this
    exact ⟨st.dmemo, hd, by simp [this, argOut]⟩
  | none =>
    cases hc : cx.ops.coerceLiteral cx.schema [] a.type lit with
    | none => exact ⟨st.dmemo, hd, by simp [argOut]⟩
    | some v =>
      exact ⟨_, DInv.push hd owner field i fdef a lit v hf ha hdef hc, by simp [argOut]⟩

/-- `coerce_argument` without a value (argument absent, or a variable without runtime value —
which `OpsOk` makes a field error at a Non-Null type): the default, else no entry, a field error
if the type is Non-Null.  The implementation's side of `specHere_absent`. -/
theorem coerceArgument_absent {cx : Ctx} (hops : OpsOk cx.ops) (key : DKey)
    {args : List (Name × Value)} {a : ArgDef} (acc : ArgMap)
    (h : hasValue cx.vars (lookupArg args a.name) = false) :
    coerceArgument cx key args a acc =
      match a.default with
      | some _ => useDefault cx key a acc
      | none => if a.type.nonNull then M.throw (.raw .argCoercion) else M.pure acc := by
  have hud : a.default = none → useDefault cx key a acc = M.pure acc := fun hdef => by
    unfold useDefault; simp only [hdef]; rfl
  unfold coerceArgument
  cases hl : lookupArg args a.name with
  | none => cases hdef : a.default <;> cases hn : a.type.nonNull <;> simp [ArgDef.required, hdef, hn, hud]
  | some v =>
    obtain ⟨x, rfl, hx⟩ := hasValue_false (hl ▸ h)
    cases hdef : a.default <;> cases hn : a.type.nonNull <;>
      simp [ArgDef.required, hdef, hn, hud, hx, hops.missing_var cx.schema cx.vars a.type x hx]

/-- `coerce_argument` with a value: the literal is coerced.  The implementation's side of
`specHere_present`. -/
theorem coerceArgument_present {cx : Ctx} (key : DKey) {args : List (Name × Value)} {a : ArgDef}
    {v : Value} (acc : ArgMap) (hl : lookupArg args a.name = some v)
    (h : hasValue cx.vars (some v) = true) :
    coerceArgument cx key args a acc =
      match cx.ops.coerceLiteral cx.schema cx.vars a.type v with
      | some r => M.pure (acc.set a.name r)
      | none => M.throw (.raw .argCoercion) := by
  unfold coerceArgument
  simp only [hl]
  cases v with
  | var x =>
    obtain ⟨w, hw⟩ := Option.isSome_iff_exists.1 (show (cx.vars.lookup x).isSome = true from h)
    simp only [hw, Option.isNone_some, Bool.false_and, Bool.false_eq_true, ↓reduceIte]
    rfl
  | _ => rfl

theorem coerceArgument_eq (cx : Ctx) (hops : OpsOk cx.ops) (owner field : Name) (i : Nat)
    (fdef : FieldDef) (a : ArgDef)
    (hf : cx.schema.getField owner field = some fdef) (ha : fdef.args[i]? = some a)
    (args : List (Name × Value)) (acc : ArgMap) (st : EState) (hd : DInv cx st.dmemo) :
    ∃ dm', DInv cx dm' ∧
      coerceArgument cx (owner, field, i) args a acc st =
        (argOut acc a.name (specHere (toSpec cx) args a), { st with dmemo := dm' }) := by
  cases hv : hasValue cx.vars (lookupArg args a.name) with
  | false =>
    rw [coerceArgument_absent hops _ acc hv, specHere_absent (scx := toSpec cx) hv]
    cases hdef : a.default with
    | some lit => exact useDefault_eq cx owner field i fdef a hf ha hdef acc st hd
    | none => exact ⟨st.dmemo, hd, by cases a.type.nonNull <;> rfl⟩
  | true =>
    cases hl : lookupArg args a.name with
    | none => rw [hl] at hv; cases hv
    | some v =>
      rw [coerceArgument_present _ acc hl (hl ▸ hv), specHere_present (scx := toSpec cx) hl (hl ▸ hv)]
      exact ⟨st.dmemo, hd, by
        cases h : cx.ops.coerceLiteral cx.schema cx.vars a.type v <;> simp [h, argOut] <;> rfl⟩

theorem getArgumentValues_eq (cx : Ctx) (hops : OpsOk cx.ops) (owner field : Name)
    (fdef : FieldDef) (hf : cx.schema.getField owner field = some fdef)
    (args : List (Name × Value)) :
    ∀ (rest : List ArgDef) (i : Nat) (acc : ArgMap) (st : EState),
      fdef.args.drop i = rest → DInv cx st.dmemo →
      ∃ dm', DInv cx dm' ∧
        getArgumentValues cx owner field args i rest acc st =
          ((match Spec.coerceArgumentValues (toSpec cx) args rest acc with
            | some m => .ok m
            | none => .err (.raw .argCoercion)), { st with dmemo := dm' }) := by
  intro rest
  induction rest with
  | nil =>
    intro i acc st _ hd
    exact ⟨st.dmemo, hd, rfl⟩
  | cons a rest ih =>
    intro i acc st hdrop hd
    have ha : fdef.args[i]? = some a := by
      have := congrArg List.head? hdrop
      simpa [List.head?_drop] using this
    have hdrop' : fdef.args.drop (i + 1) = rest := by
      have := congrArg List.tail hdrop
      simpa [List.tail_drop] using this
    obtain ⟨dm1, hdm1, h1⟩ := coerceArgument_eq cx hops owner field i fdef a hf ha args acc st hd
    rw [spec_coerce_cons]
    unfold getArgumentValues
    simp only [M.bind, h1]
    cases hh : specHere (toSpec cx) args a with
    | none => exact ⟨dm1, hdm1, by simp [argOut]⟩
    | some o =>
      cases o with
      | none =>
        simp only [argOut]
        obtain ⟨dm2, hdm2, h2⟩ := ih (i + 1) acc { st with dmemo := dm1 } hdrop' hdm1
        exact ⟨dm2, hdm2, h2⟩
      | some v =>
        simp only [argOut]
        obtain ⟨dm2, hdm2, h2⟩ := ih (i + 1) (acc.set a.name v) { st with dmemo := dm1 } hdrop' hdm1
        exact ⟨dm2, hdm2, h2⟩

end Gql.Exec.Refine
