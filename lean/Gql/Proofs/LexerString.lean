import Gql.Proofs.LexerGrammar
/-!
# `read_string` against the StringValue production of the lexical grammar
(all three escape forms and the surrogate-pair rule)
-/
open Gql Gql.Text
namespace Gql.Text
open Gql.Spec.Lex

theorem readHexDigit_some (c : Nat) :
    readHexDigit (some c) = if HexDigit c then some (hexVal c) else none := by
  unfold readHexDigit HexDigit hexVal
  by_cases h1 : 48 ≤ c ∧ c ≤ 57
  · simp [h1]
  · by_cases h2 : 65 ≤ c ∧ c ≤ 70
    · simp [h1, h2]
    · by_cases h3 : 97 ≤ c ∧ c ≤ 102
      · simp [h1, h2, h3]
      · simp [h1, h2, h3]

theorem hexVal_le (c : Nat) (h : HexDigit c) : hexVal c ≤ 15 := by
  unfold HexDigit at h; unfold hexVal
  split
  · omega
  · split <;> omega

def hexFold (acc : Nat) (ds : List Nat) : Nat := ds.foldl (fun a d => a * 16 + hexVal d) acc

theorem hexNumber_eq (ds : List Nat) : hexNumber ds = hexFold 0 ds := rfl

theorem hexFold_cons (acc c : Nat) (ds : List Nat) : hexFold acc (c :: ds) = hexFold (acc * 16 + hexVal c) ds := rfl

theorem readHexDigit_none : readHexDigit none = none := rfl

theorem read16_eq (body : List Nat) (p : Nat) : read16 body p = hex4? (body.drop p) := by
  unfold read16
  have e0 := charAt_drop body p 0
  rw [Nat.add_zero] at e0
  rw [e0, charAt_drop body p 1, charAt_drop body p 2, charAt_drop body p 3]
  match body.drop p with
  | [] => rfl
  | [a] => simp [hex4?, readHexDigit_none]
  | [a, b] => simp [hex4?, readHexDigit_none]
  | [a, b, c] => simp [hex4?, readHexDigit_none]
  | a :: b :: c :: d :: r =>
    simp only [hex4?, List.getElem?_cons_zero, List.getElem?_cons_succ, readHexDigit_some]
    by_cases ha : HexDigit a <;> by_cases hb : HexDigit b <;> by_cases hc : HexDigit c <;>
      by_cases hd : HexDigit d <;> simp [ha, hb, hc, hd, hexNumber, List.foldl]
    omega

theorem hex4?_lt {s : List Nat} {v : Nat} (h : hex4? s = some v) : v < 65536 := by
  match s with
  | [] | [_] | [_, _] | [_, _, _] => simp [hex4?] at h
  | a :: b :: c :: d :: r =>
    simp only [hex4?] at h
    split at h
    · rename_i hh
      have := hexVal_le a hh.1; have := hexVal_le b hh.2.1
      have := hexVal_le c hh.2.2.1; have := hexVal_le d hh.2.2.2
      simp [hexNumber, List.foldl] at h; omega
    · simp at h

/-- Result of an escape reader against the grammar's escape recogniser. -/
def escOut (kind : LexErrKind) (p : Nat) (m : Option (Nat × List Nat)) : LexOut (List Nat × Nat) :=
  match m with
  | some (n, v) => .ok (v, n)
  | none => .err ⟨kind, p⟩

theorem escapedChar_eq (c : Nat) : escapedChar (some c) = escapedCharacter? c := by
  unfold escapedCharacter?
  by_cases h1 : c = 34; · subst h1; rfl
  by_cases h2 : c = 92; · subst h2; rfl
  by_cases h3 : c = 47; · subst h3; rfl
  by_cases h4 : c = 98; · subst h4; rfl
  by_cases h5 : c = 102; · subst h5; rfl
  by_cases h6 : c = 110; · subst h6; rfl
  by_cases h7 : c = 114; · subst h7; rfl
  by_cases h8 : c = 116; · subst h8; rfl
  rw [if_neg h1, if_neg h2, if_neg h3, if_neg h4, if_neg h5, if_neg h6, if_neg h7, if_neg h8]
  refine escapedChar.eq_9 _ ?_ ?_ ?_ ?_ ?_ ?_ ?_ ?_ <;> intro ht <;> cases ht <;> contradiction

theorem readEscapedCharacter_eq (body : List Nat) (p : Nat) :
    readEscapedCharacter body p =
      escOut .invalidCharEscape p
        (match body.drop (p + 1) with
         | [] => none
         | d :: _ => match escapedCharacter? d with
            | some v => some (2, [v])
            | none => none) := by
  unfold readEscapedCharacter
  have e := charAt_drop body (p + 1) 0
  rw [Nat.add_zero] at e
  rw [e]
  cases hd : body.drop (p + 1) with
  | nil => rfl
  | cons d r =>
    simp only [List.getElem?_cons_zero, escapedChar_eq]
    cases escapedCharacter? d <;> rfl

theorem scalar16 (code : Nat) (h : code < 65536) : (code ≤ 0xD7FF ∨ 0xE000 ≤ code) ↔ Scalar code := by
  unfold Scalar; omega

theorem readEscapedUnicodeFixedWidth_eq (body : List Nat) (p : Nat) :
    readEscapedUnicodeFixedWidth body p =
      escOut .invalidUnicodeEscape p (escapedUnicodeFixed? (body.drop (p + 2))) := by
  unfold readEscapedUnicodeFixedWidth escapedUnicodeFixed?
  rw [read16_eq]
  cases hc : hex4? (body.drop (p + 2)) with
  | none => rfl
  | some code =>
    simp only []
    have hlt := hex4?_lt hc
    by_cases hs : Scalar code
    · rw [if_pos ((scalar16 code hlt).mpr hs), if_pos hs]; rfl
    · rw [if_neg (fun h => hs ((scalar16 code hlt).mp h)), if_neg hs]
      have e1 : slice body (p + 6) (p + 8) = ((body.drop (p + 2)).drop 4).take 2 := by
        simp [slice, List.drop_drop]
      have e2 : read16 body (p + 8) = hex4? ((body.drop (p + 2)).drop 6) := by
        rw [read16_eq, List.drop_drop]
      rw [e1, e2]
      by_cases hl : LeadSurrogate code ∧ ((body.drop (p + 2)).drop 4).take 2 = [92, 117]
      · rw [if_pos ⟨(isLeadSurrogate_iff _).mpr hl.1, hl.2⟩, if_pos hl]
        cases ht : hex4? ((body.drop (p + 2)).drop 6) with
        | none => rfl
        | some trail =>
          simp only []
          by_cases htr : TrailSurrogate trail
          · rw [if_pos ((isTrailSurrogate_iff _).mpr htr), if_pos htr]; rfl
          · rw [if_neg (fun h => htr ((isTrailSurrogate_iff _).mp h)), if_neg htr]; rfl
      · rw [if_neg (fun h => hl ⟨(isLeadSurrogate_iff _).mp h.1, h.2⟩), if_neg hl]; rfl

theorem hexDigitsLen_cons (c : Nat) (r : List Nat) :
    hexDigitsLen (c :: r) = if HexDigit c then hexDigitsLen r + 1 else 0 := rfl

theorem varWidthLoop_eq (body : List Nat) (p M : Nat) (hM : p + M ≤ body.length) :
    ∀ (size point : Nat),
      varWidthLoop body p M size point =
        (let rest := body.drop (p + size)
         let m := hexDigitsLen rest
         if size + m + 1 ≤ M ∧ (rest.drop m).head? = some 125 ∧ 5 ≤ size + m + 1 ∧
            Scalar (hexFold point (rest.take m))
         then .ok (hexFold point (rest.take m), size + m + 1)
         else .err ⟨.invalidUnicodeEscape, p⟩) := by
  intro size point
  fun_induction varWidthLoop body p M size point
  · rename_i size point hlt ih
    have hl : p + size < body.length := by omega
    rw [index_ok _ _ hl, Out.bind_ok, List.drop_eq_getElem_cons hl]
    simp only []
    generalize hc : body[p + size] = c
    by_cases h125 : c = 125
    · subst h125
      rw [if_pos rfl]
      have hm : hexDigitsLen (125 :: body.drop (p + size + 1)) = 0 := by
        rw [hexDigitsLen_cons, if_neg (by decide)]
      rw [hm]
      simp only [List.drop_zero, List.head?_cons, List.take_zero, hexFold, List.foldl_nil, Nat.add_zero]
      by_cases hbad : size + 1 < 5 ∨ ¬ (point ≤ 0xD7FF ∨ (0xE000 ≤ point ∧ point ≤ 0x10FFFF))
      · rw [if_pos hbad, if_neg]
        rintro ⟨_, _, h5, hs⟩
        rcases hbad with hb | hb
        · omega
        · exact hb hs
      · rw [if_neg hbad, if_pos]
        · rfl
        · refine ⟨by omega, trivial, by omega, ?_⟩
          by_cases hs : Scalar point
          · exact hs
          · exact absurd (Or.inr hs) hbad
    · rw [if_neg h125, readHexDigit_some]
      by_cases hh : HexDigit c
      · rw [if_pos hh]
        simp only []
        rw [ih (hexVal c)]
        simp only []
        have e : p + (size + 1) = p + size + 1 := by omega
        rw [e, hexDigitsLen_cons, if_pos hh]
        have e2 : ∀ m, size + 1 + m + 1 = size + (m + 1) + 1 := by intro m; omega
        simp only [e2, List.drop_succ_cons, List.take_succ_cons, hexFold_cons]
      · rw [if_neg hh]
        simp only []
        rw [hexDigitsLen_cons, if_neg hh, if_neg]
        rintro ⟨_, h, _⟩
        simp at h; exact h125 h
  · rename_i size point hge
    simp only []
    rw [if_neg]
    rintro ⟨h, _⟩
    omega

theorem head?_drop_lt {l : List Nat} {n c : Nat} (h : (l.drop n).head? = some c) : n < l.length := by
  rcases Nat.lt_or_ge n l.length with h' | h'
  · exact h'
  · rw [List.drop_eq_nil_of_le h'] at h; simp at h

theorem readEscapedUnicodeVariableWidth_eq (body : List Nat) (p : Nat) (hp : p ≤ body.length) :
    (readEscapedUnicodeVariableWidth body p >>= fun x => (pure ([x.1], x.2) : LexOut (List Nat × Nat))) =
      escOut .invalidUnicodeEscape p (escapedUnicodeBraced? (body.drop (p + 3))) := by
  unfold readEscapedUnicodeVariableWidth
  rw [varWidthLoop_eq body p _ (by omega)]
  simp only []
  unfold escapedUnicodeBraced?
  simp only []
  generalize hm : hexDigitsLen (body.drop (p + 3)) = m
  have h8 : maxEscapeHexDigits = 8 := rfl
  by_cases hcond : 1 ≤ m ∧ m ≤ maxEscapeHexDigits ∧ ((body.drop (p + 3)).drop m).head? = some 125 ∧
      Scalar (hexNumber ((body.drop (p + 3)).take m))
  · rw [if_pos hcond, if_pos]
    · simp only [Out.bind_ok, Out.pure_eq, escOut]
      have e : 3 + m + 1 = m + 4 := by omega
      rw [e]; rfl
    · obtain ⟨h1, h8', hh, hs⟩ := hcond
      have := head?_drop_lt hh
      simp at this
      exact ⟨by omega, hh, by omega, hs⟩
  · rw [if_neg hcond, if_neg]
    · rfl
    · rintro ⟨h1, hh, h5, hs⟩
      exact hcond ⟨by omega, by omega, hh, hs⟩

/-- A SourceCharacter of the model: one scalar value, or a leading and a trailing surrogate. -/
theorem sourceCharLen_eq_some {s : List Nat} {k : Nat} :
    sourceCharLen s = some k ↔
      (∃ c r, s = c :: r ∧ Scalar c ∧ k = 1) ∨
      (∃ c d r, s = c :: d :: r ∧ ¬ Scalar c ∧ (LeadSurrogate c ∧ TrailSurrogate d) ∧ k = 2) := by
  constructor
  · intro h
    match s, h with
    | c :: r, h =>
      simp only [sourceCharLen] at h
      split at h
      · next hs => cases h; exact .inl ⟨c, r, rfl, hs, rfl⟩
      · next hs =>
        match r, h with
        | d :: r', h =>
          simp only [] at h
          split at h
          · next hp => cases h; exact .inr ⟨c, d, r', rfl, hs, hp, rfl⟩
          · cases h
  · rintro (⟨c, r, rfl, hs, rfl⟩ | ⟨c, d, r, rfl, hs, hp, rfl⟩)
    · simp [sourceCharLen, hs]
    · simp [sourceCharLen, hs, hp]

theorem sourceCharLen_pos {s : List Nat} {k : Nat} (h : sourceCharLen s = some k) : 1 ≤ k ∧ k ≤ 2 := by
  rcases sourceCharLen_eq_some.1 h with ⟨_, _, _, _, rfl⟩ | ⟨_, _, _, _, _, _, rfl⟩ <;> decide

/-- The loops test `is_unicode_scalar_value` and `is_supplementary_code_point` where the grammar
asks for the length of a SourceCharacter. -/
theorem sourceChar_ite {α : Type} (body : List Nat) (p : Nat) (h : p < body.length) (f : Nat → α) (e : α) :
    (if isScalar body[p] = true then f 1 else if isSupplementary body p = true then f 2 else e) =
      match sourceCharLen (body.drop p) with
      | some k => f k
      | none => e := by
  rw [sourceCharLen_drop body p h]
  split
  · rfl
  · split <;> rfl

theorem slice_add (body : List Nat) {cs p : Nat} (k : Nat) (h : cs ≤ p) :
    slice body cs (p + k) = slice body cs p ++ (body.drop p).take k := by
  unfold slice
  rw [show p + k - cs = (p - cs) + k by omega, List.take_add, List.drop_drop, show cs + (p - cs) = p by omega]

theorem slice_self (body : List Nat) (p : Nat) : slice body p p = [] := by simp [slice]

/-- A `StringCharacter` at a backslash, by the tests `read_string` makes. -/
theorem stringCharacter?_backslash (rest : List Nat) :
    stringCharacter? (92 :: rest) =
      if rest.head? = some 117 then
        if (rest.drop 1).head? = some 123 then escapedUnicodeBraced? (rest.drop 2)
        else escapedUnicodeFixed? (rest.drop 1)
      else match rest with
        | [] => none
        | d :: _ => match escapedCharacter? d with
          | some v => some (2, [v])
          | none => none := by
  cases rest with
  | nil => rfl
  | cons d rest1 =>
    simp only [stringCharacter?, if_true, List.head?_cons, Option.some.injEq, List.drop_succ_cons,
      List.drop_zero]
    split
    · cases rest1 <;> rfl
    · rfl

/-- The escape dispatch of `read_string` at a backslash is the grammar's escape recogniser. -/
theorem escape_dispatch (body : List Nat) (p : Nat) (h : p < body.length) (hc : body[p] = 92) :
    ∃ k, (if charAt body (p + 1) = some 117 then
            if charAt body (p + 2) = some 123 then do
              let (v, size) ← readEscapedUnicodeVariableWidth body p
              pure ([v], size)
            else readEscapedUnicodeFixedWidth body p
          else readEscapedCharacter body p) = escOut k p (stringCharacter? (body.drop p)) := by
  rw [List.drop_eq_getElem_cons h, hc, stringCharacter?_backslash, List.drop_drop, List.drop_drop,
    ← charAt_eq_head, ← charAt_eq_head]
  by_cases h117 : charAt body (p + 1) = some 117
  · rw [if_pos h117, if_pos h117]
    by_cases h123 : charAt body (p + 2) = some 123
    · rw [if_pos h123, if_pos h123]
      exact ⟨_, readEscapedUnicodeVariableWidth_eq body p (by omega)⟩
    · rw [if_neg h123, if_neg h123]
      exact ⟨_, readEscapedUnicodeFixedWidth_eq body p⟩
  · rw [if_neg h117, if_neg h117]
    exact ⟨_, readEscapedCharacter_eq body p⟩

/-- The loop at a backslash: the escape readers, then the loop again behind the escape. -/
theorem readStringLoop_backslash (body : List Nat) (st : LexState) (start p cs : Nat) (acc : List Nat)
    (h : p < body.length) (hc : body[p] = 92) :
    readStringLoop body st start p cs acc =
      (if charAt body (p + 1) = some 117 then
          if charAt body (p + 2) = some 123 then do
            let (v, size) ← readEscapedUnicodeVariableWidth body p
            pure ([v], size)
          else readEscapedUnicodeFixedWidth body p
        else readEscapedCharacter body p) >>= fun esc =>
      if esc.2 = 0 then .crash "NoProgress"
      else readStringLoop body st start (p + esc.2) (p + esc.2) (acc ++ slice body cs p ++ esc.1) := by
  rw [readStringLoop, dif_pos h, index_ok _ _ h, Out.bind_ok, hc, if_neg (by decide), if_pos rfl]
  split
  · split
    · cases readEscapedUnicodeVariableWidth body p <;> rfl
    · rfl
  · rfl

/-- A result `r` of the string loop that stands at `p` with the value `val` read so far, against
`StringCharacter* "` from `p` on. -/
def StrAgree (r : LexOut Token) (st : LexState) (start p : Nat) (val : List Nat)
    (m : Option (Nat × List Nat)) : Prop :=
  match m with
  | some (n, v) => r = .ok (mkToken st .string start (p + n) (some (val ++ v)))
  | none => ∃ e, r = .err e

theorem stringRest_quote (fuel : Nat) (r : List Nat) : stringRest fuel (34 :: r) = some (1, []) := by
  cases fuel <;> rfl

theorem stringRest_zero (s : List Nat) (h : s.head? ≠ some 34) : stringRest 0 s = none := by
  rw [stringRest]
  intro r hs; subst hs; simp at h

theorem escapedUnicodeBraced?_ge {r : List Nat} {n : Nat} {v : List Nat}
    (h : escapedUnicodeBraced? r = some (n, v)) : 5 ≤ n := by
  unfold escapedUnicodeBraced? at h
  simp only [] at h
  split at h
  · simp at h; omega
  · simp at h

/-- A fixed-width escape after `\u`: four hex digits of a scalar value, or of a leading surrogate
followed by `\u` and four hex digits of a trailing one. -/
theorem escapedUnicodeFixed?_iff {r : List Nat} {k : Nat} {v : List Nat} :
    escapedUnicodeFixed? r = some (k, v) ↔
      (∃ code, hex4? r = some code ∧ Scalar code ∧ k = 6 ∧ v = [code]) ∨
      (∃ code trail, hex4? r = some code ∧ ¬ Scalar code ∧
        (LeadSurrogate code ∧ (r.drop 4).take 2 = [92, 117]) ∧ hex4? (r.drop 6) = some trail ∧
        TrailSurrogate trail ∧ k = 12 ∧ v = [0x10000 + (code - 0xD800) * 0x400 + (trail - 0xDC00)]) := by
  unfold escapedUnicodeFixed?
  cases hc : hex4? r with
  | none => simp
  | some code =>
    simp only []
    by_cases hs : Scalar code
    · simp [hs, eq_comm]
    · rw [if_neg hs]
      by_cases hl : LeadSurrogate code ∧ (r.drop 4).take 2 = [92, 117]
      · rw [if_pos hl]
        cases ht : hex4? (r.drop 6) with
        | none => simp [hs]
        | some trail =>
          simp only []
          by_cases htr : TrailSurrogate trail
          · simp [hs, hl, htr, eq_comm]
          · simp [hs, htr]
      · simp [hs, hl]
theorem escapedUnicodeFixed?_ge {r : List Nat} {n : Nat} {v : List Nat}
    (h : escapedUnicodeFixed? r = some (n, v)) : 6 ≤ n := by
  rcases escapedUnicodeFixed?_iff.1 h with ⟨_, _, _, rfl, _⟩ | ⟨_, _, _, _, _, _, _, rfl, _⟩ <;> decide

/-- What one `StringCharacter` at the head of a text is: `stringCharacter?` as a relation
(text, length, value). -/
inductive StrChar : List Nat → Nat → List Nat → Prop
  | braced {r : List Nat} {k : Nat} {v : List Nat} : escapedUnicodeBraced? r = some (k, v) →
      StrChar (92 :: 117 :: 123 :: r) k v
  | fixed {r : List Nat} {k : Nat} {v : List Nat} : r.head? ≠ some 123 → escapedUnicodeFixed? r = some (k, v) →
      StrChar (92 :: 117 :: r) k v
  | simple {d x : Nat} {r : List Nat} : d ≠ 117 → escapedCharacter? d = some x → StrChar (92 :: d :: r) 2 [x]
  | source {c : Nat} {r : List Nat} {k : Nat} : c ≠ 92 → c ≠ 34 → ¬ LineTerm c →
      sourceCharLen (c :: r) = some k → StrChar (c :: r) k ((c :: r).take k)

theorem stringCharacter?_iff {s : List Nat} {k : Nat} {v : List Nat} :
    stringCharacter? s = some (k, v) ↔ StrChar s k v := by
  constructor
  · intro h
    match s, h with
    | c :: rest, h =>
      simp only [stringCharacter?] at h
      by_cases h92 : c = 92
      · subst h92
        rw [if_pos rfl] at h
        match rest, h with
        | d :: rest1, h =>
          simp only [] at h
          by_cases h117 : d = 117
          · subst h117
            rw [if_pos rfl] at h
            by_cases h123 : rest1.head? = some 123
            · rw [if_pos h123] at h
              match rest1, h123, h with
              | b :: r, h123, h => cases h123; exact .braced h
            · rw [if_neg h123] at h; exact .fixed h123 h
          · rw [if_neg h117] at h
            cases he : escapedCharacter? d with
            | none => rw [he] at h; cases h
            | some x => rw [he] at h; cases h; exact .simple h117 he
      · rw [if_neg h92] at h
        by_cases hq : c = 34 ∨ LineTerm c
        · rw [if_pos hq] at h; cases h
        · rw [if_neg hq] at h
          cases hk : sourceCharLen (c :: rest) with
          | none => rw [hk] at h; cases h
          | some n => rw [hk] at h; cases h; exact .source h92 (fun e => hq (.inl e)) (fun e => hq (.inr e)) hk
  · intro h
    cases h with
    | braced h => simpa [stringCharacter?] using h
    | fixed h123 h => simpa [stringCharacter?, h123] using h
    | simple h117 he => simp [stringCharacter?, h117, he]
    | source h92 h34 hlt hk => simp [stringCharacter?, h92, h34, hlt, hk]
theorem stringCharacter?_of_ne {c : Nat} (r : List Nat) (h92 : c ≠ 92) :
    stringCharacter? (c :: r) =
      if c = 34 ∨ LineTerm c then none
      else match sourceCharLen (c :: r) with
        | some n => some (n, (c :: r).take n)
        | none => none := by
  simp only [stringCharacter?, if_neg h92]; rfl

theorem stringCharacter?_pos {s : List Nat} {n : Nat} {v : List Nat}
    (h : stringCharacter? s = some (n, v)) : 0 < n := by
  cases stringCharacter?_iff.1 h with
  | braced h => have := escapedUnicodeBraced?_ge h; omega
  | fixed _ h => have := escapedUnicodeFixed?_ge h; omega
  | simple => decide
  | source _ _ _ hk => exact (sourceCharLen_pos hk).1

/-- Prepend one `StringCharacter` (length `n`, value `v`) to the rest of a string. -/
def consRest (n : Nat) (v : List Nat) : Option (Nat × List Nat) → Option (Nat × List Nat)
  | none => none
  | some (m, w) => some (n + m, v ++ w)

theorem stringRest_succ (fuel : Nat) (s : List Nat) (h : s.head? ≠ some 34) :
    stringRest (fuel + 1) s =
      match stringCharacter? s with
      | none => none
      | some (n, v) => consRest n v (stringRest fuel (s.drop n)) := by
  rw [stringRest]
  · cases stringCharacter? s with
    | none => rfl
    | some nv =>
      obtain ⟨n, v⟩ := nv
      simp only []
      cases stringRest fuel (s.drop n) <;> rfl
  · intro r hs; subst hs; simp at h

theorem StrAgree.step {r : LexOut Token} {st : LexState} {start p k : Nat} {val v : List Nat}
    {m' : Option (Nat × List Nat)} (h : StrAgree r st start (p + k) (val ++ v) m') :
    StrAgree r st start p val (consRest k v m') := by
  cases m' with
  | none => exact h
  | some mw =>
    obtain ⟨m, w⟩ := mw
    show r = _
    rw [show r = _ from h, Nat.add_assoc, List.append_assoc]

theorem readStringLoop_agree (body : List Nat) (st : LexState) (start : Nat) :
    ∀ (fuel p cs : Nat) (acc : List Nat), body.length - p ≤ fuel → cs ≤ p →
      StrAgree (readStringLoop body st start p cs acc) st start p (acc ++ slice body cs p)
        (stringRest fuel (body.drop p)) := by
  have hend : ∀ fuel p cs acc, body.length ≤ p →
      StrAgree (readStringLoop body st start p cs acc) st start p (acc ++ slice body cs p)
        (stringRest fuel (body.drop p)) := by
    intro fuel p cs acc h
    have : stringRest fuel (body.drop p) = none := by
      rw [List.drop_eq_nil_of_le h]; cases fuel <;> rfl
    rw [this, readStringLoop, dif_neg (by omega)]
    exact ⟨_, rfl⟩
  intro fuel
  induction fuel with
  | zero => intro p cs acc hf _; exact hend _ _ _ _ (by omega)
  | succ f ih =>
    intro p cs acc hf hcs
    by_cases hlt : p < body.length
    · have hdrop := List.drop_eq_getElem_cons hlt
      by_cases h34 : body[p] = 34
      · rw [hdrop, h34, stringRest_quote, readStringLoop, dif_pos hlt, index_ok _ _ hlt, Out.bind_ok, if_pos h34]
        show _ = _
        simp
      rw [stringRest_succ _ _ (by rw [hdrop]; exact fun h => h34 (Option.some.inj h))]
      by_cases h92 : body[p] = 92
      · obtain ⟨k, hk⟩ := escape_dispatch body p hlt h92
        rw [readStringLoop_backslash body st start p cs acc hlt h92, hk]
        cases hsc : stringCharacter? (body.drop p) with
        | none => exact ⟨_, rfl⟩
        | some nv =>
          obtain ⟨n, v⟩ := nv
          have hn := stringCharacter?_pos hsc
          simp only [escOut, Out.bind_ok, if_neg (Nat.ne_of_gt hn), List.drop_drop]
          have := ih (p + n) (p + n) (acc ++ slice body cs p ++ v) (by omega) (Nat.le_refl _)
          rw [slice_self, List.append_nil] at this
          exact this.step
      rw [readStringLoop, dif_pos hlt, index_ok _ _ hlt, Out.bind_ok, if_neg h34, if_neg h92,
        hdrop, stringCharacter?_of_ne _ h92, ← hdrop]
      by_cases hnl : body[p] = 13 ∨ body[p] = 10
      · rw [if_pos hnl, if_pos (.inr (by unfold LineTerm; omega))]
        exact ⟨_, rfl⟩
      rw [if_neg hnl, sourceChar_ite body p hlt (fun k => readStringLoop body st start (p + k) cs acc),
        if_neg (by unfold LineTerm; omega)]
      cases hk : sourceCharLen (body.drop p) with
      | none => exact ⟨_, rfl⟩
      | some k =>
        simp only [List.drop_drop]
        have := ih (p + k) cs acc (by have := sourceCharLen_pos hk; omega) (by omega)
        rw [slice_add body k hcs, ← List.append_assoc] at this
        exact this.step
    · exact hend _ _ _ _ (by omega)

theorem string?_not_triple (rest : List Nat) (h : rest.take 2 ≠ [34, 34]) :
    string? (34 :: rest) =
      match stringRest rest.length rest with
      | some (n, v) => some ⟨.string, n + 1, some v⟩
      | none => none := by
  unfold string?
  split
  · rename_i heq
    simp at heq
    subst heq
    simp at h
  · rename_i r heq
    simp at heq
    subst heq
    rfl
  · rename_i h1 h2
    exact absurd rfl (h2 rest)

/-- StringValue: `read_string` returns exactly the grammar's string token, on every text. -/
theorem stringClassOK (body : List Nat) : StringClassOK body := by
  intro st pos hlt hq htr
  have hdrop := List.drop_eq_getElem_cons hlt
  rw [hdrop, hq]
  have e : slice body (pos + 1) (pos + 3) = (body.drop (pos + 1)).take 2 := slice_eq_take_drop _ _ 2
  rw [e] at htr
  rw [string?_not_triple _ htr]
  have hag := readStringLoop_agree body st pos (body.drop (pos + 1)).length (pos + 1) (pos + 1) []
    (by simp) (Nat.le_refl _)
  unfold readString
  cases hsr : stringRest (body.drop (pos + 1)).length (body.drop (pos + 1)) with
  | none =>
    rw [hsr] at hag
    obtain ⟨e, he⟩ := hag
    rw [he]; rfl
  | some nv =>
    obtain ⟨n, v⟩ := nv
    rw [hsr] at hag
    have hag' : readStringLoop body st pos (pos + 1) (pos + 1) [] = _ := hag
    rw [hag']
    simp only [Out.bind_ok, Out.pure_eq]
    refine ⟨_, rfl, ?_, by simp, by simp [mkToken], by simp [mkToken]⟩
    simp [toSpec, mkToken, kindOf, slice_self]
    omega
end Gql.Text
