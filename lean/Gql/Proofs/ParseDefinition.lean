import Gql.Proofs.Parses
import Gql.Proofs.ExecDefs2
/-!
How `parse_definition` selects a method: from the keyword at the head of a definition, after an optional description
(`Parses.definition`), and for `extend` from the keyword after it (`Parses.extension`); what the keyword tables of
parser.py give for the keywords that printed definitions start with.
-/
namespace Gql.Syntax
open Gql Gql.Text
open Gql.Generated

/-- The method name `parse_definition` finds for the keyword `v`; `hasDesc`: a description precedes it. -/
def defMethod (hasDesc : Bool) (v : List Nat) : Option String :=
  match methodFor ParserTables.typeSystemDefinitionMethods (some v) with
  | some m => some m
  | none =>
    match methodFor ParserTables.executableDefinitionMethods (some v) with
    | some m => some m
    | none => if hasDesc then none else methodFor ParserTables.otherDefinitionMethods (some v)

/-- What the keyword tables of parser.py (`_parse_type_system_definition_method_names`,
`_parse_executable_definition_method_names`) give for each keyword a printed definition starts with, with or
without a description in front. -/
theorem defMethod_keywords : ∀ p ∈ [("schema", "schema_definition"), ("scalar", "scalar_type_definition"),
    ("type", "object_type_definition"), ("interface", "interface_type_definition"),
    ("union", "union_type_definition"), ("enum", "enum_type_definition"),
    ("input", "input_object_type_definition"), ("directive", "directive_definition"),
    ("query", "operation_definition"), ("mutation", "operation_definition"),
    ("subscription", "operation_definition"), ("fragment", "fragment_definition")],
    ∀ b, defMethod b (S p.1) = some p.2 := by
  decide +kernel

theorem parseDefinition_kw (cfg : Cfg) (n : Nat) (s : PS) (v : List Nat) (m : String) (hk : s.cur.kind = .name)
    (hv : s.cur.value = some v) (h : defMethod false v = some m) :
    parseDefinition cfg n s = dispatchDefinition cfg n m s := by
  unfold defMethod at h
  split at h
  · next h1 =>
    cases h
    simp [parseDefinition, bind_eq, peek_eq, peekDescription, P.cur, pure_eq', hk, hv, h1]
  · next h1 =>
    split at h
    · next h2 =>
      cases h
      simp [parseDefinition, bind_eq, peek_eq, peekDescription, P.cur, pure_eq', hk, hv, h1, h2]
    · next h2 =>
      simp only [Bool.false_eq_true, ↓reduceIte] at h
      simp [parseDefinition, bind_eq, peek_eq, peekDescription, P.cur, pure_eq', hk, hv, h1, h2, h]

theorem parseDefinition_desc_kw (cfg : Cfg) (n : Nat) (tD tK : Token) (rest : Stream) (cnt : Nat) (v : List Nat)
    (m : String) (hD : tD.kind = .string ∨ tD.kind = .blockString) (hk : tK.kind = .name)
    (hv : tK.value = some v) (h : defMethod true v = some m) :
    parseDefinition cfg n { cur := tD, rest := .cons tK rest, count := cnt } =
      dispatchDefinition cfg n m { cur := tD, rest := .cons tK rest, count := cnt } := by
  have hne : tD.kind ≠ .eof := by rcases hD with h | h <;> rw [h] <;> decide
  have hnb : (tD.kind == TokKind.braceL) = false := by rcases hD with h | h <;> rw [h] <;> rfl
  have hpd : (tD.kind == TokKind.string || tD.kind == TokKind.blockString) = true := by
    rcases hD with h | h <;> rw [h] <;> rfl
  unfold defMethod at h
  split at h
  · next h1 =>
    cases h
    simp [parseDefinition, bind_eq, peek_eq, peekDescription, P.cur, pure_eq', hnb, hpd, lookahead, hne, hk, hv, h1]
  · next h1 =>
    split at h
    · next h2 =>
      cases h
      simp [parseDefinition, bind_eq, peek_eq, peekDescription, P.cur, pure_eq', hnb, hpd, lookahead, hne, hk, hv,
        h1, h2]
    · simp at h

theorem parseDefinition_brace (cfg : Cfg) (n : Nat) (s : PS) (hk : s.cur.kind = .braceL) :
    parseDefinition cfg n s = parseOperationDefinition cfg n s := by
  simp [parseDefinition, bind_eq, peek_eq, hk]

/-- `parse_definition` on a definition that starts with an optional description and a keyword: the keyword
selects the method. -/
theorem Parses.definition {cfg : Cfg} {n : Nat} {ks : List KV} {a : Ast} {ok : KV → Prop} (desc : Desc)
    (kw : List Nat) (m : String) (hm' : defMethod (desc.isSome) kw = some m)
    (h : Parses n (dispatchDefinition cfg n m) (Exec.descKvs desc ++ (.name, some kw) :: ks) a ok) :
    Parses n (parseDefinition cfg n) (Exec.descKvs desc ++ (.name, some kw) :: ks) a ok := by
  intro hn toks r cnt hkv hne hr hd
  obtain ⟨c', hp⟩ := h hn toks r cnt hkv hne hr hd
  refine ⟨c', ?_⟩
  match desc, hkv, hm' with
  | none, hkv, hm' =>
    simp only [Exec.descKvs, List.nil_append, List.map_eq_cons_iff] at hkv
    obtain ⟨t0, ts, rfl, ht0, _⟩ := hkv
    rw [parseDefinition_kw cfg n _ kw m (by simp [feed, (tok_of_kv ht0).1]) (by simp [feed, (tok_of_kv ht0).2]) hm']
    exact hp
  | some (s, b), hkv, hm' =>
    simp only [Exec.descKvs, List.cons_append, List.nil_append, List.map_eq_cons_iff] at hkv
    obtain ⟨tD, ts, rfl, htD, tK, ts2, rfl, htK, _⟩ := hkv
    have hDk : tD.kind = .string ∨ tD.kind = .blockString := by
      rw [(tok_of_kv htD).1]; cases b <;> simp
    simp only [feed, PSat_cons] at hp ⊢
    rw [parseDefinition_desc_kw cfg n tD tK _ cnt kw m hDk (tok_of_kv htK).1 (tok_of_kv htK).2 hm']
    exact hp

/-- What `_parse_type_extension_method_names` of parser.py gives for the keyword after `extend`. -/
theorem extMethod_keywords : ∀ p ∈ [("schema", "schema_extension"), ("scalar", "scalar_type_extension"),
    ("type", "object_type_extension"), ("interface", "interface_type_extension"),
    ("union", "union_type_extension"), ("enum", "enum_type_extension"), ("input", "input_object_type_extension")],
    methodFor ParserTables.typeExtensionMethods (some (S p.1)) = some p.2 := by
  decide +kernel

theorem parseDefinition_ext (cfg : Cfg) (n : Nat) (tE tK : Token) (rest : Stream) (cnt : Nat) (v : List Nat)
    (m : String) (hEk : tE.kind = .name) (hEv : tE.value = some (S "extend")) (hk : tK.kind = .name)
    (hv : tK.value = some v) (h1 : methodFor ParserTables.typeExtensionMethods (some v) = some m) :
    parseDefinition cfg n { cur := tE, rest := .cons tK rest, count := cnt } =
      dispatchExtension cfg n m { cur := tE, rest := .cons tK rest, count := cnt } := by
  have hne : tE.kind ≠ .eof := by rw [hEk]; decide
  rw [parseDefinition_kw cfg n _ (S "extend") "type_system_extension" hEk hEv (by decide)]
  simp [dispatchDefinition, parseTypeSystemExtension, bind_eq, lookahead, hne, hk, hv, h1]

/-- `parse_definition` on an extension: the keyword after `extend` selects the method. -/
theorem Parses.extension {cfg : Cfg} {n : Nat} {ks : List KV} {a : Ast} {ok : KV → Prop} (kw : List Nat)
    (m : String) (hm' : methodFor ParserTables.typeExtensionMethods (some kw) = some m)
    (h : Parses n (dispatchExtension cfg n m) ((.name, some (S "extend")) :: (.name, some kw) :: ks) a ok) :
    Parses n (parseDefinition cfg n) ((.name, some (S "extend")) :: (.name, some kw) :: ks) a ok := by
  intro hn toks r cnt hkv hne hr hd
  obtain ⟨c', hp⟩ := h hn toks r cnt hkv hne hr hd
  refine ⟨c', ?_⟩
  simp only [List.map_eq_cons_iff] at hkv
  obtain ⟨tE, ts, rfl, htE, tK, ts2, rfl, htK, _⟩ := hkv
  simp only [feed, PSat_cons] at hp ⊢
  rw [parseDefinition_ext cfg n tE tK _ cnt kw m (tok_of_kv htE).1 (tok_of_kv htE).2 (tok_of_kv htK).1
    (tok_of_kv htK).2 hm']
  exact hp

end Gql.Syntax
