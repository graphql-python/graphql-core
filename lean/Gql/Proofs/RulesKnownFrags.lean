import Gql.Proofs.RulesRun
import Gql.Proofs.RulesFuel
/-!
C12-7 — `rule_iff_spec` for KnownFragmentNames, a rule without private state.
-/
namespace Gql.Validation.Rules
open Gql.Validation

variable {τ : Type}

namespace Spec
/-- "Every fragment spread names a fragment defined in the document" (spec §5.5.2.1). -/
def knownFragmentNames (doc : ATree) : Prop :=
  ∀ n ∈ doc.nodes, n.kind = "fragment_spread" →
    ∃ nm, n.kid "name" = some nm ∧ ∃ f ∈ fragDefs doc, f.nameValue = some nm.value
end Spec

theorem knownFragmentNames_stateless (doc : ATree) :
    (knownFragmentNames (τ := τ) doc).Stateless (reportsOf (knownFragmentNames (τ := τ) doc)) := by
  intro s ph i ti _
  simp only [reportsOf, knownFragmentNames, withNode]
  split
  · cases ph
    · simp only
      split
      · split <;> rfl
      · rfl
    · rfl
  · rfl

theorem knownFragmentNames_iff (tbl : TITable) (L : Lookups τ) (doc : ATree) (hu : doc.uniqueIds) :
    validate tbl L none [(knownFragmentNames doc, RS.init)] doc.erase = [] ↔ Spec.knownFragmentNames doc := by
  rw [stateless_nil_iff tbl L _ _ (knownFragmentNames_stateless doc) doc hu]
  unfold Spec.knownFragmentNames
  apply forall_congr'; intro n
  apply imp_congr_right; intro hn
  have hrep : reportsOf (knownFragmentNames (τ := τ) doc) .enter n.info = [] ↔
      ∃ nm, n.kid "name" = some nm ∧ (getFragment doc nm.value).isSome = true := by
    simp only [reportsOf, knownFragmentNames, withNode_of_mem hu hn]
    cases n.kid "name" with
    | none => simp [RErr.crash]
    | some nm => cases h : getFragment doc nm.value <;> simp [h]
  rw [hrep]
  simp only [knownFragmentNames, beq_iff_eq, getFragment_isSome, Bool.false_eq_true, false_implies, and_true]

end Gql.Validation.Rules
