import Gql.Proofs.OverlapGroup
import Gql.Proofs.OverlapLocal
/-! C14: parent types that differ only where nobody looks.  `TypeInfo` reports `None` for a
non-composite parent, `find_conflict` passes the named return type as it is; the rule's cache keeps
whichever came first.  Both are the same after `compositeOrNone`. -/
namespace Gql.Exec
open Overlap

def PEq (s : Schema) (p q : Option String) : Prop := compositeOrNone s p = compositeOrNone s q

theorem PEq.refl (s : Schema) (p : Option String) : PEq s p p := rfl
theorem PEq.symm {s : Schema} {p q : Option String} (h : PEq s p q) : PEq s q p := Eq.symm h
theorem PEq.trans {s : Schema} {p q r : Option String} (h1 : PEq s p q) (h2 : PEq s q r) :
    PEq s p r := Eq.trans h1 h2

theorem isComposite_none (s : Schema) : s.isComposite none = false := by
  simp [Schema.isComposite, Schema.kindOf]

theorem fieldDef_of_not_composite {s : Schema} {p : Option String}
    (h : s.isComposite p = false) (n : String) : s.fieldDef p n = none := by
  cases p with
  | none => simp [Schema.fieldDef]
  | some t =>
    simp only [Schema.fieldDef]
    cases hg : s.getType t with
    | none => simp
    | some td =>
      simp only [Schema.isComposite, Schema.kindOf, hg, Option.map_some] at h
      cases hk : td.kind <;> simp_all

theorem isObject_of_not_composite {s : Schema} {p : Option String}
    (h : s.isComposite p = false) : s.isObject p = false := by
  cases p with
  | none => simp [Schema.isObject, Schema.kindOf]
  | some t =>
    cases hg : s.getType t with
    | none => simp [Schema.isObject, Schema.kindOf, hg]
    | some td =>
      simp only [Schema.isComposite, Schema.kindOf, hg, Option.map_some] at h
      simp only [Schema.isObject, Schema.kindOf, hg, Option.map_some]
      cases hk : td.kind <;> simp_all

theorem isComposite_of_isObject {s : Schema} {p : Option String} (h : s.isObject p = true) :
    s.isComposite p = true := by
  cases hc : s.isComposite p with
  | true => rfl
  | false => rw [isObject_of_not_composite hc] at h; cases h

theorem cON_cases (s : Schema) (p : Option String) :
    compositeOrNone s p = p ∨ (s.isComposite p = false ∧ compositeOrNone s p = none) := by
  unfold compositeOrNone
  cases h : s.isComposite p
  · exact Or.inr ⟨rfl, by simp⟩
  · exact Or.inl (by simp)

/-- whatever is read off a parent type in the same way for all non-composite parents is the same
for parents that are equal after normalisation -/
theorem PEq.congr {α : Type} {s : Schema} {f : Option String → α}
    (hf : ∀ p, s.isComposite p = false → f p = f none) {p q : Option String} (h : PEq s p q) :
    f p = f q := by
  have key : ∀ p, f (compositeOrNone s p) = f p := fun p => by
    rcases cON_cases s p with e | ⟨hp, e⟩
    · rw [e]
    · rw [e, hf p hp]
  rw [← key p, ← key q, h]

theorem cON_idem (s : Schema) (p : Option String) : PEq s (compositeOrNone s p) p := by
  show compositeOrNone s (compositeOrNone s p) = compositeOrNone s p
  rcases cON_cases s p with e | ⟨_, e⟩
  · rw [e, e]
  · rw [e]; exact ite_self _

theorem PEq.fieldDef {s : Schema} {p q : Option String} (h : PEq s p q) (n : String) :
    s.fieldDef p n = s.fieldDef q n :=
  h.congr (f := fun p => s.fieldDef p n) fun _ hp => fieldDef_of_not_composite hp n

theorem PEq.isObject {s : Schema} {p q : Option String} (h : PEq s p q) :
    s.isObject p = s.isObject q :=
  h.congr fun _ hp => isObject_of_not_composite hp

theorem PEq.isComposite {s : Schema} {p q : Option String} (h : PEq s p q) :
    s.isComposite p = s.isComposite q :=
  h.congr fun _ hp => hp.trans (isComposite_none s).symm

theorem PEq.fieldType {s : Schema} {p q : Option String} (h : PEq s p q) (n : String) :
    Spec.fieldType s p n = Spec.fieldType s q n := by
  simp only [Spec.fieldType, h.fieldDef n, h.isComposite]

theorem PEq.eq_of_isObject {s : Schema} {p q : Option String} (h : PEq s p q)
    (hp : s.isObject p = true) : p = q := by
  have hq : s.isObject q = true := by rw [← h.isObject]; exact hp
  have c1 := isComposite_of_isObject hp
  have c2 := isComposite_of_isObject hq
  unfold PEq compositeOrNone at h
  simpa [c1, c2] using h

/-- the same field node, selected on parents that are equal after normalisation -/
def InstEq (s : Schema) (a a' : Spec.FieldInst) : Prop := a.node = a'.node ∧ PEq s a.parent a'.parent

theorem InstEq.symm {s : Schema} {a b : Spec.FieldInst} (h : InstEq s a b) : InstEq s b a :=
  ⟨h.1.symm, h.2.symm⟩

theorem InstEq.subP {s : Schema} {a a' : Spec.FieldInst} (h : InstEq s a a') :
    subP s a = subP s a' := by
  simp only [Gql.Exec.subP, h.1, h.2.fieldType]

theorem parentsOverlap_instEq {s : Schema} {a a' b b' : Spec.FieldInst} (ha : InstEq s a a')
    (hb : InstEq s b b') : Spec.parentsOverlap s a b = Spec.parentsOverlap s a' b' := by
  simp only [Spec.parentsOverlap, ← ha.2.isObject, ← hb.2.isObject]
  by_cases h1 : s.isObject a.parent = true
  · by_cases h2 : s.isObject b.parent = true
    · have e1 := ha.2.eq_of_isObject h1
      have e2 := hb.2.eq_of_isObject h2
      rw [e1, e2]
    · have : s.isObject b.parent = false := by simpa using h2
      simp [this]
  · have : s.isObject a.parent = false := by simpa using h1
    simp [this]

theorem direct_instEq {s : Schema} {a a' b b' : Spec.FieldInst} (ha : InstEq s a a')
    (hb : InstEq s b b') (full : Bool) :
    Spec.direct s ⟨a, b, full⟩ = Spec.direct s ⟨a', b', full⟩ := by
  simp only [Spec.direct, Spec.typesOf, ha.1, hb.1, ha.2.fieldType, hb.2.fieldType,
    parentsOverlap_instEq ha hb]

theorem deeper_instEq {s : Schema} {a a' b b' : Spec.FieldInst} (ha : InstEq s a a')
    (hb : InstEq s b b') (full : Bool) :
    Spec.deeper s ⟨a, b, full⟩ = Spec.deeper s ⟨a', b', full⟩ := by
  simp only [Spec.deeper, parentsOverlap_instEq ha hb]

inductive Rel2 {α β : Type} (R : α → β → Prop) : List α → List β → Prop where
  | nil : Rel2 R [] []
  | cons {a : α} {b : β} {as : List α} {bs : List β} : R a b → Rel2 R as bs → Rel2 R (a :: as) (b :: bs)

theorem Rel2.append {α β : Type} {R : α → β → Prop} {a1 a2 : List α} {b1 b2 : List β}
    (h1 : Rel2 R a1 b1) (h2 : Rel2 R a2 b2) : Rel2 R (a1 ++ a2) (b1 ++ b2) := by
  induction h1 with
  | nil => exact h2
  | cons h _ ih => exact Rel2.cons h ih

theorem Rel2.mem_left {α β : Type} {R : α → β → Prop} {as : List α} {bs : List β}
    (h : Rel2 R as bs) {a : α} (ha : a ∈ as) : ∃ b ∈ bs, R a b := by
  induction h with
  | nil => cases ha
  | cons h _ ih =>
    rcases List.mem_cons.1 ha with rfl | ha
    · exact ⟨_, List.mem_cons_self, h⟩
    · obtain ⟨b, hb, hr⟩ := ih ha
      exact ⟨b, List.mem_cons_of_mem _ hb, hr⟩

theorem Rel2.flip {α β : Type} {R : α → β → Prop} {as : List α} {bs : List β}
    (h : Rel2 R as bs) : Rel2 (fun b a => R a b) bs as := by
  induction h with
  | nil => exact Rel2.nil
  | cons h _ ih => exact Rel2.cons h ih

theorem Rel2.map_flip {α β γ : Type} {R : α → β → Prop} {R' : γ → α → Prop} {f : β → γ}
    {as : List α} {bs : List β} (h : Rel2 R as bs) (hf : ∀ a b, R a b → R' (f b) a) :
    Rel2 R' (bs.map f) as := by
  induction h with
  | nil => exact Rel2.nil
  | cons h _ ih => exact Rel2.cons (hf _ _ h) ih

theorem Rel2.mem_right {α β : Type} {R : α → β → Prop} {as : List α} {bs : List β}
    (h : Rel2 R as bs) {b : β} (hb : b ∈ bs) : ∃ a ∈ as, R a b := h.flip.mem_left hb

theorem Rel2.pairs_left {α β : Type} {R : α → β → Prop} {as : List α} {bs : List β}
    (h : Rel2 R as bs) {p : α × α} (hp : p ∈ Spec.pairsOf as) :
    ∃ q ∈ Spec.pairsOf bs, R p.1 q.1 ∧ R p.2 q.2 := by
  induction h with
  | nil => simp [Spec.pairsOf] at hp
  | @cons a b as bs hab hrest ih =>
    simp only [Spec.pairsOf, List.mem_append, List.mem_map] at hp
    rcases hp with ⟨y, hy, rfl⟩ | hp
    · obtain ⟨y', hy', hr⟩ := hrest.mem_left hy
      exact ⟨(b, y'), by simp [Spec.pairsOf, hy'], hab, hr⟩
    · obtain ⟨q, hq, hr⟩ := ih hp
      exact ⟨q, by simp [Spec.pairsOf, hq], hr⟩

theorem Rel2.pairs_right {α β : Type} {R : α → β → Prop} {as : List α} {bs : List β}
    (h : Rel2 R as bs) {q : β × β} (hq : q ∈ Spec.pairsOf bs) :
    ∃ p ∈ Spec.pairsOf as, R p.1 q.1 ∧ R p.2 q.2 := h.flip.pairs_left hq

theorem Rel2.map_left {α β γ : Type} {R : α → β → Prop} {as : List α} {bs : List β}
    (h : Rel2 R as bs) (f : α → γ) : Rel2 (fun c b => ∃ a, c = f a ∧ R a b) (as.map f) bs := by
  induction h with
  | nil => exact Rel2.nil
  | cons h _ ih => exact Rel2.cons ⟨_, rfl, h⟩ ih

mutual
theorem Sel.flat_peq (s : Schema) : ∀ (x : Sel) (p q : Option String), PEq s p q →
    Rel2 (InstEq s) (x.flat s p) (x.flat s q)
  | .field .., p, q, h => by
    simp only [Sel.flat]
    exact Rel2.cons ⟨rfl, h⟩ Rel2.nil
  | .inline tc _ sels, p, q, h => by
    cases tc with
    | none => simp only [Sel.flat]; exact selsFlat_peq s sels p q h
    | some n => simp only [Sel.flat]; exact selsFlat_peq s sels _ _ (PEq.refl _ _)
  | .spread _, p, q, h => by simp only [Sel.flat]; exact Rel2.nil
theorem selsFlat_peq (s : Schema) : ∀ (xs : List Sel) (p q : Option String), PEq s p q →
    Rel2 (InstEq s) (selsFlat s p xs) (selsFlat s q xs)
  | [], p, q, h => by simp only [selsFlat]; exact Rel2.nil
  | x :: xs, p, q, h => by
    simp only [selsFlat]
    exact (Sel.flat_peq s x p q h).append (selsFlat_peq s xs p q h)
end

theorem fieldType_of_ne {s : Schema} {p : Option String} {n : String} (h : n ≠ "__typename") :
    Spec.fieldType s p n = s.fieldDef p n := by
  have : (n == "__typename") = false := by simpa using h
  simp [Spec.fieldType, this]

mutual
theorem Sel.visits_peq (s : Schema) : ∀ (x : Sel) (p q : Option String), PEq s q p →
    (∀ a ∈ x.flat s q, a.node.name ≠ "__typename") →
    (∀ t ∈ x.typedSets s q, ∀ a ∈ selsFlat s t.1 t.2.sels, a.node.name ≠ "__typename") →
    ∀ v ∈ x.visits s p q, PEq s v.2.1 v.1
  | .field id al name args st hasSub subId sub, p, q, hp, h1, h2, v, hv => by
    cases hasSub with
    | false => simp [Sel.visits] at hv
    | true =>
      have hnm : name ≠ "__typename" :=
        h1 ⟨q, ⟨id, al, name, args, st, true, subId, sub⟩⟩ (by simp [Sel.flat])
      -- `TypeInfo` looks the field up in the parent's field table, the specification also knows
      -- `__typename`: the same for any other name
      have hpc : PEq s ((Spec.fieldType s q name).map Ty.named)
          (compositeOrNone s ((s.fieldDef p name).map Ty.named)) := by
        rw [fieldType_of_ne hnm, hp.fieldDef]; exact (cON_idem _ _).symm
      simp only [Sel.visits, if_true, List.mem_cons] at hv
      rcases hv with rfl | hv
      · exact hpc
      · exact selsVisits_peq s sub _ _ hpc
          (h2 ((Spec.fieldType s q name).map Ty.named, ⟨subId, sub⟩) List.mem_cons_self)
          (fun t ht => h2 t (List.mem_cons_of_mem _ ht)) v hv
  | .inline tc ssId sels, p, q, hp, h1, h2, v, hv => by
    have key : ∀ p' q', PEq s q' p' → (∀ a ∈ selsFlat s q' sels, a.node.name ≠ "__typename") →
        (∀ t ∈ selsTypedSets s q' sels, ∀ a ∈ selsFlat s t.1 t.2.sels,
          a.node.name ≠ "__typename") →
        v = (p', q', ⟨ssId, sels⟩) ∨ v ∈ selsVisits s p' q' sels → PEq s v.2.1 v.1 := by
      rintro p' q' hpc k1 k2 (rfl | hv)
      · exact hpc
      · exact selsVisits_peq s sels _ _ hpc k1 k2 v hv
    simp only [Sel.visits, List.mem_cons] at hv
    cases tc with
    | none =>
      exact key p q hp h1 (fun t ht => h2 t (List.mem_cons_of_mem _ ht)) hv
    | some n =>
      exact key _ _ (cON_idem _ _).symm h1 (fun t ht => h2 t (List.mem_cons_of_mem _ ht)) hv
  | .spread _, p, q, _, _, _, v, hv => by simp [Sel.visits] at hv
theorem selsVisits_peq (s : Schema) : ∀ (xs : List Sel) (p q : Option String), PEq s q p →
    (∀ a ∈ selsFlat s q xs, a.node.name ≠ "__typename") →
    (∀ t ∈ selsTypedSets s q xs, ∀ a ∈ selsFlat s t.1 t.2.sels, a.node.name ≠ "__typename") →
    ∀ v ∈ selsVisits s p q xs, PEq s v.2.1 v.1
  | [], p, q, _, _, _, v, hv => by simp [selsVisits] at hv
  | x :: xs, p, q, hp, h1, h2, v, hv => by
    simp only [selsVisits, List.mem_append] at hv
    rcases hv with hv | hv
    · exact Sel.visits_peq s x p q hp (fun a ha => h1 a (List.mem_append_left _ ha))
        (fun t ht => h2 t (List.mem_append_left _ ht)) v hv
    · exact selsVisits_peq s xs p q hp (fun a ha => h1 a (List.mem_append_right _ ha))
        (fun t ht => h2 t (List.mem_append_right _ ht)) v hv
end

/-- operation roots are object types (or absent), as `schema.get_root_type` guarantees -/
def RootsObject (s : Schema) (d : Doc) : Prop :=
  ∀ df ∈ d, match df with
    | .op root _ => root = none ∨ s.isObject root = true
    | .frag _ => True

/-- every visit of a definition of the document is of one of its typed sets, with `TypeInfo`'s
parent equal to the specification's after normalisation -/
theorem Defn.visits_ok {s : Schema} {d : Doc} (hR : RootsObject s d)
    (hT : ∀ a, DocInst s d a → a.node.name ≠ "__typename") {df : Defn} (hdf : df ∈ d) :
    ∀ v ∈ df.visits s, v.2 ∈ d.typedSets s ∧ PEq s v.2.1 v.1 := by
  intro v hv
  refine ⟨Defn.visits_mem hdf hv, ?_⟩
  have hmem : (df.parent s, df.ss) ∈ d.typedSets s := by
    simp only [Doc.typedSets, List.mem_flatMap, List.mem_cons]
    exact ⟨df, hdf, Or.inl rfl⟩
  have hpc : PEq s (df.parent s) (df.tiParent s) := by
    cases df with
    | op root ss =>
      rcases (hR _ hdf : root = none ∨ s.isObject root = true) with rfl | h
      · simp [PEq, Defn.parent, Defn.tiParent]
      · simp [h, PEq, Defn.parent, Defn.tiParent]
    | frag f => exact (cON_idem _ _).symm
  rcases List.mem_cons.1 hv with rfl | hv
  · exact hpc
  · exact selsVisits_peq s _ _ _ hpc (fun a ha => hT a ⟨_, hmem, ha⟩)
      (fun t ht a ha => hT a ⟨t, Doc.typedSets_closed hmem ht, ha⟩) v hv

theorem Doc.visits_ok {s : Schema} {d : Doc} (hR : RootsObject s d)
    (hT : ∀ a, DocInst s d a → a.node.name ≠ "__typename") :
    ∀ v ∈ d.visits s, v.2 ∈ d.typedSets s ∧ PEq s v.2.1 v.1 := by
  intro v hv
  obtain ⟨df, hdf, hv⟩ := List.mem_flatMap.1 hv
  exact Defn.visits_ok hR hT hdf v hv

end Gql.Exec
