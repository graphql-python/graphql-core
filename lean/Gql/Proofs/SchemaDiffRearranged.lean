import Gql.Types.Sort
import Gql.Proofs.SchemaBuildParts
import Gql.Proofs.Util.Assoc
/-!
C17/C19: `Rearranged` — a list with distinct names and a rearrangement of its images under a
name-preserving map: nothing is removed or added, and the persisted pairs are `(x, g x)`.
-/
namespace Gql.Types
open Gql Gql.Generated

theorem lookupBy_eq {α : Type} (key : α → Str) (n : Str) (l : List α) :
    lookupBy key n l = (l.map fun x => (key x, x)).lookup n := by
  rw [List.lookup_eq_find?, List.find?_map, Option.map_map]; exact Option.map_id'.symm

theorem lookupBy_of_nodup {α : Type} (key : α → Str) (l : List α) (h : (l.map key).Nodup) (x : α) (hx : x ∈ l) :
    lookupBy key (key x) l = some x := by
  rw [lookupBy_eq]
  exact List.lookup_of_mem_nodup (by rwa [List.map_map]) (List.mem_map_of_mem hx)

/-- Nothing is reported removed when every old name is still there (and `addedBy` is `removedBy`
with the sides exchanged). -/
theorem removedBy_nil {α : Type} (key : α → Str) (old new : List α)
    (h : ∀ o ∈ old, ∃ n ∈ new, key n = key o) : removedBy key old new = [] := by
  simpa only [removedBy, lookupBy, List.filter_eq_nil_iff, Option.isNone_iff_eq_none, List.find?_eq_none,
    beq_iff_eq, Classical.not_forall, not_imp, Decidable.not_not, exists_prop] using h

/-- `new` is a rearrangement of `old` with every element replaced by `g` of it (`g` keeps names). -/
structure Rearranged {α : Type} (key : α → Str) (g : α → α) (old new : List α) : Prop where
  perm : new.Perm (old.map g)
  key_g : ∀ x, key (g x) = key x
  nodup : (old.map key).Nodup

theorem Rearranged.lookup {α : Type} {key : α → Str} {g : α → α} {old new : List α}
    (r : Rearranged key g old new) (o : α) (ho : o ∈ old) : lookupBy key (key o) new = some (g o) := by
  have hmem : g o ∈ new := r.perm.mem_iff.mpr (List.mem_map.mpr ⟨o, ho, rfl⟩)
  have hnd : (new.map key).Nodup := by
    rw [(r.perm.map key).nodup_iff]
    simpa [Function.comp_def, r.key_g] using r.nodup
  have := lookupBy_of_nodup key new hnd (g o) hmem
  rwa [r.key_g] at this

theorem Rearranged.removed {α : Type} {key : α → Str} {g : α → α} {old new : List α}
    (r : Rearranged key g old new) : removedBy key old new = [] :=
  removedBy_nil key old new fun o ho => ⟨g o, r.perm.mem_iff.mpr (List.mem_map_of_mem ho), r.key_g o⟩

theorem Rearranged.added {α : Type} {key : α → Str} {g : α → α} {old new : List α}
    (r : Rearranged key g old new) : addedBy key old new = [] :=
  removedBy_nil key new old fun n hn => by
    obtain ⟨o, ho, rfl⟩ := List.mem_map.mp (r.perm.mem_iff.mp hn)
    exact ⟨o, ho, (r.key_g o).symm⟩

theorem Rearranged.persisted_nil {α β : Type} {key : α → Str} {g : α → α} {old new : List α}
    (r : Rearranged key g old new) (f : α × α → List β) (h : ∀ o ∈ old, f (o, g o) = []) :
    (persistedBy key old new).flatMap f = [] := by
  rw [List.flatMap_eq_nil_iff]
  intro p hp
  obtain ⟨o, ho, hop⟩ := List.mem_filterMap.mp hp
  rw [r.lookup o ho] at hop
  cases hop
  exact h o ho

theorem Rearranged.of_perm {α : Type} {key : α → Str} {old new : List α} (h : new.Perm old)
    (hnd : (old.map key).Nodup) : Rearranged key id old new := ⟨by simpa using h, fun _ => rfl, hnd⟩

/-- Name lists (`list_diff` over interfaces / union members): a permutation adds and removes nothing. -/
theorem removedBy_id_perm (old new : List Str) (h : new.Perm old) : removedBy id old new = [] :=
  removedBy_nil id old new fun o ho => ⟨o, h.mem_iff.mpr ho, rfl⟩

theorem addedBy_id_perm (old new : List Str) (h : new.Perm old) : addedBy id old new = [] :=
  removedBy_nil id new old fun n hn => ⟨n, h.mem_iff.mp hn, rfl⟩

theorem safeInputChange_refl (t : TypeRef) : safeInputChange t t = true := by
  induction t with
  | named n => simp [safeInputChange]
  | list t ih => simp [safeInputChange, ih]
  | nonNull t ih => simp [safeInputChange, ih]

theorem safeOutputChange_refl (t : TypeRef) : safeOutputChange t t = true := by
  induction t with
  | named n => simp [safeOutputChange]
  | list t ih => simp [safeOutputChange, ih]
  | nonNull t ih => simp [safeOutputChange, ih]

theorem argPairChanges_self (p d : List Str) (a : Arg) : argPairChanges p d a a = [] := by
  simp [argPairChanges, safeInputChange_refl]
  cases (defaultKey a) <;> simp

end Gql.Types
