import Gql.Proofs.SchemaReach
import Gql.Proofs.SchemaAssemble
/-!
Lemmas for C20: `InputObjectNonNullCircularRefsValidator` — a depth-first search with a
visited set shared between calls — reports an error exactly when some input object reaches itself
through unbreakable references.
-/
namespace Gql.Types
open Gql

/-- the graph of unbreakable references; the validator marks type names -/
def nnGraph (s : RawSchema) : Graph Str where
  key := id
  E := Edge s
  OK := fun _ => True
  Live := fun n => s.isInputObject n = true
  kind := .nonNullCycle
  ok_succ := fun _ => trivial
  live_src := fun e => by
    obtain ⟨fields, o, hl⟩ := edge_source e
    simp [RawSchema.isInputObject, hl]

abbrev NNState.dfs (st : NNState) : Dfs := ⟨st.visited, st.index.map (·.1), st.errs, st.outOfFuel⟩

/-- One field of the loop: a reference to a type on the path is an error, any other unbreakable
reference is followed (`call`, with what is known of it), anything else is skipped. -/
theorem nnField_step (s : RawSchema) (call : Str → NNState → NNState) (tn : Str) (f : InputValue)
    (acc : NNState) {U : List Str} {fuel : Nat} (ho : acc.outOfFuel = false)
    (hready : ∀ m, nonNullInputTarget s f = some m → (nnGraph s).Ready U fuel acc.dfs m)
    (hcall : ∀ m, nonNullInputTarget s f = some m → m ∉ acc.dfs.keys →
      (nnGraph s).Step acc.dfs (call m { acc with path := acc.path ++ [dot tn f.name] }).dfs
        (s.isInputObject m = true →
          Black (call m { acc with path := acc.path ++ [dot tn f.name] }).dfs m)) :
    (nnGraph s).Step acc.dfs (nnField s call tn acc f).dfs
      (∀ x, nonNullInputTarget s f = some x → (nnGraph s).Live x →
        Black (nnField s call tn acc f).dfs ((nnGraph s).key x)) := by
  unfold nnField
  cases htar : nonNullInputTarget s f with
  | none => exact .refl ho (by simp)
  | some m =>
    simp only
    cases hfind : List.find? (fun e => e.1 == m) acc.index with
    | some e =>
      obtain ⟨_, _, rfl, hcyc⟩ := (hready m htar).path m (mem_keys_of_find hfind)
      exact .err rfl rfl ho rfl trivial (target_isInputObject htar) fun _ => hcyc
    | none =>
      refine (hcall m htar (not_mem_keys_of_find hfind)).imp fun h x hx _ => ?_
      obtain rfl := Option.some.inj hx
      exact h (target_isInputObject htar)

theorem nnCall_step (s : RawSchema) : ∀ (fuel : Nat) (tn : Str) (st : NNState),
    (nnGraph s).Ready (s.types.map (·.name)) fuel st.dfs tn → tn ∉ st.dfs.keys →
    (nnGraph s).Step st.dfs (nnCall s fuel tn st).dfs
      (s.isInputObject tn = true → Black (nnCall s fuel tn st).dfs tn)
  | 0, _, _, h, _ => absurd h.fuel (Nat.not_lt_zero _)
  | fuel + 1, tn, st, hpre, htn => by
    unfold nnCall
    by_cases hv : st.visited.contains tn = true
    · simp only [hv, ↓reduceIte]
      exact .refl hpre.oof fun _ => ⟨by simpa using hv, htn⟩
    · simp only [hv, Bool.false_eq_true, ↓reduceIte]
      split
      · rename_i fields oneOf hl
        have hlive : s.isInputObject tn = true := by simp [RawSchema.isInputObject, hl]
        generalize ha : fields.foldl _ _ = a
        refine Graph.Step.imp ?_ fun h _ => h
        refine Graph.Step.visit (G := nnGraph s) NNState.dfs (nnField s (nnCall s fuel) tn)
          (nonNullInputTarget s) (n := tn) (items := fields) (a := a)
          hpre hlive (isInputObject_mem_names hlive) (by simpa using hv : tn ∉ st.visited) htn rfl
          (fun x e => (edge_iff hl).mp e)
          (fun f hf acc ho hacc => ?_) ha fun h => congrArg (Dfs.mk _ · _ _) (keys_pop h htn)
        have hready := fun m htar => hacc m ((edge_iff hl).mpr ⟨f, hf, htar⟩)
        exact nnField_step s _ tn f acc ho hready fun m htar hm =>
          nnCall_step s fuel m { acc with path := acc.path ++ [dot tn f.name] } (hready m htar) hm
      · exact .refl hpre.oof fun hi => by
          obtain ⟨fields, o, hl⟩ := isInputObject_lookup hi
          rename_i hne
          exact absurd hl (hne fields o)

/-- one call of the validator from between two types: the path is empty -/
theorem nnCall_step_init (s : RawSchema) (tn : Str) (vis : List Str) :
    (nnGraph s).Step (NNState.dfs ⟨vis, [], [], [], false⟩)
      (nnCall s (nnFuel s) tn ⟨vis, [], [], [], false⟩).dfs
      (s.isInputObject tn = true → Black (nnCall s (nnFuel s) tn ⟨vis, [], [], [], false⟩).dfs tn) :=
  nnCall_step s (nnFuel s) tn ⟨vis, [], [], [], false⟩
    (.of_keys_nil trivial (Nat.lt_of_le_of_lt (Unmarked.count_le _ _) (by simp [nnFuel])) rfl rfl) (by simp)

theorem runNN_terminates (s : RawSchema) (tn : Str) (st : VState) (h : st.outOfFuel = false) :
    (runNN s tn st).2.outOfFuel = false := by
  have : (nnCall s (nnFuel s) tn ⟨st.nnVisited, [], [], [], false⟩).outOfFuel = false :=
    (nnCall_step_init s tn st.nnVisited).oof
  simp [runNN, h, this]

theorem nnThread_spec (s : RawSchema) : ∀ (ts : List NamedType) (vis : List Str),
    (∀ e ∈ nnThread s ts vis, (nnGraph s).CycleErr e) ∧
    (nnThread s ts vis = [] → (nnGraph s).Safe (· ∈ vis) →
      ∀ t ∈ ts, ∀ fs o, t.defn = .input fs o → ¬ RPlus (Edge s) t.name t.name) :=
  Graph.thread_spec (fun a b _ _ h => h) (nnThread s)
    (fun t => ∀ fs o, t.defn = .input fs o → ¬ RPlus (Edge s) t.name t.name)
    (fun _ => rfl) fun ⟨name, defn⟩ ts vis => by
      cases defn with
      | input fs0 o0 =>
        exact ⟨_, rfl, (nnCall_step_init s name vis).imp fun h hs _ _ _ =>
          hs.no_cycle trivial (fun hl => (h hl).1) (.refl name)⟩
      | _ => exact ⟨⟨vis, [], [], false⟩, rfl, .refl rfl (by rintro _ _ _ ⟨⟩)⟩

/-- The unbreakable-cycle family: the non-null circular-reference validator, run over the type map
with its shared visited set, reports nothing exactly when no input object type of the schema
reaches itself through Non-Null (non-list) input-object fields. -/
theorem nnThread_iff (s : RawSchema) :
    nnThread s s.types [] = [] ↔
      ∀ t ∈ s.types, ∀ fs o, t.defn = .input fs o → Spec.noUnbreakableCycle s t.name = true := by
  have hspec := nnThread_spec s s.types []
  constructor
  · intro hnil t ht fs o hdef
    rw [noUnbreakableCycle_iff, reachPlus_iff]
    exact hspec.2 hnil (fun a _ ha => by simp at ha) t ht fs o hdef
  · intro hall
    cases hE : nnThread s s.types [] with
    | nil => rfl
    | cons e es =>
      exfalso
      obtain ⟨_, n, _, hi, rfl, hcyc⟩ := hspec.1 e (by rw [hE]; simp)
      obtain ⟨fields, o, hl⟩ := isInputObject_lookup hi
      obtain ⟨t, ht, hn, hd⟩ := lookup_mem hl
      have := hall t ht fields o hd
      rw [hn, noUnbreakableCycle_iff, reachPlus_iff] at this
      exact this hcyc

end Gql.Types
