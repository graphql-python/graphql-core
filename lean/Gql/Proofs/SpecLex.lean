import Gql.Proofs.LexerGrammar
/-!
# The token-sequence relation of the lexical grammar and the executable tokenizer
-/
open Gql Gql.Text
namespace Gql.Spec.Lex

/-- The token sequence relation of the lexical grammar, from offset `off` on the suffix `s`:
`Ignored* (Token Ignored*)*` then `<EOF>`; every token is the longest match at its position. -/
inductive SpecTokensFrom : Nat → List Nat → List SpecToken → Prop
  | eof (off : Nat) : SpecTokensFrom off [] [⟨.eof, off, off, none⟩]
  | ignored {off : Nat} {s : List Nat} {n : Nat} {ts : List SpecToken} :
      ignoredLen s = some n → SpecTokensFrom (off + n) (s.drop n) ts → SpecTokensFrom off s ts
  | token {off : Nat} {s : List Nat} {m : Match} {ts : List SpecToken} :
      ignoredLen s = none → lexToken? s = some m → 0 < m.len →
      SpecTokensFrom (off + m.len) (s.drop m.len) ts →
      SpecTokensFrom off s (⟨m.kind, off, off + m.len, m.value⟩ :: ts)

def SpecTokens (body : List Nat) (ts : List SpecToken) : Prop := SpecTokensFrom 0 body ts

theorem tokenizeFrom_sound (fuel off : Nat) (s : List Nat) (ts : List SpecToken)
    (h : tokenizeFrom fuel off s = some ts) : SpecTokensFrom off s ts := by
  fun_induction tokenizeFrom fuel off s generalizing ts
  case case1 => cases h; exact .eof _
  case case3 hig ih => exact .ignored hig (ih _ h)
  case case5 hig m hm h0 ts' ht ih => cases h; exact .token hig hm (by omega) (ih _ ht)
  -- in every other branch `tokenizeFrom` fails
  all_goals cases h

theorem lexToken?_nil : lexToken? [] = none := by rfl

theorem tokenizeFrom_complete {off : Nat} {s : List Nat} {ts : List SpecToken}
    (h : SpecTokensFrom off s ts) : ∀ fuel, s.length ≤ fuel → tokenizeFrom fuel off s = some ts := by
  induction h with
  | eof off => intro fuel _; exact Gql.Text.tokenizeFrom_nil fuel off
  | @ignored off s n ts hig _ ih =>
    intro fuel hf
    obtain ⟨hn0, hnl⟩ := ignoredLen_le hig
    cases s with
    | nil => simp at hnl; omega
    | cons c r =>
      obtain ⟨f, rfl⟩ : ∃ f, fuel = f + 1 := ⟨fuel - 1, by simp at hf; omega⟩
      rw [Gql.Text.tokenizeFrom_cons, hig]
      exact ih f (by simp at hf ⊢; omega)
  | @token off s m ts hig hm hlen _ ih =>
    intro fuel hf
    cases s with
    | nil => rw [lexToken?_nil] at hm; simp at hm
    | cons c r =>
      obtain ⟨f, rfl⟩ : ∃ f, fuel = f + 1 := ⟨fuel - 1, by simp at hf; omega⟩
      rw [Gql.Text.tokenizeFrom_cons, hig]
      simp only []
      rw [hm]
      simp only []
      rw [if_neg (by omega), ih f (by simp at hf ⊢; omega)]

theorem specTokenize_iff (body : List Nat) (ts : List SpecToken) :
    specTokenize body = some ts ↔ SpecTokens body ts :=
  ⟨tokenizeFrom_sound _ _ _ _, fun h => tokenizeFrom_complete h _ (Nat.le_refl _)⟩

/-- Kinds and values of a token sequence (spans dropped). -/
def kv (ts : List SpecToken) : List (Kind × Option (List Nat)) := ts.map (fun t => (t.kind, t.value))

/-- A run of `k` code points made of Ignored items at the head of a suffix. -/
inductive IgnoredRun : List Nat → Nat → Prop
  | zero (s : List Nat) : IgnoredRun s 0
  | step {s : List Nat} {n k : Nat} : ignoredLen s = some n → IgnoredRun (s.drop n) k → IgnoredRun s (n + k)

theorem ignoredLen_nil : ignoredLen [] = none := rfl

/-- A leading run of Ignored items is skipped by every derivation, and may be put in front of one. -/
theorem IgnoredRun.tokens_iff {s : List Nat} {k : Nat} (hr : IgnoredRun s k) {off : Nat} {ts : List SpecToken} :
    SpecTokensFrom off s ts ↔ SpecTokensFrom (off + k) (s.drop k) ts := by
  induction hr generalizing off with
  | zero s => simp
  | @step s n k hig _ ih =>
    rw [← Nat.add_assoc, ← List.drop_drop, ← ih]
    refine ⟨fun h => ?_, .ignored hig⟩
    cases h with
    | eof => cases hig
    | ignored hig' hrest => cases hig.symm.trans hig'; exact hrest
    | token hig' _ _ _ => cases hig.symm.trans hig'

theorem SpecTokensFrom.shift {off : Nat} {s : List Nat} {ts : List SpecToken}
    (h : SpecTokensFrom off s ts) : ∀ off', ∃ ts', SpecTokensFrom off' s ts' ∧ kv ts' = kv ts := by
  induction h with
  | eof off => intro off'; exact ⟨_, .eof off', rfl⟩
  | ignored hig _ ih =>
    intro off'
    obtain ⟨ts', h1, h2⟩ := ih (off' + _)
    exact ⟨ts', .ignored hig h1, h2⟩
  | @token off s m ts hig hm hpos _ ih =>
    intro off'
    obtain ⟨ts', h1, h2⟩ := ih (off' + m.len)
    exact ⟨_, .token hig hm hpos h1, by simp [kv] at h2 ⊢; exact h2⟩

end Gql.Spec.Lex
