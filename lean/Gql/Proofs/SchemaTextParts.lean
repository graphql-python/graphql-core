import Gql.Proofs.SchemaTextTrees
import Gql.Proofs.ExecLex
/-!
C17, text level: the parts of `print_schema`'s text lex to the tokens of the translated definitions — descriptions,
deprecation / specifiedBy directives, input values, argument lists, the lines of a block, `print_block`.
-/
namespace Gql.Types.PrintSchema
open Gql Gql.Text Gql.Syntax Gql.Generated

/-- Put behind a token that needs a safe continuation, the text keeps the continuation safe. -/
def SafeStart (b : List Nat) : Prop := ∀ rest, Safe rest → Safe (b ++ rest)

theorem SafeStart.append {a b : List Nat} (ha : SafeStart a) (hb : SafeStart b) : SafeStart (a ++ b) := by
  intro rest hr
  rw [List.append_assoc]
  exact ha _ (hb rest hr)

theorem safeStart_spaces (k : Nat) {b : List Nat} (hb : SafeStart b) : SafeStart (List.replicate k 32 ++ b) := by
  cases k with
  | zero => simpa using hb
  | succ n => rw [List.replicate_succ]; exact fun _ _ => Safe.cons (by decide +kernel)

theorem lx_punct (c : Nat) (k : TokKind) (h : punctKind c = some k) : Lexes true [c] [(k, none)] :=
  (Lexes.punct c k h).weaken true

theorem lx_ign {a b : List Nat} {kb : List KV} (ha : Ignorable a) (hb : Lexes true b kb) :
    Lexes true (a ++ b) kb := by
  simpa using Lexes.append_l (Lexes.ignorable a ha) hb

/-- A part of a line: it lexes to `ks`, and it is empty or begins with a character that may stand directly behind
a name, so that it can follow any text. -/
structure LinePart (x : List Nat) (ks : List KV) : Prop where
  lex : Lexes true x ks
  safe : SafeStart x

theorem LinePart.nil : LinePart [] [] := ⟨Lexes.nil.weaken true, fun _ h => h⟩

theorem LinePart.cons {c : Nat} {r : List Nat} {ks : List KV} (hc : safeHead c = true) (h : Lexes true (c :: r) ks) :
    LinePart (c :: r) ks := ⟨h, fun _ _ => Safe.cons hc⟩

/-- A blank, then a text. -/
theorem LinePart.sp {x : List Nat} {ks : List KV} (h : Lexes true x ks) : LinePart (32 :: x) ks :=
  .cons (by decide +kernel) (lx_ign ign32 h)

/-- The part that is there exactly when `b` is false, against the tokens that are. -/
theorem LinePart.ite {b : Bool} {x : List Nat} {ks : List KV} (h : b = false → LinePart x ks) :
    LinePart (if b then [] else x) (if b then [] else ks) := by
  cases b
  · exact h rfl
  · exact .nil

theorem LinePart.after {a b : List Nat} {ka kb : List KV} (ha : Lexes true a ka) (hb : LinePart b kb) :
    Lexes true (a ++ b) (ka ++ kb) :=
  Lexes.append ha hb.lex (fun _ rest hr => hb.safe rest (hr rfl))

theorem ign_spaces (k : Nat) : Ignorable (List.replicate k 32) := by
  intro c hc; simp at hc; simp [hc.2]

theorem reindent_eq (k : Nat) (x : List Nat) : reindent k x = indentLF k x := by
  induction x with
  | nil => rfl
  | cons c r ih => simp [reindent, indentLF, ih]

theorem printType_eq (t : TypeRef) : printType t = (toTy t).print := by
  induction t with
  | named n => rfl
  | list t ih => simp [printType, toTy, Ty.print, ih]
  | nonNull t ih => simp [printType, toTy, Ty.print, ih]

mutual
  theorem printValue_eq (w : Widths) : ∀ v : Value, printValue w v = Val.print w (toVal v)
    | .int _ | .float _ | .str _ _ | .bool _ | .null | .enum _ | .vnil | .lcons _ _ | .fcons _ _ _ => by
      simp only [printValue, toVal, Val.print]
    | .list items => by simp only [printValue, toVal, Val.print, printItems_eq w items]
    | .obj fields => by simp only [printValue, toVal, Val.print, printObjFields_eq w fields]
  theorem printItems_eq (w : Widths) : ∀ v : Value, printItems w v = Val.printList w (toValList v)
    | .lcons v rest => by
      simp only [printItems, toValList, Val.printList, printValue_eq w v, printItems_eq w rest]
    | .int _ | .float _ | .str _ _ | .bool _ | .null | .enum _ | .list _ | .obj _ | .vnil | .fcons _ _ _ => by
      simp only [printItems, toValList, Val.printList]
  theorem printObjFields_eq (w : Widths) : ∀ v : Value, printObjFields w v = Val.printFields w (toValFields v)
    | .fcons n v rest => by
      simp only [printObjFields, toValFields, Val.printFields, printValue_eq w v, printObjFields_eq w rest]
    | .int _ | .float _ | .str _ _ | .bool _ | .null | .enum _ | .list _ | .obj _ | .vnil | .lcons _ _ => by
      simp only [printObjFields, toValFields, Val.printFields]
end

section
variable (w : Widths) (hw : 4 ≤ w.object)
variable (hT : tableOK Generated.escapeTable = true) (hC : tableComplete Generated.escapeTable = true)
include hw hT hC

/-- `print_description`, at any indentation, first in its block or not. -/
theorem lexes_printDescription (d : Option Str) (h : Exec.descWf (toDesc (descNode d))) (ind : Nat) (first : Bool) :
    Lexes false (printDescription w d ind first) (Exec.descKvs (toDesc (descNode d))) := by
  cases d with
  | none => simpa [printDescription, toDesc, descNode, Exec.descKvs] using Lexes.nil
  | some v =>
    -- the literal is that of the string value `v`, as a block string when it can be one
    have hP := pcV w hw true hT hC (.str v (isPrintableAsBlockString v)) ⟨Pairs.Paired.of_forall_scalar h.1, h.2⟩
    have hpre : Ignorable (if ind ≠ 0 ∧ first = false then 10 :: spaces ind else spaces ind) := by
      split
      · exact ignorable_lf_spaces ind
      · exact ign_spaces ind
    have := Lexes.append_l (Lexes.ignorable _ hpre) (Lexes.append_ign (hP.lex ind) ign10 (by simp))
    simpa [printDescription, reindent_eq, descLiteral, Val.print, Val.kvs, toDesc, descNode, Exec.descKvs,
      List.append_assoc] using this

omit hw hT hC in
/-- ` @name`: a directive application without arguments, as `print_schema` writes it. -/
theorem wrapDirs_noArg (name : List Nat) :
    wrap [32] (Exec.printDirs w [toDir ⟨name, []⟩]) = 32 :: 64 :: name := by
  simp [Exec.printDirs, Exec.printDir, toDir, join, joinWith, wrap, Val.printFields]

omit hw hT hC in
/-- ` @name(arg: "…")`: a directive application with one string argument. -/
theorem wrapDirs_strArg (name arg r : List Nat) :
    wrap [32] (Exec.printDirs w [toDir ⟨name, [(arg, .str r false)]⟩]) =
      32 :: 64 :: (name ++ 40 :: (arg ++ S ": " ++ printString r ++ [41])) := by
  simp [Exec.printDirs, Exec.printDir, toDir, join, joinWith, wrap, Val.printFields, toVal, Val.print, S_colon]

omit hw hT hC in
theorem printDeprecated_eq (r : Option Str) :
    printDeprecated r = wrap [32] (Exec.printDirs w ((deprDirs r).map toDir)) := by
  cases r with
  | none => rfl
  | some r =>
    simp only [printDeprecated, deprDirs]
    split
    · rw [List.map_cons, List.map_nil, wrapDirs_noArg]
      decide +kernel
    · rw [List.map_cons, List.map_nil, wrapDirs_strArg,
        show S " @deprecated(reason: " = 32 :: 64 :: (SchemaConsts.deprecatedName ++ 40 :: (SchemaConsts.reasonArg ++
          S ": ")) from by decide +kernel, show S ")" = [41] from by decide +kernel]
      simp only [List.append_assoc, List.cons_append]

omit hw hT hC in
theorem printSpecifiedBy_eq (u : Option Str) :
    printSpecifiedBy u = wrap [32] (Exec.printDirs w ((specifiedByDirs u).map toDir)) := by
  cases u with
  | none => rfl
  | some u =>
    rw [specifiedByDirs, List.map_cons, List.map_nil, wrapDirs_strArg, printSpecifiedBy,
      show S " @specifiedBy(url: " = 32 :: 64 :: (SchemaConsts.specifiedByName ++ 40 :: (SchemaConsts.urlArg ++
        S ": ")) from by decide +kernel, show S ")" = [41] from by decide +kernel]
    simp only [List.append_assoc, List.cons_append]

/-- ` @dirs` or nothing. -/
theorem lexes_wrapDirs (ds : List Dir) (h : Exec.dirsWfC true ds) :
    LinePart (wrap [32] (Exec.printDirs w ds)) (Exec.dirsKvs ds) := by
  rcases optDirs w hw hT hC true ds h with ⟨h0, hk0⟩ | hP
  · rw [h0, hk0]
    exact .nil
  · rw [wrap_of_ne hP.ne, List.append_nil]
    exact .sp hP.opt.lexes

/-- The input value definition of an argument, without its description. -/
def ivd0 (a : Arg) : VarDef := ⟨none, a.name, toTy a.type, a.default.map toVal, (deprDirs a.depr).map toDir⟩

theorem printInputValue_eq (a : Arg) (hn : a.name ≠ [])
    (hd : ∀ v, a.default = some v → Val.wf true (toVal v)) :
    printInputValue w a = Exec.printIvd w (ivd0 a) := by
  rw [Exec.printIvd, join_space _ _ (by simp [ivd0, hn])]
  simp only [printInputValue, ivd0, Exec.descPre, Exec.descText, printType_eq, printDeprecated_eq w, spaced,
    wrap_wrap_eq]
  cases hdef : a.default with
  | none => simp [Exec.dfltText, wrap]
  | some v =>
    obtain ⟨c, r, hcr⟩ := List.exists_cons_of_ne_nil
      (pcV w hw true hT hC (toVal v) (Val.wfP_of_wf _ _ (hd v hdef))).ne
    simp [Exec.dfltText, wrap, printValue_eq, hcr, S_eq]

theorem lexes_printInputValue (a : Arg) (h : Exec.varDefWf (toVarDef (argToIVD a))) :
    Lexes true (printInputValue w a) (Exec.ivdKvs (ivd0 a)) := by
  obtain ⟨_, hname, hty, hsh, hdf, hds⟩ := h
  have hwf0 : Exec.varDefWf (ivd0 a) := ⟨trivial, hname, hty, hsh, hdf, hds⟩
  have hd : ∀ v, a.default = some v → Val.wf true (toVal v) := by
    intro v hv
    simp only [toVarDef, argToIVD, hv, Option.map_some] at hdf
    exact hdf
  rw [printInputValue_eq w hw hT hC a (validName_ne_nil hname) hd]
  exact (pcIvd w hw hT hC (ivd0 a) hwf0).opt.lexes

omit hw hT hC in
theorem ivdKvs_split (a : Arg) :
    Exec.ivdKvs (toVarDef (argToIVD a)) = Exec.descKvs (toDesc (descNode a.desc)) ++ Exec.ivdKvs (ivd0 a) := by
  simp [Exec.ivdKvs, ivd0, toVarDef, argToIVD, Exec.descKvs]

end


theorem mem_mapFirst {α β : Type} (g : Bool → α → β) (xs : List α) (p : β) (h : p ∈ mapFirst g xs) :
    ∃ b x, x ∈ xs ∧ p = g b x := by
  cases xs with
  | nil => simp [mapFirst] at h
  | cons x r =>
    simp only [mapFirst, List.mem_cons, List.mem_map] at h
    rcases h with rfl | ⟨y, hy, rfl⟩
    · exact ⟨true, x, by simp, rfl⟩
    · exact ⟨false, y, by simp [hy], rfl⟩

theorem mapFirst_fst {α : Type} (t : Bool → α → List Nat) (kv : α → List KV) (xs : List α) :
    (mapFirst (fun b x => (t b x, kv x)) xs).map (·.1) = mapFirst t xs := by
  cases xs <;> simp [mapFirst]

theorem mapFirst_snd {α : Type} (t : Bool → α → List Nat) (kv : α → List KV) (xs : List α) :
    (mapFirst (fun b x => (t b x, kv x)) xs).flatMap (·.2) = xs.flatMap kv := by
  cases xs <;> simp [mapFirst, List.flatMap_cons, List.flatMap_map]

theorem mapFirst_isEmpty {α β : Type} (g : Bool → α → β) (xs : List α) : (mapFirst g xs).isEmpty = xs.isEmpty := by
  cases xs <;> simp [mapFirst]

theorem ignS2 : Ignorable (S "  ") := by
  have : S "  " = List.replicate 2 32 := by decide +kernel
  rw [this]; exact ign_spaces 2

/-- `print_block(items)` of items that lex; `kvs` is the recursive token function of the translated list. -/
theorem lexes_printBlock {α : Type} (t : Bool → α → List Nat) (kv : α → List KV) (kvs : List α → List KV)
    (hnil : kvs [] = []) (hcons : ∀ a r, kvs (a :: r) = kv a ++ kvs r) (xs : List α)
    (h : ∀ b, ∀ x ∈ xs, Lexes true (t b x) (kv x)) :
    LinePart (printBlock (mapFirst t xs)) (Exec.bracketKvs .braceL .braceR (kvs xs) xs.isEmpty) := by
  rw [kvs_eq_flatMap kvs kv hnil hcons, printBlock, mapFirst_isEmpty]
  refine .ite fun _ => ?_
  · have hJ := lexes_joinTexts (mapFirst (fun b x => (t b x, kv x)) xs)
      (by
        intro p hp
        obtain ⟨b, x, hxm, rfl⟩ := mem_mapFirst _ xs p hp
        exact h b x hxm) [10] ign10 (by simp)
    rw [mapFirst_fst, mapFirst_snd] at hJ
    have hB := lexes_bracket 123 125 .braceL .braceR (by decide +kernel) (by decide +kernel) (by decide +kernel) [10] [10] _ _ ign10 ign10 hJ
    have e1 : S " {\n" = 32 :: ([123] ++ [10]) := by decide +kernel
    have e2 : S "\n}" = [10] ++ [125] := by decide +kernel
    simpa [e1, e2] using LinePart.sp hB

theorem lexes_kwName (kw n : List Nat) (hkw : Gql.Text.validName kw = true) (hn : Gql.Text.validName n = true) :
    Lexes true (kw ++ [32] ++ n) [(.name, some kw), (.name, some n)] := by
  have := Lexes.append_l (Lexes.append_ign (Lexes.name kw hkw) ign32 (by simp)) (Lexes.name n hn)
  simpa using this

section
variable (w : Widths) (hw : 4 ≤ w.object)
variable (hT : tableOK Generated.escapeTable = true) (hC : tableComplete Generated.escapeTable = true)
include hw hT hC

theorem lexes_printEnumLine (first : Bool) (v : EnumVal) (h : Exec.evWf (toEVDef (enumValToEVD v))) :
    Lexes true (printEnumLine w first v) (Exec.evKvs (toEVDef (enumValToEVD v))) := by
  obtain ⟨hdesc, hname, _, _, _, hds⟩ := h
  have hd := lexes_printDescription w hw hT hC v.desc hdesc 2 first
  have h2 := lx_ign ignS2 (LinePart.after (Lexes.name v.name hname) (lexes_wrapDirs w hw hT hC _ hds))
  have := Lexes.append_l hd h2
  simpa [printEnumLine, printDeprecated_eq w, Exec.evKvs, toEVDef, enumValToEVD, List.append_assoc] using this

theorem lexes_printInputLine (first : Bool) (a : Arg) (h : Exec.varDefWf (toVarDef (argToIVD a))) :
    Lexes true (printInputLine w first a) (Exec.ivdKvs (toVarDef (argToIVD a))) := by
  have hd := lexes_printDescription w hw hT hC a.desc h.1 2 first
  have h1 := lexes_printInputValue w hw hT hC a h
  have h2 := lx_ign ignS2 h1
  have := Lexes.append_l hd h2
  rw [ivdKvs_split]
  simpa [printInputLine, List.append_assoc] using this

theorem lexes_printArgLine (ind : Nat) (first : Bool) (a : Arg) (h : Exec.varDefWf (toVarDef (argToIVD a))) :
    Lexes true (printArgLine w ind first a) (Exec.ivdKvs (toVarDef (argToIVD a))) := by
  have hd := lexes_printDescription w hw hT hC a.desc h.1 (2 + ind) first
  have h1 := lexes_printInputValue w hw hT hC a h
  have h2 := lx_ign (ign_spaces (2 + ind)) h1
  have := Lexes.append_l hd h2
  rw [ivdKvs_split]
  simpa [printArgLine, spaces, List.append_assoc] using this

/-- `print_args`: nothing, one line, or one argument per line. -/
theorem lexes_printArgs (args : List Arg) (ind : Nat)
    (h : Exec.ivdsWf ((args.map argToIVD).map toVarDef)) :
    LinePart (printArgs w args ind) (Exec.argDefsKvs ((args.map argToIVD).map toVarDef)) := by
  have hwf : ∀ a ∈ args, Exec.varDefWf (toVarDef (argToIVD a)) :=
    fun a ha => h _ (List.mem_map_of_mem (List.mem_map_of_mem ha))
  rw [Exec.argDefsKvs, Exec.bracketKvs, List.isEmpty_map, List.isEmpty_map, printArgs,
    kvs_eq_flatMap Exec.ivdsKvs Exec.ivdKvs rfl (fun _ _ => rfl), List.flatMap_map, List.flatMap_map]
  refine .ite fun _ => ?_
  · split
    · rename_i hall
      have hJ := lexes_joinTexts (args.map (fun a => (printInputValue w a, Exec.ivdKvs (toVarDef (argToIVD a)))))
        (by
          intro p hp
          simp only [List.mem_map] at hp
          obtain ⟨a, ha, rfl⟩ := hp
          have hnone : a.desc = none := by
            have := List.all_eq_true.mp hall a ha
            simpa using this
          have := lexes_printInputValue w hw hT hC a (hwf a ha)
          simpa [ivdKvs_split, hnone, toDesc, descNode, Exec.descKvs] using this)
        [44, 32] (by intro c hc; simp at hc; rcases hc with rfl | rfl <;> simp) (by simp)
      simp only [List.map_map, List.flatMap_map] at hJ
      have hB := lexes_bracket 40 41 .parenL .parenR (by decide +kernel) (by decide +kernel) (by decide +kernel) [] [] _ _
        (by intro c hc; simp at hc) (by intro c hc; simp at hc) hJ
      exact .cons (by decide +kernel) (by simpa [Function.comp_def] using hB)
    · have hJ := lexes_joinTexts (mapFirst (fun b a => (printArgLine w ind b a, Exec.ivdKvs (toVarDef (argToIVD a)))) args)
        (by
          intro p hp
          obtain ⟨b, a, ha, rfl⟩ := mem_mapFirst _ args p hp
          exact lexes_printArgLine w hw hT hC ind b a (hwf a ha)) [10] ign10 (by simp)
      rw [mapFirst_fst, mapFirst_snd] at hJ
      have hB := lexes_bracket 40 41 .parenL .parenR (by decide +kernel) (by decide +kernel) (by decide +kernel) [10]
        (10 :: List.replicate ind 32) _ _ ign10 (ignorable_lf_spaces ind) hJ
      have e1 : S "(\n" = 40 :: [10] := by decide +kernel
      rw [e1]
      exact .cons (by decide +kernel) (by simpa [spaces, List.append_assoc] using hB)

theorem lexes_printFieldLine (first : Bool) (f : Field) (h : Exec.fdWf (toFDef (fieldToFD f))) :
    Lexes true (printFieldLine w first f) (Exec.fdKvs (toFDef (fieldToFD f))) := by
  obtain ⟨hdesc, hname, hargs, hty, _, hds⟩ := h
  have hd := lexes_printDescription w hw hT hC f.desc hdesc 2 first
  have hty' : Lexes true (printType f.type) (toTy f.type).kvs := by rw [printType_eq]; exact Lexes.ty _ hty
  have h3 := LinePart.after (LinePart.after (Lexes.name f.name hname) (lexes_printArgs w hw hT hC f.args 2 hargs))
    (.cons (c := 58) (by decide +kernel) (Lexes.append_l (Lexes.punct 58 .colon (by decide +kernel))
      (lx_ign ign32 (LinePart.after hty' (lexes_wrapDirs w hw hT hC _ hds)))))
  have h4 := lx_ign ignS2 h3
  have := Lexes.append_l hd h4
  simpa [printFieldLine, printDeprecated_eq w, Exec.fdKvs, toFDef, fieldToFD, S_colon, List.append_assoc] using this

end

end Gql.Types.PrintSchema
