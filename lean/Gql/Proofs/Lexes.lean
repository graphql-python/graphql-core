import Gql.Proofs.NumberLex
import Gql.Proofs.TypeTokens
import Gql.Proofs.LexRun
/-!
`Lexes strict text ks`: wherever `text` stands in a source (after any prefix, before any `rest`
— which must be `Safe` when `strict`), the lexer reads from its first character exactly tokens with
the kinds and values `ks` and arrives at its end.  The building blocks of `render_lex`; a `Lexes`
fact about a whole text gives `lexAll` of it (`lexAll_of_lexes`).
-/
namespace Gql.Text

abbrev KV := TokKind × Option (List Nat)

def Lexes (strict : Bool) (text : List Nat) (ks : List KV) : Prop :=
  ∀ (pre rest : List Nat) (fuel : Nat) (st : LexState) (acc : List Token),
    (strict = true → Safe rest) →
    ∃ (toks : List Token) (st' : LexState), toks.map Token.kv = ks ∧
      lexAllAux (pre ++ (text ++ rest)) (fuel + ks.length) st pre.length acc =
        lexAllAux (pre ++ (text ++ rest)) fuel st' (pre.length + text.length) (acc ++ toks)

theorem lexAux_step (body : List Nat) (fuel : Nat) (st st' : LexState) (pos : Nat) (acc : List Token)
    (tok : Token) (h : readNextToken body st pos = .ok (tok, st')) (hk : tok.kind ≠ .eof)
    (hc : tok.kind ≠ .comment) :
    lexAllAux body (fuel + 1) st pos acc = lexAllAux body fuel st' tok.stop (acc ++ [tok]) := by
  rw [lexAllAux]
  simp [h, hk, hc]

theorem Lexes.weaken {text : List Nat} {ks : List KV} (h : Lexes false text ks) (s : Bool) :
    Lexes s text ks := by
  intro pre rest fuel st acc _
  exact h pre rest fuel st acc (by simp)

theorem Lexes.single (strict : Bool) (text : List Nat) (k : TokKind) (v : Option (List Nat))
    (hk : k ≠ .eof) (hc : k ≠ .comment)
    (h : ∀ (pre rest : List Nat) (st : LexState), (strict = true → Safe rest) →
      ∃ tok st', readNextToken (pre ++ (text ++ rest)) st pre.length = .ok (tok, st') ∧
        tok.kind = k ∧ tok.value = v ∧ tok.stop = pre.length + text.length) :
    Lexes strict text [(k, v)] := by
  intro pre rest fuel st acc hs
  obtain ⟨tok, st', hr, h1, h2, h3⟩ := h pre rest st hs
  refine ⟨[tok], st', by simp [Token.kv, h1, h2], ?_⟩
  simp only [List.length_cons, List.length_nil, Nat.zero_add]
  rw [lexAux_step _ fuel st st' pre.length acc tok hr (by rw [h1]; exact hk) (by rw [h1]; exact hc), h3]

/-- Blanks, commas and line feeds between tokens. -/
def Ignorable (text : List Nat) : Prop := ∀ c ∈ text, c = 32 ∨ c = 44 ∨ c = 10

/-- One blank, comma or line feed is one turn of the loop of `read_next_token`. -/
theorem next_ignorable (body : List Nat) (st : LexState) (pos c : Nat) (h0 : body[pos]? = some c)
    (hc : c = 32 ∨ c = 44 ∨ c = 10) :
    ∃ st', readNextToken body st pos = readNextToken body st' (pos + 1) := by
  obtain ⟨hlen, hget⟩ := List.getElem?_eq_some_iff.mp h0
  rw [readNextToken_unfold _ _ _ hlen, hget]
  by_cases h10 : c = 10
  · exact ⟨_, (if_neg (by unfold SkipChar; omega)).trans (if_pos h10)⟩
  · exact ⟨st, if_pos (by unfold SkipChar; omega)⟩

theorem skip_ignorable (text : List Nat) (h : Ignorable text) :
    ∀ (pre rest : List Nat) (st : LexState), ∃ st',
      readNextToken (pre ++ (text ++ rest)) st pre.length =
        readNextToken (pre ++ (text ++ rest)) st' (pre.length + text.length) := by
  induction text with
  | nil => intro pre rest st; exact ⟨st, by simp⟩
  | cons c r ih =>
    intro pre rest st
    obtain ⟨st1, h1⟩ := next_ignorable (pre ++ (c :: r ++ rest)) st pre.length c
      ((getElem?_pre0 pre _).trans rfl) (h c (by simp))
    obtain ⟨st', h'⟩ := ih (fun d hd => h d (by simp [hd])) (pre ++ [c]) rest st1
    refine ⟨st', ?_⟩
    rw [h1, show pre ++ (c :: r ++ rest) = (pre ++ [c]) ++ (r ++ rest) by simp]
    simp only [List.length_append, List.length_cons, List.length_nil, Nat.zero_add] at h' ⊢
    rw [h']; congr 1; omega

theorem lexAllAux_congr_next (body : List Nat) (fuel : Nat) (st st' : LexState) (pos pos' : Nat)
    (acc : List Token) (h : readNextToken body st pos = readNextToken body st' pos') :
    lexAllAux body fuel st pos acc = lexAllAux body fuel st' pos' acc := by
  cases fuel with
  | zero => simp [lexAllAux]
  | succ n => rw [lexAllAux, lexAllAux, h]

theorem Lexes.ignorable (text : List Nat) (h : Ignorable text) : Lexes false text [] := by
  intro pre rest fuel st acc _
  obtain ⟨st', hs⟩ := skip_ignorable text h pre rest st
  exact ⟨[], st', rfl, by simpa using lexAllAux_congr_next _ fuel st st' _ _ acc hs⟩

theorem Lexes.nil : Lexes false [] [] := Lexes.ignorable [] (by intro c hc; simp at hc)

/-- Concatenation: `b` must be a safe continuation of `a` when `a` needs one. -/
theorem Lexes.append {sa sb : Bool} {a b : List Nat} {ka kb : List KV} (ha : Lexes sa a ka)
    (hb : Lexes sb b kb)
    (hsafe : sa = true → ∀ rest, (sb = true → Safe rest) → Safe (b ++ rest)) :
    Lexes sb (a ++ b) (ka ++ kb) := by
  intro pre rest fuel st acc hs
  obtain ⟨t1, st1, hk1, h1⟩ := ha pre (b ++ rest) (fuel + kb.length) st acc (fun h => hsafe h rest hs)
  obtain ⟨t2, st2, hk2, h2⟩ := hb (pre ++ a) rest fuel st1 (acc ++ t1) hs
  refine ⟨t1 ++ t2, st2, by simp [hk1, hk2], ?_⟩
  have e1 : pre ++ (a ++ b ++ rest) = pre ++ (a ++ (b ++ rest)) := by simp
  have e2 : pre ++ (a ++ (b ++ rest)) = (pre ++ a) ++ (b ++ rest) := by simp
  rw [e1, show fuel + (ka ++ kb).length = fuel + kb.length + ka.length by simp; omega, h1, e2]
  simp only [List.length_append] at h2 ⊢
  rw [h2]
  simp [Nat.add_assoc]

theorem safe_append_of_head {b : List Nat} {c : Nat} {r : List Nat} (hb : b = c :: r)
    (hc : safeHead c = true) (rest : List Nat) : Safe (b ++ rest) := by
  subst hb; exact Safe.cons hc

theorem ignorable_safe {sep : List Nat} (h : Ignorable sep) (hne : sep ≠ []) (rest : List Nat) :
    Safe (sep ++ rest) := by
  obtain ⟨c, r, rfl⟩ := List.exists_cons_of_ne_nil hne
  apply Safe.cons
  rcases h c (by simp) with rfl | rfl | rfl <;> decide

theorem Lexes.append_l {sb : Bool} {a b : List Nat} {ka kb : List KV} (ha : Lexes false a ka)
    (hb : Lexes sb b kb) : Lexes sb (a ++ b) (ka ++ kb) :=
  Lexes.append ha hb (by intro h; cases h)

theorem Lexes.append_ign {a sep : List Nat} {ka : List KV} (ha : Lexes true a ka) (hsep : Ignorable sep)
    (hne : sep ≠ []) : Lexes false (a ++ sep) ka := by
  have := Lexes.append ha (Lexes.ignorable sep hsep) (fun _ rest _ => ignorable_safe hsep hne rest)
  simpa using this

theorem lexAllAux_mono (body : List Nat) : ∀ (f : Nat) (st : LexState) (pos : Nat) (acc : List Token)
    (r : LexOut (List Token)), lexAllAux body f st pos acc = r → ¬ r.isCrash →
    ∀ f', f ≤ f' → lexAllAux body f' st pos acc = r := by
  intro f
  induction f with
  | zero => intro st pos acc r h hc; rw [lexAllAux] at h; subst h; simp [Out.isCrash] at hc
  | succ f ih =>
    intro st pos acc r h hc f' hf'
    obtain ⟨g, rfl⟩ : ∃ g, f' = g + 1 := ⟨f' - 1, by omega⟩
    rw [lexAllAux] at h ⊢
    cases hr : readNextToken body st pos with
    | err e => rw [hr] at h; simpa using h
    | crash x => rw [hr] at h; simpa using h
    | ok p =>
      obtain ⟨t, st'⟩ := p
      rw [hr] at h
      simp only [Out.bind_ok] at h ⊢
      by_cases he : t.kind = .eof
      · simpa [he] using h
      · simp only [he, ↓reduceIte] at h ⊢
        by_cases hcm : t.kind = .comment
        · simp only [hcm, ↓reduceIte] at h ⊢
          exact ih st' t.stop acc r h hc g (by omega)
        · simp only [hcm, ↓reduceIte] at h ⊢
          exact ih st' t.stop (acc ++ [t]) r h hc g (by omega)

theorem LexRun.shape {body : List Nat} {fuel : Nat} {st : LexState} {pos : Nat} {ts : List Token}
    (hrun : LexRun body fuel st pos ts) :
    ∃ tks e, ts = tks ++ [e] ∧ (∀ t ∈ tks, t.kind ≠ .eof) ∧ e.kind = .eof := by
  induction hrun with
  | eof _ he => exact ⟨[], _, rfl, by simp, he⟩
  | comment _ _ _ _ ih => exact ih
  | token _ he _ _ ih =>
    obtain ⟨tks, e, rfl, h2, h3⟩ := ih
    exact ⟨_ :: tks, e, rfl, fun x hx => (List.mem_cons.mp hx).elim (fun h => h ▸ he) (h2 x), h3⟩

theorem lexAll_of_lexes' {text : List Nat} {ks : List KV} {s : Bool} (h : Lexes s text ks) :
    ∃ tks e, lexAll text = .ok (tks ++ [e]) ∧ tks.map Token.kv = ks ∧ e.kv = (.eof, none) ∧
      (∀ t ∈ tks, t.kind ≠ .eof) := by
  obtain ⟨toks, st', hkv, heq⟩ := h [] [] (text.length + 2) {} [] (fun _ => Safe.nil)
  simp only [List.nil_append, List.append_nil, List.length_nil, Nat.zero_add] at heq
  rw [lexAllAux, readNextToken_eof text st' _ (Nat.le_refl _)] at heq
  simp only [Out.bind_ok, mkToken, ↓reduceIte, Out.pure_eq] at heq
  -- more fuel than `lexAll` has changes nothing, since `lexAll` does not run out of fuel
  have hall := lexAllAux_mono text _ {} 0 [] (lexAll text) rfl (lexAll_no_crash text)
    (text.length + 2 + ks.length) (by omega)
  rw [heq] at hall
  obtain ⟨_, rfl, hrun⟩ := lexAllAux_run text _ _ _ _ _ heq
  obtain ⟨tks, e, h1, h2, h3⟩ := hrun.shape
  have hlast := List.append_inj' h1 rfl
  obtain ⟨ht, he⟩ := hlast
  simp at he
  subst ht
  exact ⟨toks, _, hall.symm, hkv, rfl, h2⟩

theorem lexAll_of_lexes {text : List Nat} {ks : List KV} {s : Bool} (h : Lexes s text ks) :
    ∃ tks e, lexAll text = .ok (tks ++ [e]) ∧ tks.map Token.kv = ks ∧ e.kind = .eof ∧
      (∀ t ∈ tks, t.kind ≠ .eof) := by
  obtain ⟨tks, e, h1, h2, h3, h4⟩ := lexAll_of_lexes' h
  exact ⟨tks, e, h1, h2, congrArg Prod.fst h3, h4⟩

/-- A text has one token sequence. -/
theorem Lexes.unique {s s' : Bool} {text : List Nat} {ks ks' : List KV} (h : Lexes s text ks) (h' : Lexes s' text ks') :
    ks = ks' := by
  obtain ⟨t1, e1, ha, hk1, _, _⟩ := lexAll_of_lexes' h
  obtain ⟨t2, e2, hb, hk2, _, _⟩ := lexAll_of_lexes' h'
  rw [ha] at hb
  rw [← hk1, ← hk2, (List.append_inj' (Out.ok.inj hb) rfl).1]

end Gql.Text
