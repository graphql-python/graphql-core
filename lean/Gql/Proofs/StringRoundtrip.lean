import Gql.Proofs.LexerString
import Gql.Text.PrintString
/-!
`Paired` (namespace `Gql.Text.Pairs`): texts of Unicode scalar values and of leading surrogates
immediately followed by trailing ones, which the lexer's string loops accept and copy verbatim
(`is_supplementary_code_point`): everything a STRING or BLOCK_STRING token can carry.

C08-1: `print_string` followed by the lexer's `read_string` is the identity on `Paired` texts.
The round trip is a fact about the grammar's
recogniser: `stringRest` reads `translate table s` back as `s` (`stringRest_translate`); it reaches
the lexer's loop through `readStringLoop_agree`.  Everything is parametric in the escape table; the
facts about the concrete table (`Generated.escapeTable`) are decided in `Gql/Props/C08.lean`.
-/
namespace Gql.Text.Pairs

/-- One step: the state says whether a trailing surrogate is due. -/
def pstep (s : Bool) (c : Nat) : Option Bool :=
  if s then (if isTrailSurrogate c then some false else none)
  else if isScalar c then some false
  else if isLeadSurrogate c then some true else none

def prun : Bool → List Nat → Option Bool
  | s, [] => some s
  | s, c :: r =>
    match pstep s c with
    | some s' => prun s' r
    | none => none

/-- Every code point is a Unicode scalar value, or a leading surrogate immediately followed by a
trailing one, or that trailing one. -/
def Paired (l : List Nat) : Prop := prun false l = some false

instance : DecidablePred Paired := fun l => by unfold Paired; exact inferInstance

theorem scalar_not_trail {c : Nat} (h : isScalar c = true) : isTrailSurrogate c = false := by
  unfold isScalar at h; unfold isTrailSurrogate
  simp only [Bool.or_eq_true, Bool.and_eq_true, decide_eq_true_eq] at h
  simp only [Bool.and_eq_false_iff, decide_eq_false_iff_not]
  omega

theorem pstep_scalar {s s' : Bool} {c : Nat} (hc : isScalar c = true) (h : pstep s c = some s') :
    s = false ∧ s' = false := by
  unfold pstep at h
  cases s with
  | true => simp [scalar_not_trail hc] at h
  | false => simp [hc] at h; exact ⟨rfl, h⟩

theorem pstep_false_scalar {c : Nat} (hc : isScalar c = true) : pstep false c = some false := by
  simp [pstep, hc]

theorem prun_append (X Y : List Nat) : ∀ s, prun s (X ++ Y) = (prun s X).bind (fun s' => prun s' Y) := by
  induction X with
  | nil => intro s; rfl
  | cons c X ih =>
    intro s
    simp only [List.cons_append, prun]
    cases pstep s c with
    | none => rfl
    | some s' => exact ih s'

theorem prun_scalar_cons {s : Bool} {c : Nat} {r : List Nat} (hc : isScalar c = true)
    (h : prun s (c :: r) = some false) : s = false ∧ prun false r = some false := by
  simp only [prun] at h
  cases hp : pstep s c with
  | none => rw [hp] at h; simp at h
  | some s' =>
    rw [hp] at h
    obtain ⟨h1, h2⟩ := pstep_scalar hc hp
    subst h1 h2
    exact ⟨rfl, h⟩

theorem Paired.nil : Paired [] := rfl

theorem Paired.cons_scalar {c : Nat} {r : List Nat} (hc : isScalar c = true) (h : Paired r) :
    Paired (c :: r) := by
  unfold Paired at *
  simp only [prun, pstep_false_scalar hc]
  exact h

theorem Paired.tail_of_scalar {c : Nat} {r : List Nat} (hc : isScalar c = true) (h : Paired (c :: r)) :
    Paired r := (prun_scalar_cons hc h).2

theorem Paired.cases {c : Nat} {r : List Nat} (h : Paired (c :: r)) :
    (isScalar c = true ∧ Paired r) ∨
    (∃ b r', r = b :: r' ∧ isScalar c = false ∧ isLeadSurrogate c = true ∧
      isTrailSurrogate b = true ∧ Paired r') := by
  by_cases hc : isScalar c = true
  · exact Or.inl ⟨hc, h.tail_of_scalar hc⟩
  · right
    have hcf : isScalar c = false := by simpa using hc
    unfold Paired at h
    simp only [prun, pstep, hcf] at h
    by_cases hl : isLeadSurrogate c = true
    · simp only [hl] at h
      cases r with
      | nil => simp [prun] at h
      | cons b r' =>
        simp only [prun, pstep] at h
        by_cases ht : isTrailSurrogate b = true
        · simp only [ht] at h
          exact ⟨b, r', rfl, hcf, hl, ht, h⟩
        · simp [ht] at h
    · simp [hl] at h

theorem Paired.append {X Y : List Nat} (hX : Paired X) (hY : Paired Y) : Paired (X ++ Y) := by
  unfold Paired at *
  rw [prun_append, hX]
  exact hY

theorem Paired.of_forall_scalar {X : List Nat} (h : ∀ c ∈ X, isScalar c = true) : Paired X := by
  induction X with
  | nil => rfl
  | cons c X ih => exact Paired.cons_scalar (h c (by simp)) (ih (fun d hd => h d (by simp [hd])))

theorem Paired.pair {a b : Nat} (hs : isScalar a = false) (hl : isLeadSurrogate a = true)
    (ht : isTrailSurrogate b = true) : Paired [a, b] := by
  unfold Paired
  simp [prun, pstep, hs, hl, ht]

/-- Induction over a paired text, one scalar value or one surrogate pair at a time. -/
@[elab_as_elim]
theorem Paired.induct {P : List Nat → Prop} (nil : P [])
    (scalar : ∀ c r, isScalar c = true → Paired r → P r → P (c :: r))
    (pair : ∀ a b r, isLeadSurrogate a = true → isTrailSurrogate b = true → Paired r → P r →
      P (a :: b :: r))
    {v : List Nat} (h : Paired v) : P v := by
  induction hn : v.length using Nat.strongRecOn generalizing v with
  | _ n ih =>
    cases v with
    | nil => exact nil
    | cons c r =>
      rcases h.cases with ⟨hc, hr⟩ | ⟨b, r', rfl, _, hl, ht, hr⟩
      · exact scalar c r hc hr (ih _ (by simp at hn; omega) hr rfl)
      · exact pair c b r' hl ht hr (ih _ (by simp at hn; omega) hr rfl)

end Gql.Text.Pairs

namespace Gql.Text
open Gql.Text.Pairs

theorem getElem?_pre (pre l : List Nat) (i : Nat) : (pre ++ l)[pre.length + i]? = l[i]? := by
  simp [List.getElem?_append_right]

theorem getElem?_pre0 (pre l : List Nat) : (pre ++ l)[pre.length]? = l[0]? := getElem?_pre pre l 0

theorem charAt_append0 (pre l : List Nat) : charAt (pre ++ l) pre.length = l[0]? := getElem?_pre0 pre l

theorem index_of_getElem? {body : List Nat} {pos c : Nat} (h : body[pos]? = some c) :
    pos < body.length ∧ (Out.index body pos : LexOut Nat) = .ok c := by
  have hl : pos < body.length := by
    rcases Nat.lt_or_ge pos body.length with h' | h'
    · exact h'
    · simp [List.getElem?_eq_none h'] at h
  exact ⟨hl, by simp [Out.index, h]⟩

theorem index_append (pre l : List Nat) (c : Nat) (rest : List Nat) (h : l = c :: rest) :
    (Out.index (pre ++ l) pre.length : LexOut Nat) = .ok c :=
  (index_of_getElem? (by rw [getElem?_pre0, h]; rfl)).2

/-- Shape of a table entry the lexer decodes back to `c`: a two-character escape `\x` with
`_ESCAPED_CHARS[x] = c`, or a fixed-width `\uXXXX` whose four hex digits denote `c` (a
non-surrogate BMP code point). -/
def entryOK (c : Nat) (e : List Nat) : Bool :=
  match e with
  | [92, x] => escapedChar (some x) == some c
  | [92, 117, h1, h2, h3, h4] =>
    h1 != 123 && read16 [h1, h2, h3, h4] 0 == some c && decide (c ≤ 0xD7FF)
  | _ => false

def tableOK : List (Nat × List Nat) → Bool
  | [] => true
  | (k, v) :: rest => entryOK k v && tableOK rest

theorem tableOK_lookup {table : List (Nat × List Nat)} (h : tableOK table = true) {c : Nat} {e : List Nat}
    (hl : escapeLookup table c = some e) : entryOK c e = true := by
  induction table with
  | nil => simp [escapeLookup] at hl
  | cons p rest ih =>
    obtain ⟨k, v⟩ := p
    simp only [tableOK, Bool.and_eq_true] at h
    simp only [escapeLookup] at hl
    split at hl
    · rename_i hk
      cases hl; subst hk; exact h.1
    · exact ih h.2 hl

/-- The table escapes everything the lexer cannot read raw inside a quoted string. -/
def tableComplete (table : List (Nat × List Nat)) : Bool :=
  [34, 92, 10, 13].all (fun c => (escapeLookup table c).isSome)

/-- The documented contract of `print_string` ("replaces control characters ... with escape
sequences"): every C0 control (U+0000-U+001F) and DEL / C1 control (U+007F-U+009F) has an entry.  The round
trip does not need it; `Props/C08` decides it for the generated table. -/
def tableCoversControls (table : List (Nat × List Nat)) : Bool :=
  (List.range 32 ++ (List.range 33).map (· + 127)).all (fun c => (escapeLookup table c).isSome)

theorem tableComplete_none {table : List (Nat × List Nat)} (h : tableComplete table = true) {c : Nat}
    (hl : escapeLookup table c = none) : c ≠ 34 ∧ c ≠ 92 ∧ c ≠ 10 ∧ c ≠ 13 := by
  simp only [tableComplete, List.all_cons, List.all_nil, Bool.and_true, Bool.and_eq_true] at h
  refine ⟨?_, ?_, ?_, ?_⟩ <;> intro hc <;> subst hc <;> simp [hl] at h

theorem entryOK_scalar {c : Nat} {e : List Nat} (h : entryOK c e = true) : isScalar c = true := by
  unfold entryOK at h
  split at h
  · rename_i x
    have hx : escapedChar (some x) = some c := by simpa using h
    unfold escapedChar at hx
    split at hx <;> first | (cases hx; decide) | (simp at hx)
  · simp only [Bool.and_eq_true, decide_eq_true_eq] at h
    simp only [isScalar, Bool.or_eq_true, decide_eq_true_eq]
    exact Or.inl h.2
  · simp at h

theorem lookup_none_of_not_scalar {table : List (Nat × List Nat)} (hT : tableOK table = true) {c : Nat}
    (hc : isScalar c = false) : escapeLookup table c = none := by
  cases hl : escapeLookup table c with
  | none => rfl
  | some e => rw [entryOK_scalar (tableOK_lookup hT hl)] at hc; cases hc

section
open Gql.Spec.Lex

theorem stringCharacter?_plain {c : Nat} (r : List Nat) (hs : isScalar c = true)
    (hne : c ≠ 34 ∧ c ≠ 92 ∧ c ≠ 10 ∧ c ≠ 13) : stringCharacter? (c :: r) = some (1, [c]) := by
  obtain ⟨h1, h2, h3, h4⟩ := hne
  simp [stringCharacter?, h1, h2, LineTerm, h3, h4, sourceCharLen, (isScalar_iff c).mp hs]

theorem stringCharacter?_pair {a b : Nat} (r : List Nat) (hl : isLeadSurrogate a = true)
    (ht : isTrailSurrogate b = true) : stringCharacter? (a :: b :: r) = some (2, [a, b]) := by
  have ha : 0xD800 ≤ a ∧ a ≤ 0xDBFF := by simpa [isLeadSurrogate] using hl
  have hb : 0xDC00 ≤ b ∧ b ≤ 0xDFFF := by simpa [isTrailSurrogate] using ht
  simp [stringCharacter?, LineTerm, sourceCharLen, Scalar, LeadSurrogate, TrailSurrogate,
    show a ≠ 92 by omega, show a ≠ 34 by omega, show a ≠ 10 by omega, show a ≠ 13 by omega,
    show ¬ a ≤ 55295 by omega, show ¬ 57344 ≤ a by omega, ha, hb]

/-- A table entry is one escape of the grammar, read back as the code point it stands for. -/
theorem stringCharacter?_entry {c : Nat} {e : List Nat} (tail : List Nat) (h : entryOK c e = true) :
    stringCharacter? (e ++ tail) = some (e.length, [c]) := by
  unfold entryOK at h
  split at h
  · rename_i x
    have hx : escapedCharacter? x = some c := by rw [← escapedChar_eq]; simpa using h
    have hx117 : x ≠ 117 := by rintro rfl; simp [escapedCharacter?] at hx
    simp [stringCharacter?, hx117, hx]
  · rename_i h1 h2 h3 h4
    simp only [Bool.and_eq_true, bne_iff_ne, ne_eq, beq_iff_eq, decide_eq_true_eq] at h
    obtain ⟨⟨hh1, hr⟩, hc⟩ := h
    have h4' : hex4? (h1 :: h2 :: h3 :: h4 :: tail) = some c := by
      rw [← hr, read16_eq]; rfl
    simp [stringCharacter?, hh1, escapedUnicodeFixed?, h4', Scalar, hc]
  · simp at h

theorem translate_append (table : List (Nat × List Nat)) (x r : List Nat) :
    translate table (x ++ r) = translate table x ++ translate table r := by
  induction x with
  | nil => rfl
  | cons c x ih => simp only [List.cons_append, translate, ih, List.append_assoc]

theorem stringRest_cons {x tail v w : List Nat} {n f : Nat}
    (hc : stringCharacter? (x ++ tail) = some (x.length, v)) (hr : stringRest f tail = some (n, w)) :
    stringRest (f + 1) (x ++ tail) = some (x.length + n, v ++ w) := by
  have hq : (x ++ tail).head? ≠ some 34 := fun h => by
    obtain ⟨r, hr⟩ := List.head?_eq_some_iff.mp h
    rw [hr] at hc; simp [stringCharacter?] at hc
  rw [stringRest_succ _ _ hq, hc]
  simp only [List.drop_left]
  rw [hr]; rfl

/-- The grammar reads `translate table s` back as `s`. -/
theorem stringRest_translate (table : List (Nat × List Nat)) (hT : tableOK table = true)
    (hC : tableComplete table = true) (rest : List Nat) {s : List Nat} (hs : Paired s) :
    ∀ fuel, (translate table s).length ≤ fuel →
      stringRest fuel (translate table s ++ 34 :: rest) = some ((translate table s).length + 1, s) := by
  -- one StringCharacter `x` of the value, printed as `translate table x`, in front of the rest
  have step : ∀ {x r : List Nat},
      (∀ tail, stringCharacter? (translate table x ++ tail) = some ((translate table x).length, x)) →
      (∀ fuel, (translate table r).length ≤ fuel →
        stringRest fuel (translate table r ++ 34 :: rest) = some ((translate table r).length + 1, r)) →
      ∀ fuel, (translate table (x ++ r)).length ≤ fuel →
        stringRest fuel (translate table (x ++ r) ++ 34 :: rest) =
          some ((translate table (x ++ r)).length + 1, x ++ r) := by
    intro x r hx ih fuel hf
    have hpos := stringCharacter?_pos (hx [])
    rw [translate_append, List.length_append] at hf ⊢
    obtain ⟨f, rfl⟩ : ∃ f, fuel = f + 1 := ⟨fuel - 1, by omega⟩
    rw [List.append_assoc, stringRest_cons (hx _) (ih f (by omega)), Nat.add_assoc]
  refine Paired.induct ?_ (fun c r hc _ ih => step (x := [c]) (fun tail => ?_) ih)
    (fun a b r hl ht _ ih => step (x := [a, b]) (fun tail => ?_) ih) hs
  · intro fuel _; exact stringRest_quote fuel rest
  · cases hl : escapeLookup table c with
    | none =>
      simp only [translate, hl]
      exact stringCharacter?_plain _ hc (tableComplete_none hC hl)
    | some e =>
      simp only [translate, hl, List.append_nil]
      exact stringCharacter?_entry tail (tableOK_lookup hT hl)
  · have ha : isScalar a = false := by simp [isLeadSurrogate] at hl; simp [isScalar]; omega
    have hb : isScalar b = false := by simp [isTrailSurrogate] at ht; simp [isScalar]; omega
    simp only [translate, lookup_none_of_not_scalar hT ha, lookup_none_of_not_scalar hT hb]
    exact stringCharacter?_pair _ hl ht

/-- The printed string is one string token of the grammar unless a quote follows: otherwise the
text does not open a block string. -/
theorem lexToken?_printString (table : List (Nat × List Nat)) (hT : tableOK table = true)
    (hC : tableComplete table = true) {s : List Nat} (hs : Paired s) (rest : List Nat)
    (hsafe : rest.head? ≠ some 34) :
    lexToken? (printStringWith table s ++ rest) = some ⟨.string, (printStringWith table s).length, some s⟩ := by
  have hr := stringRest_translate table hT hC rest hs (translate table s ++ 34 :: rest).length (by simp)
  have hnt : (translate table s ++ 34 :: rest).take 2 ≠ [34, 34] := by
    intro h
    cases s with
    | nil =>
      cases rest with
      | nil => simp [translate] at h
      | cons c r => exact hsafe (by simpa [translate] using h)
    | cons c r =>
      -- a text that starts with the closing quote has the empty value
      generalize translate table (c :: r) ++ 34 :: rest = X at h hr
      match X, h with
      | 34 :: Y, _ => rw [stringRest_quote] at hr; simp at hr
  rw [show printStringWith table s ++ rest = 34 :: (translate table s ++ 34 :: rest) by simp [printStringWith],
    lexToken?_cons, if_pos rfl, if_neg hnt, string?_not_triple _ hnt, hr]
  simp [printStringWith]

end

theorem readStringLoop_translate_at (table : List (Nat × List Nat)) (hT : tableOK table = true)
    (hC : tableComplete table = true) (body : List Nat) (st : LexState) (start : Nat) (rest : List Nat)
    {s : List Nat} (hs : Paired s) (pos cs : Nat) (acc : List Nat) (hcs : cs ≤ pos)
    (hbody : body.drop pos = translate table s ++ 34 :: rest) :
    readStringLoop body st start pos cs acc =
      .ok (mkToken st .string start (pos + (translate table s).length + 1)
        (some (acc ++ slice body cs pos ++ s))) := by
  have h := readStringLoop_agree body st start (body.length - pos) pos cs acc (Nat.le_refl _) hcs
  rw [hbody, stringRest_translate table hT hC rest hs _
    (by have := congrArg List.length hbody; simp at this; omega)] at h
  exact h

/-- C08-1 for `Paired` strings and an arbitrary well-formed table. -/
theorem printStringWith_roundtrip_paired (table : List (Nat × List Nat)) (hT : tableOK table = true)
    (hC : tableComplete table = true) (s rest : List Nat) (st : LexState) (hs : Paired s) :
    readString (printStringWith table s ++ rest) st 0 =
      .ok (mkToken st .string 0 (printStringWith table s).length (some s)) := by
  unfold readString printStringWith
  rw [readStringLoop_translate_at table hT hC _ st 0 rest hs 1 1 [] (Nat.le_refl _) (by simp), slice_self]
  simp [Nat.add_comm 1]

end Gql.Text
