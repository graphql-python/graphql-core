import Gql.Async.Plan
/-!
Lemmas about `Gql.Async.Plan` (model of build_execution_plan.py): the loop invariant of
`buildExecutionPlan`, and `getFilteredDeferUsageSet` of field details one of which is not deferred
(its characterisation when all are is in `Filtered.lean`).
-/
namespace Gql.Async.Plan

variable {κ : Type} [DecidableEq κ]

theorem dictSet_fresh {α : Type} (k : κ) (v : α) (g : List (κ × α)) (h : k ∉ g.map Prod.fst) :
    dictSet k v g = g ++ [(k, v)] := by
  induction g with
  | nil => rfl
  | cons x rest ih =>
    obtain ⟨k', v'⟩ := x
    simp only [List.map_cons, List.mem_cons, not_or] at h
    have hne : ¬ k' = k := fun e => h.1 e.symm
    simp [dictSet, hne, ih h.2]

/-- all parts: the planned grouped field set first, then the new ones in creation order -/
def parts (plan : ExecutionPlan κ) : List (GroupedFieldSet κ) :=
  plan.groupedFieldSet :: plan.newGroupedFieldSets.map Prod.snd

/-- Loop invariant of `build_execution_plan` after the entries `done` have been processed. -/
structure Inv (filt : FieldDetailsList → DeferUsageSet) (parent : DeferUsageSet)
    (done : GroupedFieldSet κ) (plan : ExecutionPlan κ) : Prop where
  sub_planned : plan.groupedFieldSet.Sublist done
  sub_new : ∀ sg ∈ plan.newGroupedFieldSets, sg.2.Sublist done
  perm : done.Perm (plan.groupedFieldSet ++ (plan.newGroupedFieldSets.map Prod.snd).flatten)
  planned_iff : ∀ e ∈ plan.groupedFieldSet, setEq (filt e.2) parent = true
  new_spec : ∀ sg ∈ plan.newGroupedFieldSets,
    sg.2 ≠ [] ∧ ∀ e ∈ sg.2, setEq sg.1 (filt e.2) = true ∧ setEq (filt e.2) parent = false
  distinct : plan.newGroupedFieldSets.Pairwise (fun a b => setEq a.1 b.1 = false)

omit [DecidableEq κ] in
theorem sublist_keys {g done : GroupedFieldSet κ} (h : g.Sublist done) {k : κ}
    (hk : k ∉ done.map Prod.fst) : k ∉ g.map Prod.fst :=
  fun hin => hk ((h.map Prod.fst).subset hin)

/-- `addToSets` adds the entry to the first set equal to `fs`, or opens the set `fs` for it: what
holds of the old sets, of such a set with the entry added and of the new singleton set holds of
every set afterwards -/
theorem forall_mem_addToSets {Q : DeferUsageSet × GroupedFieldSet κ → Prop} {fs : DeferUsageSet}
    {k : κ} {fdl : FieldDetailsList} (hnew : Q (fs, [(k, fdl)])) :
    ∀ {sets : List (DeferUsageSet × GroupedFieldSet κ)}, (∀ sg ∈ sets, Q sg) →
      (∀ s g, (s, g) ∈ sets → setEq s fs = true → Q (s, dictSet k fdl g)) →
      ∀ sg ∈ addToSets fs k fdl sets, Q sg
  | [], _, _ => by simpa [addToSets] using hnew
  | (s, g) :: rest, hold, hupd => by
    have hrest := fun sg hsg => hold sg (List.mem_cons_of_mem _ hsg)
    by_cases hs : setEq s fs = true
    · simpa [addToSets, hs] using
        ⟨hupd s g List.mem_cons_self hs, fun a b hab => hrest (a, b) hab⟩
    · simpa [addToSets, hs] using ⟨hold _ List.mem_cons_self, fun a b hab =>
        forall_mem_addToSets hnew hrest (fun s g h => hupd s g (List.mem_cons_of_mem _ h)) (a, b) hab⟩

theorem flatten_addToSets (fs : DeferUsageSet) (k : κ) (fdl : FieldDetailsList) :
    ∀ sets : List (DeferUsageSet × GroupedFieldSet κ), (∀ sg ∈ sets, k ∉ sg.2.map Prod.fst) →
      ((addToSets fs k fdl sets).map Prod.snd).flatten.Perm
        ((sets.map Prod.snd).flatten ++ [(k, fdl)])
  | [], _ => .refl _
  | (s, g) :: rest, h => by
    by_cases hs : setEq s fs = true
    · simpa [addToSets, hs, dictSet_fresh k fdl g (h (s, g) List.mem_cons_self)] using
        (List.perm_append_comm (l₁ := [(k, fdl)])).append_left g
    · simpa [addToSets, hs] using
        (flatten_addToSets fs k fdl rest fun sg hsg => h sg (List.mem_cons_of_mem _ hsg)).append_left g

theorem pairwise_addToSets (fs : DeferUsageSet) (k : κ) (fdl : FieldDetailsList) :
    ∀ sets : List (DeferUsageSet × GroupedFieldSet κ),
      sets.Pairwise (fun a b => setEq a.1 b.1 = false) →
      (addToSets fs k fdl sets).Pairwise (fun a b => setEq a.1 b.1 = false)
  | [], _ => by simp [addToSets]
  | (s, g) :: rest, h => by
    obtain ⟨hs1, hrest⟩ := List.pairwise_cons.mp h
    by_cases hs : setEq s fs = true
    · simpa [addToSets, hs] using h
    · simp only [addToSets, hs, Bool.false_eq_true, if_false]
      exact List.pairwise_cons.mpr ⟨forall_mem_addToSets (by simpa using hs) hs1
        fun s' g h _ => hs1 (s', g) h, pairwise_addToSets fs k fdl rest hrest⟩

theorem inv_step (filt : FieldDetailsList → DeferUsageSet) (parent : DeferUsageSet)
    (done : GroupedFieldSet κ) (plan : ExecutionPlan κ) (e : κ × FieldDetailsList)
    (hinv : Inv filt parent done plan) (hk : e.1 ∉ done.map Prod.fst) :
    Inv filt parent (done ++ [e])
      (if setEq (filt e.2) parent then
        { plan with groupedFieldSet := dictSet e.1 e.2 plan.groupedFieldSet }
       else { plan with newGroupedFieldSets := addToSets (filt e.2) e.1 e.2 plan.newGroupedFieldSets }) := by
  obtain ⟨k, fdl⟩ := e
  have hmono : ∀ {l : GroupedFieldSet κ}, l.Sublist done → l.Sublist (done ++ [(k, fdl)]) :=
    fun h => h.trans (List.sublist_append_left _ _)
  have hsnoc : ∀ {l : GroupedFieldSet κ}, l.Sublist done →
      dictSet k fdl l = l ++ [(k, fdl)] ∧ (l ++ [(k, fdl)]).Sublist (done ++ [(k, fdl)]) :=
    fun h => ⟨dictSet_fresh k fdl _ (sublist_keys h hk), h.append (.refl _)⟩
  have hperm := hinv.perm.append_right [(k, fdl)]
  rw [List.append_assoc] at hperm
  by_cases hp : setEq (filt fdl) parent = true
  · simp only [hp, if_true, (hsnoc hinv.sub_planned).1]
    refine ⟨(hsnoc hinv.sub_planned).2, fun sg hsg => hmono (hinv.sub_new sg hsg), ?_,
      List.forall_mem_append.mpr ⟨hinv.planned_iff, List.forall_mem_singleton.mpr hp⟩,
      hinv.new_spec, hinv.distinct⟩
    rw [List.append_assoc]
    exact hperm.trans (List.perm_append_comm.append_left _)
  · have hp' : setEq (filt fdl) parent = false := by simpa using hp
    simp only [hp', Bool.false_eq_true, if_false]
    refine ⟨hmono hinv.sub_planned,
      forall_mem_addToSets (List.sublist_append_right _ _) (fun sg hsg => hmono (hinv.sub_new sg hsg))
        fun s g h _ => (hsnoc (hinv.sub_new _ h)).1 ▸ (hsnoc (hinv.sub_new _ h)).2,
      ?_, hinv.planned_iff,
      forall_mem_addToSets
        ⟨by simp, List.forall_mem_singleton.mpr ⟨by simp [setEq, List.all_eq_true], hp'⟩⟩
        hinv.new_spec fun s g h hs => (hsnoc (hinv.sub_new _ h)).1 ▸ ⟨by simp,
          List.forall_mem_append.mpr ⟨(hinv.new_spec _ h).2, List.forall_mem_singleton.mpr ⟨hs, hp'⟩⟩⟩,
      pairwise_addToSets _ k fdl _ hinv.distinct⟩
    exact hperm.trans ((flatten_addToSets (filt fdl) k fdl _ fun sg hsg =>
      sublist_keys (hinv.sub_new sg hsg) hk).symm.append_left _)

theorem inv_foldl (parentOf : Nat → Option Nat) (fuel : Nat) (parent : DeferUsageSet)
    (rest done : GroupedFieldSet κ) (plan : ExecutionPlan κ)
    (hinv : Inv (getFilteredDeferUsageSet parentOf fuel) parent done plan)
    (hnd : ((done ++ rest).map Prod.fst).Nodup) :
    Inv (getFilteredDeferUsageSet parentOf fuel) parent (done ++ rest)
      (rest.foldl (planStep parentOf fuel parent) plan) := by
  induction rest generalizing done plan with
  | nil => simpa using hinv
  | cons e rest ih =>
    have hk : e.1 ∉ done.map Prod.fst := by
      have := hnd
      simp only [List.map_append, List.map_cons] at this
      have h2 := (List.nodup_append.mp this).2.2
      intro hin
      exact h2 e.1 hin e.1 (by simp) rfl
    have hstep := inv_step (getFilteredDeferUsageSet parentOf fuel) parent done plan e hinv hk
    have := ih (done ++ [e]) _ hstep (by simpa [List.append_assoc] using hnd)
    simpa [List.foldl_cons, planStep, List.append_assoc] using this

omit [DecidableEq κ] in
theorem inv_nil (filt : FieldDetailsList → DeferUsageSet) (parent : DeferUsageSet) :
    Inv (κ := κ) filt parent [] { groupedFieldSet := [], newGroupedFieldSets := [] } :=
  ⟨List.Sublist.refl _, by simp, by simp, by simp, by simp, by simp⟩

theorem build_inv (parentOf : Nat → Option Nat) (fuel : Nat) (parent : DeferUsageSet)
    (orig : GroupedFieldSet κ) (hnd : (orig.map Prod.fst).Nodup) :
    Inv (getFilteredDeferUsageSet parentOf fuel) parent orig
      (buildExecutionPlan parentOf fuel orig parent) := by
  have := inv_foldl parentOf fuel parent orig [] _ (inv_nil _ parent) (by simpa using hnd)
  simpa [buildExecutionPlan] using this

omit [DecidableEq κ] in
theorem filtered_nondeferred (parentOf : Nat → Option Nat) (fuel : Nat) (fdl : FieldDetailsList)
    (h : ∃ fd ∈ fdl, fd.deferUsage = none) : getFilteredDeferUsageSet parentOf fuel fdl = [] := by
  have : ∀ acc, collectUsages fdl acc = none := by
    induction fdl with
    | nil => simp at h
    | cons x rest ih =>
      intro acc
      cases hx : x.deferUsage with
      | none => simp [collectUsages, hx]
      | some d =>
        obtain ⟨fd, hfd, hn⟩ := h
        rcases List.mem_cons.mp hfd with rfl | hin
        · rw [hx] at hn; cases hn
        · simpa [collectUsages, hx] using ih ⟨fd, hin, hn⟩ _
  simp [getFilteredDeferUsageSet, this]

end Gql.Async.Plan
