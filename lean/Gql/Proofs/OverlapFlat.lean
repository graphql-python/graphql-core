import Gql.Proofs.OverlapClosure
import Gql.Exec.SpecMerge
import Gql.Proofs.OverlapStep
/-! C14: the flat list of field instances of a selection set (fragment spreads not looked
through), the typed selection sets of a document, how the specification's definitions read on
them, and the visitor as a loop over them; the hypotheses `NoSpreads` / `LeafNoSub`, and elementary
facts about the specification's pairs and reachability. -/
namespace Gql.Exec
open Overlap

mutual
def Sel.flat (s : Schema) (p : Option String) : Sel → List Spec.FieldInst
  | .field id al name args st hasSub subId sub => [⟨p, ⟨id, al, name, args, st, hasSub, subId, sub⟩⟩]
  | .inline tc _ sels =>
    selsFlat s (match tc with | some n => s.typeFromAst n | none => p) sels
  | .spread _ => []
def selsFlat (s : Schema) (p : Option String) : List Sel → List Spec.FieldInst
  | [] => []
  | x :: xs => x.flat s p ++ selsFlat s p xs
end

mutual
theorem Sel.flat_nodes (s : Schema) : ∀ (x : Sel) (p : Option String),
    (x.flat s p).map (·.node) = x.fields
  | .field .., p => by simp [Sel.flat, Sel.fields]
  | .inline tc _ sels, p => by simpa [Sel.flat, Sel.fields] using selsFlat_nodes s sels _
  | .spread _, p => by simp [Sel.flat, Sel.fields]
theorem selsFlat_nodes (s : Schema) : ∀ (xs : List Sel) (p : Option String),
    (selsFlat s p xs).map (·.node) = selsFields xs
  | [], p => by simp [selsFlat, selsFields]
  | x :: xs, p => by
    simp [selsFlat, selsFields, Sel.flat_nodes s x p, selsFlat_nodes s xs p]
end

theorem node_mem_of_flat {s : Schema} {p : Option String} {xs : List Sel} {a : Spec.FieldInst}
    (h : a ∈ selsFlat s p xs) : a.node ∈ selsFields xs := by
  rw [← selsFlat_nodes s xs p]; exact List.mem_map.2 ⟨a, h, rfl⟩

mutual
theorem expandSel_nospread (s : Schema) (d : Doc) (rec : Spec.Expander) :
    ∀ (x : Sel) (p : Option String) (vis : List String), x.spreadNames = [] →
      Spec.expandSel s d rec p x vis = (x.flat s p, vis)
  | .field .., p, vis, _ => by simp [Spec.expandSel, Sel.flat]
  | .inline tc _ sels, p, vis, h => by
    have h' : selsSpreadNames sels = [] := by simpa [Sel.spreadNames] using h
    cases tc <;> simp only [Spec.expandSel, Sel.flat] <;>
      exact expandSels_nospread s d rec sels _ vis h'
  | .spread n, p, vis, h => by simp [Sel.spreadNames] at h
theorem expandSels_nospread (s : Schema) (d : Doc) (rec : Spec.Expander) :
    ∀ (xs : List Sel) (p : Option String) (vis : List String), selsSpreadNames xs = [] →
      Spec.expandSels s d rec p xs vis = (selsFlat s p xs, vis)
  | [], p, vis, _ => by simp [Spec.expandSels, selsFlat]
  | x :: xs, p, vis, h => by
    simp only [selsSpreadNames, List.append_eq_nil_iff] at h
    simp [Spec.expandSels, selsFlat, expandSel_nospread s d rec x p vis h.1,
      expandSels_nospread s d rec xs p vis h.2]
end

/-- the type a field's sub-selection is selected on -/
def subP (s : Schema) (a : Spec.FieldInst) : Option String :=
  (Spec.fieldType s a.parent a.node.name).map Ty.named

mutual
def Sel.typedSets (s : Schema) (p : Option String) : Sel → List (Option String × SelSet)
  | .field _ _ name _ _ hasSub subId sub =>
    if hasSub then
      ((Spec.fieldType s p name).map Ty.named, ⟨subId, sub⟩) ::
        selsTypedSets s ((Spec.fieldType s p name).map Ty.named) sub
    else []
  | .inline tc ssId sels =>
    ((match tc with | some n => s.typeFromAst n | none => p), ⟨ssId, sels⟩) ::
      selsTypedSets s (match tc with | some n => s.typeFromAst n | none => p) sels
  | .spread _ => []
def selsTypedSets (s : Schema) (p : Option String) : List Sel → List (Option String × SelSet)
  | [] => []
  | x :: xs => x.typedSets s p ++ selsTypedSets s p xs
end

def Defn.parent (s : Schema) : Defn → Option String
  | .op root _ => root
  | .frag f => s.typeFromAst f.typeCond

def Doc.typedSets (s : Schema) (d : Doc) : List (Option String × SelSet) :=
  d.flatMap (fun df => (df.parent s, df.ss) :: selsTypedSets s (df.parent s) df.ss.sels)

mutual
theorem Sel.typedSets_spec (s : Schema) : ∀ (x : Sel) (p : Option String),
    (x.typedSets s p).map (fun t => (t.1, t.2.sels)) = Spec.setsOfSel s p x
  | .field _ _ name _ _ hasSub subId sub, p => by
    cases hasSub
    · simp [Sel.typedSets, Spec.setsOfSel]
    · simp [Sel.typedSets, Spec.setsOfSel, selsTypedSets_spec s sub _]
  | .inline tc ssId sels, p => by
    cases tc <;> simp [Sel.typedSets, Spec.setsOfSel, selsTypedSets_spec s sels _]
  | .spread _, p => by simp [Sel.typedSets, Spec.setsOfSel]
theorem selsTypedSets_spec (s : Schema) : ∀ (xs : List Sel) (p : Option String),
    (selsTypedSets s p xs).map (fun t => (t.1, t.2.sels)) = Spec.setsOfSels s p xs
  | [], p => by simp [selsTypedSets, Spec.setsOfSels]
  | x :: xs, p => by
    simp [selsTypedSets, Spec.setsOfSels, Sel.typedSets_spec s x p, selsTypedSets_spec s xs p]
end

theorem Doc.typedSets_spec (s : Schema) (d : Doc) :
    (d.typedSets s).map (fun t => (t.1, t.2.sels)) = Spec.allSets s d := by
  rw [Doc.typedSets, List.map_flatMap]
  refine congrArg d.flatMap (funext fun df => ?_)
  cases df <;> simp [Defn.parent, Defn.ss, selsTypedSets_spec]

/-! `visitSel` / `visitDefn` run `find_conflicts_within_selection_set` on every selection set they
enter, in order.  A visit is `(p, q, ss)`: `p` is `TypeInfo`'s parent type (what the rule is
called with), `q` the type the specification selects `ss` on. -/

abbrev Visit := Option String × Option String × SelSet

mutual
def Sel.visits (s : Schema) (p q : Option String) : Sel → List Visit
  | .field _ _ name _ _ hasSub subId sub =>
    if hasSub then
      (compositeOrNone s ((s.fieldDef p name).map Ty.named),
          (Spec.fieldType s q name).map Ty.named, ⟨subId, sub⟩) ::
        selsVisits s (compositeOrNone s ((s.fieldDef p name).map Ty.named))
          ((Spec.fieldType s q name).map Ty.named) sub
    else []
  | .inline tc ssId sels =>
    ((match tc with | some n => compositeOrNone s (s.typeFromAst n) | none => p),
        (match tc with | some n => s.typeFromAst n | none => q), ⟨ssId, sels⟩) ::
      selsVisits s (match tc with | some n => compositeOrNone s (s.typeFromAst n) | none => p)
        (match tc with | some n => s.typeFromAst n | none => q) sels
  | .spread _ => []
def selsVisits (s : Schema) (p q : Option String) : List Sel → List Visit
  | [] => []
  | x :: xs => x.visits s p q ++ selsVisits s p q xs
end

/-- `TypeInfo`'s parent type for the selection set of a definition -/
def Defn.tiParent (s : Schema) : Defn → Option String
  | .op root _ => if s.isObject root then root else none
  | .frag f => compositeOrNone s (s.typeFromAst f.typeCond)

def Defn.visits (s : Schema) (df : Defn) : List Visit :=
  (df.tiParent s, df.parent s, df.ss) :: selsVisits s (df.tiParent s) (df.parent s) df.ss.sels

abbrev visitStep (env : Env) (n : Nat) (v : Visit) : St → Res :=
  findConflictsWithinSelectionSet env n v.1 v.2.2

mutual
theorem visitSel_eq (env : Env) (n : Nat) : ∀ (x : Sel) (p q : Option String),
    visitSel env n p x = forEach (x.visits env.s p q) (visitStep env n)
  | .field _ _ name _ _ hasSub subId sub, p, q => by
    funext σ
    cases hasSub
    · rfl
    · simp only [visitSel, Sel.visits, if_true, forEach_cons,
        visitSels_eq env n sub _ ((Spec.fieldType env.s q name).map Ty.named)]
  | .inline tc ssId sels, p, q => by
    funext σ
    simp only [visitSel, Sel.visits, forEach_cons,
      visitSels_eq env n sels _ (match tc with | some n => env.s.typeFromAst n | none => q)]
    rfl
  | .spread _, p, q => rfl
theorem visitSels_eq (env : Env) (n : Nat) : ∀ (xs : List Sel) (p q : Option String),
    visitSels env n p xs = forEach (selsVisits env.s p q xs) (visitStep env n)
  | [], p, q => rfl
  | x :: xs, p, q => by
    funext σ
    simp only [visitSels, selsVisits, forEach_append, visitSel_eq env n x p q,
      visitSels_eq env n xs p q]
end

theorem visitDefn_eq (env : Env) (n : Nat) (df : Defn) :
    visitDefn env n df = forEach (df.visits env.s) (visitStep env n) := by
  funext σ
  cases df with
  | op root ss =>
    simp only [visitDefn, Defn.visits, Defn.tiParent, Defn.parent, Defn.ss, forEach_cons,
      visitSels_eq env n ss.sels _ root]
  | frag f =>
    simp only [visitDefn, Defn.visits, Defn.tiParent, Defn.parent, Defn.ss, forEach_cons,
      visitSels_eq env n f.ss.sels _ (env.s.typeFromAst f.typeCond)]

mutual
theorem Sel.visits_typed (s : Schema) : ∀ (x : Sel) (p q : Option String),
    (x.visits s p q).map (·.2) = x.typedSets s q
  | .field _ _ name _ _ hasSub subId sub, p, q => by
    cases hasSub
    · rfl
    · simp [Sel.visits, Sel.typedSets, selsVisits_typed s sub _ _]
  | .inline tc ssId sels, p, q => by
    cases tc <;> simp [Sel.visits, Sel.typedSets, selsVisits_typed s sels _ _]
  | .spread _, p, q => rfl
theorem selsVisits_typed (s : Schema) : ∀ (xs : List Sel) (p q : Option String),
    (selsVisits s p q xs).map (·.2) = selsTypedSets s q xs
  | [], p, q => rfl
  | x :: xs, p, q => by
    simp [selsVisits, selsTypedSets, Sel.visits_typed s x p q, selsVisits_typed s xs p q]
end

theorem Defn.visits_typed (s : Schema) (df : Defn) :
    (df.visits s).map (·.2) = (df.parent s, df.ss) :: selsTypedSets s (df.parent s) df.ss.sels := by
  simp [Defn.visits, selsVisits_typed]

theorem Defn.visits_mem {s : Schema} {d : Doc} {df : Defn} {v : Visit} (hdf : df ∈ d)
    (hv : v ∈ df.visits s) : v.2 ∈ d.typedSets s := by
  simp only [Doc.typedSets, List.mem_flatMap]
  exact ⟨df, hdf, by rw [← Defn.visits_typed]; exact List.mem_map_of_mem hv⟩

def Doc.visits (s : Schema) (d : Doc) : List Visit := d.flatMap (Defn.visits s)

theorem visitDoc_eq (env : Env) (n : Nat) :
    forEach env.d (visitDefn env n) = forEach (env.d.visits env.s) (visitStep env n) := by
  rw [Doc.visits, forEach_flatMap, funext (visitDefn_eq env n)]

theorem Doc.visits_typed (s : Schema) (d : Doc) : (d.visits s).map (·.2) = d.typedSets s := by
  simp only [Doc.visits, Doc.typedSets, List.map_flatMap, Defn.visits_typed]

mutual
theorem Sel.flat_sub_typed (s : Schema) : ∀ (x : Sel) (p : Option String) (a : Spec.FieldInst),
    a ∈ x.flat s p → a.node.hasSub = true → (subP s a, a.node.subSet) ∈ x.typedSets s p
  | .field id al name args st hasSub subId sub, p, a, h, hs => by
    simp only [Sel.flat, List.mem_singleton] at h
    subst h
    simp only at hs
    simp [Sel.typedSets, hs, subP, FieldNode.subSet]
  | .inline tc ssId sels, p, a, h, hs => by
    simp only [Sel.flat] at h
    have := selsFlat_sub_typed s sels _ a h hs
    simp only [Sel.typedSets, List.mem_cons]
    exact Or.inr this
  | .spread _, p, a, h, _ => by simp [Sel.flat] at h
theorem selsFlat_sub_typed (s : Schema) : ∀ (xs : List Sel) (p : Option String)
    (a : Spec.FieldInst), a ∈ selsFlat s p xs → a.node.hasSub = true →
      (subP s a, a.node.subSet) ∈ selsTypedSets s p xs
  | [], p, a, h, _ => by simp [selsFlat] at h
  | x :: xs, p, a, h, hs => by
    simp only [selsFlat, List.mem_append] at h
    simp only [selsTypedSets, List.mem_append]
    rcases h with h | h
    · exact Or.inl (Sel.flat_sub_typed s x p a h hs)
    · exact Or.inr (selsFlat_sub_typed s xs p a h hs)
end

mutual
theorem Sel.typedSets_facts (s : Schema) : ∀ (x : Sel) (p : Option String)
    (t : Option String × SelSet), t ∈ x.typedSets s p →
      selsTypedSets s t.1 t.2.sels ⊆ x.typedSets s p ∧ t.2 ∈ x.subSets
  | .field id al name args st hasSub subId sub, p, t, h => by
    cases hasSub with
    | false => simp [Sel.typedSets] at h
    | true =>
      simp only [Sel.typedSets, if_true, List.mem_cons] at h
      simp only [Sel.typedSets, Sel.subSets, if_true]
      rcases h with rfl | h
      · exact ⟨List.subset_cons_self _ _, List.mem_cons_self⟩
      · obtain ⟨h1, h2⟩ := selsTypedSets_facts s sub _ t h
        exact ⟨List.subset_cons_of_subset _ h1, List.mem_cons_of_mem _ h2⟩
  | .inline tc ssId sels, p, t, h => by
    simp only [Sel.typedSets, List.mem_cons] at h
    simp only [Sel.typedSets, Sel.subSets]
    rcases h with rfl | h
    · exact ⟨List.subset_cons_self _ _, List.mem_cons_self⟩
    · obtain ⟨h1, h2⟩ := selsTypedSets_facts s sels _ t h
      exact ⟨List.subset_cons_of_subset _ h1, List.mem_cons_of_mem _ h2⟩
  | .spread _, p, t, h => by simp [Sel.typedSets] at h
theorem selsTypedSets_facts (s : Schema) : ∀ (xs : List Sel) (p : Option String)
    (t : Option String × SelSet), t ∈ selsTypedSets s p xs →
      selsTypedSets s t.1 t.2.sels ⊆ selsTypedSets s p xs ∧ t.2 ∈ selsSubSets xs
  | [], p, t, h => by simp [selsTypedSets] at h
  | x :: xs, p, t, h => by
    simp only [selsTypedSets, List.mem_append] at h
    simp only [selsTypedSets, selsSubSets]
    rcases h with h | h
    · obtain ⟨h1, h2⟩ := Sel.typedSets_facts s x p t h
      exact ⟨List.subset_append_of_subset_left _ h1, List.mem_append_left _ h2⟩
    · obtain ⟨h1, h2⟩ := selsTypedSets_facts s xs p t h
      exact ⟨List.subset_append_of_subset_right _ h1, List.mem_append_right _ h2⟩
end

theorem Doc.mem_typedSets {s : Schema} {d : Doc} {t : Option String × SelSet}
    (h : t ∈ d.typedSets s) :
    ∃ df ∈ d, t = (df.parent s, df.ss) ∨ t ∈ selsTypedSets s (df.parent s) df.ss.sels := by
  simp only [Doc.typedSets, List.mem_flatMap, List.mem_cons] at h
  exact h

theorem Doc.typedSets_closed {s : Schema} {d : Doc} {t : Option String × SelSet}
    (h : t ∈ d.typedSets s) : selsTypedSets s t.1 t.2.sels ⊆ d.typedSets s := by
  obtain ⟨df, hdf, h⟩ := Doc.mem_typedSets h
  intro u hu
  simp only [Doc.typedSets, List.mem_flatMap, List.mem_cons]
  refine ⟨df, hdf, Or.inr ?_⟩
  rcases h with rfl | h
  · exact hu
  · exact (selsTypedSets_facts s _ _ t h).1 hu

theorem Doc.typedSets_allSets {s : Schema} {d : Doc} {t : Option String × SelSet}
    (h : t ∈ d.typedSets s) : t.2 ∈ d.allSets := by
  obtain ⟨df, hdf, h⟩ := Doc.mem_typedSets h
  simp only [Doc.allSets, List.mem_flatMap, List.mem_cons]
  refine ⟨df, hdf, ?_⟩
  rcases h with rfl | h
  · exact Or.inl rfl
  · exact Or.inr (selsTypedSets_facts s _ _ t h).2

theorem Doc.typedSets_spreads {s : Schema} {d : Doc} {t : Option String × SelSet}
    (h : t ∈ d.typedSets s) : selsDirectSpreads t.2.sels ⊆ d.spreadNames :=
  Doc.allSets_spreads (Doc.typedSets_allSets h)

/-- a field instance of the document: a member of the flat list of one of its typed sets -/
def DocInst (s : Schema) (d : Doc) (a : Spec.FieldInst) : Prop :=
  ∃ t ∈ d.typedSets s, a ∈ selsFlat s t.1 t.2.sels

theorem DocInst.sub {s : Schema} {d : Doc} {a : Spec.FieldInst} (h : DocInst s d a)
    (hs : a.node.hasSub = true) : (subP s a, a.node.subSet) ∈ d.typedSets s := by
  obtain ⟨t, ht, ha⟩ := h
  exact Doc.typedSets_closed ht (selsFlat_sub_typed s _ _ a ha hs)

theorem DocInst.depth {s : Schema} {d : Doc} {a : Spec.FieldInst} (h : DocInst s d a) :
    nodeDepth a.node ≤ d.depth := by
  obtain ⟨t, ht, ha⟩ := h
  have h1 := Doc.typedSets_allSets ht
  have := (Doc.node_facts h1 (node_mem_of_flat ha)).2
  have := Doc.allSets_depth h1
  omega

theorem flat_child_depth {s : Schema} {p : Option String} {xs : List Sel} {c : Spec.FieldInst}
    (hc : c ∈ selsFlat s p xs) : nodeDepth c.node ≤ selsDepth xs :=
  (selsFields_facts _ _ (node_mem_of_flat hc)).2

def Doc.NoSpreads (d : Doc) : Prop := d.spreadNames = []

/-- the specification never stops at a scalar/enum pair of which both fields have sub-selections
(the ScalarLeafs rule holds) -/
def LeafNoSub (s : Schema) (d : Doc) : Prop :=
  ∀ st0 ∈ Spec.initStates s d, ∀ st, Spec.Reach s d st0 st →
    Spec.leafStop s st = true → (st.a.node.hasSub && st.b.node.hasSub) = false

theorem Spec.pairsOf_mem {α : Type} {xs : List α} {p : α × α} (h : p ∈ Spec.pairsOf xs) :
    p.1 ∈ xs ∧ p.2 ∈ xs := by
  induction xs with
  | nil => simp [Spec.pairsOf] at h
  | cons x xs ih =>
    simp only [Spec.pairsOf, List.mem_append, List.mem_map] at h
    rcases h with ⟨y, hy, rfl⟩ | h
    · exact ⟨List.mem_cons_self, List.mem_cons_of_mem _ hy⟩
    · exact ⟨List.mem_cons_of_mem _ (ih h).1, List.mem_cons_of_mem _ (ih h).2⟩

theorem pairsOf_eq_spec {α : Type} (xs : List α) : pairsOf xs = Spec.pairsOf xs := by
  induction xs with
  | nil => rfl
  | cons x xs ih => simp [pairsOf, Spec.pairsOf, ih]

/-- steps (B), (C) of `find_conflicts_within_selection_set`: every spread against the fields, every
pair of spreads -/
theorem fieldsFrag_mem_withinTasks {sps : List Spread} {sp : Spread} :
    Task.fieldsFrag sp ∈ withinTasks sps ↔ sp ∈ sps := by
  induction sps with
  | nil => simp [withinTasks]
  | cons x xs ih => simp [withinTasks, ih]

theorem frags_mem_withinTasks {sps : List Spread} {a b : Spread} :
    Task.frags a b ∈ withinTasks sps ↔ (a, b) ∈ Spec.pairsOf sps := by
  induction sps with
  | nil => simp [withinTasks, Spec.pairsOf]
  | cons x xs ih => simp [withinTasks, Spec.pairsOf, ih, eq_comm]

theorem Spec.mem_sameNamePairs {fs : List Spec.FieldInst} {p : Spec.FieldInst × Spec.FieldInst} :
    p ∈ Spec.sameNamePairs fs ↔
      p ∈ Spec.pairsOf fs ∧ p.1.node.responseName = p.2.node.responseName := by
  simp [Spec.sameNamePairs, List.mem_filter]

inductive Spec.ReachN (s : Schema) (d : Doc) : Nat → Spec.State → Spec.State → Prop where
  | refl (st : Spec.State) : Spec.ReachN s d 0 st st
  | step {n : Nat} {a b c : Spec.State} :
      Spec.Step s d a b → Spec.ReachN s d n b c → Spec.ReachN s d (n + 1) a c

theorem Spec.ReachN.toReach {s : Schema} {d : Doc} {n : Nat} {a b : Spec.State}
    (h : Spec.ReachN s d n a b) : Spec.Reach s d a b := by
  induction h with
  | refl st => exact Spec.Reach.refl st
  | step hs _ ih => exact Spec.Reach.step hs ih

theorem Spec.Reach.trans {s : Schema} {d : Doc} {a b c : Spec.State}
    (h1 : Spec.Reach s d a b) (h2 : Spec.Reach s d b c) : Spec.Reach s d a c := by
  induction h1 with
  | refl st => exact h2
  | step hs _ ih => exact Spec.Reach.step hs (ih h2)

end Gql.Exec
