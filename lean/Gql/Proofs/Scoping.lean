import Gql.Values.ValidateInput
import Gql.Proofs.Values
/-!
The variable scoping rule of experimental fragment arguments (C15): what `scopeVars` looks up.
-/
namespace Gql.Values
open Gql

theorem lookup_map_keys {β : Type} (ks : List (List Nat)) (g : List Nat → β) (x : List Nat) :
    (ks.map fun k => (k, g k)).lookup x = if x ∈ ks then some (g x) else none := by
  induction ks with
  | nil => rfl
  | cons k tl ih =>
    rw [List.map_cons, List.lookup_cons, ih]
    cases h : x == k <;> simp_all

/-- The scoping rule: inside a fragment, a name the fragment declares is looked up in the
fragment's coerced values only — it shadows an operation variable of the same name even when the
fragment variable has no value; every other name is an operation variable. -/
theorem varGet_scopeVars (vars : Option VarValues) (fv : FragVarValues) (x : List Nat) :
    varGet (scopeVars vars (some fv)) x = if x ∈ fv.sources then fragLookup fv x else varGet vars x := by
  unfold scopeVars varGet
  simp only [dictGet_eq, List.lookup_append, lookup_map_keys]
  by_cases hx : x ∈ fv.sources
  · simp [hx]
  · cases vars
    · simp [hx]
    · rw [List.lookup_filter_key fun k => !fv.sources.contains k]; simp [hx]

theorem scopeVars_none (vars : Option VarValues) : scopeVars vars none = vars := rfl

/-- validation is static exactly when neither map is given -/
theorem scopeVars_isNone (vars : Option VarValues) (fvars : Option FragVarValues) :
    (scopeVars vars fvars).isNone = (vars.isNone && fvars.isNone) := by
  cases fvars <;> cases vars <;> rfl

end Gql.Values
