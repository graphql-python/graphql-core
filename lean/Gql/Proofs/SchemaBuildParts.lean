import Gql.Types.SchemaAst
/-!
C17/C19: the leaves of the definition round trip (deprecation, specifiedBy, OneOf, descriptions,
arguments, fields, enum values) and `upsert`/`upsertAll` on lists with distinct names.
-/
namespace Gql.Types
open Gql Gql.Generated

theorem lookupArg_single (n : Str) (v : Value) : lookupArg n [(n, v)] = some v := by
  simp [lookupArg]

theorem findDir_head (n : Str) (args : List (Str × Value)) (rest : List DirApp) :
    findDir n (⟨n, args⟩ :: rest) = some ⟨n, args⟩ := by
  simp [findDir, List.find?]

theorem deprecationOf_deprDirs (r : Option Str) : deprecationOf (deprDirs r) = .ok r := by
  cases r with
  | none => simp [deprDirs, deprecationOf, findDir]
  | some r =>
    by_cases h : r = SchemaConsts.defaultDeprecationReason
    · simp [deprDirs, h, deprecationOf, findDir_head, lookupArg]
    · simp [deprDirs, h, deprecationOf, findDir_head, lookupArg_single]

theorem specifiedByOf_dirs (u : Option Str) : specifiedByOf (specifiedByDirs u) = .ok u := by
  cases u with
  | none => simp [specifiedByDirs, specifiedByOf, findDir]
  | some u => simp [specifiedByDirs, specifiedByOf, findDir_head, lookupArg_single]

theorem isOneOf_dirs (o : Bool) :
    isOneOf (if o then [⟨SchemaConsts.oneOfName, []⟩] else []) = o := by
  cases o <;> simp [isOneOf, findDir]

theorem descValue_descNode (d : Option Str) : descValue (descNode d) = d := by
  cases d <;> simp [descValue, descNode]

theorem ivdToArg_argToIVD (a : Arg) : ivdToArg (argToIVD a) = .ok a := by
  simp [ivdToArg, argToIVD, deprecationOf_deprDirs, descValue_descNode]

theorem mapMOut_map_ok {α β : Type} (f : α → B β) (g : β → α) (xs : List β)
    (h : ∀ x ∈ xs, f (g x) = .ok x) : mapMOut f (xs.map g) = .ok xs := by
  induction xs with
  | nil => simp [mapMOut]
  | cons x xs ih =>
    have hx := h x (by simp)
    have hxs := ih (fun y hy => h y (by simp [hy]))
    simp [mapMOut, hx, hxs]

theorem nodupNames_cons (n : Str) (ns : List Str) :
    nodupNames (n :: ns) = (!ns.contains n && nodupNames ns) := by simp [nodupNames]

theorem nodupNames_iff (ns : List Str) : nodupNames ns = true ↔ ns.Nodup := by
  induction ns with
  | nil => simp [nodupNames]
  | cons n ns ih => simp [nodupNames_cons, ih]

theorem upsert_not_mem {α : Type} (key : α → Str) (ys : List α) (x : α)
    (h : ∀ y ∈ ys, key y ≠ key x) : upsert key ys x = ys ++ [x] := by
  induction ys with
  | nil => simp [upsert]
  | cons y ys ih =>
    have hy := h y (by simp)
    simp [upsert, hy, ih (fun z hz => h z (by simp [hz]))]

theorem upsertAll_append {α : Type} (key : α → Str) (xs : List α) :
    ∀ ys : List α, nodupNames (xs.map key) = true → (∀ y ∈ ys, ∀ x ∈ xs, key y ≠ key x) →
      upsertAll key ys xs = ys ++ xs := by
  induction xs with
  | nil => intro ys _ _; simp [upsertAll]
  | cons x xs ih =>
    intro ys hnd hdis
    rw [List.map_cons, nodupNames_iff, List.nodup_cons, ← nodupNames_iff] at hnd
    have h1 : upsert key ys x = ys ++ [x] := upsert_not_mem key ys x (fun y hy => hdis y hy x (by simp))
    rw [show upsertAll key ys (x :: xs) = upsertAll key (upsert key ys x) xs from rfl, h1, ih (ys ++ [x]) hnd.2]
    · simp
    · intro y hy z hz
      rcases List.mem_append.mp hy with hy | hy
      · exact hdis y hy z (by simp [hz])
      · cases List.mem_singleton.mp hy
        exact fun heq => hnd.1 (heq ▸ List.mem_map_of_mem hz)

theorem upsertAll_nil_nodup {α : Type} (key : α → Str) (xs : List α)
    (h : nodupNames (xs.map key) = true) : upsertAll key [] xs = xs := by
  have := upsertAll_append key xs [] h (by simp)
  simpa using this

theorem buildArgs_map (as : List Arg) (h : nodupNames (as.map Arg.name) = true) :
    buildArgs (as.map argToIVD) = .ok as := by
  simp [buildArgs, mapMOut_map_ok ivdToArg argToIVD as (fun a _ => ivdToArg_argToIVD a),
    upsertAll_nil_nodup Arg.name as h]

theorem fdToField_fieldToFD (f : Field) (h : nodupNames (f.args.map Arg.name) = true) :
    fdToField (fieldToFD f) = .ok f := by
  simp [fdToField, fieldToFD, buildArgs_map f.args h, deprecationOf_deprDirs, descValue_descNode]

theorem evdToEnumVal_enumValToEVD (v : EnumVal) : evdToEnumVal (enumValToEVD v) = .ok v := by
  simp [evdToEnumVal, enumValToEVD, deprecationOf_deprDirs, descValue_descNode]

theorem wfType_not_reserved (s : Schema) (t : TypeDef) (h : wfType s t = true) : isReservedType t.name = false := by
  cases t <;> simp_all [wfType, TypeDef.name]

end Gql.Types
