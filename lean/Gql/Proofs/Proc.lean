import Gql.Async.Proc
/-!
Helper lemmas for C03 (`Gql/Props/C03.lean`): the inductive invariant of `Proc`, its
preservation by every transition, progress, the termination measure.

Every transition of `Step` is a transition of one node (`Fire`) at the head of a forest, below a
launched head, or in the later members (`step_ind`); what all node transitions have in common is
proved once about `Fire`, and what any transition preserves of the forest it happens in, as the
node above and the members before see it, is `Frame` (`step_frame`).
-/
namespace Gql.Async

theorem denF_shape : ∀ f : Cfg, denF (shape f) = denF f
  | .nil => rfl
  | .cons nn g res st ch rest => by
    cases res <;> simp [shape, denF, denF_shape ch, denF_shape rest]

theorem denF_congr {f f' : Cfg} (h : shape f' = shape f) : denF f' = denF f := by
  rw [← denF_shape f', h, denF_shape]

theorem innerDen_shape (res : Res) (ch : Cfg) : innerDen res (shape ch) = innerDen res ch := by
  cases res <;> simp [innerDen, denF_shape]

theorem specNulledF_shape : ∀ (f : Cfg) (pfx : Path) (i : Nat),
    specNulledF pfx i (shape f) = specNulledF pfx i f
  | .nil, _, _ => rfl
  | .cons nn g res st ch rest, pfx, i => by
    simp only [shape, specNulledF, innerDen_shape, specNulledF_shape ch, specNulledF_shape rest]

theorem specNulledF_congr {f f' : Cfg} (h : shape f' = shape f) (pfx : Path) (i : Nat) :
    specNulledF pfx i f' = specNulledF pfx i f := by
  rw [← specNulledF_shape f', h, specNulledF_shape]

theorem shape_cancelU : ∀ f : Cfg, shape (cancelU f) = shape f
  | .nil => rfl
  | .cons nn g res st ch rest => by
    unfold cancelU
    split <;> simp [shape, shape_cancelU ch, shape_cancelU rest]

theorem shape_fireWith (nn : Bool) (res : Res) (ch lch : Cfg) (h : shape lch = shape ch) :
    shape (fireWith nn res ch lch).2 = shape ch := by
  unfold fireWith
  cases res <;> simp only
  -- in every branch of `fireWith` the children are `ch` or `lch`
  repeat' split
  all_goals exact h

/-- State and children of a member of a forest right after it has been started (by `launchF` or
by `startNext`). -/
def started (nn : Bool) (g : Nat) (res : Res) (ch : Cfg) : NodeSt × Cfg :=
  if g = 0 then fireWith nn res ch (launchF ch) else (.wait g, ch)

theorem shape_started (nn : Bool) (g : Nat) (res : Res) {ch : Cfg}
    (h : shape (launchF ch) = shape ch) : shape (started nn g res ch).2 = shape ch := by
  unfold started
  split
  · exact shape_fireWith nn res ch _ h
  · rfl

theorem launchF_cons (nn : Bool) (g : Nat) (res : Res) (st : NodeSt) (ch rest : Cfg) :
    launchF (.cons nn g res st ch rest) =
      .cons nn g res (started nn g res ch).1 (started nn g res ch).2
        (if (started nn g res ch).1.isFailed then rest else launchF rest) := by
  show (if (started nn g res ch).1.isFailed then _ else _) = _
  split <;> rfl

theorem shape_launchF : ∀ f : Cfg, shape (launchF f) = shape f
  | .nil => rfl
  | .cons nn g res st ch rest => by
    rw [launchF_cons, shape, shape_started nn g res (shape_launchF ch)]
    split <;> simp [shape, shape_launchF rest]

/-- `Fire nn res st ch st' ch'`: a node with state `st` and children `ch` makes a transition of
its own to `st'` and `ch'` (the seven rules of `Step` that are not `child` / `sibling`). -/
inductive Fire (nn : Bool) (res : Res) : NodeSt → Cfg → NodeSt → Cfg → Prop where
  | resolve (k ch) : Fire nn res (.wait (k + 1)) ch (if k = 0 then .ready else .wait k) ch
  | fire (ch) :
      Fire nn res .ready ch (fireWith nn res ch (launchF ch)).1 (fireWith nn res ch (launchF ch)).2
  | complete (ch v) (h : forestVals ch = some v) : Fire nn res .run ch (.done v) ch
  | fail (ch) (h : hasFailed ch = true) : Fire nn res .run ch .failing (cancelU ch)
  | abort (ch) (hres : res = .comp .aiter) (h : hasFailed ch = true) :
      Fire nn res .run ch (errSt nn (hasPending ch)) ch
  | failDone (ch) (h : hasPending ch = false) : Fire nn res .failing ch (errSt nn false) ch
  | unwound (ch) (h : hasPending ch = false) : Fire nn res .unwinding ch .cancelled ch

theorem step_ind {motive : Cfg → Cfg → Prop}
    (head : ∀ {nn g res st ch rest st' ch'}, Fire nn res st ch st' ch' →
      motive (.cons nn g res st ch rest) (.cons nn g res st' ch' rest))
    (child : ∀ {nn g res st ch rest l ch'}, st.launched = true → Step ch l ch' → motive ch ch' →
      motive (.cons nn g res st ch rest) (.cons nn g res st ch' rest))
    (sibling : ∀ {nn g res st ch rest l rest'}, Step rest l rest' → motive rest rest' →
      motive (.cons nn g res st ch rest) (.cons nn g res st ch rest'))
    {f f' : Cfg} {l : Label} (h : Step f l f') : motive f f' := by
  induction h with
  | resolve _ _ _ k ch => exact head (.resolve k ch)
  | fire _ _ _ ch => exact head (.fire ch)
  | complete _ _ _ ch _ v h => exact head (.complete ch v h)
  | fail _ _ _ ch _ h => exact head (.fail ch h)
  | abort _ _ ch _ h => exact head (.abort ch rfl h)
  | failDone _ _ _ ch _ h => exact head (.failDone ch h)
  | unwound _ _ _ ch _ h => exact head (.unwound ch h)
  | child _ _ _ _ _ _ _ _ hl hs ih => exact child hl hs ih
  | sibling _ _ _ _ _ _ _ _ hs ih => exact sibling hs ih

/-- the state is that of a started, not cancelled task -/
def NodeSt.live (st : NodeSt) : Bool := st != .idle && st != .cancelled && st != .unwinding

theorem fireWith_live (nn : Bool) (res : Res) (ch lch : Cfg) :
    (fireWith nn res ch lch).1.live = true := by
  unfold fireWith
  -- every branch of `fireWith` names its state: `done`, `doneErr`, `failed` or `run`
  cases res <;> cases nn <;> simp only [errSt] <;> repeat' split
  all_goals rfl

theorem Fire.pending {nn res st ch st' ch'} (h : Fire nn res st ch st' ch') :
    st.pending = true := by
  cases h <;> rfl

theorem Fire.live {nn res st ch st' ch'} (h : Fire nn res st ch st' ch') (hst : st.live = true) :
    st'.live = true := by
  cases h with
  | resolve k => split <;> rfl
  | fire => exact fireWith_live ..
  | abort | failDone => cases nn <;> rfl
  | unwound => cases hst
  | _ => rfl

theorem Fire.shape {nn res st ch st' ch'} (h : Fire nn res st ch st' ch') :
    shape ch' = shape ch := by
  cases h with
  | fire => exact shape_fireWith nn res ch _ (shape_launchF ch)
  | fail => exact shape_cancelU ch
  | _ => rfl

/-- every member has been started and none was cancelled -/
def liveKids : Cfg → Bool
  | .nil => true
  | .cons _ _ _ st _ rest => (st != .idle && st != .cancelled && st != .unwinding) && liveKids rest

def InvN (nn : Bool) (res : Res) (st : NodeSt) (ch : Cfg) : Prop :=
  match st with
  | .idle => allIdle ch = true
  | .wait k => k ≠ 0 ∧ allIdle ch = true
  | .ready => allIdle ch = true
  | .run => (∃ l, res = .comp l) ∧ liveKids ch = true
  | .failing => (∃ l, res = .comp l) ∧ hasFailed ch = true
  | .done v => innerDen res ch = some v ∧ (v = .null → nn = false) ∧
      ((∃ l, res = .comp l) → forestVals ch = some v) ∧ ((¬ ∃ l, res = .comp l) → allIdle ch = true)
  | .doneErr bg => nn = false ∧ innerDen res ch = none ∧ (bg = false → QuietF ch = true)
  | .failed bg => nn = true ∧ denN nn res ch = none ∧ (bg = false → QuietF ch = true)
  | .unwinding => True
  | .cancelled => QuietF ch = true

/-- The inductive invariant: every `done v` node carries its synchronous denotation, every
nulled position (`doneErr`) is a nullable position whose completion fails synchronously too,
every `failed` node is a non-null position whose denotation raises; children of a node that
has not been resumed are untouched; the children of a running node are all alive; below a
node that re-raised after waiting for the awaitables it cancelled (`bg = false`), and below a
task that finished its cancellation, nothing is running or unwinding any more except work
that was abandoned without cancellation (`QuietF`). -/
def Inv : Cfg → Prop
  | .nil => True
  | .cons nn _ res st ch rest => InvN nn res st ch ∧ Inv ch ∧ Inv rest

theorem allIdle_cons {nn g res st ch rest} :
    allIdle (.cons nn g res st ch rest) = true ↔
      st = .idle ∧ allIdle ch = true ∧ allIdle rest = true := by
  simp [allIdle, and_assoc]

theorem allIdle_inv : ∀ f : Cfg, allIdle f = true → Inv f
  | .nil, _ => trivial
  | .cons .., h => by
    obtain ⟨rfl, h2, h3⟩ := allIdle_cons.mp h
    exact ⟨h2, allIdle_inv _ h2, allIdle_inv _ h3⟩

theorem allIdle_quiet : ∀ f : Cfg, allIdle f = true → QuietF f = true
  | .nil, _ => rfl
  | .cons .., h => by
    obtain ⟨rfl, _, h3⟩ := allIdle_cons.mp h
    simp [QuietF, allIdle_quiet _ h3]

theorem forestVals_cons {nn g res st ch rest v}
    (h : forestVals (.cons nn g res st ch rest) = some v) :
    ∃ w vs, forestVals rest = some vs ∧ v = .cons w vs ∧
      (st = .done w ∨ ∃ bg, st = .doneErr bg ∧ w = .null) := by
  unfold forestVals at h
  split at h <;> simp at h
  · exact ⟨_, _, ‹_›, h.symm, .inl rfl⟩
  · exact ⟨_, _, ‹_›, h.symm, .inr ⟨_, rfl, rfl⟩⟩

theorem forestVals_ne_null (f : Cfg) (v : Val) (h : forestVals f = some v) : v ≠ .null := by
  cases f with
  | nil => cases h; simp
  | cons => obtain ⟨_, _, _, rfl, _⟩ := forestVals_cons h; simp

theorem forestVals_not_pending : ∀ (f : Cfg) (v : Val), forestVals f = some v → hasPending f = false
  | .nil, _, _ => rfl
  | .cons .., v, h => by
    obtain ⟨w, vs, hvs, _, rfl | ⟨bg, rfl, _⟩⟩ := forestVals_cons h <;>
      simp [hasPending, NodeSt.pending, forestVals_not_pending _ vs hvs]

/-- The two ways a node has a value are the `done` and the `doneErr` clause of `InvN`. -/
theorem denN_eq_some {nn : Bool} {res : Res} {ch : Cfg} {w : Val} : denN nn res ch = some w ↔
    (innerDen res ch = some w ∧ (w = .null → nn = false)) ∨
      (innerDen res ch = none ∧ nn = false ∧ w = .null) := by
  unfold denN
  cases nn <;> cases innerDen res ch with
  | none => simp [absorb, eq_comm]
  | some v => cases v <;> simp [absorb, eq_comm] <;> rintro rfl <;> simp

theorem denN_of_done {nn : Bool} {res : Res} {ch : Cfg} {v : Val}
    (h1 : innerDen res ch = some v) (h2 : v = .null → nn = false) : denN nn res ch = some v :=
  denN_eq_some.mpr (.inl ⟨h1, h2⟩)

theorem denN_of_doneErr {nn : Bool} {res : Res} {ch : Cfg}
    (h1 : nn = false) (h2 : innerDen res ch = none) : denN nn res ch = some .null :=
  denN_eq_some.mpr (.inr ⟨h2, h1, rfl⟩)

theorem denF_cons_some {nn g res st ch rest v} (h : denF (.cons nn g res st ch rest) = some v) :
    ∃ w vs, denN nn res ch = some w ∧ denF rest = some vs ∧ v = .cons w vs := by
  rw [denF_cons] at h
  split at h <;> simp at h
  exact ⟨_, _, ‹_›, ‹_›, h.symm⟩

theorem denF_cons_none {nn g res st ch rest} :
    denF (.cons nn g res st ch rest) = none ↔ denN nn res ch = none ∨ denF rest = none := by
  rw [denF_cons]
  cases denN nn res ch <;> cases denF rest <;> simp

theorem forestVals_den : ∀ (f : Cfg) (v : Val), Inv f → forestVals f = some v → denF f = some v
  | .nil, v, _, h => h
  | .cons nn g res st ch rest, v, ⟨hn, _, hr⟩, h => by
    obtain ⟨w, vs, hvs, rfl, rfl | ⟨bg, rfl, rfl⟩⟩ := forestVals_cons h
    · rw [denF_cons, denN_of_done hn.1 hn.2.1, forestVals_den rest vs hr hvs]
    · rw [denF_cons, denN_of_doneErr hn.1 hn.2.1, forestVals_den rest vs hr hvs]

theorem hasFailed_den : ∀ (f : Cfg), Inv f → hasFailed f = true → denF f = none
  | .nil, _, h => by cases h
  | .cons nn g res st ch rest, ⟨hn, _, hr⟩, h => by
    simp only [hasFailed, Bool.or_eq_true] at h
    rw [denF_cons_none]
    rcases h with h | h
    · cases st <;> cases h
      exact .inl hn.2.1
    · exact .inr (hasFailed_den rest hr h)

theorem notPending_quiet : ∀ f : Cfg, Inv f → hasPending f = false → QuietF f = true
  | .nil, _, _ => rfl
  | .cons nn g res st ch rest, ⟨hn, hc, hr⟩, h => by
    simp only [hasPending, Bool.or_eq_false_iff] at h
    have ih := notPending_quiet rest hr h.2
    cases st with
    | wait | ready | run | failing | unwinding => cases h.1
    | idle => simpa [QuietF] using ih
    | done v =>
      have hq : QuietF ch = true := by
        by_cases hcmp : ∃ l, res = .comp l
        · exact notPending_quiet ch hc (forestVals_not_pending ch v (hn.2.2.1 hcmp))
        · exact allIdle_quiet ch (hn.2.2.2 hcmp)
      simp [QuietF, ih, hq]
    | doneErr bg | failed bg =>
      cases bg <;> simp [QuietF, ih]
      exact hn.2.2 rfl
    | cancelled => simpa [QuietF, ih, InvN] using hn

theorem liveKids_cons {nn g res st ch rest} :
    liveKids (.cons nn g res st ch rest) = (st.live && liveKids rest) := rfl

theorem invN_done_comp {nn : Bool} {l : CKind} {ch : Cfg} {v : Val} (hc : Inv ch)
    (hv : forestVals ch = some v) : InvN nn (.comp l) (.done v) ch :=
  ⟨forestVals_den _ v hc hv, fun h => absurd h (forestVals_ne_null _ v hv), fun _ => hv,
    fun h => absurd ⟨l, rfl⟩ h⟩

theorem invN_errSt {nn : Bool} {res : Res} {ch : Cfg} {bg : Bool} (hd : innerDen res ch = none)
    (hq : bg = false → QuietF ch = true) : InvN nn res (errSt nn bg) ch := by
  cases nn <;> simp [errSt, InvN, denN, absorb, hd] <;> exact hq

theorem started_live (nn : Bool) (g : Nat) (res : Res) (ch : Cfg) : (started nn g res ch).1.live = true := by
  unfold started
  split
  · exact fireWith_live ..
  · rfl

theorem started_inv (nn : Bool) (g : Nat) (res : Res) (ch : Cfg) (hidle : allIdle ch = true)
    (hl : Inv (launchF ch) ∧ (hasFailed (launchF ch) = false → liveKids (launchF ch) = true)) :
    InvN nn res (started nn g res ch).1 (started nn g res ch).2 ∧ Inv (started nn g res ch).2 := by
  obtain ⟨hl, hk⟩ := hl
  have hch := allIdle_inv ch hidle
  have hq := allIdle_quiet ch hidle
  unfold started
  split
  · cases res with
    | raise => exact ⟨invN_errSt rfl fun _ => hq, hch⟩
    | null => cases nn <;> simp [fireWith, InvN, innerDen, denN, absorb, hch, hidle, hq]
    | leaf n => simp [fireWith, InvN, innerDen, hch, hidle]
    | comp l =>
      unfold fireWith
      simp only
      split
      · exact ⟨invN_errSt (hasFailed_den _ hl ‹_›) (notPending_quiet _ hl), hl⟩
      · split
        · exact ⟨invN_done_comp hl ‹_›, hl⟩
        · exact ⟨⟨⟨l, rfl⟩, hk (eq_false_of_ne_true ‹_›)⟩, hl⟩
  · exact ⟨⟨‹_›, hidle⟩, hch⟩

theorem launch_inv : ∀ f : Cfg, allIdle f = true →
    Inv (launchF f) ∧ (hasFailed (launchF f) = false → liveKids (launchF f) = true)
  | .nil, _ => ⟨trivial, fun _ => rfl⟩
  | .cons nn g res st ch rest, h => by
    obtain ⟨_, h2, h3⟩ := allIdle_cons.mp h
    obtain ⟨hn, hc⟩ := started_inv nn g res ch h2 (launch_inv ch h2)
    rw [launchF_cons]
    split
    · exact ⟨⟨hn, hc, allIdle_inv rest h3⟩, fun hh => by simp [hasFailed, *] at hh⟩
    · refine ⟨⟨hn, hc, (launch_inv rest h3).1⟩, fun hh => ?_⟩
      simp only [hasFailed, Bool.or_eq_false_iff] at hh
      rw [liveKids_cons, started_live, (launch_inv rest h3).2 hh.2]
      rfl

theorem cancelU_allIdle : ∀ f : Cfg, allIdle f = true → cancelU f = f
  | .nil, _ => rfl
  | .cons nn g res st ch rest, h => by
    obtain ⟨rfl, _, h3⟩ := allIdle_cons.mp h
    simp [cancelU, NodeSt.busy, cancelU_allIdle rest h3]

theorem inv_cancelU : ∀ f : Cfg, Inv f → Inv (cancelU f)
  | .nil, _ => trivial
  | .cons nn g res st ch rest, ⟨hn, hc, hr⟩ => by
    unfold cancelU
    split
    · exact ⟨trivial, inv_cancelU ch hc, inv_cancelU rest hr⟩
    · exact ⟨hn, hc, inv_cancelU rest hr⟩

theorem hasFailed_cancelU : ∀ f : Cfg, hasFailed (cancelU f) = hasFailed f
  | .nil => rfl
  | .cons nn g res st ch rest => by
    unfold cancelU
    split
    · rename_i hb
      cases st <;> cases hb <;> simp [hasFailed, NodeSt.isFailed, hasFailed_cancelU rest]
    · simp [hasFailed, hasFailed_cancelU rest]

theorem Fire.inv {nn res st ch st' ch'} (h : Fire nn res st ch st' ch') (hn : InvN nn res st ch)
    (hc : Inv ch) : InvN nn res st' ch' ∧ Inv ch' := by
  cases h with
  | resolve k =>
    refine ⟨?_, hc⟩
    split
    · exact hn.2
    · exact ⟨‹_›, hn.2⟩
  | fire => exact started_inv nn 0 res ch hn (launch_inv ch hn)
  | complete _ v hv =>
    obtain ⟨⟨l, rfl⟩, _⟩ := hn
    exact ⟨invN_done_comp hc hv, hc⟩
  | fail _ hf => exact ⟨⟨hn.1, by rw [hasFailed_cancelU]; exact hf⟩, inv_cancelU ch hc⟩
  | abort _ hres hf =>
    subst hres
    exact ⟨invN_errSt (hasFailed_den _ hc hf) (notPending_quiet _ hc), hc⟩
  | failDone _ hp =>
    obtain ⟨⟨l, rfl⟩, hf⟩ := hn
    exact ⟨invN_errSt (hasFailed_den _ hc hf) (fun _ => notPending_quiet _ hc hp), hc⟩
  | unwound _ hp => exact ⟨notPending_quiet _ hc hp, hc⟩

/-- no member has been started -/
def topIdle : Cfg → Bool
  | .nil => true
  | .cons _ _ _ st _ rest => st == .idle && topIdle rest

theorem allIdle_topIdle : ∀ f : Cfg, allIdle f = true → topIdle f = true
  | .nil, _ => rfl
  | .cons .., h => by
    obtain ⟨rfl, _, h3⟩ := allIdle_cons.mp h
    simp [topIdle, allIdle_topIdle _ h3]

theorem pending_head {nn g res st ch rest} (h : st.pending = true) :
    topIdle (.cons nn g res st ch rest) = false ∧ forestVals (.cons nn g res st ch rest) = none ∧
      QuietF (.cons nn g res st ch rest) = false ∧
      hasFailed (.cons nn g res st ch rest) = hasFailed rest := by
  cases st <;> simp_all [NodeSt.pending, topIdle, forestVals, QuietF, hasFailed, NodeSt.isFailed]

/-- Completed members, then at most one member that is in progress or has failed, then members
that have not been started; no member is ever cancelled. -/
def serialOK : Cfg → Bool
  | .nil => true
  | .cons _ _ _ st _ rest =>
    match st with
    | .done _ => serialOK rest
    | .doneErr _ => serialOK rest
    | .cancelled => false
    | .unwinding => false
    | _ => topIdle rest

theorem topIdle_serialOK : ∀ f : Cfg, topIdle f = true → serialOK f = true
  | .nil, _ => rfl
  | .cons nn g res st ch rest, h => by
    simp only [topIdle, Bool.and_eq_true, beq_iff_eq] at h
    obtain ⟨rfl, h2⟩ := h
    exact h2

theorem serialOK_of_topIdle {nn g res st ch rest} (hl : st.live = true) (ht : topIdle rest = true) :
    serialOK (.cons nn g res st ch rest) = true := by
  cases st <;> simp_all [serialOK, NodeSt.live, topIdle_serialOK]

theorem quietF_child_mono {nn g res st ch ch' rest} (h : QuietF ch = true → QuietF ch' = true) :
    QuietF (.cons nn g res st ch rest) = true → QuietF (.cons nn g res st ch' rest) = true := by
  intro hq
  cases st <;> simp only [QuietF, Bool.and_eq_true, Bool.or_eq_true] at hq ⊢
  case done | cancelled => exact ⟨h hq.1, hq.2⟩
  case doneErr | failed => exact ⟨hq.1.imp_right h, hq.2⟩
  all_goals exact hq

/-- What a transition of a forest preserves, as far as the node above and the members before it
can see. -/
structure Frame (f f' : Cfg) : Prop where
  shape : shape f' = shape f
  started : topIdle f = false
  vals : ∀ v, forestVals f = some v → forestVals f' = some v
  failed : hasFailed f = true → hasFailed f' = true
  /-- quiet forests stay quiet: the only transitions left are inside abandoned, never cancelled work -/
  quiet : QuietF f = true → QuietF f' = true
  live : liveKids f = true → liveKids f' = true
  serial : serialOK f = true → serialOK f' = true

theorem step_frame {f f' : Cfg} {l : Label} (h : Step f l f') : Frame f f' :=
  step_ind (motive := Frame)
    (fun {_ _ _ st _ rest _ _} hf => {
      shape := by simp [shape, hf.shape]
      started := (pending_head hf.pending).1
      vals := fun v hv => by rw [(pending_head hf.pending).2.1] at hv; cases hv
      failed := fun h => by
        rw [(pending_head hf.pending).2.2.2] at h
        simp [hasFailed, h]
      quiet := fun hq => by rw [(pending_head hf.pending).2.2.1] at hq; cases hq
      live := fun hl => by
        rw [liveKids_cons, Bool.and_eq_true] at hl ⊢
        exact ⟨hf.live hl.1, hl.2⟩
      serial := fun hs => by
        have hp := hf.pending
        have hu : st.live = true ∧ topIdle rest = true := by
          cases st <;> simp_all [serialOK, NodeSt.pending, NodeSt.live]
        exact serialOK_of_topIdle (hf.live hu.1) hu.2 })
    (fun {_ _ _ st _ _ _ _} hl _ ih => {
      shape := by simp [shape, ih.shape]
      started := by cases st <;> simp [NodeSt.launched] at hl <;> simp [topIdle]
      vals := fun v hv => by unfold forestVals at hv ⊢; exact hv
      failed := id
      quiet := quietF_child_mono ih.quiet
      live := id
      serial := id })
    (fun {_ _ _ st _ _ _ _} _ ih => {
      shape := by simp [shape, ih.shape]
      started := by simp [topIdle, ih.started]
      vals := fun v hv => by
        obtain ⟨w, vs, hvs, rfl, rfl | ⟨_, rfl, rfl⟩⟩ := forestVals_cons hv <;>
          simp [forestVals, ih.vals vs hvs]
      failed := fun h => by
        simp only [hasFailed, Bool.or_eq_true] at h ⊢
        exact h.imp_right ih.failed
      quiet := fun hq => by
        simp only [QuietF, Bool.and_eq_true] at hq ⊢
        exact ⟨hq.1, ih.quiet hq.2⟩
      live := fun hl => by
        rw [liveKids_cons, Bool.and_eq_true] at hl ⊢
        exact ⟨hl.1, ih.live hl.2⟩
      serial := fun hs => by
        have := ih.started
        have := ih.serial
        cases st <;> simp_all [serialOK] }) h

theorem invN_child {nn res st ch ch' l} (hs : Step ch l ch') (hl : st.launched = true)
    (hn : InvN nn res st ch) : InvN nn res st ch' := by
  have hf := step_frame hs
  have hi : innerDen res ch' = innerDen res ch := by
    rw [← innerDen_shape res ch', hf.shape, innerDen_shape]
  cases st with
  | idle | wait | ready => cases hl
  | run => exact ⟨hn.1, hf.live hn.2⟩
  | failing => exact ⟨hn.1, hf.failed hn.2⟩
  | done v =>
    refine ⟨hi ▸ hn.1, hn.2.1, fun hcmp => hf.vals v (hn.2.2.1 hcmp), fun hnc => ?_⟩
    have := hf.started
    rw [allIdle_topIdle ch (hn.2.2.2 hnc)] at this
    cases this
  | doneErr bg => exact ⟨hn.1, hi ▸ hn.2.1, fun hb => hf.quiet (hn.2.2 hb)⟩
  | failed bg =>
    refine ⟨hn.1, ?_, fun hb => hf.quiet (hn.2.2 hb)⟩
    unfold denN
    rw [hi]
    exact hn.2.1
  | unwinding => trivial
  | cancelled => exact hf.quiet hn

/-- A member that has finished without being cancelled has raised, or has a value and leaves the
question to the later members. -/
theorem settled_cons {nn g res st ch rest} (hl : st.live = true) (hp : st.pending = false)
    (h : st.isFailed = false → hasFailed rest = true ∨ ∃ vs, forestVals rest = some vs) :
    hasFailed (.cons nn g res st ch rest) = true ∨
      ∃ v, forestVals (.cons nn g res st ch rest) = some v := by
  cases st with
  | idle | cancelled | unwinding => cases hl
  | wait | ready | run | failing => cases hp
  | failed bg => exact .inl rfl
  | done | doneErr =>
    rcases h rfl with h | ⟨vs, hvs⟩
    · exact .inl (by simp [hasFailed, h])
    · exact .inr (by simp [forestVals, hvs])

theorem notPending_settled : ∀ f : Cfg, liveKids f = true → hasPending f = false →
    hasFailed f = true ∨ ∃ v, forestVals f = some v
  | .nil, _, _ => Or.inr ⟨.nil, rfl⟩
  | .cons nn g res st ch rest, hl, hq => by
    rw [liveKids_cons, Bool.and_eq_true] at hl
    simp only [hasPending, Bool.or_eq_false_iff] at hq
    exact settled_cons hl.1 hq.1 fun _ => notPending_settled rest hl.2 hq.2

theorem stuck_notPending : ∀ (f : Cfg), Inv f → (∀ l f', ¬ Step f l f') → hasPending f = false
  | .nil, _, _ => rfl
  | .cons nn g res st ch rest, ⟨hn, hc, hr⟩, hstuck => by
    have hrest : hasPending rest = false :=
      stuck_notPending rest hr (fun l r' hs => hstuck _ _ (Step.sibling nn g res st ch rest l r' hs))
    -- when the node is launched, its children are stuck too
    have hq : st.launched = true → hasPending ch = false := fun hl =>
      stuck_notPending ch hc (fun l c' hs => hstuck _ _ (Step.child nn g res st ch rest l c' hl hs))
    cases st with
    | idle | done | doneErr | failed | cancelled => simpa [hasPending, NodeSt.pending] using hrest
    | wait k =>
      cases k with
      | zero => exact absurd rfl hn.1
      | succ k => exact absurd (Step.resolve nn g res k ch rest) (hstuck _ _)
    | ready => exact absurd (Step.fire nn g res ch rest) (hstuck _ _)
    | run =>
      rcases notPending_settled ch hn.2 (hq rfl) with h | ⟨v, hv⟩
      · exact absurd (Step.fail nn g res ch rest h) (hstuck _ _)
      · exact absurd (Step.complete nn g res ch rest v hv) (hstuck _ _)
    | failing => exact absurd (Step.failDone nn g res ch rest (hq rfl)) (hstuck _ _)
    | unwinding => exact absurd (Step.unwound nn g res ch rest (hq rfl)) (hstuck _ _)

theorem measure_cancelU_le : ∀ f : Cfg, measure (cancelU f) ≤ measure f
  | .nil => Nat.le_refl _
  | .cons nn g res st ch rest => by
    have h1 := measure_cancelU_le ch
    have h2 := measure_cancelU_le rest
    unfold cancelU
    split
    · rename_i hb
      cases st <;> cases hb <;> simp only [measure, rank] <;> omega
    · simp only [measure]; omega

theorem fireWith_rank (nn : Bool) (g : Nat) (res : Res) (ch lch : Cfg) (h : measure lch ≤ measure ch) :
    rank g (fireWith nn res ch lch).1 + measure (fireWith nn res ch lch).2 ≤ 2 + measure ch := by
  unfold fireWith
  -- every branch of `fireWith` ends in a state of rank ≤ 2 (`run`) with children `ch` or `lch`
  cases res <;> cases nn <;> simp only [errSt] <;> repeat' split
  all_goals simp only [rank]; omega

theorem started_measure (nn : Bool) (g : Nat) (res : Res) (ch : Cfg)
    (h : measure (launchF ch) ≤ measure ch) :
    rank g (started nn g res ch).1 + measure (started nn g res ch).2 < rank g .idle + measure ch := by
  show _ < g + 4 + _
  unfold started
  split
  · have := fireWith_rank nn g res ch (launchF ch) h
    omega
  · show g + 3 + measure ch < _
    omega

theorem allIdle_measure_launch : ∀ f : Cfg, allIdle f = true → measure (launchF f) ≤ measure f
  | .nil, _ => Nat.le_refl _
  | .cons nn g res st ch rest, h => by
    obtain ⟨rfl, h2, h3⟩ := allIdle_cons.mp h
    have := started_measure nn g res ch (allIdle_measure_launch ch h2)
    have := allIdle_measure_launch rest h3
    rw [launchF_cons]
    split <;> simp only [measure] <;> omega

theorem Fire.decreases {nn res st ch st' ch'} (h : Fire nn res st ch st' ch') {g : Nat} {rest : Cfg}
    (hn : InvN nn res st ch) :
    measure (.cons nn g res st' ch' rest) < measure (.cons nn g res st ch rest) := by
  suffices rank g st' + measure ch' < rank g st + measure ch by simp only [measure]; omega
  cases h with
  | resolve k => split <;> simp only [rank] <;> omega
  | fire =>
    have := fireWith_rank nn g res ch _ (allIdle_measure_launch ch hn)
    show _ < 3 + _
    omega
  | fail =>
    have := measure_cancelU_le ch
    show 1 + _ < 2 + _
    omega
  | abort | failDone => cases nn <;> simp [rank, errSt]
  | complete | unwound => simp [rank]

theorem step_inv {f f' : Cfg} {l : Label} (h : Step f l f') :
    Inv f → Inv f' ∧ measure f' < measure f :=
  step_ind (motive := fun f f' => Inv f → Inv f' ∧ measure f' < measure f)
    (fun hf ⟨hn, hc, hr⟩ => ⟨⟨(hf.inv hn hc).1, (hf.inv hn hc).2, hr⟩, hf.decreases hn⟩)
    (fun hl hs ih ⟨hn, hc, hr⟩ =>
      ⟨⟨invN_child hs hl hn, (ih hc).1, hr⟩, by have := (ih hc).2; simp only [measure]; omega⟩)
    (fun _ ih ⟨hn, hc, hr⟩ =>
      ⟨⟨hn, hc, (ih hr).1⟩, by have := (ih hr).2; simp only [measure]; omega⟩) h

theorem nulled_eq_spec : ∀ (f : Cfg) (pfx : Path) (i : Nat) (v : Val), Inv f → forestVals f = some v →
    nulledF pfx i f = specNulledF pfx i f
  | .nil, _, _, _, _, _ => rfl
  | .cons nn g res st ch rest, pfx, i, v, ⟨hn, hc, hr⟩, hv => by
    obtain ⟨w, vs, hvs, rfl, rfl | ⟨bg, rfl, rfl⟩⟩ := forestVals_cons hv <;>
      unfold nulledF specNulledF <;> rw [nulled_eq_spec rest pfx (i + 1) vs hr hvs]
    · rw [hn.1]
      cases res with
      | comp lst =>
        have hfv := hn.2.2.1 ⟨lst, rfl⟩
        simp [hfv, nulled_eq_spec ch (pfx ++ [i]) 0 w hc hfv]
      | _ => simp
    · rw [hn.2.1, hn.1]
      simp

theorem denF_ne_null (f : Cfg) (v : Val) (h : denF f = some v) : v ≠ .null := by
  cases f with
  | nil => cases h; simp
  | cons => obtain ⟨_, _, _, _, rfl⟩ := denF_cons_some h; simp

theorem denN_none {nn : Bool} {res : Res} {ch : Cfg} :
    denN nn res ch = none ↔ nn = true ∧ (innerDen res ch = none ∨ innerDen res ch = some .null) := by
  unfold denN
  cases nn <;> cases innerDen res ch with
  | none => simp [absorb]
  | some v => cases v <;> simp [absorb]

theorem den_none_iff : ∀ f : Cfg, denF f = none ↔ reachesParent f = true
  | .nil => by simp [denF, reachesParent]
  | .cons nn g res st ch rest => by
    have hnull : denF ch ≠ some .null := fun h => denF_ne_null ch _ h rfl
    unfold reachesParent
    rw [denF_cons_none, denN_none, den_none_iff rest, Bool.or_eq_true, Bool.and_eq_true]
    cases res <;> simp [innerDen, hnull, den_none_iff ch]

theorem den_wf : ∀ (f : Cfg) (v : Val), denF f = some v → wfVals f v
  | .nil, v, h => by cases h; trivial
  | .cons nn g res st ch rest, v, h => by
    obtain ⟨w, vs, hw, hvs, rfl⟩ := denF_cons_some h
    rcases denN_eq_some.mp hw with ⟨hi, hnn⟩ | ⟨_, hnn, rfl⟩
    · exact ⟨hnn, fun l hl _ => den_wf ch w (by subst hl; exact hi), den_wf rest vs hvs⟩
    · exact ⟨fun _ => hnn, fun _ _ hne => absurd rfl hne, den_wf rest vs hvs⟩

theorem nulled_is_null : ∀ (f : Cfg) (pfx : Path) (i : Nat) (v : Val), denF f = some v →
    ∀ p ∈ specNulledF pfx i f, ∃ k q, p = pfx ++ (i + k) :: q ∧ v.at (k :: q) = some .null
  | .nil, _, _, _, _ => by intro p hp; cases hp
  | .cons nn g res st ch rest, pfx, i, v, hv => by
    intro p hp
    obtain ⟨w, vs, hw, hvs, rfl⟩ := denF_cons_some hv
    unfold specNulledF at hp
    rcases List.mem_append.mp hp with hp | hp
    · rcases denN_eq_some.mp hw with ⟨hi, _⟩ | ⟨hi, rfl, rfl⟩ <;> rw [hi] at hp
      · -- the node has a value of its own: `p` is a nulled position below it
        cases res <;> simp only [List.not_mem_nil] at hp
        obtain ⟨k', q', rfl, hp2⟩ := nulled_is_null ch (pfx ++ [i]) 0 w hi p hp
        exact ⟨0, k' :: q', by simp, hp2⟩
      · -- the node is nulled: `p` is its position
        cases List.mem_singleton.mp hp
        exact ⟨0, [], by simp, rfl⟩
    · obtain ⟨k', q', rfl, hp2⟩ := nulled_is_null rest pfx (i + 1) vs hvs p hp
      exact ⟨k' + 1, q', by simp; omega, hp2⟩

theorem run_inv {c c' : Cfg} {ls : List Label} (h : Run Step c ls c') : Inv c →
    Inv c' ∧ (liveKids c = true → liveKids c' = true) ∧ shape c' = shape c ∧
      ls.length + measure c' ≤ measure c := by
  induction h with
  | refl c => exact fun h1 => ⟨h1, id, rfl, by simp⟩
  | step c l c1 ls c2 hs _ ih =>
    intro h1
    obtain ⟨h2, hl, hsh, hm⟩ := ih (step_inv hs h1).1
    have := (step_inv hs h1).2
    exact ⟨h2, hl ∘ (step_frame hs).live, by rw [hsh, (step_frame hs).shape],
      by simp only [List.length_cons]; omega⟩

theorem initQuery_inv (F : Cfg) (h : allIdle F = true) : Inv (initQuery F) :=
  ⟨h, allIdle_inv F h, trivial⟩

/-- **Finality.**  In a forest with the invariant, once a member has raised or all members have
values, the values are those of the synchronous denotation (none, when it raises). -/
theorem settled_vals {f : Cfg} (hi : Inv f) (h : hasFailed f = true ∨ ∃ v, forestVals f = some v) :
    forestVals f = denF f := by
  rcases h with h | ⟨v, hv⟩
  · rw [hasFailed_den f hi h]
    cases hv : forestVals f with
    | none => rfl
    | some v =>
      have := forestVals_den f v hi hv
      rw [hasFailed_den f hi h] at this
      cases this
  · rw [hv, forestVals_den f v hi hv]

theorem final_vals {f : Cfg} (hi : Inv f) (hl : liveKids f = true) (hfin : Final Step f) :
    forestVals f = denF f :=
  settled_vals hi (notPending_settled f hl (stuck_notPending f hi hfin))

theorem denF_initQuery (F : Cfg) : denF (initQuery F) = some (.cons (dataOf F) .nil) := by
  rw [initQuery, denF_cons, dataOf]
  cases h : denF F with
  | none => rw [denN_of_doneErr (res := .comp .obj) rfl h]; rfl
  | some v => rw [denN_of_done (res := .comp .obj) h fun _ => rfl]; rfl

theorem final_root_vals {F c : Cfg} {ls : List Label} (hF : allIdle F = true)
    (h : Run Step (initQuery F) ls c) (hfin : Final Step c) :
    Inv c ∧ shape c = shape (initQuery F) ∧ forestVals c = some (.cons (dataOf F) .nil) := by
  obtain ⟨h1, h2, h3, _⟩ := run_inv h (initQuery_inv F hF)
  exact ⟨h1, h3, by rw [final_vals h1 (h2 rfl) hfin, denF_congr h3, denF_initQuery]⟩

theorem shape_syncOf : ∀ f : Cfg, shape (syncOf f) = shape f
  | .nil => rfl
  | .cons nn g res st ch rest => by simp [syncOf, shape, shape_syncOf ch, shape_syncOf rest]

theorem allIdle_syncOf : ∀ f : Cfg, allIdle f = true → allIdle (syncOf f) = true
  | .nil, _ => rfl
  | .cons .., h => by
    obtain ⟨rfl, h2, h3⟩ := allIdle_cons.mp h
    exact allIdle_cons.mpr ⟨rfl, allIdle_syncOf _ h2, allIdle_syncOf _ h3⟩

theorem step_no_start {f f' : Cfg} {l : Label} (h : Step f l f') : ∀ p, l ≠ .start p := by
  induction h with
  | child _ _ _ _ _ _ l _ _ _ ih =>
    intro p; cases l <;> simp [Label.down, Label.mapPath] <;> exact fun h => absurd rfl (ih _)
  | sibling _ _ _ _ _ _ l _ _ ih =>
    intro p; cases l <;> simp [Label.next, Label.mapPath] <;> exact fun h => absurd rfl (ih _)
  | _ => intro p; simp

theorem startNext_idle {nn g res ch rest} : startNext (.cons nn g res .idle ch rest) =
    .cons nn g res (started nn g res ch).1 (started nn g res ch).2 rest := rfl

theorem startNext_of_ne {nn g res st ch rest} (h : st ≠ .idle) :
    startNext (.cons nn g res st ch rest) = .cons nn g res st ch (startNext rest) := by
  cases st <;> first | rfl | exact absurd rfl h

def SInv (f : Cfg) : Prop := Inv f ∧ serialOK f = true

theorem allIdle_sinv (F : Cfg) (hF : allIdle F = true) : SInv F :=
  ⟨allIdle_inv F hF, topIdle_serialOK F (allIdle_topIdle F hF)⟩

/-- The `start` move of the serial root: the first idle member is started as `launchF` starts a
member; the members before it have completed and are passed over. -/
theorem startNext_inv : ∀ f : Cfg, SInv f → prefixDone f = true → hasIdle f = true →
    SInv (startNext f) ∧ shape (startNext f) = shape f ∧ measure (startNext f) < measure f
  | .nil, _, _, h => by cases h
  | .cons nn g res st ch rest, ⟨⟨hn, hc, hr⟩, hs⟩, hp, hi => by
    cases st with
    | idle =>
      obtain ⟨hn', hc'⟩ := started_inv nn g res ch hn (launch_inv ch hn)
      have := started_measure nn g res ch (allIdle_measure_launch ch hn)
      refine ⟨⟨⟨hn', hc', hr⟩, serialOK_of_topIdle (started_live ..) hs⟩, ?_, ?_⟩
      · simp [startNext_idle, shape, shape_started nn g res (shape_launchF ch)]
      · simp only [startNext_idle, measure]
        omega
    | done | doneErr =>
      obtain ⟨⟨hr', hs'⟩, hsh, hm⟩ := startNext_inv rest ⟨hr, hs⟩ hp (by simpa [hasIdle] using hi)
      exact ⟨⟨⟨hn, hc, hr'⟩, hs'⟩, by simp [startNext, shape, hsh],
        by simp only [startNext, measure]; omega⟩
    | _ => cases hp

theorem sstep_inv {f f' : Cfg} {l : Label} (h : SStep f l f') (hi : SInv f) :
    SInv f' ∧ shape f' = shape f ∧ measure f' < measure f := by
  match h with
  | .inner _ _ _ hs =>
    exact ⟨⟨(step_inv hs hi.1).1, (step_frame hs).serial hi.2⟩, (step_frame hs).shape, (step_inv hs hi.1).2⟩
  | .start _ hp h2 => exact startNext_inv f hi hp h2

theorem srun_inv {c c' : Cfg} {ls : List Label} (h : Run SStep c ls c') : SInv c →
    SInv c' ∧ shape c' = shape c ∧ ls.length + measure c' ≤ measure c := by
  induction h with
  | refl c => exact fun h => ⟨h, rfl, by simp⟩
  | step c l c1 ls c2 hs _ ih =>
    intro h
    obtain ⟨h1, hsh1, hm1⟩ := sstep_inv hs h
    obtain ⟨h2, hsh2, hm2⟩ := ih h1
    exact ⟨h2, by rw [hsh2, hsh1], by simp only [List.length_cons]; omega⟩

/-- A serial root without pending work in which no field can be started is settled: a field has
raised (the fields after it are never started), or all fields have values. -/
theorem serial_settled : ∀ f : Cfg, serialOK f = true → hasPending f = false →
    (hasIdle f = true → prefixDone f = false) → hasFailed f = true ∨ ∃ v, forestVals f = some v
  | .nil, _, _, _ => .inr ⟨.nil, rfl⟩
  | .cons nn g res st ch rest, hs, hq, hidle => by
    cases st with
    | idle => simp [hasIdle, prefixDone] at hidle
    | wait | ready | run | failing => simp [hasPending, NodeSt.pending] at hq
    | unwinding | cancelled => cases hs
    | failed bg => exact .inl rfl
    | done | doneErr =>
      exact settled_cons rfl rfl fun _ => serial_settled rest hs
        (by simpa [hasPending, NodeSt.pending] using hq) (by simpa [hasIdle, prefixDone] using hidle)

/-- The members before position `j` have completed, and nothing of them is running or
unwinding any more - except work they abandoned without cancelling it (`bg = true`). -/
def strictBefore : Nat → Cfg → Bool
  | 0, _ => true
  | _ + 1, .nil => true
  | j + 1, .cons _ _ _ st ch rest =>
    (match st with
      | .done _ => QuietF ch
      | .doneErr bg => bg || QuietF ch
      | _ => false) && strictBefore j rest

theorem prefixDone_strictBefore : ∀ f : Cfg, Inv f → prefixDone f = true →
    strictBefore (firstIdle f) f = true
  | .nil, _, _ => rfl
  | .cons nn g res st ch rest, ⟨hn, hc, hr⟩, h => by
    cases st <;> simp [prefixDone] at h <;> simp [firstIdle, strictBefore]
    · exact ⟨by simpa [QuietF] using notPending_quiet (.cons nn 0 res (.done _) ch .nil) ⟨hn, hc, trivial⟩ rfl,
        prefixDone_strictBefore rest hr h⟩
    · rename_i bg
      refine ⟨?_, prefixDone_strictBefore rest hr h⟩
      cases bg
      · exact Or.inr (hn.2.2 rfl)
      · exact Or.inl rfl

theorem inv_nodeAt (c : Cfg) (p : Path) (nn : Bool) (res : Res) (st : NodeSt) (ch : Cfg)
    (hi : Inv c) (h : nodeAt c p = some (nn, res, st, ch)) : InvN nn res st ch ∧ Inv ch := by
  induction c, p using nodeAt.induct with
  | case1 | case2 => cases h
  | case3 =>
    cases h
    exact ⟨hi.1, hi.2.1⟩
  | case4 _ _ _ _ _ _ _ _ ih => exact ih hi.2.1 h
  | case5 _ _ _ _ _ _ _ _ ih => exact ih hi.2.2 h

theorem allIdle_nodeAt (f : Cfg) (p : Path) (nn : Bool) (res : Res) (st : NodeSt) (ch : Cfg)
    (hi : allIdle f = true) (h : nodeAt f p = some (nn, res, st, ch)) : st = .idle := by
  induction f, p using nodeAt.induct with
  | case1 | case2 => cases h
  | case3 =>
    cases h
    exact (allIdle_cons.mp hi).1
  | case4 _ _ _ _ _ _ _ _ ih => exact ih (allIdle_cons.mp hi).2.1 h
  | case5 _ _ _ _ _ _ _ _ ih => exact ih (allIdle_cons.mp hi).2.2 h

theorem hasCancelled_spec : ∀ f : Cfg, hasCancelled f = true →
    allIdle f = false ∧ liveKids f = false ∧ forestVals f = none
  | .nil, h => by cases h
  | .cons nn g res st ch rest, h => by
    simp only [hasCancelled, Bool.or_eq_true, beq_iff_eq] at h
    rcases h with (rfl | rfl) | h
    · simp [allIdle, liveKids, forestVals]
    · simp [allIdle, liveKids, forestVals]
    · obtain ⟨h1, h2, h3⟩ := hasCancelled_spec rest h
      simp [allIdle, liveKids, forestVals, h1, h2, h3]

theorem cancelled_parent (nn : Bool) (res : Res) (st : NodeSt) (ch : Cfg) (h : InvN nn res st ch)
    (hc : hasCancelled ch = true) :
    st = .failing ∨ (∃ b, st = .doneErr b) ∨ (∃ b, st = .failed b) ∨ st = .unwinding ∨ st = .cancelled := by
  obtain ⟨h1, h2, h3⟩ := hasCancelled_spec ch hc
  cases st with
  | idle | ready => cases h1.symm.trans h
  | wait k => cases h1.symm.trans h.2
  | run => cases h2.symm.trans h.2
  | done v =>
    by_cases hcmp : ∃ l, res = .comp l
    · cases h3.symm.trans (h.2.2.1 hcmp)
    · cases h1.symm.trans (h.2.2.2 hcmp)
  | _ => simp

theorem errpos_null (f : Cfg) (p : Path) (v : Val) (nn : Bool) (res : Res) (st : NodeSt) (ch : Cfg)
    (hi : Inv f) (hv : forestVals f = some v) (h : nodeAt f p = some (nn, res, st, ch))
    (hst : (∃ b, st = .doneErr b) ∨ (∃ b, st = .failed b)) :
    ∃ k r, k :: r <+: p ∧ v.at (k :: r) = some .null := by
  induction f, p using nodeAt.induct generalizing v with
  | case1 | case2 => cases h
  | case3 =>
    cases h
    obtain ⟨w, vs, _, rfl, hw⟩ := forestVals_cons hv
    obtain ⟨_, -, rfl⟩ : ∃ bg, st = .doneErr bg ∧ w = .null := by
      rcases hw with rfl | hw
      · rcases hst with ⟨_, h⟩ | ⟨_, h⟩ <;> cases h
      · exact hw
    exact ⟨0, [], List.prefix_refl _, rfl⟩
  | case4 _ _ res' _ ch' _ j p ih =>
    obtain ⟨w, vs, _, rfl, rfl | ⟨_, rfl, rfl⟩⟩ := forestVals_cons hv
    · -- the position lies below a completed member: that member is a composite
      by_cases hcmp : ∃ l, res' = .comp l
      · obtain ⟨k, r, hr1, hr2⟩ := ih w hi.2.1 (hi.1.2.2.1 hcmp) h
        exact ⟨0, k :: r, List.cons_prefix_cons.mpr ⟨rfl, hr1⟩, hr2⟩
      · have := allIdle_nodeAt ch' (j :: p) nn res st ch (hi.1.2.2.2 hcmp) h
        rcases hst with ⟨_, h⟩ | ⟨_, h⟩ <;> rw [h] at this <;> cases this
    · exact ⟨0, [], by simp, rfl⟩
  | case5 _ _ _ _ _ _ i p ih =>
    obtain ⟨w, vs, hvs, rfl, _⟩ := forestVals_cons hv
    obtain ⟨k, r, hr1, hr2⟩ := ih vs hi.2.2 hvs h
    obtain ⟨rfl, hr3⟩ := List.cons_prefix_cons.mp hr1
    exact ⟨k + 1, r, List.cons_prefix_cons.mpr ⟨rfl, hr3⟩, hr2⟩

end Gql.Async
