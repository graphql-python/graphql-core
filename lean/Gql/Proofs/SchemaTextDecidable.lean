import Gql.Proofs.SchemaTextLex
import Gql.Proofs.LexInvNumber
import Gql.Types.PrintSchemaTextWF
/-!
C17, text level: the decidable predicate `textWFb` (`Gql/Types/PrintSchemaTextWF.lean`)
implies the hypothesis `TextWF` of the text theorems (C08's `Exec.gdefsWf` of the translated
definitions).
-/
namespace Gql.Types.PrintSchema
open Gql Gql.Text Gql.Syntax Gql.Generated

theorem nameOk_eq (n : List Nat) : nameOk n = Gql.Text.validName n := by
  cases n <;> rfl

theorem validName_of_nameOk {n : List Nat} (h : nameOk n = true) : Gql.Text.validName n = true := by
  rw [← nameOk_eq]; exact h

theorem isNum_of_numOk {fl : Bool} {s : List Nat} (h : numOk fl s = true) : IsNum fl s := by
  unfold numOk at h
  have hm : (fl, s.length) ∈ Gql.Spec.Lex.numberCandidates s := by
    simpa using h
  have := numberCandidates_isNum hm
  simpa using this

/-- The number clause of `textWFb` excludes nothing: `numOk` is the grammar's `numberCandidates`
at the end of the text, which finds every `IsNum` text. -/
theorem numOk_of_isNum {fl : Bool} {s : List Nat} (h : IsNum fl s) : numOk fl s = true := by
  have := isNum_mem_candidates (rest := []) h rfl
  rw [List.append_nil] at this
  unfold numOk; simpa using this

theorem numOk_iff_isNum (fl : Bool) (s : List Nat) : numOk fl s = true ↔ IsNum fl s :=
  ⟨isNum_of_numOk, numOk_of_isNum⟩

theorem scalars_of_scalarStr {s : List Nat} (h : scalarStr s = true) : ∀ c ∈ s, isScalar c = true := by
  unfold scalarStr at h
  exact List.all_eq_true.mp h

theorem notKeyword_ne {n : List Nat} (h : notKeyword n = true) :
    n ≠ S "true" ∧ n ≠ S "false" ∧ n ≠ S "null" := by
  unfold notKeyword at h
  simp only [Bool.and_eq_true, bne_iff_ne, ne_eq] at h
  exact ⟨h.1.1, h.1.2, h.2⟩

theorem descWf_of_descOk {d : Option Str} (h : descOk d = true) : Exec.descWf (toDesc (descNode d)) := by
  cases d with
  | none => trivial
  | some v =>
    simp only [descOk, Bool.and_eq_true, Bool.or_eq_true, Bool.not_eq_true'] at h
    refine ⟨scalars_of_scalarStr h.1, ?_⟩
    intro hb
    simp only at hb
    rcases h.2 with h2 | h2
    · rw [h2] at hb; cases hb
    · exact h2

mutual
  theorem wf_of_valueOk : ∀ (v : Value), valueOk v = true → Val.wf true (toVal v)
    | .int s, h => by
      simp only [valueOk] at h; simp only [toVal, Val.wf]; exact isNum_of_numOk h
    | .float s, h => by
      simp only [valueOk] at h; simp only [toVal, Val.wf]; exact isNum_of_numOk h
    | .str s b, h => by
      simp only [valueOk, Bool.and_eq_true, Bool.or_eq_true, Bool.not_eq_true'] at h
      simp only [toVal, Val.wf]
      refine ⟨scalars_of_scalarStr h.1, ?_⟩
      intro hb
      rcases h.2 with h2 | h2
      · rw [h2] at hb; cases hb
      · exact h2
    | .bool _, _ => by simp only [toVal, Val.wf]
    | .null, _ => by simp only [toVal, Val.wf]
    | .enum n, h => by
      simp only [valueOk, Bool.and_eq_true] at h
      simp only [toVal, Val.wf]
      exact ⟨validName_of_nameOk h.1, notKeyword_ne h.2⟩
    | .list items, h => by
      simp only [valueOk] at h
      simp only [toVal, Val.wf]
      exact wfList_of_itemsOk items h
    | .obj fields, h => by
      simp only [valueOk] at h
      simp only [toVal, Val.wf]
      exact wfFields_of_fieldsOk fields h
    | .vnil, h => by simp [valueOk] at h
    | .lcons _ _, h => by simp [valueOk] at h
    | .fcons _ _ _, h => by simp [valueOk] at h
  theorem wfList_of_itemsOk : ∀ (v : Value), itemsOk v = true → Val.wfList true (toValList v)
    | .lcons v rest, h => by
      simp only [itemsOk, Bool.and_eq_true] at h
      simp only [toValList, Val.wfList]
      exact ⟨wf_of_valueOk v h.1, wfList_of_itemsOk rest h.2⟩
    | .int _, _ | .float _, _ | .str _ _, _ | .bool _, _ | .null, _ | .enum _, _ | .list _, _
    | .obj _, _ | .vnil, _ | .fcons _ _ _, _ => by simp only [toValList, Val.wfList]
  theorem wfFields_of_fieldsOk : ∀ (v : Value), fieldsOk v = true → Val.wfFields true (toValFields v)
    | .fcons n v rest, h => by
      simp only [fieldsOk, Bool.and_eq_true] at h
      simp only [toValFields, Val.wfFields]
      exact ⟨validName_of_nameOk h.1.1, wf_of_valueOk v h.1.2, wfFields_of_fieldsOk rest h.2⟩
    | .int _, _ | .float _, _ | .str _ _, _ | .bool _, _ | .null, _ | .enum _, _ | .list _, _
    | .obj _, _ | .vnil, _ | .lcons _ _, _ => by simp only [toValFields, Val.wfFields]
end

theorem ty_of_typeOk (t : TypeRef) (h : typeOk t = true) :
    (toTy t).wf = true ∧ TyP.shaped (toTy t) = true := by
  induction t with
  | named n =>
    simp only [typeOk] at h
    exact ⟨by simp only [toTy, Ty.wf]; exact validName_of_nameOk h, by simp [toTy, TyP.shaped]⟩
  | list t ih =>
    simp only [typeOk] at h
    have := ih h
    exact ⟨by simp only [toTy, Ty.wf]; exact this.1, by simp only [toTy, TyP.shaped]; exact this.2⟩
  | nonNull t ih =>
    simp only [typeOk, Bool.and_eq_true] at h
    have := ih h.2
    refine ⟨by simp only [toTy, Ty.wf]; exact this.1, ?_⟩
    simp only [toTy, TyP.shaped, Bool.and_eq_true]
    refine ⟨?_, this.2⟩
    cases t with
    | nonNull _ => simp at h
    | named _ => rfl
    | list _ => rfl

theorem deprDirs_wf {r : Option Str} (h : strOk r = true) :
    Exec.dirsWfC true ((deprDirs r).map toDir) := by
  cases r with
  | none => simp [deprDirs, Exec.dirsWfC]
  | some v =>
    simp only [strOk] at h
    by_cases hr : v = SchemaConsts.defaultDeprecationReason
    · simp only [deprDirs, hr, if_true, List.map, toDir, Exec.dirsWfC, Exec.dirWfC, Exec.argsWfC,
        Val.wfFields, and_true]
      decide +kernel
    · simp only [deprDirs, hr, if_false, List.map, toDir, toVal, Exec.dirsWfC, Exec.dirWfC, Exec.argsWfC,
        Val.wfFields, Val.wf, and_true]
      refine ⟨by decide, by decide, scalars_of_scalarStr h, ?_⟩
      intro hb; cases hb

theorem specifiedByDirs_wf {r : Option Str} (h : strOk r = true) :
    Exec.dirsWfC true ((specifiedByDirs r).map toDir) := by
  cases r with
  | none => simp [specifiedByDirs, Exec.dirsWfC]
  | some v =>
    simp only [strOk] at h
    simp only [specifiedByDirs, List.map, toDir, toVal, Exec.dirsWfC, Exec.dirWfC, Exec.argsWfC,
      Val.wfFields, Val.wf, and_true]
    refine ⟨by decide, by decide, scalars_of_scalarStr h, ?_⟩
    intro hb; cases hb

theorem varDefWf_of_argOk {a : Arg} (h : argOk a = true) : Exec.varDefWf (toVarDef (argToIVD a)) := by
  simp only [argOk, Bool.and_eq_true] at h
  obtain ⟨⟨⟨⟨hd, hn⟩, ht⟩, hv⟩, hr⟩ := h
  have hty := ty_of_typeOk a.type ht
  refine ⟨descWf_of_descOk hd, validName_of_nameOk hn, hty.1, hty.2, ?_, deprDirs_wf hr⟩
  simp only [toVarDef, argToIVD]
  cases hdf : a.default with
  | none => trivial
  | some v =>
    rw [hdf] at hv
    exact wf_of_valueOk v hv

theorem ivdsWf_of_argsOk {as : List Arg} (h : as.all argOk = true) :
    Exec.ivdsWf ((as.map argToIVD).map toVarDef) :=
  List.forall_mem_map.2 (List.forall_mem_map.2 fun a ha => varDefWf_of_argOk (List.all_eq_true.mp h a ha))

theorem fdWf_of_fieldOk {f : Field} (h : fieldOk f = true) : Exec.fdWf (toFDef (fieldToFD f)) := by
  simp only [fieldOk, Bool.and_eq_true] at h
  obtain ⟨⟨⟨⟨hd, hn⟩, ha⟩, ht⟩, hr⟩ := h
  have hty := ty_of_typeOk f.type ht
  exact ⟨descWf_of_descOk hd, validName_of_nameOk hn, ivdsWf_of_argsOk ha, hty.1, hty.2, deprDirs_wf hr⟩

theorem evWf_of_enumValOk {v : EnumVal} (h : enumValOk v = true) : Exec.evWf (toEVDef (enumValToEVD v)) := by
  simp only [enumValOk, Bool.and_eq_true] at h
  obtain ⟨⟨⟨hd, hn⟩, hk⟩, hr⟩ := h
  have := notKeyword_ne hk
  exact ⟨descWf_of_descOk hd, validName_of_nameOk hn, this.1, this.2.1, this.2.2, deprDirs_wf hr⟩

theorem namesWf_of_all {ns : List Str} (h : ns.all nameOk = true) : Exec.namesWf ns := by
  intro a ha
  exact validName_of_nameOk (List.all_eq_true.mp h a ha)

theorem fdsWf_of_all {fs : List Field} (h : fs.all fieldOk = true) :
    ∀ f ∈ (fs.map fieldToFD).map toFDef, Exec.fdWf f :=
  List.forall_mem_map.2 (List.forall_mem_map.2 fun f hf => fdWf_of_fieldOk (List.all_eq_true.mp h f hf))

theorem tdefWf_of_typeDefOk (dd : Bool) {t : TypeDef} (h : typeDefOk t = true) :
    Exec.tdefWf dd (typeTDef t) := by
  cases t with
  | scalar n d u =>
    simp only [typeDefOk, Bool.and_eq_true] at h
    exact ⟨descWf_of_descOk h.1.1, validName_of_nameOk h.1.2, specifiedByDirs_wf h.2⟩
  | object n d is fs | interface n d is fs =>
    simp only [typeDefOk, Bool.and_eq_true] at h
    exact ⟨descWf_of_descOk h.1.1.1, validName_of_nameOk h.1.1.2, namesWf_of_all h.1.2, trivial,
      fdsWf_of_all h.2⟩
  | union n d ms =>
    simp only [typeDefOk, Bool.and_eq_true] at h
    exact ⟨descWf_of_descOk h.1.1, validName_of_nameOk h.1.2, trivial, namesWf_of_all h.2⟩
  | enum n d vs =>
    simp only [typeDefOk, Bool.and_eq_true] at h
    exact ⟨descWf_of_descOk h.1.1, validName_of_nameOk h.1.2, trivial, List.forall_mem_map.2
      (List.forall_mem_map.2 fun v hv => evWf_of_enumValOk (List.all_eq_true.mp h.2 v hv))⟩
  | input n d o fs =>
    simp only [typeDefOk, Bool.and_eq_true] at h
    refine ⟨descWf_of_descOk h.1.1, validName_of_nameOk h.1.2, ?_, ivdsWf_of_argsOk h.2⟩
    show Exec.dirsWfC true ((if o then [⟨SchemaConsts.oneOfName, []⟩] else []).map toDir)
    cases o
    · trivial
    · simp only [if_true, List.map, toDir, Exec.dirsWfC, Exec.dirWfC, Exec.argsWfC, Val.wfFields, and_true]
      decide +kernel

theorem locationOk_isLocation {l : Str} (h : locationOk l = true) : Exec.isLocation l := by
  unfold locationOk at h
  unfold Exec.isLocation
  have : l ∈ ParserTables.directiveLocations.map S := by simpa using h
  exact this

theorem tdefWf_of_directiveOk {dd : Bool} {d : Directive} (h : directiveOk dd d = true) :
    Exec.tdefWf dd (directiveTDef d) := by
  simp only [directiveOk, Bool.and_eq_true, Bool.or_eq_true, Bool.not_eq_true'] at h
  obtain ⟨⟨⟨⟨⟨⟨hd, hn⟩, ha⟩, hr⟩, hdd⟩, hne⟩, hl⟩ := h
  refine ⟨descWf_of_descOk hd, validName_of_nameOk hn, ivdsWf_of_argsOk ha, deprDirs_wf hr, ?_, ?_, ?_⟩
  · rcases hdd with h1 | h1
    · left
      cases hdep : d.depr with
      | none => rfl
      | some _ => rw [hdep] at h1; cases h1
    · exact Or.inr h1
  · intro h0; rw [h0] at hne; cases hne
  · intro l hl'
    exact locationOk_isLocation (List.all_eq_true.mp hl l hl')

theorem opEntry_wf (o : Op) {r : Option Str} (h : rootNameOk r = true) :
    ∀ ot ∈ toOts (opEntry o r), Exec.isOpType ot.1 ∧ Gql.Text.validName ot.2 = true := by
  cases r with
  | none => intro ot hot; cases hot
  | some n =>
    intro ot hot
    obtain rfl : ot = (opName o, n) := List.mem_singleton.mp hot
    exact ⟨by cases o <;> simp [Exec.isOpType, opName], validName_of_nameOk h⟩

theorem tdefWf_of_schemaBlockOk (dd : Bool) {s : Schema} (h : schemaBlockOk s = true) :
    ∀ td ∈ schemaDefTDef s, Exec.tdefWf dd td := by
  simp only [schemaBlockOk, Bool.and_eq_true] at h
  obtain ⟨⟨⟨hd, hq⟩, hm⟩, hs⟩ := h
  intro td htd
  unfold schemaDefTDef schemaDefOf at htd
  split at htd
  · cases htd
  · rename_i hroots
    split at htd
    · cases htd
    · obtain rfl := List.mem_singleton.mp htd
      refine ⟨descWf_of_descOk hd, trivial, ?_, ?_⟩
      · intro h0
        apply hroots
        cases hqq : s.query <;> cases hmm : s.mutation <;> cases hss : s.subscription <;>
          simp [hqq, hmm, hss, toOts, opEntry] at h0 ⊢
      · intro ot hot
        simp only [toOts, List.map_append, List.mem_append] at hot
        rcases hot with (hot | hot) | hot
        · exact opEntry_wf .query hq ot hot
        · exact opEntry_wf .mutation hm ot hot
        · exact opEntry_wf .subscription hs ot hot

/-- **The decidable predicate implies the hypothesis of the text theorems.** -/
theorem textWF_of_textWFb {fa dd : Bool} {s : Schema} (h : textWFb fa dd s = true) : TextWF fa dd s := by
  apply textWF_of_tdefs
  simp only [textWFb, Bool.and_eq_true] at h
  obtain ⟨⟨hb, hds⟩, hts⟩ := h
  intro td htd
  simp only [schemaTDefs, List.mem_append, List.mem_map] at htd
  rcases htd with (htd | ⟨d, hd, rfl⟩) | ⟨t, ht, rfl⟩
  · exact tdefWf_of_schemaBlockOk dd hb td htd
  · exact tdefWf_of_directiveOk (List.all_eq_true.mp hds d hd)
  · exact tdefWf_of_typeDefOk dd (List.all_eq_true.mp hts t ht)

mutual
  theorem ofVal_toVal_of_valueOk : ∀ (v : Value), valueOk v = true → ofVal (toVal v) = v
    | .int _, _ | .float _, _ | .str _ _, _ | .bool _, _ | .null, _ | .enum _, _ => by
      simp only [toVal, ofVal]
    | .list items, h => by
      simp only [valueOk] at h
      simp only [toVal, ofVal, ofValList_toValList_of_itemsOk items h]
    | .obj fields, h => by
      simp only [valueOk] at h
      simp only [toVal, ofVal, ofValFields_toValFields_of_fieldsOk fields h]
    | .vnil, h => by simp [valueOk] at h
    | .lcons _ _, h => by simp [valueOk] at h
    | .fcons _ _ _, h => by simp [valueOk] at h
  theorem ofValList_toValList_of_itemsOk : ∀ (v : Value), itemsOk v = true → ofValList (toValList v) = v
    | .lcons v rest, h => by
      simp only [itemsOk, Bool.and_eq_true] at h
      simp only [toValList, ofValList, ofVal_toVal_of_valueOk v h.1, ofValList_toValList_of_itemsOk rest h.2]
    | .vnil, _ => by simp only [toValList, ofValList]
    | .int _, h | .float _, h | .str _ _, h | .bool _, h | .null, h | .enum _, h | .list _, h
    | .obj _, h | .fcons _ _ _, h => by simp [itemsOk] at h
  theorem ofValFields_toValFields_of_fieldsOk : ∀ (v : Value), fieldsOk v = true →
      ofValFields (toValFields v) = v
    | .fcons n v rest, h => by
      simp only [fieldsOk, Bool.and_eq_true] at h
      simp only [toValFields, ofValFields, ofVal_toVal_of_valueOk v h.1.2,
        ofValFields_toValFields_of_fieldsOk rest h.2]
    | .vnil, _ => by simp only [toValFields, ofValFields]
    | .int _, h | .float _, h | .str _ _, h | .bool _, h | .null, h | .enum _, h | .list _, h
    | .obj _, h | .lcons _ _, h => by simp [fieldsOk] at h
end

theorem argShaped_of_argOk {a : Arg} (h : argOk a = true) : argShaped a = true := by
  simp only [argOk, Bool.and_eq_true] at h
  have hv := h.1.2
  unfold argShaped
  cases hdf : a.default with
  | none => rfl
  | some v =>
    rw [hdf] at hv
    simp only [defaultOk] at hv
    simp only [valueShaped, ofVal_toVal_of_valueOk v hv, beq_self_eq_true]

theorem argsShaped_of_all {as : List Arg} (h : as.all argOk = true) : as.all argShaped = true :=
  List.all_eq_true.mpr (fun a ha => argShaped_of_argOk (List.all_eq_true.mp h a ha))

theorem fieldsShaped_of_all {fs : List Field} (h : fs.all fieldOk = true) :
    fs.all (fun f => f.args.all argShaped) = true := by
  refine List.all_eq_true.mpr (fun f hf => ?_)
  have := List.all_eq_true.mp h f hf
  simp only [fieldOk, Bool.and_eq_true] at this
  exact argsShaped_of_all this.1.1.2

/-- The decidable predicate includes the shape hypothesis of `text_roundtrip_defs`. -/
theorem schemaShaped_of_textWFb {fa dd : Bool} {s : Schema} (h : textWFb fa dd s = true) :
    schemaShaped s = true := by
  simp only [textWFb, Bool.and_eq_true] at h
  obtain ⟨⟨_, hds⟩, hts⟩ := h
  simp only [schemaShaped, Bool.and_eq_true]
  constructor
  · refine List.all_eq_true.mpr (fun d hd => ?_)
    have := List.all_eq_true.mp hds d hd
    simp only [directiveOk, Bool.and_eq_true] at this
    exact argsShaped_of_all this.1.1.1.1.2
  · refine List.all_eq_true.mpr (fun t ht => ?_)
    have := List.all_eq_true.mp hts t ht
    cases t with
    | scalar n d u | union n d ms | enum n d vs => rfl
    | object n d is fs | interface n d is fs =>
      simp only [typeDefOk, Bool.and_eq_true] at this
      exact fieldsShaped_of_all this.2
    | input n d o fs =>
      simp only [typeDefOk, Bool.and_eq_true] at this
      exact argsShaped_of_all this.2

end Gql.Types.PrintSchema
