import Gql.Proofs.SpecTotal
import Gql.Proofs.EditApply
/-!
C11-1/2/4 in full: the stack machine `visit` against the documented contract `Spec.specNode`, for
*every* visitor — remove and replace on enter and on leave included.  `Run` takes the contract's
answer as an `Option`: where it is defined the machine follows it; where it is not, the
nesting bound `D` is exceeded, which takes `D` entering iterations, so the machine is still running
after `D` (`Alive`).  Both halves compose along `Res.bind` (`Run.bind`), so one chain per level of
the contract proves the refinement and, read at bound `fuel`, that `visit` never raises.
-/
namespace Gql.Syntax
open Gql Gql.Syntax.Spec

variable {σ : Type}

/-- as long as the contract has seen no edit, no level of the machine holds one -/
def EdInv (w : W σ) (st : St σ) : Prop := w.edited = false → st.edits = [] ∧ ∀ fr ∈ st.stack, fr.edits = []

/-- the machine has stopped on a BREAK: its result is the untouched root unless an edit was made -/
def BrkOut (root : Node) (w' : W σ) (nx : Next σ) : Prop :=
  ∃ r, nx = .stop r w'.s ∧ (w'.edited = false → r = some (.node root))

theorem EdInv.step {w w1 : W σ} {T T1 : St σ} {es : Edits} (hinv : EdInv w T)
    (hed : w1.edited = false → w.edited = false) (hes : w1.edited = false → es = [])
    (he : T1.edits = T.edits ++ es) (hs : T1.stack = T.stack) : EdInv w1 T1 := by
  intro h
  have hc := hinv (hed h)
  exact ⟨by rw [he, hes h, hc.1]; rfl, by rw [hs]; exact hc.2⟩

theorem EdInv.push {w w1 : W σ} {T T1 : St σ} {fr : Frame} (hinv : EdInv w T) (hed : w1.edited = w.edited)
    (he : T1.edits = []) (hs : T1.stack = fr :: T.stack) (hfr : fr.edits = T.edits) : EdInv w1 T1 := by
  intro h
  have hc := hinv (hed ▸ h)
  refine ⟨he, fun f hf => ?_⟩
  rw [hs] at hf
  rcases List.mem_cons.mp hf with rfl | hf
  · rw [hfr]; exact hc.1
  · exact hc.2 f hf

/-- after `D` iterations from `T` the loop is still running (so none of them has raised) -/
def Alive (root : Node) (vk : String → List String) (v : Visitor σ) (D : Nat) (T : St σ) : Prop :=
  ∃ T', iter false root vk v D T = .ok (.cont T')

/-- the machine, started in `T`, against a stretch `x` of the contract read from `w` at nesting bound `D`.
Where the contract answers, the machine follows it: after as many loop iterations as the contract counts it
has stopped on the BREAK, or it is where `Q` says.  Where it does not, the bound is exceeded, and the
machine is still running after `D` iterations -/
def Run (root : Node) (vk : String → List String) (v : Visitor σ) {α : Type} (D : Nat) (T : St σ) (w : W σ)
    (x : Option (Res σ α)) (Q : W σ → α → Next σ → Prop) : Prop :=
  match x with
  | none => Alive root vk v D T
  | some res => ∃ n, res.w.iters = w.iters + n ∧ ∃ nx, iter false root vk v n T = .ok nx ∧
    match res with
    | .brk w' => BrkOut root w' nx
    | .done w' a => (w'.edited = false → w.edited = false) ∧ Q w' a nx

section
variable {root : Node} {vk : String → List String} {v : Visitor σ} {α β : Type} {D : Nat}

/-- `m` iterations that the contract counts, but during which it calls nobody -/
theorem Run.prefix {m D' : Nat} {T T0 : St σ} {w w0 : W σ} {x : Option (Res σ α)} {Q : W σ → α → Next σ → Prop}
    (hrun : iter false root vk v m T = .ok (.cont T0)) (hit : w0.iters = w.iters + m)
    (hed : w0.edited = false → w.edited = false) (h : Run root vk v D T0 w0 x Q) (hD : D' ≤ m + D) :
    Run root vk v D' T w x Q := by
  rcases x with _ | res
  · obtain ⟨T', h⟩ := h
    obtain ⟨b, hb⟩ := Nat.exists_eq_add_of_le hD
    have h' : iter false root vk v (D' + b) T = .ok (.cont T') := by rw [← hb, iter_add, hrun]; exact h
    exact (iter_prefix h').elim id fun h' => ⟨T', h'⟩
  · obtain ⟨n, hit', nx, hrun', hq⟩ := h
    refine ⟨m + n, by omega, nx, by rw [iter_add, hrun]; exact hrun', ?_⟩
    cases res with
    | brk w' => exact hq
    | done w' a => exact ⟨fun he => hed (hq.1 he), hq.2⟩

theorem Run.bind {x : Option (Res σ α)} {f : W σ → α → Option (Res σ β)} {T : St σ} {w : W σ}
    {Q1 : W σ → α → Next σ → Prop} {Q : W σ → β → Next σ → Prop} (hx : Run root vk v D T w x Q1)
    (hf : ∀ w1 a nx1, Q1 w1 a nx1 → (w1.edited = false → w.edited = false) →
      ∃ T1, nx1 = .cont T1 ∧ Run root vk v D T1 w1 (f w1 a) Q) :
    Run root vk v D T w (Res.bind x f) Q := by
  rcases x with _ | ⟨w1 | ⟨w1, a⟩⟩
  · exact hx
  · exact hx
  · obtain ⟨n1, hit1, nx1, hrun1, hed1, hq1⟩ := hx
    obtain ⟨T1, rfl, h2⟩ := hf w1 a nx1 hq1 hed1
    exact Run.prefix hrun1 hit1 hed1 h2 (Nat.le_add_left _ _)

theorem Run.map {x : Option (Res σ α)} {g : α → β} {T : St σ} {w : W σ}
    {Q1 : W σ → α → Next σ → Prop} {Q : W σ → β → Next σ → Prop} (hx : Run root vk v D T w x Q1)
    (hq : ∀ w1 a nx, (w1.edited = false → w.edited = false) → Q1 w1 a nx → Q w1 (g a) nx) :
    Run root vk v D T w (Res.bind x fun w a => some (.done w (g a))) Q := by
  rcases x with _ | ⟨w1 | ⟨w1, a⟩⟩
  · exact hx
  · exact hx
  · obtain ⟨n, hit, nx, hrun, hed, hq1⟩ := hx
    exact ⟨n, hit, nx, hrun, hed, hq _ _ _ hed hq1⟩

theorem Run.mono {T : St σ} {w : W σ} {x : Option (Res σ α)} {Q Q' : W σ → α → Next σ → Prop}
    (h : Run root vk v D T w x Q)
    (hq : ∀ w' a nx, (w'.edited = false → w.edited = false) → Q w' a nx → Q' w' a nx) :
    Run root vk v D T w x Q' := by
  rcases x with _ | ⟨w1 | ⟨w1, a⟩⟩
  · exact h
  · exact h
  · obtain ⟨n, hit, nx, hrun, h⟩ := h
    exact ⟨n, hit, nx, hrun, h.1, hq _ _ _ h.1 h.2⟩

end

/-- from the iteration that fetches the node `c`, the machine follows the contract for `c` and leaves
the position with the edits the contract's answer stands for -/
def NodeSim (root : Node) (vk : String → List String) (v : Visitor σ) (rec : Rec σ) (D : Nat) : Prop :=
  ∀ (T st1 : St σ) (c : Node) (w : W σ),
    fetch T = .ok (.got st1 false false) → st1.node = some (.node c) → Pos st1 → EdInv w st1 → w.s = st1.vs →
    Run root vk v D T w (rec w c st1.key st1.parent st1.ranc.reverse st1.rpath.reverse)
      fun w' slot nx => ∃ es nd, SlotEdits st1.key slot es ∧ (w'.edited = false → es = []) ∧
        nx = popTo root st1 es nd w'.s

theorem sim_items {root : Node} {vk : String → List String} {v : Visitor σ} {rec : Rec σ} {D : Nat}
    (hrec : NodeSim root vk v rec D) (cs : List Node) :
    ∀ (suf pre : List Node) (U : St σ) (w : W σ),
      cs = pre ++ suf → U.idx = pre.length → U.keys = .items cs → U.inArray = true →
      U.parent = some (.arr cs) → U.stack ≠ [] → EdInv w U → w.s = U.vs →
      Run root vk v D U w (specItems rec U.parent U.ranc.reverse U.rpath.reverse w suf U.idx)
        fun w' out nx => ∃ es nd ky, ArrEdits U.idx suf es out ∧ (w'.edited = false → es = []) ∧
          nx = .cont { U with idx := cs.length, edits := U.edits ++ es, node := nd, key := ky, vs := w'.s } := by
  intro suf
  induction suf with
  | nil =>
    intro pre U w hcs hidx hkeys hin hpar hst hinv hw
    have : cs.length = U.idx := by simp [hcs, hidx]
    exact ⟨0, rfl, _, rfl, id, [], U.node, U.key, ArrEdits.nil _, fun _ => rfl, by rw [List.append_nil, this, hw]⟩
  | cons c suf ih =>
    intro pre U w hcs hidx hkeys hin hpar hst hinv hw
    rw [specItems_cons, ← List.reverse_cons]
    have hget : cs[U.idx]? = some c := by simp [hcs, hidx]
    let st1 : St σ := { U with key := .idx U.idx, node := some (.node c), rpath := .idx U.idx :: U.rpath }
    have hpos : Pos st1 := Or.inr ⟨hst, by simp [st1, hpar, truthy, hcs], U.rpath, rfl⟩
    refine Run.bind (hrec U st1 c w (fetch_item hin hkeys hpar hget) rfl hpos hinv hw) ?_
    rintro w1 slot nx1 ⟨es1, nd1, hslot, hes1, rfl⟩ hed1
    refine ⟨_, popTo_cont (S := st1) hst _ _ _, Run.map (ih (pre ++ [c]) _ w1 (by simp [hcs])
      (by simp [st1, hidx]) hkeys hin hpar hst (hinv.step hed1 hes1 rfl rfl) rfl) ?_⟩
    rintro w2 rest nx2 hed2 ⟨es2, nd, ky, harr, hes2, rfl⟩
    exact ⟨es1 ++ es2, nd, ky, ArrEdits.cons _ _ _ _ _ _ _ hslot harr,
      fun he => by rw [hes2 he, hes1 (hed2 he)]; rfl, by simp [st1, List.append_assoc]⟩

/-- the edits `es` the machine appends to a node level for the attribute `k`, against the new value
`e` the contract gives that attribute -/
def AttrEdits (keys : List String) (k : String) (e : Option Child) (es : Edits) : Prop :=
  ∀ suf es' sp, FieldEdits keys suf es' sp → FieldEdits keys (k :: suf) (es ++ es') (consEdit k e sp)

theorem sim_attr {root : Node} {vk : String → List String} {v : Visitor σ} {rec : Rec σ} {D : Nat}
    (hrec : NodeSim root vk v rec D) (m : Node) (ks : List String) (k : String) (T : St σ) (w : W σ)
    (hget : ks[T.idx]? = some k) (hkeys : T.keys = .names ks)
    (hin : T.inArray = false) (hpar : T.parent = some (.node m)) (hst : T.stack ≠ []) (hinv : EdInv w T)
    (hw : w.s = T.vs) :
    Run root vk v D T w (specAttr rec m T.ranc.reverse T.rpath.reverse w k)
      fun w' e nx => ∃ es nd ky, AttrEdits (m.fields.map Prod.fst) k e es ∧ (w'.edited = false → es = []) ∧
        nx = .cont { T with idx := T.idx + 1, edits := T.edits ++ es, node := nd, key := ky, vs := w'.s } := by
  have hf := fetch_attr hin hkeys hpar hget
  rw [specAttr]
  have hkmem : m.attr k ≠ .absent → k ∈ m.fields.map Prod.fst := attr_mem m k
  generalize m.attr k = ch at hf hkmem ⊢
  cases ch with
  | absent =>
    exact ⟨1, rfl, .cont { T with key := .name k, node := none, idx := T.idx + 1 }, by simp only [iter, step, hf],
      id, [], none, .name k,
      fun suf es sp h => FieldEdits.same _ _ _ _ h, fun _ => rfl, by rw [List.append_nil, hw]⟩
  | one c =>
    have hkmem := hkmem (by simp)
    let st1 : St σ := { T with key := .name k, node := some (.node c), rpath := .name k :: T.rpath }
    have hpos : Pos st1 := Or.inr ⟨hst, by simp [st1, hpar, truthy], T.rpath, rfl⟩
    dsimp only
    rw [← hpar, ← List.reverse_cons]
    refine Run.map (hrec T st1 c w hf rfl hpos hinv hw) ?_
    rintro w1 slot nx _ ⟨es, nd, hslot, hes, rfl⟩
    refine ⟨es, nd, .name k, fun suf es' sp h => ?_, hes, popTo_cont (S := st1) hst _ _ _⟩
    cases slot with
    | keep => rw [hslot.nil_iff.mpr rfl]; exact FieldEdits.same _ _ _ _ h
    | gone => exact FieldEdits.single k suf .gone es es' sp hkmem hslot (by simp) h
    | put c' => exact FieldEdits.single k suf (.put c') es es' sp hkmem hslot (by simp) h
  | many cs =>
    have hkmem := hkmem (by simp)
    let st1 : St σ := { T with key := .name k, node := some (.arr cs), rpath := .name k :: T.rpath }
    have hpos : Pos st1 := Or.inr ⟨hst, by simp [st1, hpar, truthy], T.rpath, rfl⟩
    -- the tuple is a position like a node: its level is pushed, its items are visited, its level is left
    have hpush := (iter_one_of_fetch root vk v hf).trans (tail_enter root vk st1 (.arr cs) true)
    have h1 := sim_items hrec cs cs [] (pushLevel vk st1 (.arr cs)) { w with iters := w.iters + 1 } rfl rfl rfl rfl rfl
      (List.cons_ne_nil _ _) (hinv.push rfl rfl rfl rfl) hw
    have hanc : T.ranc.reverse ++ [.node m] = (pushAnc st1).reverse := by simp [pushAnc, st1, hpar, truthy]
    rw [hanc, ← List.reverse_cons]
    refine Run.prefix (w0 := { w with iters := w.iters + 1 }) hpush rfl id (Run.bind h1 ?_) (Nat.le_add_left _ _)
    rintro w1 ⟨cs', ch⟩ nx1 ⟨es_a, nd, ky, harr, hes, rfl⟩ _
    have hpop := (iter_one_of_fetch root vk v (fetch_pop (vk := vk) hpos (.arr cs) es_a nd ky w1.s harr.leave)).trans
      (tail_leave root vk _ _ (.arr cs') true)
    obtain rfl : ch = !es_a.isEmpty := harr.changed
    refine ⟨_, rfl, 1, rfl, _, hpop, id, _, _, .name k, fun suf es sp h => ?_, fun he => by rw [hes he]; rfl,
      popTo_cont (S := st1) hst _ _ _⟩
    cases es_a with
    | nil => exact FieldEdits.same _ _ _ _ h
    | cons e0 es0 => exact FieldEdits.arr k suf cs' es sp hkmem h

theorem sim_keys {root : Node} {vk : String → List String} {v : Visitor σ} {rec : Rec σ} {D : Nat}
    (hrec : NodeSim root vk v rec D) (m : Node) (ks : List String) :
    ∀ (suf pre : List String) (T : St σ) (w : W σ),
      ks = pre ++ suf → T.idx = pre.length → T.keys = .names ks → T.inArray = false →
      T.parent = some (.node m) → T.stack ≠ [] → EdInv w T → w.s = T.vs →
      Run root vk v D T w (specKeys rec m T.ranc.reverse T.rpath.reverse w suf)
        fun w' sp nx => ∃ es nd ky, FieldEdits (m.fields.map Prod.fst) suf es sp ∧ (w'.edited = false → es = []) ∧
          nx = .cont { T with idx := ks.length, edits := T.edits ++ es, node := nd, key := ky, vs := w'.s } := by
  intro suf
  induction suf with
  | nil =>
    intro pre T w hks hidx hkeys hin hpar hst hinv hw
    have : ks.length = T.idx := by simp [hks, hidx]
    exact ⟨0, rfl, _, rfl, id, [], T.node, T.key, FieldEdits.nil, fun _ => rfl, by rw [List.append_nil, this, hw]⟩
  | cons k suf ih =>
    intro pre T w hks hidx hkeys hin hpar hst hinv hw
    rw [specKeys_cons]
    refine Run.bind (sim_attr hrec m ks k T w (by simp [hks, hidx]) hkeys hin hpar hst hinv hw) ?_
    rintro w1 e nx1 ⟨es1, nd1, ky1, hattr, hes1, rfl⟩ hed1
    refine ⟨_, rfl, Run.map (ih (pre ++ [k]) _ w1 (by simp [hks]) (by simp [hidx]) hkeys hin
      hpar hst (hinv.step hed1 hes1 rfl rfl) rfl) ?_⟩
    rintro w2 sp nx2 hed2 ⟨es2, nd, ky, hfe, hes2, rfl⟩
    exact ⟨es1 ++ es2, nd, ky, hattr _ _ _ hfe, fun he => by rw [hes2 he, hes1 (hed2 he)]; rfl,
      by simp [List.append_assoc]⟩

/-- the body of a node `m` met at `S` (its own level not yet pushed): the children, then `leave`.
`replaced`: `m` is what `enter` answered, and that edit is already among `S.edits` -/
theorem sim_body {root : Node} {vk : String → List String} {v : Visitor σ} {rec : Rec σ} {D : Nat}
    (hrec : NodeSim root vk v rec D) (S : St σ) (m : Node) (w1 : W σ) (replaced : Bool)
    (hpos : Pos S) (hinv : EdInv w1 S) (hw : w1.s = S.vs) :
    Run root vk v D (pushLevel vk S (.node m)) w1
      (specBody vk v rec S.key S.parent S.ranc.reverse S.rpath.reverse w1 m replaced)
      fun w' slot nx => ∃ es' nd,
        SlotEdits S.key slot ((if replaced then [(S.key, .val (.node m))] else []) ++ es') ∧
        (w'.edited = false → es' = []) ∧ nx = popTo root S es' nd w'.s := by
  rw [specBody_eq, ← hpos.pushAnc.1]
  refine Run.bind (sim_keys hrec m (vk m.kind) (vk m.kind) [] (pushLevel vk S (.node m)) w1 rfl rfl rfl rfl
    rfl (List.cons_ne_nil _ _) (hinv.push rfl rfl rfl rfl) hw) ?_
  rintro w2 sp nx1 ⟨es_m, nd, ky, hfe, hes, rfl⟩ hmono
  refine ⟨_, rfl, ?_⟩
  -- the leaving iteration hands `m'` to `leave`
  let m' : Node := if sp.isEmpty then m else Node.mk m.kind 0 m.payload (withFields m.fields sp)
  have hfetchL := fetch_pop (vk := vk) hpos (.node m) es_m nd ky w2.s hfe.leaveNode
  rw [hfe.isEmpty_eq] at hfetchL
  rcases hcall2 : v w2.s ⟨.leave, m', S.key, S.parent, S.rpath.reverse, S.ranc.reverse⟩ with ⟨a2, s3⟩
  have hstep := (iter_one_of_fetch root vk v hfetchL).trans (process_leave root vk v S m' w2.s s3 _ a2 hcall2)
  have hcall2' : v w2.s ⟨.leave, if sp.isEmpty = true then m else Node.mk m.kind 0 m.payload (withFields m.fields sp),
      S.key, S.parent, S.rpath.reverse, S.ranc.reverse⟩ = (a2, s3) := hcall2
  simp only [specLeave]
  rw [hcall2']
  have hslot := SlotEdits.of_leave S.key m m' replaced (!sp.isEmpty) a2
  have hkept : w2.edited = false → leaveEdit S.key m' (!sp.isEmpty) .idle = [] := fun he => by
    rw [← hfe.isEmpty_eq, hes he]; rfl
  cases a2 with
  | brk => exact ⟨1, rfl, _, hstep, _, rfl, fun he => by rw [(hinv (hmono he)).1]; rfl⟩
  | remove => exact ⟨1, rfl, _, hstep, (fun he => by cases he), _, _, hslot (by simp), (fun he => by cases he), rfl⟩
  | replace q => exact ⟨1, rfl, _, hstep, (fun he => by cases he), _, _, hslot (by simp), (fun he => by cases he), rfl⟩
  | idle => exact ⟨1, rfl, _, hstep, id, _, _, hslot (by simp), hkept, rfl⟩
  | skip => exact ⟨1, rfl, _, hstep, id, _, _, hslot (by simp), hkept, rfl⟩

theorem sim_all {root : Node} {vk : String → List String} {v : Visitor σ} (d : Nat) :
    NodeSim root vk v (specNode vk v d) d := by
  induction d with
  | zero => exact fun T _ _ _ _ _ _ _ _ => ⟨T, rfl⟩
  | succ d hrec =>
    intro T st1 c w hfetch hnode hpos hinv hw
    simp only [specNode]
    rw [hw]
    rcases hcall : v st1.vs ⟨.enter, c, st1.key, st1.parent, st1.rpath.reverse, st1.ranc.reverse⟩ with ⟨a, s1⟩
    have hstep := (iter_one_of_fetch root vk v hfetch).trans (process_enter root vk v hnode hpos hcall)
    cases a with
    | brk => exact ⟨1, rfl, _, hstep, _, rfl, fun he => by rw [(hinv he).1]; rfl⟩
    | skip => exact ⟨1, rfl, _, hstep, id, [], st1.node, SlotEdits.keep, fun _ => rfl, rfl⟩
    | remove =>
      exact ⟨1, rfl, _, hstep, (fun he => by cases he), _, st1.node, SlotEdits.gone1, (fun he => by cases he), rfl⟩
    | idle =>
      exact Run.prefix (w0 := ⟨s1, w.iters + 1, w.edited⟩) hstep rfl id
        (sim_body hrec { st1 with vs := s1 } c _ false hpos hinv rfl) (Nat.add_comm _ _ ▸ Nat.le_refl _)
    | replace r =>
      -- the edit is recorded and the level of `r` is pushed
      refine Run.prefix (w0 := ⟨s1, w.iters + 1, true⟩) hstep rfl (fun he => by cases he)
        ((sim_body hrec
          { st1 with vs := s1, edits := st1.edits ++ [(st1.key, .val (.node r))], node := some (.node r) }
          r _ true hpos (fun he => by cases he) rfl).mono ?_) (Nat.add_comm _ _ ▸ Nat.le_refl _)
      rintro w' slot nx hmono ⟨es', nd, hslot, -, rfl⟩
      exact ⟨_, nd, hslot, (fun he => by cases hmono he), by simp [popTo, List.append_assoc]⟩

theorem SlotEdits.resultOf {ky : Key} {slot : Slot} {es : Edits} (h : SlotEdits ky slot es) (root : Node) (w : W σ) :
    resultOf root (.done w slot) = some (finishVal root es) := by
  cases h <;> rfl

/-- the simulation read at the root: where the contract is defined the loop stops after the contract's count of
iterations, in the contract's visitor state, with the value the contract demands (if it demands one) -/
theorem sim_root (root : Node) (vk : String → List String) (v : Visitor σ) (s : σ) (d : Nat) :
    match specNode vk v d ⟨s, 0, false⟩ root .none none [] [] with
    | none => Alive root vk v d (St.init root s)
    | some res => ∃ r, iter false root vk v res.w.iters (St.init root s) = .ok (.stop r res.w.s) ∧
        ∀ x, resultOf root res = some x → r = x := by
  have h : Run root vk v d (St.init root s) ⟨s, 0, false⟩ (specNode vk v d ⟨s, 0, false⟩ root .none none [] []) _ :=
    sim_all d (St.init root s) (St.init root s) root ⟨s, 0, false⟩ (fetch_root rfl (by simp [St.init, Keys.length]))
      rfl (Or.inl ⟨rfl, rfl, rfl, rfl, rfl⟩) (fun _ => ⟨rfl, fun fr hfr => nomatch hfr⟩) rfl
  generalize specNode vk v d ⟨s, 0, false⟩ root .none none [] [] = x at h ⊢
  rcases x with _ | w' | ⟨w', slot⟩
  · exact h
  · obtain ⟨n, hit, nx, hrun, r, rfl, hr⟩ := h
    obtain rfl : w'.iters = n := hit.trans (Nat.zero_add n)
    refine ⟨r, hrun, fun x hx => ?_⟩
    cases he : w'.edited with
    | true => simp [resultOf, he] at hx
    | false => simp [resultOf, he] at hx; rw [hr he, hx]
  · obtain ⟨n, hit, nx, hrun, -, es, nd, hslot, -, rfl⟩ := h
    obtain rfl : w'.iters = n := hit.trans (Nat.zero_add n)
    exact ⟨finishVal root es, hrun, fun x hx => by rw [hslot.resultOf] at hx; cases hx; rfl⟩

/-- the machine against the contract, for every visitor -/
theorem visit_of_spec_full {vk : String → List String} {v : Visitor σ} (d : Nat)
    (root : Node) (s : σ) (out : Outcome σ) (h : specVisit vk v d root s = some out) :
    ∀ fuel, out.iters ≤ fuel →
      ∃ r, visitFuel root vk v s fuel = some (.ok (r, out.state)) ∧ ∀ x, out.result = some x → r = x := by
  obtain ⟨res, hn, rfl⟩ := specVisit_out h
  have hsim := sim_root root vk v s d
  rw [hn] at hsim
  obtain ⟨r, hrun, hr⟩ := hsim
  exact fun fuel hf => ⟨r, by simp only [visitFuel, iter_stop_le hrun hf], hr⟩

/-- what the contract demands of a visitor that never edits: the root itself -/
theorem spec_result_of_nonEditing {vk : String → List String} {v : Visitor σ} (hv : NonEditing v) {d : Nat}
    {root : Node} {s : σ} {out : Outcome σ} (h : specVisit vk v d root s = some out) :
    out.result = some (some (.node root)) := by
  obtain ⟨res, hn, rfl⟩ := specVisit_out h
  have hp := node_unedited (vk := vk) hv d ⟨s, 0, false⟩ root .none none [] [] trivial rfl
  rw [hn] at hp
  cases res with
  | brk w => exact if_neg (ne_true_of_eq_false hp)
  | done w sl => rw [hp.2]; rfl

/-- a visitor that never edits: the contract is defined within depth `size + 1`, and within its count
of iterations the loop returns the root itself, having made the contract's calls -/
theorem visit_nonEditing (vk : String → List String) {v : Visitor σ} (hv : NonEditing v) (root : Node) (s : σ) :
    ∃ out, specVisit vk v (root.size + 1) root s = some out ∧
      ∀ fuel, out.iters ≤ fuel → visitFuel root vk v s fuel = some (.ok (some (.node root), out.state)) := by
  obtain ⟨out, h⟩ := spec_terminates (vk := vk) hv root s (root.size + 1) (Nat.lt_succ_self _)
  refine ⟨out, h, fun fuel hf => ?_⟩
  obtain ⟨r, h1, h2⟩ := visit_of_spec_full _ root s out h fuel hf
  rw [h1, h2 _ (spec_result_of_nonEditing hv h)]

end Gql.Syntax
