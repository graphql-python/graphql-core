import Gql.Text.Lexer
/-!
# Basic facts about the index-based lexer model (`Gql/Text/Lexer.lean`)

Self-contained (imports only the model).  Main results:

* `lex_no_crash`   : `readNextToken` never crashes (every subscript `body[i]` is guarded, every
                     escape sequence has positive size);
* `lex_progress`   : a token returned from a position `pos ≤ |body|` starts at or after `pos`; a
                     non-EOF token has `start < stop ≤ |body|`; the EOF token is `(|body|, |body|)`;
* `lexAll_no_crash`: the fuel `|body| + 2` of `lexAll` is never exhausted.

Every token reader has one post-condition (`TokPost`: span, line, column, no line terminator
inside a token that is not a block string); the line/column theorem (`LexerLines`) uses the same.
-/
namespace Gql.Text
open Gql

/-- Post-condition of a lexer action: no crash, and `P` holds of a returned value. -/
def Post {α : Type} (P : α → Prop) : LexOut α → Prop
  | .ok a => P a
  | .err _ => True
  | .crash _ => False

theorem Post.bind {α β : Type} {P : α → Prop} {Q : β → Prop} {x : LexOut α} {f : α → LexOut β}
    (hx : Post P x) (hf : ∀ a, P a → Post Q (f a)) : Post Q (x >>= f) := by
  cases x with
  | ok a => exact hf a hx
  | err e => trivial
  | crash c => exact hx.elim

theorem Post.mono {α : Type} {P Q : α → Prop} {x : LexOut α} (hx : Post P x)
    (h : ∀ a, P a → Q a) : Post Q x := by
  cases x with
  | ok a => exact h a hx
  | err e => trivial
  | crash c => exact hx.elim

theorem Post.noCrash {α : Type} {P : α → Prop} {x : LexOut α} (hx : Post P x) : ¬ x.isCrash := by
  cases x <;> simp_all [Post, Out.isCrash]

theorem Post.of_ok {α : Type} {P : α → Prop} {x : LexOut α} {a : α} (hx : Post P x)
    (h : x = .ok a) : P a := by
  subst h; exact hx

@[simp] theorem post_ok {α : Type} (P : α → Prop) (a : α) : Post P (.ok a : LexOut α) = P a := rfl
@[simp] theorem post_pure {α : Type} (P : α → Prop) (a : α) : Post P (pure a : LexOut α) = P a := rfl
@[simp] theorem post_err {α : Type} (P : α → Prop) (e : LexErr) : Post P (.err e : LexOut α) = True := rfl

theorem Post.ite {α : Type} {P : α → Prop} {c : Prop} [Decidable c] {x y : LexOut α}
    (hx : c → Post P x) (hy : ¬ c → Post P y) : Post P (if c then x else y) := by
  by_cases h : c
  · rw [if_pos h]; exact hx h
  · rw [if_neg h]; exact hy h

theorem Post.and {α : Type} {P Q : α → Prop} {x : LexOut α} (hp : Post P x) (hq : Post Q x) :
    Post (fun a => P a ∧ Q a) x := by
  cases x with
  | ok a => exact ⟨hp, hq⟩
  | err e => trivial
  | crash c => exact hp.elim

theorem index_ok (body : List Nat) (pos : Nat) (h : pos < body.length) :
    (Out.index body pos : LexOut Nat) = .ok body[pos] := by
  simp [Out.index, h]

theorem charAt_some_get (body : List Nat) (i c : Nat) (h : charAt body i = some c) :
    ∃ hl : i < body.length, body[i] = c :=
  List.getElem?_eq_some_iff.mp h

theorem charAt_some_lt {body : List Nat} {i c : Nat} (h : charAt body i = some c) : i < body.length :=
  (charAt_some_get body i c h).1

theorem isSupplementary_spec (body : List Nat) (i : Nat) (h : isSupplementary body i = true) :
    ∃ (_ : i < body.length) (_ : i + 1 < body.length),
      isLeadSurrogate body[i] = true ∧ isTrailSurrogate body[i + 1] = true := by
  unfold isSupplementary at h
  split at h
  · next a b ha hb =>
    obtain ⟨h1, rfl⟩ := List.getElem?_eq_some_iff.mp ha
    obtain ⟨h2, rfl⟩ := List.getElem?_eq_some_iff.mp hb
    simp only [Bool.and_eq_true] at h
    exact ⟨h1, h2, h.1, h.2⟩
  · cases h

theorem isSupplementary_lt (body : List Nat) (i : Nat) (h : isSupplementary body i = true) :
    i + 1 < body.length :=
  (isSupplementary_spec body i h).2.1

/-- No CR / LF among `body[p], …, body[q-1]`. -/
def NoNLIn (body : List Nat) (p q : Nat) : Prop :=
  ∀ i, p ≤ i → i < q → ∀ c, body[i]? = some c → c ≠ 10 ∧ c ≠ 13

theorem NoNLIn.refl (body : List Nat) (p : Nat) : NoNLIn body p p := by
  intro i h1 h2; omega

theorem NoNLIn.mono {body : List Nat} {p p' q : Nat} (h : NoNLIn body p q) (hp : p ≤ p') : NoNLIn body p' q :=
  fun i h1 h2 => h i (by omega) h2

theorem NoNLIn.snoc {body : List Nat} {p q : Nat} (h : NoNLIn body p q) (hq : q < body.length)
    (hc : body[q] ≠ 10 ∧ body[q] ≠ 13) : NoNLIn body p (q + 1) := by
  intro i h1 h2 c hi
  by_cases e : i = q
  · subst e
    rw [List.getElem?_eq_getElem hq] at hi
    cases hi; exact hc
  · exact h i h1 (by omega) c hi

theorem NoNLIn.trans {body : List Nat} {p q r : Nat} (h1 : NoNLIn body p q) (h2 : NoNLIn body q r) :
    NoNLIn body p r := by
  intro i a b c hi
  by_cases e : i < q
  · exact h1 i a e c hi
  · exact h2 i (by omega) b c hi

theorem NoNLIn.cons {body : List Nat} {p q : Nat} (h : NoNLIn body (p + 1) q) (hp : p < body.length)
    (hc : body[p] ≠ 10 ∧ body[p] ≠ 13) : NoNLIn body p q :=
  ((NoNLIn.refl body p).snoc hp hc).trans h

theorem charAt_eq_nonl (body : List Nat) (p c : Nat) (h : charAt body p = some c)
    (hc : c ≠ 10 ∧ c ≠ 13) : p < body.length ∧ NoNLIn body p (p + 1) := by
  obtain ⟨hl, hg⟩ := charAt_some_get body p c h
  exact ⟨hl, (NoNLIn.refl body p).snoc hl (by rw [hg]; exact hc)⟩

theorem slice_length (body : List Nat) (a b : Nat) :
    (slice body a b).length = min (b - a) (body.length - a) := by
  simp [slice]

theorem slice_eq_lt (body : List Nat) (a b : Nat) (l : List Nat) (h : slice body a b = l)
    (hl : l.length = b - a) (hab : a < b) : b ≤ body.length := by
  have := slice_length body a b
  rw [h] at this
  omega

theorem slice_eq_nonl {body : List Nat} {a b : Nat} {l : List Nat} (h : slice body a b = l)
    (hl : l.length = b - a) (hab : a < b) (hn : ∀ c ∈ l, c ≠ 10 ∧ c ≠ 13) :
    b ≤ body.length ∧ NoNLIn body a b := by
  refine ⟨slice_eq_lt body a b l h hl hab, fun i h1 h2 c hi => hn c ?_⟩
  have e : l[i - a]? = some c := by
    rw [← h, slice, List.getElem?_take_of_lt (by omega), List.getElem?_drop,
      show a + (i - a) = i by omega]
    exact hi
  exact List.mem_of_getElem? e

theorem isNameContinue_not_nl (c : Nat) (h : isNameContinue c = true) : c ≠ 10 ∧ c ≠ 13 := by
  unfold isNameContinue isLetter isDigit at h
  constructor <;> (intro e; subst e; simp at h)

theorem isDigit_not_nl (c : Nat) (h : isDigit c = true) : c ≠ 10 ∧ c ≠ 13 := by
  unfold isDigit at h
  constructor <;> (intro e; subst e; simp at h)

theorem trail_not_nl (c : Nat) (h : isTrailSurrogate c = true) : c ≠ 10 ∧ c ≠ 13 := by
  unfold isTrailSurrogate at h
  constructor <;> (intro e; subst e; simp at h)

theorem hex_not_nl (c d : Nat) (h : readHexDigit (some c) = some d) : c ≠ 10 ∧ c ≠ 13 := by
  unfold readHexDigit at h
  constructor <;> (intro e; subst e; simp at h)

theorem escapedChar_not_nl (c v : Nat) (h : escapedChar (some c) = some v) : c ≠ 10 ∧ c ≠ 13 := by
  constructor <;> (intro e; subst e; simp [escapedChar] at h)

/-- A loop that started at `pos` stopped at `p`: inside the text, no line terminator passed. -/
def ReadTo (body : List Nat) (pos p : Nat) : Prop := pos ≤ p ∧ p ≤ body.length ∧ NoNLIn body pos p

theorem ReadTo.refl {body : List Nat} {pos : Nat} (hp : pos ≤ body.length) : ReadTo body pos pos :=
  ⟨Nat.le_refl _, hp, NoNLIn.refl _ _⟩

theorem ReadTo.cons {body : List Nat} {pos p : Nat} (h : ReadTo body (pos + 1) p) (hl : pos < body.length)
    (hc : body[pos] ≠ 10 ∧ body[pos] ≠ 13) : ReadTo body pos p :=
  ⟨Nat.le_of_succ_le h.1, h.2.1, h.2.2.cons hl hc⟩

theorem readCommentLoop_post (body : List Nat) (pos : Nat) (hp : pos ≤ body.length) :
    Post (ReadTo body pos) (readCommentLoop body pos) := by
  fun_induction readCommentLoop body pos
  · rename_i pos h ih1 ih2
    rw [index_ok _ _ h, Out.bind_ok]
    have stop : Post (ReadTo body pos) (pure pos : LexOut Nat) := ReadTo.refl hp
    refine Post.ite (fun _ => stop) (fun hnl => ?_)
    have hc : body[pos] ≠ 10 ∧ body[pos] ≠ 13 := ⟨fun e => hnl (Or.inr e), fun e => hnl (Or.inl e)⟩
    refine Post.ite (fun _ => ?_) (fun _ => Post.ite (fun hs => ?_) (fun _ => stop))
    · exact (ih1 h).mono fun p hp' => hp'.cons h hc
    · obtain ⟨_, h2, _, l2⟩ := isSupplementary_spec body pos hs
      exact (ih2 h2).mono fun p hp' => (hp'.cons h2 (trail_not_nl _ l2)).cons h hc
  · exact ReadTo.refl hp

theorem digitsLoop_post (body : List Nat) (pos : Nat) (hp : pos ≤ body.length) :
    Post (ReadTo body pos) (digitsLoop body pos) := by
  fun_induction digitsLoop body pos
  · rename_i pos h ih
    rw [index_ok _ _ h, Out.bind_ok]
    exact Post.ite (fun hc => (ih h).mono fun p hp' => hp'.cons h (isDigit_not_nl _ hc))
      (fun _ => ReadTo.refl hp)
  · exact ReadTo.refl hp

theorem readNameLoop_post (body : List Nat) (pos : Nat) (hp : pos ≤ body.length) :
    Post (ReadTo body pos) (readNameLoop body pos) := by
  fun_induction readNameLoop body pos
  · rename_i pos h ih
    rw [index_ok _ _ h, Out.bind_ok]
    exact Post.ite (fun hc => (ih h).mono fun p hp' => hp'.cons h (isNameContinue_not_nl _ hc))
      (fun _ => ReadTo.refl hp)
  · exact ReadTo.refl hp

/-- What the three escape readers guarantee of the size they return: positive (the string loop
advances), inside the text, no line terminator. -/
def EscPost (body : List Nat) (pos : Nat) (size : Nat) : Prop :=
  2 ≤ size ∧ pos + size ≤ body.length ∧ NoNLIn body pos (pos + size)

theorem varWidthLoop_post (body : List Nat) (position maxSize size point : Nat)
    (hm : position + maxSize ≤ body.length) (hn : NoNLIn body position (position + size)) :
    Post (fun r => size < r.2 ∧ position + r.2 ≤ body.length ∧ NoNLIn body position (position + r.2))
      (varWidthLoop body position maxSize size point) := by
  fun_induction varWidthLoop body position maxSize size point
  · rename_i size point hlt ih
    have hl : position + size < body.length := by omega
    rw [index_ok _ _ hl, Out.bind_ok]
    refine Post.ite (fun hc => Post.ite (fun _ => trivial) (fun _ => ?_)) (fun _ => ?_)
    · exact ⟨by show size < size + 1; omega, by show position + (size + 1) ≤ _; omega,
        hn.snoc hl (by rw [hc]; decide)⟩
    · split
      · rename_i d hd
        exact (ih _ (hn.snoc hl (hex_not_nl _ _ hd))).mono fun a ha => ⟨by omega, ha.2.1, ha.2.2⟩
      · trivial
  · trivial

theorem readEscapedUnicodeVariableWidth_post (body : List Nat) (pos : Nat)
    (h0 : charAt body pos = some 92) (h1 : charAt body (pos + 1) = some 117)
    (h2 : charAt body (pos + 2) = some 123) :
    Post (fun r => EscPost body pos r.2) (readEscapedUnicodeVariableWidth body pos) := by
  unfold readEscapedUnicodeVariableWidth
  obtain ⟨_, n0⟩ := charAt_eq_nonl body pos 92 h0 (by decide)
  obtain ⟨_, n1⟩ := charAt_eq_nonl body (pos + 1) 117 h1 (by decide)
  obtain ⟨_, n2⟩ := charAt_eq_nonl body (pos + 2) 123 h2 (by decide)
  exact (varWidthLoop_post body pos _ 3 0 (by omega) ((n0.trans n1).trans n2)).mono
    fun a ha => ⟨by omega, ha.2.1, ha.2.2⟩

theorem read16_nonl (body : List Nat) (p v : Nat) (h : read16 body p = some v) :
    p + 4 ≤ body.length ∧ NoNLIn body p (p + 4) := by
  unfold read16 at h
  split at h
  · rename_i a b c d h1 h2 h3 h4
    have g : ∀ q x, readHexDigit (charAt body q) = some x → q < body.length ∧ NoNLIn body q (q + 1) := by
      intro q x hq
      cases hc : charAt body q with
      | none => rw [hc] at hq; cases hq
      | some ch => rw [hc] at hq; exact charAt_eq_nonl body q ch hc (hex_not_nl ch x hq)
    exact ⟨(g _ _ h4).1, (((g _ _ h1).2.trans (g _ _ h2).2).trans (g _ _ h3).2).trans (g _ _ h4).2⟩
  · cases h

theorem readEscapedUnicodeFixedWidth_post (body : List Nat) (pos : Nat)
    (h0 : charAt body pos = some 92) (h1 : charAt body (pos + 1) = some 117) :
    Post (fun r => EscPost body pos r.2) (readEscapedUnicodeFixedWidth body pos) := by
  unfold readEscapedUnicodeFixedWidth
  obtain ⟨_, n0⟩ := charAt_eq_nonl body pos 92 h0 (by decide)
  obtain ⟨_, n1⟩ := charAt_eq_nonl body (pos + 1) 117 h1 (by decide)
  split
  · trivial
  · rename_i code h
    obtain ⟨l2, n2⟩ := read16_nonl _ _ _ h
    have n6 : NoNLIn body pos (pos + 6) := (n0.trans n1).trans n2
    refine Post.ite (fun _ => ⟨(by decide : 2 ≤ 6), l2, n6⟩) (fun _ => Post.ite (fun hs => ?_) (fun _ => trivial))
    obtain ⟨_, n3⟩ := slice_eq_nonl hs.2 (by simp) (by omega) (by decide)
    split
    · rename_i t ht
      obtain ⟨l4, n4⟩ := read16_nonl _ _ _ ht
      exact Post.ite (fun _ => ⟨(by decide : 2 ≤ 12), l4, (n6.trans n3).trans n4⟩) (fun _ => trivial)
    · trivial

theorem readEscapedCharacter_post (body : List Nat) (pos : Nat) (h0 : charAt body pos = some 92) :
    Post (fun r => EscPost body pos r.2) (readEscapedCharacter body pos) := by
  unfold readEscapedCharacter
  split
  · rename_i v h
    cases h5 : charAt body (pos + 1) with
    | none => rw [h5] at h; cases h
    | some c =>
      rw [h5] at h
      obtain ⟨_, n0⟩ := charAt_eq_nonl body pos 92 h0 (by decide)
      obtain ⟨l1, n1⟩ := charAt_eq_nonl body (pos + 1) c h5 (escapedChar_not_nl c v h)
      exact ⟨Nat.le_refl 2, l1, n0.trans n1⟩
  · trivial

/-- What every reader guarantees of the token it reads at `start`. -/
structure TokPost (body : List Nat) (st : LexState) (start : Nat) (t : Token) : Prop where
  start_eq : t.start = start
  nonempty : start < t.stop
  le_length : t.stop ≤ body.length
  ne_eof : t.kind ≠ .eof
  line_eq : t.line = st.line
  column_eq : t.column = 1 + start - st.lineStart
  /-- unless it is a block string, no line terminator after its first code point -/
  noNL : t.kind ≠ .blockString → NoNLIn body (start + 1) t.stop

theorem TokPost.of_mkToken {body : List Nat} {st : LexState} {k : TokKind} {start stop : Nat}
    {v : Option (List Nat)} (h1 : start < stop) (h2 : stop ≤ body.length) (hk : k ≠ .eof)
    (hn : k ≠ .blockString → NoNLIn body (start + 1) stop) :
    TokPost body st start (mkToken st k start stop v) :=
  ⟨rfl, h1, h2, hk, rfl, rfl, hn⟩

theorem readStringLoop_post (body : List Nat) (st : LexState) (start pos chunkStart : Nat)
    (acc : List Nat) (hp : start < pos) (hn : NoNLIn body (start + 1) pos) :
    Post (fun t => TokPost body st start t ∧ t.kind = .string)
      (readStringLoop body st start pos chunkStart acc) := by
  fun_induction readStringLoop body st start pos chunkStart acc
  · rename_i pos chunkStart acc hlt ih3 ih2 ih1
    rw [index_ok _ _ hlt, Out.bind_ok]
    refine Post.ite (fun hq => ?_) (fun _ => ?_)
    · exact ⟨.of_mkToken (Nat.lt_succ_of_lt hp) hlt (by decide)
        fun _ => hn.snoc hlt (by rw [hq]; decide), rfl⟩
    refine Post.ite (fun hb => ?_) (fun _ => ?_)
    · have h0 : charAt body pos = some 92 := by rw [← hb]; exact List.getElem?_eq_getElem hlt
      extract_lets acc' jp
      have key : ∀ esc : List Nat × Nat, EscPost body pos esc.2 →
          Post (fun t => TokPost body st start t ∧ t.kind = .string) (jp esc) := fun esc ha =>
        Post.ite (fun hz => absurd hz (by have := ha.1; omega))
          (fun hz => ih3 esc hz (by have := ha.1; omega) (hn.trans ha.2.2))
      refine Post.ite (fun hu => Post.ite (fun hbr => ?_)
          (fun _ => (readEscapedUnicodeFixedWidth_post body pos h0 hu).bind key))
        (fun _ => (readEscapedCharacter_post body pos h0).bind key)
      exact (readEscapedUnicodeVariableWidth_post body pos h0 hu hbr).bind
        fun ⟨v, size⟩ ha => key ([v], size) ha
    refine Post.ite (fun _ => trivial) (fun hnl => ?_)
    have hc : body[pos] ≠ 10 ∧ body[pos] ≠ 13 := ⟨fun e => hnl (Or.inr e), fun e => hnl (Or.inl e)⟩
    refine Post.ite (fun _ => ih2 (by omega) (hn.snoc hlt hc))
      (fun _ => Post.ite (fun hs => ?_) (fun _ => trivial))
    obtain ⟨_, h2, _, l2⟩ := isSupplementary_spec body pos hs
    exact ih1 (by omega) ((hn.snoc hlt hc).snoc h2 (trail_not_nl _ l2))
  · trivial

theorem readBlockStringLoop_post (body : List Nat) (st : LexState) (start pos chunkStart lineStart : Nat)
    (curLine : List Nat) (blockLines : List (List Nat)) (hp : start < pos) :
    Post (fun r => TokPost body st start r.1 ∧ r.1.kind = .blockString)
      (readBlockStringLoop body st start pos chunkStart lineStart curLine blockLines) := by
  fun_induction readBlockStringLoop body st start pos chunkStart lineStart curLine blockLines
  · rename_i pos chunkStart lineStart curLine blockLines hlt ih4 ih3 ih2 ih1
    rw [index_ok _ _ hlt, Out.bind_ok]
    refine Post.ite (fun hq => ?_) (fun _ => ?_)
    · have := slice_eq_lt _ _ _ _ hq.2 (by simp) (by omega)
      exact ⟨.of_mkToken (by omega) this (by decide) fun h => absurd rfl h, rfl⟩
    refine Post.ite (fun _ => ih4 body[pos] (by omega)) (fun _ => ?_)
    refine Post.ite (fun _ => ?_) (fun _ => ?_)
    · apply ih3
      split <;> omega
    refine Post.ite (fun _ => ih2 (by omega)) (fun _ => Post.ite (fun _ => ih1 (by omega)) (fun _ => trivial))
  · trivial

/-- Position after the maximal run of digits starting at `pos`. -/
def digEnd (body : List Nat) (pos : Nat) : Nat :=
  if h : pos < body.length then
    if isDigit body[pos] then digEnd body (pos + 1) else pos
  else pos
termination_by body.length - pos

theorem digitsLoop_eq (body : List Nat) (pos : Nat) : digitsLoop body pos = .ok (digEnd body pos) := by
  fun_induction digEnd body pos
  · rename_i pos h hd ih
    rw [digitsLoop, dif_pos h, index_ok _ _ h, Out.bind_ok, if_pos hd, ih]
  · rename_i pos h hd
    rw [digitsLoop, dif_pos h, index_ok _ _ h, Out.bind_ok, if_neg hd]; rfl
  · rename_i pos h
    rw [digitsLoop, dif_neg h]; rfl

theorem readDigits_eq (body : List Nat) (s : Nat) (c : Option Nat) :
    readDigits body s c = if isDigitOpt c then .ok (digEnd body (s + 1)) else .err ⟨.expectedDigit, s⟩ := by
  unfold readDigits
  cases isDigitOpt c <;> simp [digitsLoop_eq]

theorem readDigits_post (body : List Nat) (s : Nat) :
    Post (fun p => s < p ∧ p ≤ body.length ∧ NoNLIn body s p) (readDigits body s (charAt body s)) := by
  unfold readDigits
  cases hc : charAt body s with
  | none => trivial
  | some c =>
    obtain ⟨hl, hg⟩ := charAt_some_get body s c hc
    refine Post.ite (fun _ => trivial) (fun hd => ?_)
    have hd' : isDigit body[s] = true := by rw [hg]; simpa [isDigitOpt] using hd
    exact (digitsLoop_post body (s + 1) hl).mono fun p hp =>
      ⟨Nat.lt_of_succ_le hp.1, hp.2.1, hp.2.2.cons hl (isDigit_not_nl _ hd')⟩

/-! ### `read_number` in stages

`readNumber`'s join points, each called with the code point at its position, are these four
functions (`readNumber_eq_staged`); the post-condition here and the agreement with the number
grammar (LexerNumber) go stage by stage. -/

def numFinish (body : List Nat) (st : LexState) (start p : Nat) (isFloat : Bool) : LexOut Token :=
  if charAt body p = some 46 ∨ isNameStartOpt (charAt body p) then .err ⟨.expectedDigit, p⟩
  else pure (mkToken st (if isFloat then .float else .int) start p (some (slice body start p)))

def numTailExp (body : List Nat) (st : LexState) (start p : Nat) (f : Bool) : LexOut Token :=
  if charAt body p = some 69 ∨ charAt body p = some 101 then
    let p' := if charAt body (p + 1) = some 43 ∨ charAt body (p + 1) = some 45 then p + 2 else p + 1
    readDigits body p' (charAt body p') >>= fun q => numFinish body st start q true
  else numFinish body st start p f

def numTailFrac (body : List Nat) (st : LexState) (start p : Nat) : LexOut Token :=
  if charAt body p = some 46 then
    readDigits body (p + 1) (charAt body (p + 1)) >>= fun q => numTailExp body st start q true
  else numTailExp body st start p false

def numStaged (body : List Nat) (st : LexState) (start p0 : Nat) : LexOut Token :=
  if charAt body p0 = some 48 then
    if isDigitOpt (charAt body (p0 + 1)) then .err ⟨.digitAfterZero, p0 + 1⟩
    else numTailFrac body st start (p0 + 1)
  else readDigits body p0 (charAt body p0) >>= fun p1 => numTailFrac body st start p1

theorem readNumber_eq_staged (body : List Nat) (st : LexState) (start first : Nat)
    (h : charAt body start = some first) :
    readNumber body st start first =
      numStaged body st start (if first = 45 then start + 1 else start) := by
  unfold readNumber
  extract_lets pos0 ch0 fl0 jpFin fl1 jpExpD jpExp jpFrac jpInt pos1 ch1
  -- each join point, called with the code point at its position, is the stage of that name
  -- (`jpFin` is `numFinish` by unfolding)
  have hExp : ∀ r p f, jpExp r p (charAt body p) f = numTailExp body st start p f := by
    intro r p f
    simp only [jpExp, numTailExp]
    split
    · split <;> rfl
    · rfl
  have hFrac : ∀ r p, jpFrac r p (charAt body p) = numTailFrac body st start p := by
    intro r p
    simp only [jpFrac, numTailFrac]
    split
    · congr 1 <;> (funext q; exact hExp () q fl1)
    · exact hExp () p fl0
  have hInt : ∀ r p, jpInt r p (charAt body p) = numStaged body st start p := by
    intro r p
    simp only [jpInt, numStaged]
    split
    · split
      · simp
      · exact hFrac () _
    · congr 1 <;> (funext q; exact hFrac () q)
  by_cases h45 : first = 45
  · rw [if_pos h45, if_pos (congrArg some h45)]
    exact hInt () _
  · rw [if_neg h45, if_neg (fun h' => h45 (Option.some.inj h')), show ch0 = charAt body pos0 from h.symm]
    exact hInt () _

abbrev NumPost (body : List Nat) (st : LexState) (start : Nat) (t : Token) : Prop :=
  TokPost body st start t ∧ (t.kind = .int ∨ t.kind = .float)

/-- Inside `read_number`: from the token's `start` up to `p`, at least one code point, no line
terminator. -/
def NumTo (body : List Nat) (start p : Nat) : Prop := start < p ∧ ReadTo body start p

theorem NumTo.step {body : List Nat} {start p c : Nat} (h : ReadTo body start p)
    (hc : charAt body p = some c) (hn : c ≠ 10 ∧ c ≠ 13) : NumTo body start (p + 1) :=
  ⟨Nat.lt_succ_of_le h.1, Nat.le_succ_of_le h.1, charAt_some_lt hc,
    h.2.2.trans (charAt_eq_nonl body p c hc hn).2⟩

theorem NumTo.digits {body : List Nat} {start p : Nat} (h : ReadTo body start p)
    {Q : Token → Prop} {k : Nat → LexOut Token} (hk : ∀ q, NumTo body start q → Post Q (k q)) :
    Post Q (readDigits body p (charAt body p) >>= k) :=
  (readDigits_post body p).bind fun q hq =>
    hk q ⟨Nat.lt_of_le_of_lt h.1 hq.1, Nat.le_of_lt (Nat.lt_of_le_of_lt h.1 hq.1), hq.2.1, h.2.2.trans hq.2.2⟩

theorem numFinish_post {body : List Nat} {st : LexState} {start p : Nat} (f : Bool)
    (h : NumTo body start p) : Post (NumPost body st start) (numFinish body st start p f) := by
  unfold numFinish
  refine Post.ite (fun _ => trivial) (fun _ => ?_)
  cases f
  · exact ⟨.of_mkToken h.1 h.2.2.1 (by decide) fun _ => h.2.2.2.mono (Nat.le_succ _), .inl rfl⟩
  · exact ⟨.of_mkToken h.1 h.2.2.1 (by decide) fun _ => h.2.2.2.mono (Nat.le_succ _), .inr rfl⟩

theorem numTailExp_post {body : List Nat} {st : LexState} {start p : Nat} (f : Bool)
    (h : NumTo body start p) : Post (NumPost body st start) (numTailExp body st start p f) := by
  unfold numTailExp
  refine Post.ite (fun he => ?_) (fun _ => numFinish_post f h)
  have h1 : NumTo body start (p + 1) :=
    he.elim (fun he => .step h.2 he (by decide)) (fun he => .step h.2 he (by decide))
  extract_lets p'
  have h2 : NumTo body start p' := by
    unfold p'
    split
    · rename_i hs
      exact hs.elim (fun hs => .step h1.2 hs (by decide)) (fun hs => .step h1.2 hs (by decide))
    · exact h1
  exact NumTo.digits h2.2 fun q => numFinish_post true

theorem numTailFrac_post {body : List Nat} {st : LexState} {start p : Nat}
    (h : NumTo body start p) : Post (NumPost body st start) (numTailFrac body st start p) := by
  unfold numTailFrac
  refine Post.ite (fun hd => ?_) (fun _ => numTailExp_post false h)
  exact NumTo.digits (NumTo.step h.2 hd (by decide)).2 fun q => numTailExp_post true

theorem numStaged_post {body : List Nat} {st : LexState} {start p : Nat} (h : ReadTo body start p) :
    Post (NumPost body st start) (numStaged body st start p) := by
  unfold numStaged
  exact Post.ite
    (fun h48 => Post.ite (fun _ => trivial) (fun _ => numTailFrac_post (.step h h48 (by decide))))
    (fun _ => NumTo.digits h fun q => numTailFrac_post)

theorem readNumber_post (body : List Nat) (st : LexState) (start first : Nat)
    (h : charAt body start = some first) :
    Post (fun t => TokPost body st start t ∧ (t.kind = .int ∨ t.kind = .float))
      (readNumber body st start first) := by
  have hl := charAt_some_lt h
  rw [readNumber_eq_staged body st start first h]
  split
  · rename_i h45; subst h45
    exact numStaged_post (NumTo.step (.refl (Nat.le_of_lt hl)) h (by decide)).2
  · exact numStaged_post (.refl (Nat.le_of_lt hl))

def NextPost (body : List Nat) (pos : Nat) (r : Token × LexState) : Prop :=
  pos ≤ r.1.start ∧
  ((r.1.kind ≠ .eof ∧ r.1.start < r.1.stop ∧ r.1.stop ≤ body.length) ∨
   (r.1.kind = .eof ∧ r.1.start = body.length ∧ r.1.stop = body.length))

theorem NextPost.of_tok {body : List Nat} {pos : Nat} {t : Token} {st st' : LexState}
    (h : TokPost body st pos t) : NextPost body pos (t, st') :=
  ⟨Nat.le_of_eq h.start_eq.symm, .inl ⟨h.ne_eof, h.start_eq ▸ h.nonempty, h.le_length⟩⟩

theorem NextPost.mono {body : List Nat} {pos pos' : Nat} {r : Token × LexState}
    (h : NextPost body pos' r) (hle : pos ≤ pos') : NextPost body pos r :=
  ⟨by have := h.1; omega, h.2⟩

theorem readComment_post (body : List Nat) (st : LexState) (start : Nat) (h : start < body.length) :
    Post (fun t => TokPost body st start t ∧ t.kind = .comment) (readComment body st start) :=
  (readCommentLoop_post body (start + 1) h).bind fun p hp =>
    ⟨.of_mkToken hp.1 hp.2.1 (by decide) fun _ => hp.2.2, rfl⟩

theorem readName_post (body : List Nat) (st : LexState) (start : Nat) (h : start < body.length) :
    Post (fun t => TokPost body st start t ∧ t.kind = .name) (readName body st start) :=
  (readNameLoop_post body (start + 1) h).bind fun p hp =>
    ⟨.of_mkToken hp.1 hp.2.1 (by decide) fun _ => hp.2.2, rfl⟩

theorem readString_post (body : List Nat) (st : LexState) (start : Nat) :
    Post (fun t => TokPost body st start t ∧ t.kind = .string) (readString body st start) :=
  readStringLoop_post body st start (start + 1) (start + 1) [] (Nat.lt_succ_self _) (NoNLIn.refl _ _)

theorem readBlockString_post (body : List Nat) (st : LexState) (start : Nat) :
    Post (fun r => TokPost body st start r.1 ∧ r.1.kind = .blockString) (readBlockString body st start) :=
  readBlockStringLoop_post body st start (start + 3) (start + 3) _ [] [] (by omega)

/-- `_KIND_FOR_PUNCT` as a table, in the order of `punctKind`. -/
def punctTable : List (Nat × TokKind) :=
  [(33, .bang), (36, .dollar), (38, .amp), (40, .parenL), (41, .parenR), (58, .colon), (61, .equals),
   (64, .at), (91, .bracketL), (93, .bracketR), (123, .braceL), (125, .braceR), (124, .pipe)]

theorem ite_some_inv {α : Type} {c : Prop} [Decidable c] {k k' : α} {o : Option α}
    (h : (if c then some k' else o) = some k) : (c ∧ k' = k) ∨ (¬c ∧ o = some k) := by
  by_cases hc : c
  · rw [if_pos hc] at h; exact .inl ⟨hc, Option.some.inj h⟩
  · rw [if_neg hc] at h; exact .inr ⟨hc, h⟩

theorem punctKind_mem {c : Nat} {k : TokKind} (h : punctKind c = some k) : (c, k) ∈ punctTable := by
  unfold punctKind at h
  -- one step per row of the table
  iterate 13 (rcases ite_some_inv h with ⟨rfl, rfl⟩ | ⟨_, h⟩; · decide)
  cases h

/-- A decidable fact about every row of the table holds of every result of `punctKind`. -/
theorem punctKind_forall {P : Nat → TokKind → Prop} (hP : ∀ p ∈ punctTable, P p.1 p.2)
    {c : Nat} {k : TokKind} (h : punctKind c = some k) : P c k :=
  hP _ (punctKind_mem h)

theorem punctKind_ne_eof {c : Nat} {k : TokKind} (h : punctKind c = some k) : k ≠ .eof :=
  punctKind_forall (P := fun _ k => k ≠ .eof) (by decide) h

/-- The dispatch of `read_next_token` on a first code point `c = body[pos]` that is no white space,
comma, BOM or line terminator. -/
def tokenAt (body : List Nat) (st : LexState) (pos c : Nat) : LexOut (Token × LexState) :=
  if c = 35 then do
    let t ← readComment body st pos
    pure (t, st)
  else if c = 34 then
    if slice body (pos + 1) (pos + 3) = [34, 34] then readBlockString body st pos
    else do
      let t ← readString body st pos
      pure (t, st)
  else
    match punctKind c with
    | some k => pure (mkToken st k pos (pos + 1) none, st)
    | none =>
      if isDigit c ∨ c = 45 then do
        let t ← readNumber body st pos c
        pure (t, st)
      else if isNameStart c then do
        let t ← readName body st pos
        pure (t, st)
      else
        let dotErr : Option LexErr :=
          if c = 46 then
            let next := charAt body (pos + 1)
            if next = some 46 then
              if charAt body (pos + 2) = some 46 then none
              else some ⟨.unexpectedDotDot, pos⟩
            else if isDigitOpt next then some ⟨.digitBeforeDot, pos⟩
            else none
          else none
        if c = 46 ∧ charAt body (pos + 1) = some 46 ∧ charAt body (pos + 2) = some 46 then
          pure (mkToken st .spread pos (pos + 3) none, st)
        else
          match dotErr with
          | some e =>
            if e.kind = .digitBeforeDot then do
              let _ ← dotDigitsLoop body (pos + 1)
              .err e
            else .err e
          | none =>
            if c = 39 then .err ⟨.singleQuote, pos⟩
            else if isScalar c ∨ isSupplementary body pos then .err ⟨.unexpectedChar, pos⟩
            else .err ⟨.invalidChar, pos⟩

/-- The code points `read_next_token` passes over without a line change. -/
abbrev SkipChar (c : Nat) : Prop := c = 32 ∨ c = 9 ∨ c = 44 ∨ c = 0xFEFF

theorem readNextToken_unfold (body : List Nat) (st : LexState) (pos : Nat) (h : pos < body.length) :
    readNextToken body st pos =
      (let c := body[pos]
       if SkipChar c then readNextToken body st (pos + 1)
       else if c = 10 then readNextToken body { line := st.line + 1, lineStart := pos + 1 } (pos + 1)
       else if c = 13 then
         if charAt body (pos + 1) = some 10 then
           readNextToken body { line := st.line + 1, lineStart := pos + 2 } (pos + 2)
         else readNextToken body { line := st.line + 1, lineStart := pos + 1 } (pos + 1)
       else tokenAt body st pos c) := by
  rw [readNextToken]
  simp only [h, dite_true]
  rw [index_ok _ _ h, Out.bind_ok]
  rfl

theorem readNextToken_eof (body : List Nat) (st : LexState) (pos : Nat) (h : body.length ≤ pos) :
    readNextToken body st pos = .ok (mkToken st .eof body.length body.length none, st) := by
  rw [readNextToken]
  have : ¬ pos < body.length := by omega
  simp only [this, dite_false]; rfl

/-- `Skip body st pos st' pos'`: from `pos`, `read_next_token` passes over white space, commas,
BOMs and line terminators up to `pos'`, and its line state goes from `st` to `st'`. -/
inductive Skip (body : List Nat) : LexState → Nat → LexState → Nat → Prop
  | refl (st : LexState) (pos : Nat) : Skip body st pos st pos
  | blank {st st' : LexState} {pos pos' : Nat} (h : pos < body.length) (hc : SkipChar body[pos]) :
      Skip body st (pos + 1) st' pos' → Skip body st pos st' pos'
  | lf {st st' : LexState} {pos pos' : Nat} (h : pos < body.length) (hc : body[pos] = 10) :
      Skip body { line := st.line + 1, lineStart := pos + 1 } (pos + 1) st' pos' → Skip body st pos st' pos'
  | crlf {st st' : LexState} {pos pos' : Nat} (h : pos < body.length) (hc : body[pos] = 13)
      (hn : charAt body (pos + 1) = some 10) :
      Skip body { line := st.line + 1, lineStart := pos + 2 } (pos + 2) st' pos' → Skip body st pos st' pos'
  | cr {st st' : LexState} {pos pos' : Nat} (h : pos < body.length) (hc : body[pos] = 13)
      (hn : ¬ charAt body (pos + 1) = some 10) :
      Skip body { line := st.line + 1, lineStart := pos + 1 } (pos + 1) st' pos' → Skip body st pos st' pos'

theorem Skip.le {body : List Nat} {st st' : LexState} {pos pos' : Nat} (h : Skip body st pos st' pos') :
    pos ≤ pos' := by
  induction h <;> omega

theorem Skip.le_length {body : List Nat} {st st' : LexState} {pos pos' : Nat}
    (h : Skip body st pos st' pos') (hp : pos ≤ body.length) : pos' ≤ body.length := by
  induction h with
  | refl => exact hp
  | blank h _ _ ih => exact ih h
  | lf h _ _ ih => exact ih h
  | crlf _ _ hn _ ih => exact ih (charAt_some_lt hn)
  | cr h _ _ _ ih => exact ih h

/-- Where the skipping ends, the outcome `x` is the dispatch on a code point that is not skipped, or
the EOF token. -/
def StopAt (body : List Nat) (x : LexOut (Token × LexState)) (st : LexState) (pos : Nat) : Prop :=
  (∃ h : pos < body.length, ¬ SkipChar body[pos] ∧ body[pos] ≠ 10 ∧ body[pos] ≠ 13 ∧
    x = tokenAt body st pos body[pos]) ∨
  (body.length ≤ pos ∧ x = .ok (mkToken st .eof body.length body.length none, st))

theorem readNextToken_skip_dispatch (body : List Nat) : ∀ (n : Nat) (st : LexState) (pos : Nat),
    body.length - pos ≤ n →
    ∃ st' pos', Skip body st pos st' pos' ∧ StopAt body (readNextToken body st pos) st' pos' := by
  intro n
  induction n with
  | zero =>
    intro st pos hn
    exact ⟨st, pos, .refl _ _, .inr ⟨by omega, readNextToken_eof body st pos (by omega)⟩⟩
  | succ n ih =>
    intro st pos hn
    by_cases h : pos < body.length
    · rw [readNextToken_unfold body st pos h]
      simp only []
      by_cases hw : SkipChar body[pos]
      · rw [if_pos hw]
        obtain ⟨st', p', hs, hr⟩ := ih st (pos + 1) (by omega)
        exact ⟨st', p', .blank h hw hs, hr⟩
      rw [if_neg hw]
      by_cases h10 : body[pos] = 10
      · rw [if_pos h10]
        obtain ⟨st', p', hs, hr⟩ := ih _ (pos + 1) (by omega)
        exact ⟨st', p', .lf h h10 hs, hr⟩
      rw [if_neg h10]
      by_cases h13 : body[pos] = 13
      · rw [if_pos h13]
        by_cases hn' : charAt body (pos + 1) = some 10
        · rw [if_pos hn']
          obtain ⟨st', p', hs, hr⟩ := ih _ (pos + 2) (by omega)
          exact ⟨st', p', .crlf h h13 hn' hs, hr⟩
        · rw [if_neg hn']
          obtain ⟨st', p', hs, hr⟩ := ih _ (pos + 1) (by omega)
          exact ⟨st', p', .cr h h13 hn' hs, hr⟩
      rw [if_neg h13]
      exact ⟨st, pos, .refl _ _, .inl ⟨h, hw, h10, h13, rfl⟩⟩
    · exact ⟨st, pos, .refl _ _, .inr ⟨by omega, readNextToken_eof body st pos (by omega)⟩⟩

theorem tokenAt_block (body : List Nat) (st : LexState) (pos : Nat)
    (h3 : slice body (pos + 1) (pos + 3) = [34, 34]) :
    tokenAt body st pos 34 = readBlockString body st pos := by
  unfold tokenAt
  rw [if_neg (by decide), if_pos rfl, if_pos h3]

/-- Every token other than a block string: read on one line, line state unchanged. -/
theorem tokenAt_line (body : List Nat) (st : LexState) (pos c : Nat) (hc : charAt body pos = some c)
    (hnb : ¬ (c = 34 ∧ slice body (pos + 1) (pos + 3) = [34, 34])) :
    Post (fun r => TokPost body st pos r.1 ∧ NoNLIn body (pos + 1) r.1.stop ∧ r.2 = st)
      (tokenAt body st pos c) := by
  have h := charAt_some_lt hc
  have tok : ∀ {x : LexOut Token} {P : Token → Prop}, Post (fun t => TokPost body st pos t ∧ P t) x →
      (∀ t, P t → t.kind ≠ .blockString) →
      Post (fun r => TokPost body st pos r.1 ∧ NoNLIn body (pos + 1) r.1.stop ∧ r.2 = st)
        (x >>= fun t => pure (t, st)) :=
    fun hx hP => hx.bind fun t ht => ⟨ht.1, ht.1.noNL (hP t ht.2), rfl⟩
  unfold tokenAt
  refine Post.ite (fun _ => tok (readComment_post body st pos h) (fun t ht => by rw [ht]; decide))
    (fun _ => ?_)
  refine Post.ite (fun hq => Post.ite (fun hq3 => absurd ⟨hq, hq3⟩ hnb)
    (fun _ => tok (readString_post body st pos) (fun t ht => by rw [ht]; decide))) (fun _ => ?_)
  cases hk : punctKind c with
  | some k =>
    exact ⟨.of_mkToken (Nat.lt_succ_self _) h (punctKind_ne_eof hk) fun _ => NoNLIn.refl _ _,
      NoNLIn.refl _ _, rfl⟩
  | none =>
  simp only []
  refine Post.ite (fun _ => tok (readNumber_post body st pos _ hc)
    (fun t ht => by rcases ht with ht | ht <;> rw [ht] <;> decide)) (fun _ => ?_)
  refine Post.ite (fun _ => tok (readName_post body st pos h) (fun t ht => by rw [ht]; decide))
    (fun _ => ?_)
  extract_lets dotErr
  refine Post.ite (fun hd => ?_) (fun _ => ?_)
  · obtain ⟨_, n1⟩ := charAt_eq_nonl body (pos + 1) 46 hd.2.1 (by decide)
    obtain ⟨l2, n2⟩ := charAt_eq_nonl body (pos + 2) 46 hd.2.2 (by decide)
    exact ⟨.of_mkToken (by omega) l2 (by decide) fun _ => n1.trans n2, n1.trans n2, rfl⟩
  -- every remaining branch is an error
  split
  · refine Post.ite (fun _ => ?_) (fun _ => trivial)
    exact (digitsLoop_post body (pos + 1) h).bind fun _ _ => trivial
  · repeat' split
    all_goals trivial

theorem tokenAt_post (body : List Nat) (st : LexState) (pos c : Nat) (hc : charAt body pos = some c) :
    Post (fun r => TokPost body st pos r.1) (tokenAt body st pos c) := by
  by_cases hb : c = 34 ∧ slice body (pos + 1) (pos + 3) = [34, 34]
  · rw [hb.1, tokenAt_block body st pos hb.2]
    exact (readBlockString_post body st pos).mono fun r hr => hr.1
  · exact (tokenAt_line body st pos c hc hb).mono fun r hr => hr.1

theorem readNextToken_post (body : List Nat) (st : LexState) (pos : Nat) (hp : pos ≤ body.length) :
    Post (NextPost body pos) (readNextToken body st pos) := by
  obtain ⟨st', p, hs, ⟨h, _, _, _, e⟩ | ⟨hl, e⟩⟩ := readNextToken_skip_dispatch body _ st pos (Nat.le_refl _)
  · rw [e]
    exact (tokenAt_post body st' p _ (List.getElem?_eq_getElem h)).mono
      fun r hr => (NextPost.of_tok hr).mono hs.le
  · rw [e]
    have := hs.le_length hp
    exact ⟨hp, .inr ⟨rfl, rfl, rfl⟩⟩

/-- `read_next_token` never raises anything but `GraphQLSyntaxError`, from any position and
any line state (positions beyond the end included: the loop guard fails and EOF is returned). -/
theorem lex_no_crash (body : List Nat) (st : LexState) (pos : Nat) :
    ¬ (readNextToken body st pos).isCrash := by
  by_cases hp : pos ≤ body.length
  · exact (readNextToken_post body st pos hp).noCrash
  · unfold readNextToken
    have : ¬ pos < body.length := by omega
    simp [this, Out.isCrash]

/-- Progress: a token read at `pos ≤ |body|` starts at or after `pos`; a non-EOF token is
non-empty and inside the text; the EOF token is `(|body|, |body|)`. -/
theorem lex_progress (body : List Nat) (st st' : LexState) (pos : Nat) (t : Token)
    (hp : pos ≤ body.length) (h : readNextToken body st pos = .ok (t, st')) :
    pos ≤ t.start ∧
    (t.kind ≠ .eof → t.start < t.stop ∧ t.stop ≤ body.length) ∧
    (t.kind = .eof → t.start = body.length ∧ t.stop = body.length) := by
  have := (readNextToken_post body st pos hp).of_ok h
  obtain ⟨h1, h2⟩ := this
  refine ⟨h1, ?_, ?_⟩
  · intro hk
    rcases h2 with h2 | h2
    · exact h2.2
    · exact absurd h2.1 hk
  · intro hk
    rcases h2 with h2 | h2
    · exact absurd hk h2.1
    · exact h2.2

theorem lexAllAux_post (body : List Nat) (fuel : Nat) (st : LexState) (pos : Nat) (acc : List Token)
    (hp : pos ≤ body.length) (hf : body.length - pos + 1 ≤ fuel) :
    Post (fun _ => True) (lexAllAux body fuel st pos acc) := by
  induction fuel generalizing st pos acc with
  | zero => omega
  | succ fuel ih =>
    unfold lexAllAux
    refine (readNextToken_post body st pos hp).bind ?_
    intro r hr
    obtain ⟨h1, h2⟩ := hr
    refine Post.ite (fun _ => by simp) (fun hk => ?_)
    rcases h2 with h2 | h2
    · refine Post.ite (fun _ => ?_) (fun _ => ?_)
      · exact ih _ _ _ h2.2.2 (by omega)
      · exact ih _ _ _ h2.2.2 (by omega)
    · exact absurd h2.1 hk

/-- The fuel `|body| + 2` of `lexAll` is never exhausted and nothing else crashes:
`lexAll` returns the token list or the first syntax error. -/
theorem lexAll_no_crash (body : List Nat) : ¬ (lexAll body).isCrash :=
  (lexAllAux_post body _ {} 0 [] (by omega) (by omega)).noCrash

end Gql.Text
