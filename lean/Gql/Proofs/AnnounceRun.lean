import Gql.Proofs.Announce
/-!
`_stream_items` and the other handlers; the run invariant `SchedInv` behind the clauses P1
(announced once, before any data), P4b (all completed at the end) and P5 (nesting) of
`Gql/Spec/Protocol.lean`: the scheduler-graph invariant `Sched`, the pump bookkeeping, the tracked
domain of the publisher's table equal to the roots, and `AnnFresh` / `EvsPre` for all the events
emitted so far.
-/
namespace Gql.Async
open Gql.Spec.Protocol

theorem integrateWork_tsub_none (σ : Static) (q : WQ) (w : Work) :
    TSub q (integrateWork σ q (some w) none).1 := by
  rw [integrateWork_root]
  exact (tsub_of_eq (addGroups_taskNodes σ q w.groups false)).trans (addTasks_upd σ w.tasks _).shrink.tsub

/-- `_maybe_integrate_work` without producing task, then `_prune_empty_groups` on the new root
groups, as `_stream_items` and `__init__` call them: `(queue, new root groups, new root streams)`. -/
def integratePruned (σ : Static) (q : WQ) (wo : Option Work) : WQ × List Nat × List Nat :=
  ((pruneEmpty (integrateWork σ q wo none).1 (integrateWork σ q wo none).2.1).1,
   (pruneEmpty (integrateWork σ q wo none).1 (integrateWork σ q wo none).2.1).2,
   (integrateWork σ q wo none).2.2)

theorem init_eq (σ : Static) (wo : Option Work) :
    init σ wo = ({ (integratePruned σ {} wo).1 with
        rootGroups := (integratePruned σ {} wo).2.1.foldl oinsert [],
        rootStreams := (integratePruned σ {} wo).2.2.foldl oinsert [] }, (integratePruned σ {} wo).2) := by
  unfold init integratePruned; rfl

/-- What `integratePruned` returns on a queue `q` that satisfies `Sched`: the invariant is kept, and
the groups and streams that are to become roots are new, pairwise distinct and fit to be promoted
(`Sched.grow`). -/
structure IntegrateOut (σ : Static) (e : EnvSt) (q : WQ) (p : WQ × List Nat × List Nat) : Prop where
  sched : Sched σ e p.1
  gnodup : p.2.1.Nodup
  snodup : p.2.2.Nodup
  gnew : ∀ x ∈ p.2.1, GFit σ e p.1 x
  snew : ∀ s ∈ p.2.2, SFit e p.1 s
  fresh : ∀ n ∈ nodesOf p.2.1 p.2.2, ¬ isRoot q n

theorem integratePruned_out (σ : Static) (e : EnvSt) (q qe : WQ) (pr : Option Nat) (wo : Option Work)
    (s : Sched σ e q) (hw : workOptOk σ e qe pr wo = true) :
    IntegrateOut σ (e.intro wo) q (integratePruned σ q wo) := by
  have s1 := integrateWork_sched σ e q qe pr wo none s hw
  cases wo with
  | none => exact (⟨s, .nil, .nil, nofun, nofun, nofun⟩ : IntegrateOut σ e q (q, [], []))
  | some w =>
    have ok := workOk_of σ e qe pr w hw
    unfold integratePruned
    obtain ⟨good, gnodup, gsrc, ssrc, snodup⟩ := integrateWork_good σ e q w none s.good ok
    have gr := integrateWork_grow σ q (some w) none
    have tsub := integrateWork_tsub_none σ q w
    -- `iw` : the queue after integration, the new parentless groups, the new streams
    generalize integrateWork σ q (some w) none = iw at *
    have tl := good.forest.treeLike
    have hdet : ∀ x ∈ iw.2.1, Detached iw.1 x := fun x hx =>
      tl.detached (.refl _) fun p hp => by rw [(gsrc x hx).2] at hp; cases hp
    have po := pruneEmpty_spec σ iw.1 iw.2.1 tl gnodup hdet
    have pu := pruneEmpty_upd iw.1 iw.2.1
    have fit := po.fit good fun y hy => ⟨List.mem_append.mpr (Or.inl (gsrc y hy).1), hdet y hy, fun b hb => by
      obtain ⟨p, e1, _⟩ := hb.inv
      rw [(gsrc y hy).2] at e1; cases e1⟩
    -- what `prune` promotes or deletes is a new parentless group or a child of a deleted node: no old root
    have src : ∀ x, Reached iw.1 iw.2.1 (pruneEmpty iw.1 iw.2.1).1 x → x ∉ q.rootGroups := by
      rintro x (h | ⟨p, hp, _⟩) hr
      · exact ok.gfresh x (gsrc x h).1 (s.good.known.roots x hr)
      · exact good.forest.notRoot p x hp (gr.frame.rg ▸ hr)
    refine ⟨s1.regraft pu.shrink (fun x hx => ⟨s1.rootGroup (pu.frame.rg ▸ hx), ?_⟩)
        (fun _ hx => s1.rootStream (pu.frame.rs ▸ hx)), po.nodup, snodup, fit,
      fun x hx => ⟨List.mem_append.mpr (Or.inl (ssrc x hx).1), ?_⟩,
      fun n hn hr => ?_⟩
    · -- an old root keeps its node: otherwise `prune` deleted it
      rw [pu.frame.rg] at hx
      exact Classical.byContradiction fun hno => src x (po.del x (s1.nodes x hx) hno) (gr.frame.rg ▸ hx)
    · exact (tsub.trans pu.shrink.tsub).absent fun t tn ht hst =>
        ok.sfresh x (ssrc x hx).1 (s.good.sknown.children t tn x ht hst)
    · rcases (mem_nodesOf _ _ n).mp hn with ⟨x, hx, rfl⟩ | ⟨x, hx, rfl⟩
      · exact src x (po.src x hx) hr
      · exact ok.sfresh x (ssrc x hx).1 (s.good.sknown.roots x hr)

/-- The loop invariant of `_stream_items`, relative to the queue `q0` at its start. -/
structure ItemAll (σ : Static) (q0 : WQ) (e : EnvSt) (acc : WQ × List IVal × List Nat × List Nat) : Prop where
  sched : Sched σ e acc.1
  roots : ItemInv q0 acc
  gnodup : acc.2.2.1.Nodup
  snodup : acc.2.2.2.Nodup
  new : ∀ n ∈ nodesOf acc.2.2.1 acc.2.2.2, ¬ isRoot q0 n

theorem ItemInv.notRoot {q0 : WQ} {acc : WQ × List IVal × List Nat × List Nat} (h : ItemInv q0 acc)
    {n : Node} (hn : ¬ isRoot acc.1 n) : ¬ isRoot q0 n ∧ n ∉ nodesOf acc.2.2.1 acc.2.2.2 :=
  ⟨fun h1 => hn ((h n).mpr (Or.inl h1)), fun h1 => hn ((h n).mpr (Or.inr h1))⟩

theorem itemStep_all (σ : Static) (q0 : WQ) (e : EnvSt) (acc : WQ × List IVal × List Nat × List Nat)
    (it : IResult) (h : ItemAll σ q0 e acc) (hw : workOptOk σ e q0 none it.work = true) :
    ItemAll σ q0 (e.intro it.work) (itemStep σ acc it) := by
  have hroots := itemStep_dom σ q0 acc it h.roots
  have io := integratePruned_out σ e acc.1 q0 none it.work h.sched hw
  -- a new root is no root yet, hence neither a root of `q0` nor collected before
  have fr := fun n hn => h.roots.notRoot (io.fresh n hn)
  -- `itemStep` unfolds to `startNewWork` on the components of `integratePruned`
  refine ⟨io.sched.startNewWork _ _ io.gnew io.snew, hroots, ?_, ?_, fun n hn => ?_⟩
  · exact List.nodup_append.mpr ⟨h.gnodup, io.gnodup, fun a ha b hb e =>
      (fr (.group b) (group_mem_nodesOf.mpr hb)).2 (group_mem_nodesOf.mpr (e ▸ ha))⟩
  · exact List.nodup_append.mpr ⟨h.snodup, io.snodup, fun a ha b hb e =>
      (fr (.stream b) (stream_mem_nodesOf.mpr hb)).2 (stream_mem_nodesOf.mpr (e ▸ ha))⟩
  · exact ((nodesOf_append _ _ _ _ n).mp hn).elim (h.new n) fun hn => (fr n hn).1

theorem items_all (σ : Static) (q0 : WQ) (items : List IResult) :
    ∀ (e : EnvSt) (n0 : Nat) (acc : WQ × List IVal × List Nat × List Nat) (e1 : EnvSt) (n1 : Nat),
      ItemAll σ q0 e acc → itemsOk σ q0 e n0 items = some (e1, n1) →
      ItemAll σ q0 e1 (items.foldl (itemStep σ) acc) := by
  induction items with
  | nil =>
    intro e n0 acc e1 n1 h hi
    simp [itemsOk] at hi; obtain ⟨rfl, _⟩ := hi; exact h
  | cons it items ih =>
    intro e n0 acc e1 n1 h hi
    obtain ⟨_, hw, hi'⟩ := itemsOk_cons hi
    exact ih (e.intro it.work) (n0 + 1) _ e1 n1 (itemStep_all σ q0 e acc it h hw) hi'

theorem streamItems_all (σ : Static) (e : EnvSt) (q : WQ) (s : Nat) (items : List IResult) (st : Bool)
    (D : List Node) (e1 : EnvSt) (n0 n1 : Nat) (g : Sched σ e q)
    (hi : itemsOk σ q e n0 items = some (e1, n1)) (hD : Tracks q D) (hs : s ∈ q.rootStreams) :
    Sched σ e1 (streamItems σ q s items st).1 ∧ AnnFresh D (streamItems σ q s items st).2 := by
  have h := items_all σ q items e n0 (q, [], [], []) e1 n1
    ⟨g, fun n => by simp [nodesOf], .nil, .nil, nofun⟩ hi
  unfold streamItems
  simp only
  generalize items.foldl (itemStep σ) (q, [], [], []) = acc at h ⊢
  have hann : annOk D (.streamValues s acc.2.1 acc.2.2.1 acc.2.2.2) :=
    ⟨nodesOf_nodup _ _ h.gnodup h.snodup, fun n hn hm => (List.mem_cons.mp hm).elim
      (fun e => h.new _ hn (e ▸ hs)) fun hm => h.new n hn ((hD n).mp hm)⟩
  cases st with
  | true =>
    simp only [if_true]
    refine ⟨?_, hann, ⟨List.nodup_nil, by simp [evNew]⟩, trivial⟩
    refine h.sched.of_eq rfl rfl (fun x hx => hx) ?_
    intro x hx; simp only [mem_oerase] at hx; exact hx.1
  | false =>
    simp only [Bool.false_eq_true, if_false]
    exact ⟨h.sched, hann, trivial⟩

/-- Every handler of a legal graph event keeps `Sched`, announces fresh nodes only, keeps the
tracked domain equal to the roots, and reports values or success only for tracked nodes. -/
theorem handle_sched (σ : Static) (e : EnvSt) (q : WQ) (ev : GraphEvent) (e' : EnvSt) (D : List Node)
    (g : Sched σ e q) (hp : PumpInv e q) (hD : Tracks q D)
    (hok : eventOk σ e q ev = some e') :
    Sched σ e' (handleGraphEvent σ q ev).1 ∧ AnnFresh D (handleGraphEvent σ q ev).2 ∧
    Tracks (handleGraphEvent σ q ev).1 (domSteps D (handleGraphEvent σ q ev).2) ∧
    EvsPre D (handleGraphEvent σ q ev).2 := by
  have drop : ∀ s, Sched σ e { q with rootStreams := oerase q.rootStreams s } := fun s =>
    g.of_eq rfl rfl (fun _ hx => hx) fun _ hx => ((mem_oerase _ _ _).mp hx).1
  cases ev with
  | taskSuccess t r =>
    obtain ⟨hw, rfl⟩ := eventOk_taskSuccess hok
    obtain ⟨g1, f1⟩ := taskSuccess_all σ e q t r D g hw hD
    exact ⟨g1.congr rfl rfl, f1⟩
  | taskFailure t =>
    rw [eventOk_taskFailure hok]
    obtain ⟨g1, f1⟩ := taskFailure_all σ e q t D g
    exact ⟨g1.congr rfl rfl, f1, taskFailure_dom σ q t D hD⟩
  | streamItems s items st =>
    have hroot := streamItems_isRoot σ e q s items st e' hp hok
    obtain ⟨_, e1, n1, hi, rfl⟩ := eventOk_streamItems hok
    obtain ⟨g1, f1⟩ := streamItems_all σ e q s items st D e1 _ n1 g hi hD hroot
    exact ⟨g1.congr rfl rfl, f1, streamItems_dom σ q s items st D hD hroot⟩
  | streamSuccess s =>
    rw [eventOk_streamSuccess hok]
    simp only [handleGraphEvent]
    split
    · rename_i hs
      exact ⟨(drop s).congr rfl rfl, ⟨⟨List.nodup_nil, by simp [evNew]⟩, trivial⟩,
        (streamEnd_dom q s D hD).1, (hD _).mpr hs, trivial⟩
    · exact ⟨g.congr rfl rfl, trivial, hD, trivial⟩
  | streamFailure s =>
    rw [eventOk_streamFailure hok]
    exact ⟨(drop s).congr rfl rfl, ⟨⟨List.nodup_nil, by simp [evNew]⟩, trivial⟩,
      (streamEnd_dom q s D hD).2, trivial, trivial⟩
  | stop => rw [eventOk_stop hok]; exact ⟨g, trivial, hD, trivial⟩

/-- The run invariant of the scheduler: the graph invariant, the pump bookkeeping, "stopped ⇒ no
root", the tracked domain of the publisher's table equal to the roots, fresh announcements, and
values / success reported only for tracked nodes. -/
structure SchedInv (σ : Static) (D0 : List Node) (e : EnvSt) (q : WQ) (E : List WQEvent) : Prop where
  sched : Sched σ e q
  pump : PumpInv e q
  stop : q.stopped = true → q.rootGroups = [] ∧ q.rootStreams = []
  tracks : Tracks q (domSteps D0 E)
  fresh : AnnFresh D0 E
  pre : EvsPre D0 E

/-- The invariant reads the graph, the roots, the flag and the pump log only. -/
theorem SchedInv.of_eq {σ : Static} {D0 : List Node} {e : EnvSt} {q q' : WQ} {E : List WQEvent}
    (h : SchedInv σ D0 e q E) (hg : q'.groupNodes = q.groupNodes) (ht : q'.taskNodes = q.taskNodes)
    (hrg : q'.rootGroups = q.rootGroups) (hrs : q'.rootStreams = q.rootStreams)
    (hst : q'.stopped = q.stopped) (hpm : q'.pumps = q.pumps) : SchedInv σ D0 e q' E :=
  ⟨h.sched.of_eq hg ht (fun x hx => hrg ▸ hx) (fun x hx => hrs ▸ hx),
    fun s hs => by rw [hrs]; exact h.pump s (hpm ▸ hs),
    fun hs => by rw [hrg, hrs]; exact h.stop (hst ▸ hs),
    fun n => (h.tracks n).trans (isRoot_congr hrg hrs n).symm, h.fresh, h.pre⟩

theorem schedInv_run (σ : Static) (D0 : List Node) : RunInv σ (SchedInv σ D0) where
  handle := by
    intro e q ev e' E h hst hok
    obtain ⟨g1, f1, t1, p1⟩ := handle_sched σ e q ev e' (domSteps D0 E) h.sched h.pump h.tracks hok
    refine ⟨g1, pumpInv_handle σ e q ev e' h.pump hok, ?_, ?_, ?_, ?_⟩
    · intro hs; rw [handleGraphEvent_stopped, hst] at hs; cases hs
    · rw [domSteps_append]; exact t1
    · rw [annFresh_append]; exact ⟨h.fresh, f1⟩
    · rw [evsPre_append]; exact ⟨h.pre, p1⟩
  chan := fun e q E c h => h.of_eq rfl rfl rfl rfl rfl rfl
  defer := fun e q E d h => h.of_eq rfl rfl rfl rfl rfl rfl
  term := by
    intro e q E h hg hs
    refine ⟨h.sched.of_eq rfl rfl (fun x hx => hx) (fun x hx => hx), h.pump,
      fun _ => ⟨by simpa using hg, by simpa using hs⟩, ?_, ?_, ?_⟩
    · intro n
      rw [domSteps_append, domSteps_one]
      simp only [domStep, domMid, evNew, List.append_nil]
      exact (h.tracks n).trans (isRoot_congr rfl rfl n).symm
    · rw [annFresh_append]; exact ⟨h.fresh, ⟨List.nodup_nil, by simp [evNew]⟩, trivial⟩
    · rw [evsPre_append]; exact ⟨h.pre, trivial, trivial⟩

theorem good_empty (σ : Static) (e : EnvSt) : Good σ e {} := by
  refine ⟨⟨?_, ?_, ?_⟩, ⟨?_, ?_, ?_⟩, ⟨?_, ?_, ?_⟩, ⟨?_, ?_⟩⟩
  · intro p c ⟨n, hn, _⟩; simp [alookup] at hn
  · intro p n hn; simp [alookup] at hn
  · intro p c ⟨n, hn, _⟩; simp [alookup] at hn
  · intro g ⟨n, hn⟩; simp [alookup] at hn
  · intro g hg; simp at hg
  · intro p c ⟨n, hn, _⟩; simp [alookup] at hn
  · intro t tn hn; simp [alookup] at hn
  · intro t tn s hn; simp [alookup] at hn
  · intro t t' tn tn' s hn; simp [alookup] at hn
  · intro s hs; simp at hs
  · intro t tn s hn; simp [alookup] at hn

theorem sched_empty (σ : Static) : Sched σ {} {} :=
  ⟨good_empty σ {}, fun g hg => by simp at hg, fun r hr => by simp at hr, fun r hr => by simp at hr⟩

theorem envOk_work {σ : Static} {fuel : Nat} {work : Option Work} {h : List Tick}
    (hok : envOk σ fuel work h = true) : workOptOk σ {} {} none work = true := by
  unfold envOk at hok
  simp only [Bool.and_eq_true] at hok
  exact hok.1

theorem init_sched (σ : Static) (work : Option Work)
    (hw : workOptOk σ {} {} none work = true) :
    Sched σ (({} : EnvSt).intro work) (startRoots σ (init σ work).1) ∧
    (nodesOf (init σ work).2.1 (init σ work).2.2).Nodup := by
  have io := integratePruned_out σ {} {} {} none work (sched_empty σ) hw
  rw [init_eq]
  refine ⟨?_, nodesOf_nodup _ _ io.gnodup io.snodup⟩
  -- `startRoots` is an `Upd` step up to the pump log, from the queue in which `init` has made the
  -- new groups and streams the roots
  obtain ⟨u, hu, eu⟩ := startRoots_upd σ _
  rw [eu]
  refine (Sched.upd ?_ hu).of_eq rfl rfl (fun _ h => h) (fun _ h => h)
  exact io.sched.grow (shrink_of_eq rfl rfl) (nodesKept_of_eq rfl) _ _
    (fun x hx => ((mem_foldl_oinsert _ [] x).mp hx).imp_left nofun)
    (fun x hx => ((mem_foldl_oinsert _ [] x).mp hx).imp_left nofun) io.gnew io.snew

theorem schedInv_start (σ : Static) (work : Option Work) (hw : workOptOk σ {} {} none work = true) :
    SchedInv σ (nodesOf (init σ work).2.1 (init σ work).2.2) (({} : EnvSt).intro work)
      (startRoots σ (init σ work).1) [] :=
  ⟨(init_sched σ work hw).1, (pump_start σ work _).1,
    fun hs => (by rw [(pump_start σ work {}).2] at hs; cases hs), tracks_start σ work, trivial, trivial⟩

theorem schedInv_final (σ : Static) (fuel : Nat) (work : Option Work) (h : List Tick)
    (hok : envOk σ fuel work h = true) :
    (nodesOf (init σ work).2.1 (init σ work).2.2).Nodup ∧
    ∃ e, SchedInv σ (nodesOf (init σ work).2.1 (init σ work).2.2) e
      (wqRun σ fuel (wqStart σ fuel work) h).1 (wqRun σ fuel (wqStart σ fuel work) h).2.flatten :=
  ⟨(init_sched σ work (envOk_work hok)).2,
    ((schedInv_run σ _).envOk fuel work h (schedInv_start σ work (envOk_work hok)) hok).1⟩

end Gql.Async
