import Gql.Proofs.ExecDefs3
/-!
`render_lex` for the parts of a document: the printed text of each part is a printed piece (`Pc`, `OptPc`, `Its`:
`Gql.Proofs.Pieces`) with the part's tokens, one term per printer method — arguments, directives, selections; types,
descriptions, variable definitions, operation and fragment definitions; the fields, enum values, operation types,
argument definitions and delimited name lists of type-system definitions (assembled in `Gql.Proofs.ExecDocLex3`).
Beside them the printer's test for the `query` shorthand (`xopPre_query_iff`) and `locations_valid`.
-/
namespace Gql.Text
open Gql.Syntax

/-- The optional `( … )` of arguments has the tokens `argsKvs`. -/
theorem argsKvs_eq (w : Widths) (args : Args) :
    Exec.argsKvs args =
      if (Val.printFields w args).isEmpty then [] else (.parenL, none) :: Val.kvsFields args ++ [(.parenR, none)] := by
  cases args with
  | nil => rfl
  | cons a r => obtain ⟨n, v⟩ := a; simp [Val.printFields, Exec.argsKvs]

/-- `...` is one SPREAD token. -/
theorem next_spread (body : List Nat) (st : LexState) (pos : Nat) (h0 : body[pos]? = some 46)
    (h1 : body[pos + 1]? = some 46) (h2 : body[pos + 2]? = some 46) :
    readNextToken body st pos = .ok (mkToken st .spread pos (pos + 3) none, st) := by
  obtain ⟨hlen, hidx⟩ := index_of_getElem? h0
  rw [readNextToken]
  simp only [hlen, ↓reduceDIte, hidx, Out.bind_ok]
  simp [charAt, h1, h2, punctKind, isDigit, isNameStart, isLetter]

theorem Lexes.spread : Lexes false [46, 46, 46] [(.spread, none)] := by
  apply Lexes.single false _ .spread none (by decide) (by decide)
  intro pre rest st _
  refine ⟨_, st, next_spread _ st pre.length ((getElem?_pre0 pre _).trans rfl)
    ((getElem?_pre pre _ 1).trans rfl) ((getElem?_pre pre _ 2).trans rfl), rfl, rfl, rfl⟩

theorem S_dots : S "..." = [46, 46, 46] := by decide +kernel

theorem Pc.dots : Pc (S "...") [(.spread, none)] := by
  rw [S_dots]; exact .flat (Lexes.spread.weaken true) (by simp) (by decide)

/-- a keyword with the blank behind it, as an opening (`"on "`, `"implements "`, `"extend "` in the printer) -/
theorem lexes_kwSp {kwsp kw : List Nat} (hk : kwsp = kw ++ [32]) (hkw : validName kw = true) :
    Lexes false kwsp [(.name, some kw)] ∧ NoLF kwsp := by
  subst hk
  refine ⟨Lexes.append_ign (Lexes.name kw hkw) ign32 (by simp), fun c hc => ?_⟩
  rcases List.mem_append.mp hc with hc | hc
  · exact name_not hkw 10 (by decide) c hc
  · simp at hc; omega

theorem Exec.dirsWfC_mem {c : Bool} : ∀ {ds : List Dir}, Exec.dirsWfC c ds → ∀ d ∈ ds, Exec.dirWfC c d
  | _ :: _, h, _, .head _ => h.1
  | _ :: _, h, d, .tail _ hd => dirsWfC_mem h.2 d hd

section
variable (w : Widths) (hw : 4 ≤ w.object)
variable (hT : tableOK Generated.escapeTable = true) (hC : tableComplete Generated.escapeTable = true)
include hw hT hC

theorem pcDir (c : Bool) (d : Dir) (h : Exec.dirWfC c d) : Pc (Exec.printDir w d) (Exec.dirKvs d) := by
  have := (Pc.punct_then 64 .at (by decide) (by decide) (.name h.1)).appendOpt
    ((itsFields w hw c hT hC d.args (Val.wfPFields_of_wf c _ h.2)).wrapLine .paren) (wrap_safeHd (by decide))
  simpa [Exec.printDir, Exec.dirKvs, argsKvs_eq w] using this

theorem optDirs (c : Bool) (ds : List Dir) (h : Exec.dirsWfC c ds) :
    OptPc (Exec.printDirs w ds) (Exec.dirsKvs ds) :=
  (Its.map (Exec.printDir w) Exec.dirKvs Exec.dirsKvs rfl (fun _ _ => rfl) ds fun d hd =>
    pcDir w hw hT hC c d (Exec.dirsWfC_mem h d hd)).joined [32] ign32 (by simp)

omit hw hT hC in
theorem printSels_ne {ss : List Sel} (hne : ss ≠ []) : Exec.printSels w ss ≠ [] := by
  obtain ⟨s, r, rfl⟩ := List.exists_cons_of_ne_nil hne; simp [Exec.printSels]

mutual
  theorem pcSel (s : Sel) (h : Exec.selWf s) : Pc (Exec.printSel w s) (Exec.selKvs s) := by
    match s, h with
    | .field al n args ds ss, h =>
      unfold Exec.selWf at h
      obtain ⟨hal, hn, hargs, hds, hss⟩ := h
      -- `alias: name`
      have hpre : Pc (join [wrap [] al (S ": "), n])
          ((if al.isEmpty then [] else [(.name, some al), (.colon, none)]) ++ [(.name, some n)]) := by
        rw [join_nil_sep]
        rcases hal with rfl | hal
        · simpa [wrap] using Pc.name hn
        · have e : al.isEmpty = false := by have := validName_ne_nil hal; cases al <;> simp_all
          simpa [wrap_of_ne (validName_ne_nil hal), e, List.append_assoc] using Pc.named hal (Pc.name hn)
      have hXD := (hpre.wla w (itsFields w hw false hT hC args (Val.wfPFields_of_wf _ _ hargs))).sp
        (optDirs w hw hT hC false ds hds)
      cases ss with
      | nil =>
        rw [Exec.printSel, Exec.selKvs, join_nil_sep]
        simpa [argsKvs_eq w, wrap, List.append_assoc] using hXD
      | cons s r =>
        rw [Exec.printSel, Exec.selKvs, join_nil_sep]
        simpa [argsKvs_eq w, Exec.printSels, List.append_assoc] using
          hXD.sp ((itsSels (s :: r) hss).blockPc (by simp [Exec.printSels])).opt
    | .spread n ds, h =>
      unfold Exec.selWf at h
      have := ((Pc.pre Lexes.spread (by decide) (Pc.name h.1)).wla w Its.nil).sp (optDirs w hw hT hC false ds h.2.2)
      simpa [Exec.printSel, Exec.selKvs, S_dots] using this
    | .inline tc ds ss, h =>
      unfold Exec.selWf at h
      obtain ⟨htc, hds, hssne, hss⟩ := h
      have hon := lexes_kwSp (kwsp := S "on ") (kw := S "on") (by decide +kernel) (by decide +kernel)
      have := ((Pc.dots.sp (OptPc.wrapPre hon.1 hon.2 fun hne => Pc.name (htc.resolve_left hne))).sp
        (optDirs w hw hT hC false ds hds)).sp ((itsSels ss hss).blockPc (printSels_ne w hssne)).opt
      rw [Exec.printSel, Exec.selKvs, join_space _ _ Pc.dots.ne]
      simpa [spaced, List.append_assoc] using this
  theorem itsSels (ss : List Sel) (h : Exec.selsWf ss) : Its (Exec.printSels w ss) (Exec.selsKvs ss) := by
    match ss, h with
    | [], _ => exact .nil
    | s :: r, h =>
      unfold Exec.selsWf at h
      rw [Exec.printSels, Exec.selsKvs]
      exact .cons (pcSel s h.1) (itsSels r h.2)
end

theorem lexSel (s : Sel) (h : Exec.selWf s) (k : Nat) :
    Lexes true (indentLF k (Exec.printSel w s)) (Exec.selKvs s) :=
  (pcSel w hw hT hC s h).lex k

/-- The selection set `{ … }` of a definition. -/
theorem pcSs (ss : List Sel) (hne : ss ≠ []) (h : Exec.selsWf ss) :
    Pc (block (Exec.printSels w ss)) (Exec.ssKvs ss) :=
  (itsSels w hw hT hC ss h).blockPc (printSels_ne w hne)

end

theorem validName_opType {ot : List Nat} (h : Exec.isOpType ot) : validName ot = true := by
  rcases h with rfl | rfl | rfl <;> decide +kernel

theorem S_fragment : S "fragment " = S "fragment" ++ [32] := by decide +kernel
theorem S_on_sp : S " on " = [32] ++ S "on" ++ [32] := by decide +kernel

theorem getLast?_append_of_ne {a b : List Nat} (hb : b ≠ []) : (a ++ b).getLast? = b.getLast? := by
  rw [List.getLast?_append]
  cases h : b.getLast? with
  | none => simp [List.getLast?_eq_none_iff] at h; exact absurd h hb
  | some x => simp

theorem block_last (ts : List (List Nat)) (hts : ts ≠ []) (hne : ∀ t ∈ ts, t ≠ []) :
    (block ts).getLast? = some 125 := by
  rw [block_eq ts hts hne, getLast?_append_of_ne (by simp)]
  rfl

theorem Pc.ty : ∀ {t : Ty}, t.wf = true → Pc t.print t.kvs
  | .named _, h => .name h
  | .list t, h => (Pc.punct_then 91 .bracketL (by decide) (by decide) (Pc.ty (t := t) h)).then_punct 93 .bracketR
      (by decide) (by decide) (by decide)
  | .nonNull t, h => (Pc.ty (t := t) h).then_punct 33 .bang (by decide) (by decide) (by decide)

theorem S_eq : S " = " = [32, 61, 32] := by decide +kernel
theorem S_eqsp : S "= " = [61, 32] := by decide +kernel

theorem lexes_eqSp : Lexes false (S "= ") [(.equals, none)] := by
  rw [S_eqsp]; simpa using Lexes.append_l (Lexes.punct 61 .equals (by decide)) (Lexes.ignorable [32] ign32)

theorem wrap_wrap_eq (x : List Nat) : wrap [32] (wrap (S "= ") x) = wrap (S " = ") x := by
  cases x with
  | nil => simp [wrap]
  | cons a r => simp [wrap, S_eq, S_eqsp]

section
variable (w : Widths) (hw : 4 ≤ w.object)
variable (hT : tableOK Generated.escapeTable = true) (hC : tableComplete Generated.escapeTable = true)
include hw hT hC

/-- A description is printed, and read, like a string value. -/
theorem optDesc (d : Desc) (h : Exec.descWf d) : OptPc (Exec.descText w d) (Exec.descKvs d) := by
  match d, h with
  | none, _ => exact .none
  | some (s, b), h => exact (pcV w hw true hT hC (.str s b) ⟨Pairs.Paired.of_forall_scalar h.1, h.2⟩).opt

/-- `wrap("", description, "\n")` in front of a piece. -/
theorem Pc.descPre (d : Desc) (h : Exec.descWf d) {R : List Nat} {kr : List KV} (hR : Pc R kr) :
    Pc (wrap [] (Exec.descText w d) [10] ++ R) (Exec.descKvs d ++ kr) :=
  Pc.optThen (optDesc w hw hT hC d h) [10] ign10 (by simp) hR

/-- `"desc" LF core = default @dirs`: a variable definition (`core` = `$name: Type`) or an input value
definition (`core` = `name: Type`). -/
theorem pcValueDef (desc : Desc) (hdesc : Exec.descWf desc) {core : List Nat} {kcore : List KV} (hcore : Pc core kcore)
    (dflt : Option Val) (hdf : ∀ v, dflt = some v → Val.wf true v) (ds : List Dir) (hds : Exec.dirsWfC true ds) :
    Pc (wrap [] (Exec.descText w desc) [10] ++ (core ++ (wrap [32] (wrap (S "= ") (Exec.dfltText w dflt)) ++
        wrap [32] (Exec.printDirs w ds))))
      (Exec.descKvs desc ++ (kcore ++ (dflt.elim [] (fun v => (.equals, none) :: v.kvs) ++ Exec.dirsKvs ds))) := by
  have hD : OptPc (wrap (S "= ") (Exec.dfltText w dflt)) (dflt.elim [] fun v => (.equals, none) :: v.kvs) := by
    cases dflt with
    | none => exact .none
    | some v =>
      have hv := pcV w hw true hT hC v (Val.wfP_of_wf _ _ (hdf v rfl))
      rw [Exec.dfltText, wrap_of_ne hv.ne, List.append_nil]
      exact (Pc.pre lexes_eqSp (by decide) hv).opt
  simpa [List.append_assoc] using
    Pc.descPre w hw hT hC desc hdesc ((hcore.sp hD).sp (optDirs w hw hT hC true ds hds))

theorem pcVarDef (vd : VarDef) (h : Exec.varDefWf vd) : Pc (Exec.printVarDef w vd) (Exec.varDefKvs vd) := by
  obtain ⟨desc, name, ty, dflt, dirs⟩ := vd
  obtain ⟨hdesc, hn, hty, _, hdf, hds⟩ := h
  have := pcValueDef w hw hT hC desc hdesc (Pc.punct_then 36 .dollar (by decide) (by decide) (Pc.named hn (Pc.ty hty)))
    dflt (by rintro v rfl; exact hdf) dirs hds
  cases dflt <;> simpa [Exec.printVarDef, Exec.varDefKvs, wrap_wrap_eq, List.append_assoc] using this

theorem itsVarDefs (vds : List VarDef) (h : Exec.varDefsWf vds) :
    Its (vds.map (Exec.printVarDef w)) (Exec.varDefsKvsList vds) :=
  Its.map (Exec.printVarDef w) Exec.varDefKvs Exec.varDefsKvsList rfl (fun _ _ => rfl) vds fun a ha =>
    pcVarDef w hw hT hC a (Exec.varDefsWf_mem h a ha)

omit hw hT hC in
theorem varDefsKvs_eq (vds : List VarDef) :
    Exec.varDefsKvs vds = if (vds.map (Exec.printVarDef w)).isEmpty then []
      else (.parenL, none) :: Exec.varDefsKvsList vds ++ [(.parenR, none)] := by
  cases vds <;> simp [Exec.varDefsKvs]

/-- `var_defs` of `leave_operation_definition`: one line, or one definition per line (not indented). -/
theorem optVarDefsOp (vds : List VarDef) (h : Exec.varDefsWf vds) :
    OptPc (Exec.varDefsOp w vds) (Exec.varDefsKvs vds) := by
  rw [varDefsKvs_eq w]
  unfold Exec.varDefsOp
  dsimp only
  split
  · exact (itsVarDefs w hw hT hC vds h).wrapLines .paren
  · exact (itsVarDefs w hw hT hC vds h).wrapLine .paren

omit hw hT hC in
theorem varDefsOp_safeHd (vds : List VarDef) : Exec.varDefsOp w vds ≠ [] → SafeHd (Exec.varDefsOp w vds) := by
  unfold Exec.varDefsOp
  dsimp only
  split <;> exact wrap_safeHd (by decide)

end

/-- The condition under which `leave_operation_definition` uses the shorthand form. -/
def shortCond (desc : Desc) (ot n : List Nat) (vds : List VarDef) (ds : List Dir) : Prop :=
  desc = none ∧ ot = S "query" ∧ n = [] ∧ vds.isEmpty = true ∧ ds.isEmpty = true

instance (desc : Desc) (ot n : List Nat) (vds : List VarDef) (ds : List Dir) : Decidable (shortCond desc ot n vds ds) := by
  unfold shortCond; infer_instance

section
variable (w : Widths) (hw : 4 ≤ w.object)
variable (hT : tableOK Generated.escapeTable = true) (hC : tableComplete Generated.escapeTable = true)
variable (desc : Desc) (ot n : List Nat) (vds : List VarDef) (ds : List Dir)
variable (hdesc : Exec.descWf desc) (hot : Exec.isOpType ot) (hn : n = [] ∨ validName n = true)
  (hvds : Exec.varDefsWf vds) (hds : Exec.dirsWf ds)
include hw hT hC hdesc hot hn hvds hds

/-- What `leave_operation_definition` prints in front of the selection set. -/
theorem pcXopPre :
    Pc (wrap [] (Exec.descText w desc) [10] ++ (ot ++ spaced [n ++ Exec.varDefsOp w vds, Exec.printDirs w ds]))
      (Exec.descKvs desc ++ ((.name, some ot) :: (if n.isEmpty then [] else [(.name, some n)])) ++
        Exec.varDefsKvs vds ++ Exec.dirsKvs ds) := by
  have hV := optVarDefsOp w hw hT hC vds hvds
  -- the optional name with the variable definitions directly behind it
  have hNV : OptPc (n ++ Exec.varDefsOp w vds)
      ((if n.isEmpty then [] else [(.name, some n)]) ++ Exec.varDefsKvs vds) := by
    rcases hn with rfl | hn
    · simpa using hV
    · have e : n.isEmpty = false := by have := validName_ne_nil hn; cases n <;> simp_all
      simpa [e] using ((Pc.name hn).appendOpt hV (varDefsOp_safeHd w vds)).opt
  simpa [spaced, List.append_assoc] using Pc.descPre w hw hT hC desc hdesc
    (((Pc.name (validName_opType hot)).sp hNV).sp (optDirs w hw hT hC false ds hds))

/-- It is `query` exactly in the shorthand case: a text has one token sequence (`Lexes.unique`), and
anything more than the keyword `query` brings a token. -/
theorem xopPre_query_iff :
    wrap [] (Exec.descText w desc) [10] ++ (ot ++ spaced [n ++ Exec.varDefsOp w vds, Exec.printDirs w ds]) =
      S "query" ↔ shortCond desc ot n vds ds := by
  unfold shortCond
  constructor
  · intro h
    have hk := Lexes.unique (pcXopPre w hw hT hC desc ot n vds ds hdesc hot hn hvds hds).opt.lexes
      (by rw [h]; exact Lexes.name (S "query") (by decide +kernel))
    clear h
    cases desc with
    | some p => obtain ⟨s, b⟩ := p; cases b <;> simp [Exec.descKvs] at hk
    | none =>
      simp only [Exec.descKvs, List.nil_append, List.cons_append, List.cons.injEq, Prod.mk.injEq,
        Option.some.injEq, true_and, List.append_eq_nil_iff] at hk
      obtain ⟨hq, ⟨hn', hv⟩, hd⟩ := hk
      refine ⟨rfl, hq, ?_, ?_, ?_⟩
      · cases n <;> simp_all
      · cases vds <;> simp_all [Exec.varDefsKvs]
      · cases ds <;> simp_all [Exec.dirsKvs, Exec.dirKvs]
  · rintro ⟨rfl, rfl, rfl, hv, hd⟩
    have hv' : vds = [] := by cases vds <;> simp_all
    have hd' : ds = [] := by cases ds <;> simp_all
    subst hv' hd'
    simp [spaced, wrap, Exec.descText, Exec.varDefsOp, hasMultilineItems, Exec.printDirs, join, joinWith]

/-- The two forms of a printed operation. -/
theorem printXDef_op (ss : List Sel) :
    Exec.printXDef w (.op desc ot n vds ds ss) =
      if shortCond desc ot n vds ds then block (Exec.printSels w ss)
      else wrap [] (Exec.descText w desc) [10] ++ (ot ++ spaced [n ++ Exec.varDefsOp w vds, Exec.printDirs w ds]) ++
        [32] ++ block (Exec.printSels w ss) := by
  have hq := xopPre_query_iff w hw hT hC desc ot n vds ds hdesc hot hn hvds hds
  simp only [Exec.printXDef]
  rw [join_space _ _ (validName_ne_nil (validName_opType hot)), join_nil_sep]
  simp only [List.flatten_cons, List.flatten_nil, List.append_nil]
  by_cases hs : shortCond desc ot n vds ds
  · rw [if_pos (hq.mpr hs), if_pos hs]; rfl
  · rw [if_neg (fun h => hs (hq.mp h)), if_neg hs]

end

section
variable (w : Widths) (hw : 4 ≤ w.object)
variable (hT : tableOK Generated.escapeTable = true) (hC : tableComplete Generated.escapeTable = true)
include hw hT hC

theorem pcXDef (fa : Bool) (d : XDef) (h : Exec.xdefWf fa d) : Pc (Exec.printXDef w d) (Exec.xdefKvs d) := by
  cases d with
  | op desc ot n vds ds ss =>
    obtain ⟨hdesc, hot, hn, hvds, hds, hssne, hss⟩ := h
    have hB := pcSs w hw hT hC ss hssne hss
    rw [printXDef_op w hw hT hC desc ot n vds ds hdesc hot hn hvds hds ss, Exec.xdefKvs]
    unfold shortCond
    by_cases hs : desc = none ∧ ot = S "query" ∧ n = [] ∧ vds.isEmpty = true ∧ ds.isEmpty = true
    · simp only [hs, and_self, ↓reduceIte]; exact hB
    · simp only [hs, ↓reduceIte]
      simpa [List.append_assoc] using
        (pcXopPre w hw hT hC desc ot n vds ds hdesc hot hn hvds hds).sep [32] ign32 (by simp) hB
  | frag desc n vds tc ds ss =>
    obtain ⟨hdesc, hn, _, _, hvds, htc, hds, hssne, hss⟩ := h
    have hV := (itsVarDefs w hw hT hC vds hvds).wrapLine .paren
    have := Pc.descPre w hw hT hC desc hdesc
      ((((((Pc.name (n := S "fragment") (by decide +kernel)).sep [32] ign32 (by simp) (Pc.name hn)).appendOpt hV
        (wrap_safeHd (by decide))).sep [32] ign32 (by simp) (Pc.name (n := S "on") (by decide +kernel))).sep [32]
          ign32 (by simp) (Pc.name htc)).sep [32] ign32 (by simp)
            (Pc.optThen (optDirs w hw hT hC false ds hds) [32] ign32 (by simp) (pcSs w hw hT hC ss hssne hss)))
    simpa [Exec.printXDef, Exec.xdefKvs, S_fragment, S_on_sp, varDefsKvs_eq w, List.append_assoc] using this

/-- A printed definition ends with the `}` of its selection set. -/
theorem printXDef_last (fa : Bool) (d : XDef) (h : Exec.xdefWf fa d) :
    (Exec.printXDef w d).getLast? = some 125 := by
  have key : ∀ ss, ss ≠ [] → Exec.selsWf ss → ∀ a, (a ++ block (Exec.printSels w ss)).getLast? = some 125 := by
    intro ss hne hss a
    have hI := itsSels w hw hT hC ss hss
    have hts := printSels_ne w hne
    rw [getLast?_append_of_ne (hI.blockPc hts).ne]; exact block_last _ hts hI.ne
  cases d with
  | op desc ot n vds ds ss => simp only [Exec.printXDef]; exact key ss h.2.2.2.2.2.1 h.2.2.2.2.2.2 _
  | frag desc n vds tc ds ss => simp only [Exec.printXDef]; exact key ss h.2.2.2.2.2.2.2.1 h.2.2.2.2.2.2.2.2 _

end

section
variable (w : Widths) (hw : 4 ≤ w.object)
variable (hT : tableOK Generated.escapeTable = true) (hC : tableComplete Generated.escapeTable = true)
include hw hT hC

theorem pcIvd (vd : VarDef) (h : Exec.varDefWf vd) : Pc (Exec.printIvd w vd) (Exec.ivdKvs vd) := by
  obtain ⟨desc, name, ty, dflt, dirs⟩ := vd
  obtain ⟨hdesc, hn, hty, _, hdf, hds⟩ := h
  have hN := Pc.named hn (Pc.ty hty)
  have := pcValueDef w hw hT hC desc hdesc hN dflt (by rintro v rfl; exact hdf) dirs hds
  rw [Exec.printIvd, join_space _ _ hN.ne]
  cases dflt <;> simpa [Exec.descPre, Exec.ivdKvs, spaced, List.append_assoc] using this

/-- `(args)` of a field or directive definition. -/
theorem optArgDefs (args : List VarDef) (h : Exec.ivdsWf args) :
    OptPc (argDefs (args.map (Exec.printIvd w))) (Exec.argDefsKvs args) := by
  simpa [Exec.argDefsKvs, Exec.bracketKvs] using
    (Its.map (Exec.printIvd w) Exec.ivdKvs Exec.ivdsKvs rfl (fun _ _ => rfl) args fun a ha =>
      pcIvd w hw hT hC a (h a ha)).argDefs

theorem pcFd (f : FDef) (h : Exec.fdWf f) : Pc (Exec.printFd w f) (Exec.fdKvs f) := by
  obtain ⟨hdesc, hname, hargs, hty, _, hds⟩ := h
  have := Pc.descPre w hw hT hC f.desc hdesc
    (((((Pc.name hname).appendOpt (optArgDefs w hw hT hC f.args hargs) (argDefs_safeHd _)).then_punct 58 .colon (by decide) (by decide) (by decide)).sep
      [32] ign32 (by simp) (Pc.ty hty)).sp (optDirs w hw hT hC true f.dirs hds))
  simpa [Exec.printFd, Exec.descPre, Exec.fdKvs, S_colon, List.append_assoc] using this

theorem pcEv (e : EVDef) (h : Exec.evWf e) : Pc (Exec.printEv w e) (Exec.evKvs e) := by
  obtain ⟨hdesc, hname, _, _, _, hds⟩ := h
  have := Pc.descPre w hw hT hC e.desc hdesc ((Pc.name hname).sp (optDirs w hw hT hC true e.dirs hds))
  rw [Exec.printEv, join_space _ _ (validName_ne_nil hname)]
  simpa [Exec.descPre, Exec.evKvs, spaced] using this

end

theorem pcOt (ot : List Nat × List Nat) (h : Exec.isOpType ot.1 ∧ validName ot.2 = true) :
    Pc (Exec.printOt ot) (Exec.otKvs ot) := by
  simpa [Exec.printOt, Exec.otKvs] using Pc.named (validName_opType h.1) (Pc.name h.2)

theorem names_ne_nil (ns : List (List Nat)) (h : Exec.namesWf ns) : ∀ t ∈ ns, t ≠ [] :=
  fun t ht => validName_ne_nil (h t ht)

/-- `A d B d C` — names separated by ` d `. -/
theorem pcDelim (d : Nat) (kd : TokKind) (hkd : punctKind d = some kd) (hd : d ≠ 10) (ns : List (List Nat))
    (hne : ns ≠ []) (h : Exec.namesWf ns) : Pc (joinWith [32, d, 32] ns) (Exec.delimKvs kd ns) := by
  induction ns with
  | nil => exact absurd rfl hne
  | cons a r ih =>
    have ha := Pc.name (h a (by simp))
    cases r with
    | nil => simpa [joinWith, Exec.delimKvs] using ha
    | cons b r' =>
      have ih' := ih (by simp) (fun x hx => h x (by simp at hx ⊢; exact Or.inr hx))
      simpa [joinWith, Exec.delimKvs, List.append_assoc] using ha.sep [32] ign32 (by simp)
        (Pc.punct_then d kd hkd hd (Pc.pre (Lexes.ignorable [32] ign32) (by decide) ih'))

/-- the optional `implements A & B` / `= A | B` piece -/
theorem optDelimPiece (pre : List Nat) (kpre : KV) (hpre : Lexes false pre [kpre] ∧ NoLF pre) (d : Nat) (kd : TokKind)
    (hkd : punctKind d = some kd) (hd : d ≠ 10) (ns : List (List Nat)) (h : Exec.namesWf ns) :
    OptPc (wrap pre (join ns [32, d, 32])) (if ns.isEmpty then [] else kpre :: Exec.delimKvs kd ns) := by
  cases hx : ns with
  | nil => exact .inl ⟨by simp [join, joinWith, wrap], rfl⟩
  | cons a r =>
    have hJ := pcDelim d kd hkd hd ns (by simp [hx]) h
    rw [← hx, join_eq_joinWith _ _ (names_ne_nil ns h), wrap_of_ne hJ.ne, List.append_nil]
    simpa [hx] using (Pc.pre hpre.1 hpre.2 hJ).opt

theorem S_implements : S "implements " = S "implements" ++ [32] := by decide +kernel
theorem S_amp : S " & " = [32, 38, 32] := by decide +kernel
theorem S_pipe : S " | " = [32, 124, 32] := by decide +kernel

theorem optImpl (ifs : List (List Nat)) (h : Exec.namesWf ifs) :
    OptPc (wrap (S "implements ") (join ifs (S " & "))) (Exec.implKvs ifs) := by
  rw [S_amp]
  exact optDelimPiece _ _ (lexes_kwSp S_implements (by decide +kernel)) 38 .amp (by decide) (by decide) ifs h

theorem optUnionTypes (ts : List (List Nat)) (h : Exec.namesWf ts) :
    OptPc (wrap (S "= ") (join ts (S " | "))) (Exec.unionKvs ts) := by
  rw [S_pipe]
  exact optDelimPiece _ _ ⟨lexes_eqSp, by decide +kernel⟩ 124 .pipe (by decide) (by decide) ts h

theorem locations_valid : ∀ l ∈ Generated.ParserTables.directiveLocations.map strCps, validName l = true := by
  decide +kernel

theorem S_directive : S "directive @" = S "directive" ++ [32] ++ [64] := by decide +kernel

end Gql.Text
