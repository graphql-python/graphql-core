import Gql.Proofs.OverlapFieldMap
/-! C14, documents without fragment spreads: every visit of the rule decides (`Dec`) the
between-conflicts (`BConf`) of the same-name pairs within the selection set it enters (`WSet`). -/
namespace Gql.Exec
open Overlap

/-- "Between" conflict of two field instances (what `find_conflict` looks for, stated on the
specification's notions). -/
inductive BConf (s : Schema) : Bool → Spec.FieldInst → Spec.FieldInst → Prop where
  | here {full : Bool} {a b : Spec.FieldInst} :
      Spec.direct s ⟨a, b, full⟩ = true → BConf s full a b
  | sub {full : Bool} {a b c1 c2 : Spec.FieldInst} :
      a.node.hasSub = true → b.node.hasSub = true →
      c1 ∈ selsFlat s (subP s a) a.node.sub → c2 ∈ selsFlat s (subP s b) b.node.sub →
      c1.node.responseName = c2.node.responseName →
      BConf s (Spec.deeper s ⟨a, b, full⟩) c1 c2 → BConf s full a b

theorem BConf.instEq {s : Schema} {full : Bool} {a b a' b' : Spec.FieldInst}
    (h : BConf s full a b) (ha : InstEq s a a') (hb : InstEq s b b') : BConf s full a' b' := by
  obtain ⟨pa', na'⟩ := a'
  obtain ⟨pb', nb'⟩ := b'
  cases (ha.1 : a.node = na')
  cases (hb.1 : b.node = nb')
  cases h with
  | here hd => exact BConf.here (direct_instEq ha hb _ ▸ hd)
  | sub hsa hsb h1 h2 hrn hc =>
    rw [ha.subP] at h1
    rw [hb.subP] at h2
    rw [deeper_instEq ha hb] at hc
    exact BConf.sub hsa hsb h1 h2 hrn hc

theorem exists_mem_map {α β : Type} {f : α → β} {l : List α} {P : β → Prop} :
    (∃ t ∈ l.map f, P t) ↔ ∃ v ∈ l, P (f v) :=
  ⟨fun ⟨_, ht, hp⟩ => by obtain ⟨v, hv, rfl⟩ := List.mem_map.1 ht; exact ⟨v, hv, hp⟩,
    fun ⟨v, hv, hp⟩ => ⟨f v, List.mem_map_of_mem hv, hp⟩⟩

theorem Doc.NoSpreads.direct {s : Schema} {d : Doc} (hn : d.NoSpreads)
    {t : Option String × SelSet} (h : t ∈ d.typedSets s) : selsDirectSpreads t.2.sels = [] :=
  List.eq_nil_of_subset_nil (hn ▸ Doc.typedSets_spreads h)

/-- some same-name pair within the typed set `t` has a between-conflict -/
def WSet (s : Schema) (t : Option String × SelSet) : Prop :=
  ∃ pr ∈ Spec.sameNamePairs (selsFlat s t.1 t.2.sels), BConf s true pr.1 pr.2

section
variable (env : Env)

/-- `r` returns, keeps the cache invariant, and reports a conflict exactly when `P` -/
def Dec (r : St → Res) (P : Prop) : Prop :=
  ∀ σ, CacheNF env σ → ∃ σ' cs, r σ = some (σ', cs) ∧ CacheNF env σ' ∧ (cs ≠ [] ↔ P)

theorem Dec.congr {r : St → Res} {P Q : Prop} (h : Dec env r P) (hpq : P ↔ Q) : Dec env r Q := by
  intro σ hσ
  obtain ⟨σ', cs, e, g, i⟩ := h σ hσ
  exact ⟨σ', cs, e, g, i.trans hpq⟩

theorem dec_nil : Dec env (fun σ => some (σ, [])) False :=
  fun σ hσ => ⟨σ, [], rfl, hσ, by simp⟩

theorem dec_andThen {r k : St → Res} {P Q : Prop} (hr : Dec env r P) (hk : Dec env k Q) :
    Dec env (fun σ => andThen (r σ) k) (P ∨ Q) := by
  intro σ hσ
  obtain ⟨σ1, c1, e1, g1, i1⟩ := hr σ hσ
  obtain ⟨σ2, c2, e2, g2, i2⟩ := hk σ1 g1
  refine ⟨σ2, c1 ++ c2, by simp [andThen, e1, e2], g2, ?_⟩
  rw [← i1, ← i2]
  cases c1 <;> cases c2 <;> simp

theorem dec_forEach {α : Type} (xs : List α) (f : α → St → Res) (P : α → Prop)
    (hf : ∀ x ∈ xs, Dec env (f x) (P x)) : Dec env (forEach xs f) (∃ x ∈ xs, P x) := by
  induction xs with
  | nil => exact (dec_nil env).congr env (by simp)
  | cons x xs ih =>
    exact (dec_andThen env (hf x List.mem_cons_self)
      (ih (fun y hy => hf y (List.mem_cons_of_mem _ hy)))).congr env (by simp)

end

section nofrag
variable (env : Env) (hle : LinOrd env.le) (hn : env.d.NoSpreads)
  (hU : TypedIdsUnique env.s env.d)
  (hA : ∀ a, DocInst env.s env.d a → a.node.argsOK)
  (hT : ∀ a, DocInst env.s env.d a → a.node.name ≠ "__typename")

theorem between_iff {t1 t2 : Option String × SelSet} (h1 : t1 ∈ env.d.typedSets env.s)
    (h2 : t2 ∈ env.d.typedSets env.s) {q1' q2' : Option String} (hq1 : PEq env.s t1.1 q1')
    (hq2 : PEq env.s t2.1 q2') (full : Bool) :
    (∃ u ∈ betweenPairs (fmOf env t1 q1') (fmOf env t2 q2'),
        BConf env.s full u.2.1.inst u.2.2.inst) ↔
      ∃ c1 ∈ selsFlat env.s t1.1 t1.2.sels, ∃ c2 ∈ selsFlat env.s t2.1 t2.2.sels,
        c1.node.responseName = c2.node.responseName ∧ BConf env.s full c1 c2 := by
  constructor
  · rintro ⟨u, hu, hb⟩
    obtain ⟨_, _, c1, hc1, c2, hc2, i1, i2, hrn⟩ := between_known env h1 h2 hq1 hq2 hu
    exact ⟨c1, hc1, c2, hc2, hrn, hb.instEq i1 i2⟩
  · rintro ⟨c1, hc1, c2, hc2, hrn, hb⟩
    obtain ⟨u, hu, i1, i2⟩ := between_of_flat env hq1 hq2 hc1 hc2 hrn
    exact ⟨u, hu, hb.instEq i1.symm i2.symm⟩

theorem within_iff {t : Option String × SelSet} (ht : t ∈ env.d.typedSets env.s)
    {q' : Option String} (hq : PEq env.s t.1 q') :
    (∃ u ∈ withinPairs (fmOf env t q'), BConf env.s true u.2.1.inst u.2.2.inst) ↔
      WSet env.s t := by
  constructor
  · rintro ⟨u, hu, hb⟩
    obtain ⟨_, _, pr, hpr, i1, i2, hrn⟩ := within_known env ht hq hu
    exact ⟨pr, Spec.mem_sameNamePairs.2 ⟨hpr, hrn⟩, hb.instEq i1 i2⟩
  · rintro ⟨pr, hpr, hb⟩
    obtain ⟨hp, hrn⟩ := Spec.mem_sameNamePairs.1 hpr
    obtain ⟨u, hu, i1, i2⟩ := within_of_pair env hq hp hrn
    exact ⟨u, hu, hb.instEq i1.symm i2.symm⟩

include hle hn hU hA hT

theorem fc_bs_dec : ∀ n : Nat,
    (∀ excl rn e1 e2 k, Known env e1 → Known env e2 → nodeDepth e1.node ≤ k → 2 * k + 1 ≤ n →
      Dec env (findConflict env n excl rn e1 e2) (BConf env.s (!excl) e1.inst e2.inst)) ∧
    (∀ excl p1 p2 (t1 t2 : Option String × SelSet), t1 ∈ env.d.typedSets env.s →
      t2 ∈ env.d.typedSets env.s → PEq env.s t1.1 p1 → PEq env.s t2.1 p2 →
      2 * selsDepth t1.2.sels + 2 ≤ n →
      Dec env (findConflictsBetweenSubSelectionSets env n excl p1 t1.2 p2 t2.2)
        (∃ c1 ∈ selsFlat env.s t1.1 t1.2.sels, ∃ c2 ∈ selsFlat env.s t2.1 t2.2.sels,
          c1.node.responseName = c2.node.responseName ∧ BConf env.s (!excl) c1 c2)) := by
  intro n
  induction n with
  | zero => exact ⟨by intros; omega, by intros; omega⟩
  | succ n ih =>
    obtain ⟨ihFC, ihBS⟩ := ih
    refine ⟨?_, ?_⟩
    · intro excl rn e1 e2 k k1 k2 hd hfuel σ hσ
      obtain ⟨ha1, hd1, p1, m1⟩ := known_facts env hA hT k1
      obtain ⟨ha2, hd2, p2, m2⟩ := known_facts env hA hT k2
      rcases findConflict_direct env hle n excl rn e1 e2 σ ha1 ha2 hd1 hd2 with
        ⟨hdir, c, hc⟩ | ⟨hdir, hF1⟩
      · exact ⟨σ, [c], hc, hσ, by simp; exact BConf.here hdir⟩
      · rw [hF1, subResult]
        by_cases hsub : (e1.node.hasSub && e2.node.hasSub) = true
        · obtain ⟨hs1, hs2⟩ := Bool.and_eq_true_iff.1 hsub
          have hfu : 2 * selsDepth e1.node.subSet.sels + 2 ≤ n := by
            simp only [FieldNode.subSet, nodeDepth] at hd ⊢; omega
          obtain ⟨σ', cs, e, g, i⟩ := ihBS (!Spec.deeper env.s ⟨e1.inst, e2.inst, !excl⟩)
            _ _ (subP env.s e1.inst, e1.node.subSet) (subP env.s e2.inst, e2.node.subSet)
            (m1 hs1) (m2 hs2) p1 p2 hfu σ hσ
          rw [if_pos hsub, e]
          refine ⟨σ', _, rfl, g, ?_⟩
          rw [subfieldConflicts_ne_nil, i, Bool.not_not]
          constructor
          · rintro ⟨c1, h1, c2, h2, hrn, hb⟩
            exact BConf.sub (a := e1.inst) (b := e2.inst) hs1 hs2 h1 h2 hrn hb
          · intro hb
            cases hb with
            | here hd => rw [hdir] at hd; cases hd
            | sub _ _ h1 h2 hrn hb => exact ⟨_, h1, _, h2, hrn, hb⟩
        · rw [if_neg hsub]
          refine ⟨σ, [], rfl, hσ, ?_⟩
          simp only [ne_eq, not_true_eq_false, false_iff]
          intro hb
          cases hb with
          | here hd => rw [hdir] at hd; cases hd
          | sub hs1 hs2 _ _ _ _ =>
            exact hsub (Bool.and_eq_true_iff.2 ⟨hs1, hs2⟩)
    · intro excl p1 p2 t1 t2 h1 h2 hp1 hp2 hfuel σ hσ
      obtain ⟨σ1, q1', e1, g1, hq1', -, -⟩ := getFields_nf env hU hσ h1 hp1
      obtain ⟨σ2, q2', e2, g2, hq2', -, -⟩ := getFields_nf env hU g1 h2 hp2
      -- without spreads only step (H), the comparison of the two field maps, is left
      simp only [findConflictsBetweenSubSelectionSets, e1, e2, hn.direct h1, hn.direct h2,
        spreadsOf_nil, List.flatMap_nil, forEach, andThen_pure]
      refine Dec.congr env (dec_forEach env _ _
        (fun u => BConf env.s (!excl) u.2.1.inst u.2.2.inst) (fun u hu => ?_))
        (between_iff env h1 h2 hq1' hq2' (!excl)) σ2 g2
      obtain ⟨k1, k2, c1, hc1, _, _, i1, _⟩ := between_known env h1 h2 hq1' hq2' hu
      exact ihFC excl u.1 u.2.1 u.2.2 _ k1 k2 (i1.1 ▸ flat_child_depth hc1) (by omega)

theorem within_dec (n : Nat) (hfuel : 2 * env.d.depth + 1 ≤ n) {t : Option String × SelSet}
    (ht : t ∈ env.d.typedSets env.s) {pTI : Option String} (hp : PEq env.s t.1 pTI) :
    Dec env (findConflictsWithinSelectionSet env n pTI t.2) (WSet env.s t) := by
  obtain ⟨hFC, _⟩ := fc_bs_dec env hle hn hU hA hT n
  intro σ hσ
  obtain ⟨σ1, q', e1, g1, hq', -, -⟩ := getFields_nf env hU hσ ht hp
  simp only [findConflictsWithinSelectionSet, e1, hn.direct ht, spreadsOf_nil, withinTasks,
    forEach, andThen_pure]
  refine Dec.congr env (dec_forEach env _ _
    (fun u => BConf env.s true u.2.1.inst u.2.2.inst) (fun u hu => ?_))
    (within_iff env ht hq') σ1 g1
  obtain ⟨k1, k2, pr, hpr, i1, _⟩ := within_known env ht hq' hu
  have en : u.2.1.node = pr.1.node := i1.1
  exact hFC false u.1 u.2.1 u.2.2 _ k1 k2
    (en ▸ DocInst.depth (s := env.s) ⟨_, ht, (Spec.pairsOf_mem hpr).1⟩) hfuel

theorem visitSel_dec (n : Nat) (hfuel : 2 * env.d.depth + 1 ≤ n) :
    ∀ (x : Sel) (pTI q : Option String), PEq env.s q pTI →
      x.typedSets env.s q ⊆ env.d.typedSets env.s →
      (∀ a ∈ x.flat env.s q, a.node.name ≠ "__typename") →
      Dec env (visitSel env n pTI x) (∃ t ∈ x.typedSets env.s q, WSet env.s t) := by
  intro x pTI q hp hsub hname
  have hpeq := Sel.visits_peq env.s x pTI q hp hname (fun t ht a ha => hT a ⟨t, hsub ht, ha⟩)
  rw [visitSel_eq env n x pTI q, ← Sel.visits_typed env.s x pTI q] at *
  exact Dec.congr env (dec_forEach env _ _ (fun v => WSet env.s v.2) (fun v hv =>
    within_dec env hle hn hU hA hT n hfuel (hsub (List.mem_map_of_mem hv)) (hpeq v hv)))
    exists_mem_map.symm

end nofrag

end Gql.Exec
