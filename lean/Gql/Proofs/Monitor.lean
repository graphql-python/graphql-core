import Gql.Async.Monitor
/-!
The path-addressed operations the trace monitor applies are transitions of `Step`.
-/
namespace Gql.Async

def OpSound (op : Cfg → Option Cfg) : Prop :=
  ∀ f f', op f = some f' → ∃ l, Step f l f'

theorem modifyAt_sound (op : Cfg → Option Cfg) (hop : OpSound op) :
    ∀ (f : Cfg) (p : Path) (f' : Cfg), modifyAt op f p = some f' → ∃ l, Step f l f'
  | .nil, _, _, h => by simp [modifyAt] at h
  | .cons _ _ _ _ _ _, [], _, h => by simp [modifyAt] at h
  | .cons nn g res st ch rest, [0], f', h => by
    simp only [modifyAt] at h
    exact hop _ f' h
  | .cons nn g res st ch rest, 0 :: j :: p, f', h => by
    simp only [modifyAt] at h
    split at h
    · obtain ⟨ch', hm, rfl⟩ := Option.map_eq_some_iff.mp h
      obtain ⟨l, hs⟩ := modifyAt_sound op hop ch (j :: p) ch' hm
      exact ⟨l.down, Step.child nn g res st ch rest l ch' ‹_› hs⟩
    · cases h
  | .cons nn g res st ch rest, (i + 1) :: p, f', h => by
    obtain ⟨rest', hm, rfl⟩ := Option.map_eq_some_iff.mp h
    obtain ⟨l, hs⟩ := modifyAt_sound op hop rest (i :: p) rest' hm
    exact ⟨l.next, Step.sibling nn g res st ch rest l rest' hs⟩

theorem opResolve_sound : OpSound opResolve := by
  intro f f' h
  unfold opResolve at h
  split at h <;> cases h
  exact ⟨_, Step.resolve ..⟩

theorem opFire_sound : OpSound opFire := by
  intro f f' h
  unfold opFire at h
  split at h <;> cases h
  exact ⟨_, Step.fire ..⟩

theorem opComplete_sound : OpSound opComplete := by
  intro f f' h
  unfold opComplete at h
  split at h
  · split at h <;> cases h
    exact ⟨_, Step.complete _ _ _ _ _ _ ‹_›⟩
  · cases h

theorem opFail_sound : OpSound opFail := by
  intro f f' h
  unfold opFail at h
  split at h
  · split at h <;> cases h
    exact ⟨_, Step.fail _ _ _ _ _ ‹_›⟩
  · cases h

theorem opAbort_sound : OpSound opAbort := by
  intro f f' h
  unfold opAbort at h
  split at h
  · split at h <;> cases h
    exact ⟨_, Step.abort _ _ _ _ ‹_›⟩
  · cases h

theorem opFailDone_sound : OpSound opFailDone := by
  intro f f' h
  unfold opFailDone at h
  split at h
  · split at h <;> cases h
    exact ⟨_, Step.failDone _ _ _ _ _ (eq_false_of_ne_true ‹_›)⟩
  · cases h

theorem opUnwound_sound : OpSound opUnwound := by
  intro f f' h
  unfold opUnwound at h
  split at h
  · split at h <;> cases h
    exact ⟨_, Step.unwound _ _ _ _ _ (eq_false_of_ne_true ‹_›)⟩
  · cases h

end Gql.Async
