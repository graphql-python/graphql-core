import Gql.Proofs.RulesRun
import Gql.Proofs.RulesUsages
/-!
C12-7 — `rule_iff_spec` for NoUnusedVariables, a rule without private state: first against the context getters
(`Spec.noUnusedVariables`), then on the document alone, over the spread graph (`Spec.noUnusedVariablesFull`).
-/
namespace Gql.Validation.Rules
open Gql.Validation

variable {τ : Type}

namespace Spec
/-- "Every variable an operation (resp. a fragment, for fragment variables) defines is used": in the operation or
in a fragment it spreads transitively, as collected by the context getters. -/
def noUnusedVariables (doc : ATree) : Prop :=
  ∀ n ∈ doc.nodes,
    (n.kind = "fragment_definition" →
      ∀ vd ∈ n.kids "variable_definitions", ∃ v, (vd.kid "variable").bind (·.nameValue) = some v ∧
        v ∈ (getUsages doc n).filterMap (·.name)) ∧
    (n.kind = "operation_definition" →
      ∀ vd ∈ n.kids "variable_definitions", ∃ v, (vd.kid "variable").bind (·.nameValue) = some v ∧
        v ∈ ((getRecUsages doc n).filter (fun u => !u.fragVar)).filterMap (·.name))
end Spec

theorem unusedVarErrors_nil_iff (used : List String) (n : ATree) :
    unusedVarErrors used n = [] ↔
      ∀ vd ∈ n.kids "variable_definitions", ∃ v, (vd.kid "variable").bind (·.nameValue) = some v ∧ v ∈ used := by
  unfold unusedVarErrors
  rw [List.filterMap_eq_nil_iff]
  apply forall_congr'; intro vd
  apply imp_congr_right; intro _
  cases h : (vd.kid "variable").bind (·.nameValue) with
  | none => simp
  | some v =>
    by_cases hc : v ∈ used
    · simp [hc]
    · simp [hc]

theorem noUnusedVariables_stateless (doc : ATree) :
    (noUnusedVariables (τ := τ) doc).Stateless (reportsOf (noUnusedVariables (τ := τ) doc)) := by
  intro s ph i ti _
  simp only [reportsOf, noUnusedVariables, withNode]
  split
  · cases ph
    · rfl
    · simp only
      split <;> rfl
  · rfl

theorem noUnusedVariables_iff (tbl : TITable) (L : Lookups τ) (doc : ATree) (hu : doc.uniqueIds) :
    validate tbl L none [(noUnusedVariables doc, RS.init)] doc.erase = [] ↔ Spec.noUnusedVariables doc := by
  rw [stateless_nil_iff tbl L _ _ (noUnusedVariables_stateless doc) doc hu]
  unfold Spec.noUnusedVariables
  apply forall_congr'; intro n
  apply imp_congr_right; intro hn
  have hrep : reportsOf (noUnusedVariables (τ := τ) doc) .leave n.info =
      unusedVarErrors (if n.info.kind == "fragment_definition" then (getUsages doc n).filterMap (·.name)
        else ((getRecUsages doc n).filter (fun u => !u.fragVar)).filterMap (·.name)) n := by
    simp only [reportsOf, noUnusedVariables, withNode_of_mem hu hn]
    by_cases h : (n.info.kind == "fragment_definition") = true <;> simp only [h, if_true, Bool.false_eq_true, if_false]
  have hL : (noUnusedVariables (τ := τ) doc).hLeave n.kind = true ↔
      n.info.kind = "operation_definition" ∨ n.info.kind = "fragment_definition" := by
    simp [noUnusedVariables, ATree.kind]
  rw [hrep, unusedVarErrors_nil_iff, hL]
  by_cases hfd : n.info.kind = "fragment_definition"
  · rw [if_pos (beq_iff_eq.mpr hfd)]
    exact ⟨fun h => ⟨fun _ => h.2 (Or.inr hfd), fun hop => absurd (hfd.symm.trans hop) (by decide)⟩,
      fun h => ⟨fun he => absurd he Bool.false_ne_true, fun _ => h.1 hfd⟩⟩
  · rw [if_neg (by simpa using hfd)]
    exact ⟨fun h => ⟨fun hf => absurd hf hfd, fun hop => h.2 (Or.inl hop)⟩,
      fun h => ⟨fun he => absurd he Bool.false_ne_true, fun hk => h.2 (hk.resolve_right hfd)⟩⟩

namespace Spec
/-- the variable `v` occurs in the subtree of `n` (not inside a variable definition) -/
def usesVar (n : ATree) (v : String) : Prop := ∃ u ∈ variablesIn n, u.nameValue = some v

/-- `v` is used by the operation `op`: in the operation itself, or in a fragment reachable from it through spreads
where `v` is not one of that fragment's own (fragment-)variables. -/
def opUsesVar (doc op : ATree) (v : String) : Prop :=
  usesVar op v ∨
  ∃ ss, op.kid "selection_set" = some ss ∧ ∃ m f, Reaches doc ss m ∧ getFragment doc m = some f ∧
    ∃ u ∈ variablesIn f, u.nameValue = some v ∧ fragVarDefined doc f.nameValue (some v) = false

/-- "Every variable an operation defines is used in it or in a fragment it reaches through spreads; every variable a
fragment definition defines is used in it" — stated on the document only (spread graph `Reaches`, structural
`variablesIn`), no context getter. -/
def noUnusedVariablesFull (doc : ATree) : Prop :=
  ∀ n ∈ doc.nodes,
    (n.kind = "fragment_definition" →
      ∀ vd ∈ n.kids "variable_definitions", ∃ v, (vd.kid "variable").bind (·.nameValue) = some v ∧ usesVar n v) ∧
    (n.kind = "operation_definition" →
      ∀ vd ∈ n.kids "variable_definitions", ∃ v, (vd.kid "variable").bind (·.nameValue) = some v ∧ opUsesVar doc n v)
end Spec

theorem usages_names_iff (doc n : ATree) (v : String) :
    v ∈ (getUsages doc n).filterMap (·.name) ↔ Spec.usesVar n v := by
  simp [getUsages, Spec.usesVar, List.mem_filterMap]

theorem recUsages_names_iff (doc op : ATree) (hk : op.kind = "operation_definition") (v : String) :
    v ∈ ((getRecUsages doc op).filter (fun u => !u.fragVar)).filterMap (·.name) ↔ Spec.opUsesVar doc op v := by
  -- `v` is among the names iff not every usage has another name
  have hl : v ∈ ((getRecUsages doc op).filter (fun u => !u.fragVar)).filterMap (·.name) ↔
      ¬ ∀ u ∈ getRecUsages doc op, u.fragVar = false → u.name ≠ some v := by
    simp only [List.mem_filterMap, List.mem_filter, Bool.not_eq_true', ne_eq, Classical.not_forall,
      Decidable.not_not, exists_prop, and_assoc]
  rw [hl, recUsages_forall_iff doc op hk (fun _ nm => nm ≠ some v), Classical.not_and_iff_not_or_not]
  apply or_congr
  · simp only [Spec.usesVar, ne_eq, Classical.not_forall, Decidable.not_not, exists_prop]
  · simp only [ne_eq, Classical.not_forall, Decidable.not_not, exists_prop]
    constructor
    · rintro ⟨ss, hss, m, f, hr, hg, x, hx, hfv, hnm⟩
      exact ⟨ss, hss, m, f, hr, hg, x, hx, hnm, hnm ▸ hfv⟩
    · rintro ⟨ss, hss, m, f, hr, hg, x, hx, hnm, hfv⟩
      exact ⟨ss, hss, m, f, hr, hg, x, hx, hnm ▸ hfv, hnm⟩

theorem noUnusedVariables_spec_iff_full (doc : ATree) : Spec.noUnusedVariables doc ↔ Spec.noUnusedVariablesFull doc := by
  unfold Spec.noUnusedVariables Spec.noUnusedVariablesFull
  apply forall_congr'; intro n
  apply imp_congr_right; intro _
  apply and_congr
  · apply imp_congr_right; intro _
    apply forall_congr'; intro vd
    apply imp_congr_right; intro _
    apply exists_congr; intro v
    rw [usages_names_iff]
  · apply imp_congr_right; intro hk
    apply forall_congr'; intro vd
    apply imp_congr_right; intro _
    apply exists_congr; intro v
    rw [recUsages_names_iff doc n hk]

theorem noUnusedVariables_iff_full (tbl : TITable) (L : Lookups τ) (doc : ATree) (hu : doc.uniqueIds) :
    validate tbl L none [(noUnusedVariables doc, RS.init)] doc.erase = [] ↔ Spec.noUnusedVariablesFull doc :=
  (noUnusedVariables_iff tbl L doc hu).trans (noUnusedVariables_spec_iff_full doc)

end Gql.Validation.Rules
