import Gql.Proofs.Values
/-!
Leaf clause of "a coerced result conforms to the type" (C15), and the one walk over the scalar × class
table of scalars.py (`Scalar.serialize_ok`).  Input coercion is output coercion on fewer classes, so C15's
leaf clause for values, C16's domain and serialize-then-parse theorems and the dead `TypeError` branch of
`complete_leaf_value` are all read off that walk.
-/
namespace Gql.Values
open Gql Gql.Generated.ScalarConsts

/-- the leaf part of "conforms": 32-bit Int, finite Float, text, boolean -/
def ScalarConforms : Scalar → PyVal → Prop
  | .int, r => ∃ n : Int, r = .int n ∧ -(2 ^ 31) ≤ n ∧ n ≤ 2 ^ 31 - 1
  | .float, r => ∃ neg m e, r = .float (.fin neg m e)
  | .string, r => ∃ s, r = .str s
  | .boolean, r => ∃ b, r = .bool b
  | .id, r => ∃ s, r = .str s

/-- What output coercion emits, cell by cell of scalars.py: a conforming value, or `1`/`0` for a bool
served as Float. -/
theorem Scalar.serialize_ok {c : PyConv} {s : Scalar} {v r : PyVal} (h : s.serialize c v = .ok r) :
    ScalarConforms s r ∨ s = .float ∧ ∃ b, v = .bool b ∧ r = .int (PyVal.boolInt b) := by
  have fin : ∀ {f}, f.isFinite = true → ∃ neg m e, PyVal.float f = .float (.fin neg m e) := fun hf =>
    let ⟨_, _, _, e⟩ := PyFloat.fin_of_isFinite hf; ⟨_, _, _, congrArg _ e⟩
  cases s <;> simp only [Scalar.serialize] at h <;> simp only [ScalarConforms]
  · left
    cases v <;> simp only [serializeInt] at h
    case bool b => cases h; exact ⟨_, rfl, by cases b <;> decide⟩
    case int z => obtain ⟨rfl, hr⟩ := coerceIntFromInt_ok h; exact ⟨_, rfl, (inIntRange_iff _).1 hr⟩
    case float f => obtain ⟨rfl, _, _, hr⟩ := coerceIntFromFloat_ok h; exact ⟨_, rfl, (inIntRange_iff _).1 hr⟩
    case str s => obtain ⟨n, _, rfl, hr⟩ := coerceIntFromString_ok h; exact ⟨_, rfl, (inIntRange_iff _).1 hr⟩
    all_goals cases h
  · cases v <;> simp only [serializeFloat] at h
    case bool b => cases h; exact .inr ⟨trivial, b, rfl, rfl⟩
    case int z => obtain ⟨f, _, rfl, hf, _⟩ := coerceFloatFromInt_ok h; exact .inl (fin hf)
    case float f => obtain ⟨rfl, hf⟩ := coerceFloatFromFloat_ok h; exact .inl (fin hf)
    case str s => obtain ⟨f, _, rfl, hf⟩ := coerceFloatFromString_ok h; exact .inl (fin hf)
    all_goals cases h
  · left
    cases v <;> simp only [serializeString] at h
    case int z => obtain ⟨s, _, rfl⟩ := strOfIntPy_ok h; exact ⟨_, rfl⟩
    case float f => unfold coerceStringFromFloat at h; split at h <;> cases h; exact ⟨_, rfl⟩
    case other o => exact strOfObj_ok h
    all_goals cases h
    all_goals exact ⟨_, rfl⟩
  · left
    cases v <;> simp only [serializeBoolean] at h
    case float f => unfold coerceBooleanFromFloat at h; split at h <;> cases h; exact ⟨_, rfl⟩
    all_goals cases h
    all_goals exact ⟨_, rfl⟩
  · left
    cases v <;> simp only [serializeID] at h
    case int z => obtain ⟨s, _, rfl⟩ := strOfIntPy_ok h; exact ⟨_, rfl⟩
    case float f => obtain ⟨_, _, s, _, rfl⟩ := coerceIdFromFloat_ok h; exact ⟨_, rfl⟩
    case other o => exact strOfObj_ok h
    all_goals cases h
    all_goals exact ⟨_, rfl⟩

/-- `coerce_*` is `serialize_*` on fewer classes of values: the two share the helpers at the end of scalars.py. -/
theorem Scalar.serialize_of_coerceValue {c : PyConv} {s : Scalar} {v r : PyVal} (h : s.coerceValue c v = .ok r) :
    s.serialize c v = .ok r := by
  cases s <;> cases v <;> first | exact h | cases h

/-- C15-2 (leaf clause, values): whatever Python value is supplied, a built-in scalar's input
coercion yields a 32-bit Int / a finite Float (a `float`, also for an `int` input) / text / a
bool — or rejects. -/
theorem Scalar.coerceValue_conforms (c : PyConv) (s : Scalar) (v r : PyVal)
    (h : s.coerceValue c v = .ok r) : ScalarConforms s r :=
  (Scalar.serialize_ok (Scalar.serialize_of_coerceValue h)).resolve_right fun ⟨hs, b, hv, _⟩ => by
    subst hs hv; cases h

/-- C15-2 (leaf clause, literals): the same for literals. For Float this is the theorem that did
**not** hold on the code as found: `parse_float_literal` returned `float('1e1000') = inf`
(witness after `Props.C15.scalar_literal_conforms`); it holds for the repaired code (repo_patches/float_literal_finite.diff). -/
theorem Scalar.coerceLiteral_conforms (c : PyConv) (s : Scalar) (l : Lit) (r : PyVal)
    (h : s.coerceLiteral c l = .ok r) : ScalarConforms s r := by
  cases s <;> simp only [Scalar.coerceLiteral] at h <;> simp only [ScalarConforms]
  · obtain ⟨n, rfl, hr⟩ := parseIntLiteral_ok h
    exact ⟨n, rfl, (inIntRange_iff n).1 hr⟩
  · obtain ⟨f, rfl, hf⟩ := parseFloatLiteral_ok h
    obtain ⟨_, _, _, rfl⟩ := PyFloat.fin_of_isFinite hf; exact ⟨_, _, _, rfl⟩
  · cases l <;> cases h; exact ⟨_, rfl⟩
  · cases l <;> cases h; exact ⟨_, rfl⟩
  · cases l <;> cases h <;> exact ⟨_, rfl⟩

theorem scalarConforms_ne_none {s : Scalar} {r : PyVal} (h : ScalarConforms s r) :
    r ≠ .none ∧ r ≠ .undefined := by
  cases s <;> simp only [ScalarConforms] at h
  · obtain ⟨n, rfl, _⟩ := h; simp
  · obtain ⟨_, _, _, rfl⟩ := h; simp
  · obtain ⟨_, rfl⟩ := h; simp
  · obtain ⟨_, rfl⟩ := h; simp
  · obtain ⟨_, rfl⟩ := h; simp

/-- No leaf coercer returns `None`/`Undefined`, so the `TypeError` branch of `complete_leaf_value` is dead
code for built-in scalars and enums: completing a leaf is coercing it. -/
theorem completeLeafValue_eq (c : PyConv) (t : Leaf) (v : PyVal) :
    completeLeafValue c t v = t.coerceOutputValue c v := by
  unfold completeLeafValue
  split
  · rename_i w h
    rw [h, if_neg]
    cases t with
    | scalar s =>
      rcases Scalar.serialize_ok h with hc | ⟨_, _, _, rfl⟩
      · have := scalarConforms_ne_none hc
        cases w <;> simp_all [PyVal.isNullish]
      · simp [PyVal.isNullish]
    | enum e => obtain ⟨_, _, rfl, _⟩ := EnumType.coerceOutputValue_ok h; simp [PyVal.isNullish]
  all_goals exact .symm ‹_›

end Gql.Values
