import Gql.Proofs.LexerSuffix
/-!
# The number grammar, characterised once

`IsNum fl t` gives an `IntValue` (`fl = false`) / `FloatValue` (`fl = true`) text by its parts: sign,
integer part, optional fraction, optional exponent. `mem_numberCandidates_iff`: the grammar's
`numberCandidates` has a candidate ending at `|t|` in `t ++ x` exactly when `t` is such a text and
`x` passes the look-ahead restriction. Its two directions are `numberCandidates_inv` (one walk down
`numberCandidates`, a `*_ok` lemma per part) and `isNum_mem_candidates` (one walk up, an `*_append`
lemma per part). Locality of `number?` (TokenStable), `read_number` on printed numbers (NumberLex),
the inversion of INT / FLOAT tokens (LexInvNumber) and the decidable `numOk` of schema texts
(SchemaTextDecidable) are read off it.
-/
namespace Gql.Text
open Gql Gql.Spec.Lex

def intPartOK : List Nat → Bool
  | [48] => true
  | c :: r => (49 ≤ c && c ≤ 57) && r.all isDigit
  | [] => false

def digitsOK (ds : List Nat) : Bool := !ds.isEmpty && ds.all isDigit

/-- `IntegerPart FractionalPart? ExponentPart?` given by its parts (`fr`, `ex` empty = absent). -/
structure NumParts where
  sign : List Nat
  ip : List Nat
  fr : List Nat
  ex : List Nat

def NumParts.text (p : NumParts) : List Nat := p.sign ++ (p.ip ++ (p.fr ++ p.ex))

def NumParts.ok (p : NumParts) : Prop :=
  (p.sign = [] ∨ p.sign = [45]) ∧ intPartOK p.ip = true ∧
  (p.fr = [] ∨ ∃ ds, p.fr = 46 :: ds ∧ digitsOK ds = true) ∧
  (p.ex = [] ∨ ∃ e sg ds, p.ex = e :: (sg ++ ds) ∧ (e = 69 ∨ e = 101) ∧
      (sg = [] ∨ sg = [43] ∨ sg = [45]) ∧ digitsOK ds = true)

def NumParts.isFloat (p : NumParts) : Bool := !p.fr.isEmpty || !p.ex.isEmpty

/-- `s` is an `IntValue` (`fl = false`) / `FloatValue` (`fl = true`) text. -/
def IsNum (fl : Bool) (s : List Nat) : Prop := ∃ p : NumParts, p.ok ∧ p.text = s ∧ p.isFloat = fl

theorem digitsLen_append {ds tail : List Nat} (hd : ds.all isDigit = true)
    (ht : HeadAll (fun c => ¬ Digit c) tail) : digitsLen (ds ++ tail) = ds.length := by
  induction ds with
  | nil =>
    cases tail with
    | nil => rfl
    | cons c r => simp [digitsLen, show ¬ Digit c from ht]
  | cons d r ih =>
    simp only [List.all_cons, Bool.and_eq_true] at hd
    simp [digitsLen, (isDigit_iff d).mp hd.1, ih hd.2]

theorem digits1?_append {ds tail : List Nat} (hd : digitsOK ds = true)
    (ht : HeadAll (fun c => ¬ Digit c) tail) : digits1? (ds ++ tail) = some ds.length := by
  simp only [digitsOK, Bool.and_eq_true, Bool.not_eq_true', List.isEmpty_eq_false_iff] at hd
  have : ds.length ≠ 0 := fun h => hd.1 (List.length_eq_zero_iff.mp h)
  simp [digits1?, digitsLen_append hd.2 ht, this]

theorem integerPart?_append {sign ip tail : List Nat} (hs : sign = [] ∨ sign = [45]) (hip : intPartOK ip = true)
    (ht : HeadAll (fun c => ¬ Digit c) tail) :
    integerPart? (sign ++ (ip ++ tail)) = some (sign.length + ip.length) := by
  obtain ⟨c, r, rfl, h45, hu⟩ : ∃ c r, ip = c :: r ∧ c ≠ 45 ∧
      unsignedIntegerPart? (c :: (r ++ tail)) = some (r.length + 1) := by
    unfold intPartOK at hip
    split at hip
    · exact ⟨48, [], rfl, by decide, rfl⟩
    · rename_i c r _
      simp only [Bool.and_eq_true, decide_eq_true_eq] at hip
      have h48 : c ≠ 48 := by omega
      exact ⟨c, r, rfl, by omega,
        by simp [unsignedIntegerPart?, h48, NonZeroDigit, hip.1, digitsLen_append hip.2 ht, Nat.add_comm]⟩
    · cases hip
  rcases hs with rfl | rfl
  · simpa [integerPart?, h45] using hu
  · simp [integerPart?, hu, Nat.add_comm]

theorem lookahead_noDigit {rest : List Nat} (h : numberLookaheadOk rest = true) :
    HeadAll (fun c => ¬ Digit c) rest := by
  cases rest with
  | nil => trivial
  | cons d r => simp [numberLookaheadOk] at h; exact h.1

theorem mem_expCandidates {ex rest : List Nat} (hex : ex = [] ∨ ∃ e sg ds, ex = e :: (sg ++ ds) ∧ (e = 69 ∨ e = 101) ∧
      (sg = [] ∨ sg = [43] ∨ sg = [45]) ∧ digitsOK ds = true) (hla : numberLookaheadOk rest = true) (n : Nat) (f : Bool) :
    (f || !ex.isEmpty, n + ex.length) ∈ expCandidates (ex ++ rest) n f := by
  rcases hex with rfl | ⟨e, sg, ds, rfl, he, hsg, hds⟩
  · simp [expCandidates, hla]
  · have hexp : exponentPart? (e :: (sg ++ ds) ++ rest) = some (e :: (sg ++ ds)).length := by
      obtain ⟨d, r, rfl⟩ : ∃ d r, ds = d :: r := by
        cases ds with
        | nil => simp [digitsOK] at hds
        | cons d r => exact ⟨d, r, rfl⟩
      have hd : Digit d := (isDigit_iff d).mp (by simp [digitsOK] at hds; exact hds.1)
      have hd' : ¬ (d = 43 ∨ d = 45) := by unfold Digit at hd; omega
      have hdg : digits1? (d :: (r ++ rest)) = some (r.length + 1) := by
        simpa using digits1?_append hds (lookahead_noDigit hla)
      rcases hsg with rfl | rfl | rfl
      · simp [exponentPart?, he, hd', hdg]
      · simp [exponentPart?, he, hdg]
      · simp [exponentPart?, he, hdg]
    unfold expCandidates
    rw [hexp]
    simp only [List.drop_left, hla]
    exact List.mem_append_right _ (by simp)

theorem drop_append₂ {α : Type} (a b x : List α) : (a ++ (b ++ x)).drop (a.length + b.length) = x := by
  rw [← List.append_assoc, ← List.length_append, List.drop_left]

theorem isNum_mem_candidates {fl : Bool} {s rest : List Nat} (hn : IsNum fl s)
    (hla : numberLookaheadOk rest = true) : (fl, s.length) ∈ numberCandidates (s ++ rest) := by
  obtain ⟨⟨sign, ip, fr, ex⟩, ⟨hsign, hip, hfr, hex⟩, rfl, rfl⟩ := hn
  dsimp only at hsign hip hfr hex
  dsimp only [NumParts.text, NumParts.isFloat]
  have hexd : HeadAll (fun c => ¬ Digit c) (ex ++ rest) := by
    rcases hex with rfl | ⟨e, sg, ds, rfl, he, _, _⟩
    · exact lookahead_noDigit hla
    · show ¬ Digit e; unfold Digit; omega
  have hfd : HeadAll (fun c => ¬ Digit c) (fr ++ (ex ++ rest)) := by
    rcases hfr with rfl | ⟨ds, rfl, _⟩
    · exact hexd
    · show ¬ Digit 46; unfold Digit; omega
  rw [show sign ++ (ip ++ (fr ++ ex)) ++ rest = sign ++ (ip ++ (fr ++ (ex ++ rest))) by simp,
    numberCandidates, integerPart?_append hsign hip hfd]
  simp only [drop_append₂]
  rcases hfr with rfl | ⟨ds, rfl, hds⟩
  · have := mem_expCandidates hex hla (sign.length + ip.length) false
    exact List.mem_append_left _ (by simpa [Nat.add_assoc] using this)
  · have hfp : fractionalPart? (46 :: ds ++ (ex ++ rest)) = some ((46 :: ds).length) := by
      simp [fractionalPart?, digits1?_append hds hexd]
    have := mem_expCandidates hex hla (sign.length + ip.length + (46 :: ds).length) true
    rw [hfp]
    simp only [← List.drop_drop, List.drop_left]
    exact List.mem_append_right _ (by simpa [Nat.add_assoc, Nat.add_comm 1] using this)

theorem digitsLen_take_all (s : List Nat) : (s.take (digitsLen s)).all isDigit = true := by
  induction s with
  | nil => simp [digitsLen]
  | cons c r ih =>
    by_cases hc : Digit c
    · simp only [digitsLen, if_pos hc, List.take_succ_cons, List.all_cons, ih, Bool.and_true]
      exact (isDigit_iff c).2 hc
    · simp [digitsLen, if_neg hc]

theorem digits1?_digitsOK {s : List Nat} {n : Nat} (h : digits1? s = some n) :
    digitsOK (s.take n) = true := by
  unfold digits1? at h
  split at h
  · cases h
  · rename_i h0
    cases h
    simp only [digitsOK, digitsLen_take_all, Bool.and_true, Bool.not_eq_true', List.isEmpty_eq_false_iff, ne_eq,
      List.take_eq_nil_iff, h0, false_or]
    rintro rfl
    exact h0 rfl

theorem unsignedIntegerPart?_ok {s : List Nat} {i : Nat} (h : unsignedIntegerPart? s = some i) :
    intPartOK (s.take i) = true := by
  cases s with
  | nil => simp [unsignedIntegerPart?] at h
  | cons c r =>
    simp only [unsignedIntegerPart?] at h
    split at h
    · rename_i h48
      cases h
      subst h48
      simp [intPartOK]
    · rename_i h48
      split at h
      · rename_i hnz
        cases h
        rw [Nat.add_comm, List.take_succ_cons]
        have hall := digitsLen_take_all r
        unfold NonZeroDigit at hnz
        cases hr : r.take (digitsLen r) with
        | nil => simp [intPartOK, h48, hnz.1, hnz.2]
        | cons a b =>
          rw [hr] at hall
          simp only [intPartOK, hall, Bool.and_true, Bool.and_eq_true, decide_eq_true_eq]
          exact hnz
      · cases h

theorem integerPart?_ok {s : List Nat} {i : Nat} (h : integerPart? s = some i) :
    ∃ sign ip, s.take i = sign ++ ip ∧ (sign = [] ∨ sign = [45]) ∧ intPartOK ip = true := by
  cases s with
  | nil => simp [integerPart?] at h
  | cons c r =>
    simp only [integerPart?] at h
    split at h
    · rename_i h45
      cases hu : unsignedIntegerPart? r with
      | none => rw [hu] at h; cases h
      | some u =>
        rw [hu] at h
        simp only [Option.map_some, Option.some.injEq] at h
        subst h; subst h45
        exact ⟨[45], r.take u, by simp [List.take_succ_cons], Or.inr rfl, unsignedIntegerPart?_ok hu⟩
    · exact ⟨[], _, rfl, Or.inl rfl, unsignedIntegerPart?_ok h⟩

theorem fractionalPart?_ok {s : List Nat} {f : Nat} (h : fractionalPart? s = some f) :
    ∃ ds, s.take f = 46 :: ds ∧ digitsOK ds = true := by
  cases s with
  | nil => simp [fractionalPart?] at h
  | cons c r =>
    simp only [fractionalPart?] at h
    split at h
    · rename_i h46
      cases hd : digits1? r with
      | none => rw [hd] at h; cases h
      | some d =>
        rw [hd] at h
        simp only [Option.map_some, Option.some.injEq] at h
        subst h; subst h46
        exact ⟨r.take d, by simp [List.take_succ_cons], digits1?_digitsOK hd⟩
    · cases h

theorem exponentPart?_ok {s : List Nat} {e : Nat} (h : exponentPart? s = some e) :
    ∃ e0 sg ds, s.take e = e0 :: (sg ++ ds) ∧ (e0 = 69 ∨ e0 = 101) ∧
      (sg = [] ∨ sg = [43] ∨ sg = [45]) ∧ digitsOK ds = true := by
  cases s with
  | nil => simp [exponentPart?] at h
  | cons e0 r =>
    simp only [exponentPart?] at h
    split at h
    · rename_i he0
      cases r with
      | nil => simp at h
      | cons c r' =>
        simp only at h
        split at h
        · rename_i hsg
          cases hd : digits1? r' with
          | none => rw [hd] at h; cases h
          | some d =>
            rw [hd] at h
            simp only [Option.map_some, Option.some.injEq] at h
            subst h
            refine ⟨e0, [c], r'.take d, by simp [List.take_succ_cons], he0, ?_, digits1?_digitsOK hd⟩
            rcases hsg with rfl | rfl
            · exact Or.inr (Or.inl rfl)
            · exact Or.inr (Or.inr rfl)
        · cases hd : digits1? (c :: r') with
          | none => rw [hd] at h; cases h
          | some d =>
            rw [hd] at h
            simp only [Option.map_some, Option.some.injEq] at h
            subst h
            exact ⟨e0, [], (c :: r').take d, by simp [List.take_succ_cons], he0, Or.inl rfl,
              digits1?_digitsOK hd⟩
    · cases h

/-- The converse of `mem_expCandidates`: a candidate of `expCandidates s n f` ends after an optional
ExponentPart `s.take e` that passes the look-ahead. -/
theorem mem_expCandidates_inv {s : List Nat} {n : Nat} {f fl : Bool} {m : Nat}
    (h : (fl, m) ∈ expCandidates s n f) :
    ∃ e, m = n + e ∧ fl = (f || !(s.take e).isEmpty) ∧ numberLookaheadOk (s.drop e) = true ∧
      (s.take e = [] ∨ ∃ e0 sg ds, s.take e = e0 :: (sg ++ ds) ∧ (e0 = 69 ∨ e0 = 101) ∧
        (sg = [] ∨ sg = [43] ∨ sg = [45]) ∧ digitsOK ds = true) := by
  unfold expCandidates at h
  rw [List.mem_append] at h
  rcases h with h | h
  · split at h
    · rename_i hl
      simp only [List.mem_singleton, Prod.mk.injEq] at h
      exact ⟨0, h.2, by simp [h.1], hl, .inl rfl⟩
    · simp at h
  · cases he : exponentPart? s with
    | none => rw [he] at h; simp at h
    | some e =>
      rw [he] at h
      simp only at h
      split at h
      · rename_i hl
        simp only [List.mem_singleton, Prod.mk.injEq] at h
        obtain ⟨e0, sg, ds, hex⟩ := exponentPart?_ok he
        exact ⟨e, h.2, by simp [h.1, hex.1], hl, .inr ⟨e0, sg, ds, hex⟩⟩
      · simp at h

theorem numberCandidates_inv {s : List Nat} {fl : Bool} {n : Nat} (h : (fl, n) ∈ numberCandidates s) :
    IsNum fl (s.take n) ∧ numberLookaheadOk (s.drop n) = true := by
  unfold numberCandidates at h
  cases hi : integerPart? s with
  | none => rw [hi] at h; simp at h
  | some i =>
    rw [hi] at h
    simp only at h
    obtain ⟨sign, ip, htake, hsign, hip⟩ := integerPart?_ok hi
    -- the optional FractionalPart `fr`, of length `f`
    obtain ⟨f, fr, hfr, hfrt, h⟩ : ∃ f fr, (fr = [] ∨ ∃ ds, fr = 46 :: ds ∧ digitsOK ds = true) ∧
        (s.drop i).take f = fr ∧ (fl, n) ∈ expCandidates (s.drop (i + f)) (i + f) (!fr.isEmpty) := by
      rcases List.mem_append.mp h with h | h
      · exact ⟨0, [], .inl rfl, rfl, h⟩
      · cases hf : fractionalPart? (s.drop i) with
        | none => rw [hf] at h; simp at h
        | some f =>
          rw [hf] at h
          obtain ⟨ds, hfr, hds⟩ := fractionalPart?_ok hf
          exact ⟨f, _, .inr ⟨ds, rfl, hds⟩, hfr, h⟩
    obtain ⟨e, rfl, rfl, hl, hex⟩ := mem_expCandidates_inv h
    rw [List.drop_drop] at hl
    refine ⟨⟨⟨sign, ip, fr, (s.drop (i + f)).take e⟩, ⟨hsign, hip, hfr, hex⟩, ?_, rfl⟩, hl⟩
    simp only [NumParts.text]
    rw [List.take_add, List.take_add, htake, hfrt, List.append_assoc, List.append_assoc]
theorem numberCandidates_isNum {s : List Nat} {fl : Bool} {n : Nat} (h : (fl, n) ∈ numberCandidates s) :
    IsNum fl (s.take n) :=
  (numberCandidates_inv h).1

theorem mem_numberCandidates_iff (t x : List Nat) (fl : Bool) :
    (fl, t.length) ∈ numberCandidates (t ++ x) ↔ IsNum fl t ∧ numberLookaheadOk x = true :=
  ⟨fun h => by simpa using numberCandidates_inv h, fun h => isNum_mem_candidates h.1 h.2⟩

end Gql.Text
