import Gql.Proofs.RulesRun
import Gql.Proofs.RulesUsages
/-!
C12 — NoUndefinedVariables: the run of the rule as a function of the defined names over the annotated tree, and when
it reports nothing.
-/
namespace Gql.Validation.Rules
open Gql.Validation
variable {τ : Type}

def definedVars (n : ATree) : List String :=
  (n.nodes.filter (fun d => d.kind == "variable_definition")).filterMap
    (fun vd => (vd.kid "variable").bind (·.nameValue))

/-- `self.defined_variable_names.add(name)` (insertion-ordered) -/
def addVar (d : List String) (v : String) : List String := if d.contains v then d else d ++ [v]

/-- what `leave_operation_definition` reports for the operation `n` when `d` are the defined names -/
def nuvLeave (doc n : ATree) (d : List String) : List RErr :=
  (getRecUsages doc n).filterMap (fun u =>
    if u.fragVar then none
    else match u.name with
      | some v => if d.contains v then none else some ⟨"NoUndefinedVariablesRule", v, [u.node.id, n.id]⟩
      | none => some (RErr.crash "NoUndefinedVariablesRule"))

theorem nuv_enter_op (doc n : ATree) (s : RS) (ti : TI τ) (hfind : doc.find n.info.id = some n)
    (hk : (n.info.kind == "operation_definition") = true) :
    (noUndefinedVariables (τ := τ) doc).call s .enter n.info ti = (Action.idle, { s with defined := [] }, []) := by
  simp only [Rule.call, Rule.handles, noUndefinedVariables, withNode, hfind, hk, Bool.true_or, if_true]

theorem nuv_leave (doc n : ATree) (s : RS) (ti : TI τ) (hfind : doc.find n.info.id = some n)
    (hk : (n.info.kind == "operation_definition") = true) :
    (noUndefinedVariables (τ := τ) doc).call s .leave n.info ti = (Action.idle, s, nuvLeave doc n s.defined) := by
  simp only [Rule.call, Rule.handles, noUndefinedVariables, withNode, hfind, nuvLeave, hk, if_true]
  rfl

def dv (ns : List ATree) : List String :=
  (ns.filter (fun d => d.kind == "variable_definition")).filterMap (fun vd => (vd.kid "variable").bind (·.nameValue))

theorem dv_append (a b : List ATree) : dv (a ++ b) = dv a ++ dv b := by
  simp [dv, List.filter_append, List.filterMap_append]

theorem mem_addVar (d : List String) (x v : String) : v ∈ addVar d x ↔ v ∈ d ∨ v = x := by
  unfold addVar
  split
  · rename_i h
    rw [List.contains_iff_mem] at h
    exact ⟨Or.inl, fun hv => hv.elim id (fun e => e ▸ h)⟩
  · simp

theorem mem_foldl_addVar (xs d : List String) (v : String) : v ∈ xs.foldl addVar d ↔ v ∈ d ∨ v ∈ xs := by
  induction xs generalizing d with
  | nil => simp
  | cons x xs ih => rw [List.foldl_cons, ih, mem_addVar, List.mem_cons, or_assoc]

/-- `enter` at a node that is no operation definition: its own name is defined if it is a variable definition that
has one; one without is the crash marker -/
theorem nuv_enter_other (doc n : ATree) (s : RS) (ti : TI τ) (hfind : doc.find n.info.id = some n)
    (hk : (n.info.kind == "operation_definition") = false) :
    (noUndefinedVariables (τ := τ) doc).call s .enter n.info ti =
      (Action.idle, { s with defined := (dv [n]).foldl addVar s.defined },
        if n.kind = "variable_definition" ∧ (n.kid "variable").bind (·.nameValue) = none then
          [RErr.crash "NoUndefinedVariablesRule"] else []) := by
  by_cases hvd : (n.info.kind == "variable_definition") = true
  · have hv : n.info.kind = "variable_definition" := by simpa using hvd
    simp only [Rule.call, Rule.handles, noUndefinedVariables, withNode, hfind, hk, hvd, Bool.or_true, if_true,
      Bool.false_eq_true, if_false]
    cases hx : (n.kid "variable").bind (·.nameValue) <;> simp [dv, ATree.kind, hv, hx, addVar]
  · have hv : ¬ n.info.kind = "variable_definition" := by simpa using hvd
    rw [Rule.call_unhandled (noUndefinedVariables (τ := τ) doc) s .enter n.info ti
      (by rw [hk, Bool.eq_false_iff.mpr hvd]; rfl : (n.info.kind == "operation_definition" ||
        n.info.kind == "variable_definition") = false)]
    simp [dv, ATree.kind, hv]

theorem nuvLeave_nil_iff (doc n : ATree) (D : List String) :
    nuvLeave doc n D = [] ↔
      ∀ u ∈ getRecUsages doc n, u.fragVar = false → ∃ v, u.name = some v ∧ v ∈ D := by
  unfold nuvLeave
  rw [List.filterMap_eq_nil_iff]
  apply forall_congr'
  intro u
  apply imp_congr_right
  intro _
  cases hf : u.fragVar with
  | true => simp
  | false =>
    cases hn : u.name with
    | none => simp
    | some x => by_cases hc : x ∈ D <;> simp [hc]

/-- what the rule requires of one node: a variable definition has a name; the variables an operation definition uses
(itself or through the fragments it reaches, fragment variables apart) are among those it defines -/
def nodeOk (doc n : ATree) : Prop :=
  (n.kind = "variable_definition" → ((n.kid "variable").bind (·.nameValue)).isSome = true) ∧
  (n.kind = "operation_definition" →
    ∀ u ∈ getRecUsages doc n, u.fragVar = false → ∃ v, u.name = some v ∧ v ∈ definedVars n)

def noNest (ns : List ATree) : Prop :=
  ∀ n ∈ ns, n.kind = "operation_definition" →
    ∀ m ∈ ATree.nodesList n.children, m.kind ≠ "operation_definition"

/-- The run of the rule over a subtree, in one walk.  Below an operation definition (no operation definition in the
subtree) the defined names grow by those of the variable definitions met; and, operation definitions not nesting,
nothing is reported iff every node is fine. -/
theorem nuv_run_walk (doc : ATree) :
    (∀ t : ATree, (∀ n ∈ t.nodes, doc.find n.info.id = some n) → ∀ s : RS,
      ((∀ n ∈ t.nodes, n.kind ≠ "operation_definition") → ∀ w,
        w ∈ ((noUndefinedVariables (τ := τ) doc).run TI.init s t.erase).1.defined ↔ w ∈ s.defined ∨ w ∈ dv t.nodes) ∧
      (noNest t.nodes →
        (((noUndefinedVariables (τ := τ) doc).run TI.init s t.erase).2 = [] ↔ ∀ n ∈ t.nodes, nodeOk doc n))) ∧
    (∀ ts : List ATree, (∀ n ∈ ATree.nodesList ts, doc.find n.info.id = some n) → ∀ s : RS,
      ((∀ n ∈ ATree.nodesList ts, n.kind ≠ "operation_definition") → ∀ w,
        w ∈ ((noUndefinedVariables (τ := τ) doc).runList TI.init s (ATree.eraseList ts)).1.defined ↔
          w ∈ s.defined ∨ w ∈ dv (ATree.nodesList ts)) ∧
      (noNest (ATree.nodesList ts) →
        (((noUndefinedVariables (τ := τ) doc).runList TI.init s (ATree.eraseList ts)).2 = [] ↔
          ∀ n ∈ ATree.nodesList ts, nodeOk doc n))) := by
  apply ATree.induct
  · intro i f v cs ih hfind s
    simp only [ATree.nodes, List.mem_cons, forall_eq_or_imp] at hfind ⊢
    have ih := ih hfind.2
    have hno2 : noNest (ATree.node i f v cs :: ATree.nodesList cs) → noNest (ATree.nodesList cs) :=
      fun hno n hn => hno n (List.mem_cons_of_mem _ hn)
    rw [ATree.erase, Rule.run]
    by_cases hop : (i.kind == "operation_definition") = true
    · have hk : (ATree.node i f v cs).kind = "operation_definition" := by simpa [ATree.kind, ATree.info] using hop
      have hnk : ¬ (ATree.node i f v cs).kind = "variable_definition" := by rw [hk]; decide
      have hE : _ = _ := nuv_enter_op (τ := τ) doc (.node i f v cs) s TI.init hfind.1 hop
      have hL : ∀ s', _ = _ := fun s' => nuv_leave (τ := τ) doc (.node i f v cs) s' TI.init hfind.1 hop
      simp only [ATree.info] at hE hL
      refine ⟨fun h => absurd hk h.1, fun hno => ?_⟩
      -- the names defined when the operation is left are those of the variable definitions below it
      have h1 := (ih { s with defined := [] }).1 (hno _ List.mem_cons_self hk)
      have hdv : definedVars (ATree.node i f v cs) = dv (ATree.nodesList cs) := by
        show dv (ATree.node i f v cs).nodes = _
        simp [dv, ATree.nodes, hnk]
      simp only [hE, hL, reduceCtorEq, if_false, List.nil_append, List.append_eq_nil_iff, (ih _).2 (hno2 hno),
        nuvLeave_nil_iff, h1, List.not_mem_nil, false_or, nodeOk, hdv]
      exact ⟨fun ⟨a, b⟩ => ⟨⟨fun h => absurd h hnk, fun _ => b⟩, a⟩, fun ⟨⟨_, b⟩, a⟩ => ⟨a, b hk⟩⟩
    · have hop' : (i.kind == "operation_definition") = false := by simpa using hop
      have hk : ¬ (ATree.node i f v cs).kind = "operation_definition" := by simpa [ATree.kind, ATree.info] using hop
      have hE : _ = _ := nuv_enter_other (τ := τ) doc (.node i f v cs) s TI.init hfind.1 hop'
      simp only [ATree.info] at hE
      simp only [hE, Rule.call_unhandled (noUndefinedVariables (τ := τ) doc) _ .leave i TI.init hop', reduceCtorEq,
        if_false, List.append_nil]
      refine ⟨fun h w => ?_, fun hno => ?_⟩
      · rw [(ih _).1 h.2, mem_foldl_addVar, show dv (ATree.node i f v cs :: ATree.nodesList cs) = _ from dv_append [_] _,
          List.mem_append, or_assoc]
      · rw [List.append_eq_nil_iff, (ih _).2 (hno2 hno)]
        refine and_congr_left' ⟨fun h => ⟨fun hv => ?_, fun h' => absurd h' hk⟩, fun h => ?_⟩
        · cases hx : ((ATree.node i f v cs).kid "variable").bind (·.nameValue) with
          | some _ => rfl
          | none => simp [hv, hx] at h
        · by_cases hv : (ATree.node i f v cs).kind = "variable_definition"
          · simp [Option.isSome_iff_ne_none.mp (h.1 hv)]
          · simp [hv]
  · intro _ s
    simp [Rule.runList, ATree.eraseList, ATree.nodesList, dv]
  · intro t ts iht ihts hfind s
    simp only [ATree.nodesList, List.mem_append] at hfind
    have iht := iht (fun n hn => hfind n (Or.inl hn))
    have ihts := ihts (fun n hn => hfind n (Or.inr hn))
    rw [ATree.eraseList, Rule.runList, ATree.nodesList]
    refine ⟨fun h w => ?_, fun hno => ?_⟩
    · rw [(ihts _).1 (fun n hn => h n (List.mem_append_right _ hn)), (iht _).1 (fun n hn => h n (List.mem_append_left _ hn)),
        dv_append, List.mem_append, or_assoc]
    · rw [List.append_eq_nil_iff, List.forall_mem_append, (iht _).2 (fun n hn => hno n (List.mem_append_left _ hn)),
        (ihts _).2 (fun n hn => hno n (List.mem_append_right _ hn))]

theorem noUndefinedVariables_iff_getters (tbl : TITable) (L : Lookups τ) (doc : ATree) (hu : doc.uniqueIds)
    (hno : ∀ n ∈ doc.nodes, n.kind = "operation_definition" →
      ∀ m ∈ ATree.nodesList n.children, m.kind ≠ "operation_definition") :
    validate tbl L none [(noUndefinedVariables doc, RS.init)] doc.erase = [] ↔
      (∀ vd ∈ doc.nodes, vd.kind = "variable_definition" →
        ((vd.kid "variable").bind (·.nameValue)).isSome = true) ∧
      ∀ n ∈ doc.nodes, n.kind = "operation_definition" →
        ∀ u ∈ getRecUsages doc n, u.fragVar = false → ∃ v, u.name = some v ∧ v ∈ definedVars n := by
  rw [validate_nil_iff_run tbl L _ (fun _ _ _ _ => rfl) (noUndefinedVariables_nb _) _ _ hu,
    ((nuv_run_walk doc).1 doc (fun n hn => ATree.find_of_mem.1 doc hu n hn) RS.init).2 hno]
  exact ⟨fun h => ⟨fun n hn => (h n hn).1, fun n hn => (h n hn).2⟩, fun h n hn => ⟨h.1 n hn, h.2 n hn⟩⟩

namespace Spec
/-- "Every variable used is defined" (spec §5.8.3): every variable definition has a name; and for every operation,
every variable occurring in it, or occurring in a fragment it reaches through spreads without being one of that
fragment's own (fragment-)variables, has a name that one of the operation's variable definitions defines. -/
def noUndefinedVariables (doc : ATree) : Prop :=
  (∀ vd ∈ doc.nodes, vd.kind = "variable_definition" → ((vd.kid "variable").bind (·.nameValue)).isSome = true) ∧
  ∀ op ∈ doc.nodes, op.kind = "operation_definition" →
    (∀ x ∈ variablesIn op, ∃ v, x.nameValue = some v ∧ v ∈ definedVars op) ∧
    (∀ ss, op.kid "selection_set" = some ss → ∀ m f, Reaches doc ss m → getFragment doc m = some f →
      ∀ x ∈ variablesIn f, fragVarDefined doc f.nameValue x.nameValue = false →
        ∃ v, x.nameValue = some v ∧ v ∈ definedVars op)
end Spec

theorem noUndefinedVariables_iff (tbl : TITable) (L : Lookups τ) (doc : ATree) (hu : doc.uniqueIds)
    (hno : ∀ n ∈ doc.nodes, n.kind = "operation_definition" →
      ∀ m ∈ ATree.nodesList n.children, m.kind ≠ "operation_definition") :
    validate tbl L none [(noUndefinedVariables doc, RS.init)] doc.erase = [] ↔ Spec.noUndefinedVariables doc := by
  rw [noUndefinedVariables_iff_getters tbl L doc hu hno]
  unfold Spec.noUndefinedVariables
  apply and_congr Iff.rfl
  apply forall_congr'; intro n
  apply imp_congr_right; intro _
  apply imp_congr_right; intro hk
  exact recUsages_forall_iff doc n hk (fun _ nm => ∃ v, nm = some v ∧ v ∈ definedVars n)

end Gql.Validation.Rules
