import Gql.Validation.Rules
import Gql.Proofs.ValidationOrder
/-!
C12-7 (non-editing): no handler of the eleven modelled rules answers BREAK (`modelled_nb`).

Every handler has the shape `withNode doc i s f`, where `f` is a tree of `match`/`if` on the node whose leaves are
literal triples with action `idle` or `skip`.  `withNode_ne_brk` reduces the claim to `f`; splitting every `match`
and `if` of `f` leaves `Action.idle ≠ Action.brk` or `Action.skip ≠ Action.brk` at each leaf.  `modelled_nb` runs
this one argument on each of the eleven; a single rule's fact is read off it by the rule's place in `modelledRules`.
-/
namespace Gql.Validation.Rules
open Gql.Validation

variable {τ : Type}

/-- A rule whose handlers never answer BREAK (and, the `Action` type having no edit, never edit). -/
def NeverBreaks (r : CRule τ) : Prop := ∀ s ph i ti, (r.step s ph i ti).1 ≠ Action.brk

theorem withNode_ne_brk (doc : ATree) (i : Info) (s : RS) (f : ATree → Action × RS × List RErr)
    (h : ∀ n, (f n).1 ≠ Action.brk) : (withNode doc i s f).1 ≠ Action.brk := by
  unfold withNode
  split
  · exact h _
  · simp

theorem modelled_nb (doc : ATree) : ∀ r ∈ modelledRules (τ := τ) doc, NeverBreaks r := by
  intro r hr
  simp only [modelledRules, modelled, List.map_cons, List.map_nil, List.mem_cons, List.not_mem_nil, or_false] at hr
  rcases hr with rfl | rfl | rfl | rfl | rfl | rfl | rfl | rfl | rfl | rfl | rfl
  all_goals
    intro s ph i ti
    apply withNode_ne_brk
    intro n
    cases ph <;> simp only <;> repeat' split
    all_goals simp

theorem loneAnonymousOperation_nb (doc : ATree) : NeverBreaks (loneAnonymousOperation (τ := τ) doc) :=
  modelled_nb doc _ (List.mem_of_getElem? (i := 1) rfl)

theorem uniqueOperationNames_nb (doc : ATree) : NeverBreaks (uniqueOperationNames (τ := τ) doc) :=
  modelled_nb doc _ (List.mem_of_getElem? (i := 0) rfl)

theorem uniqueFragmentNames_nb (doc : ATree) : NeverBreaks (uniqueFragmentNames (τ := τ) doc) :=
  modelled_nb doc _ (List.mem_of_getElem? (i := 2) rfl)

theorem uniqueInputFieldNames_nb (doc : ATree) : NeverBreaks (uniqueInputFieldNames (τ := τ) doc) :=
  modelled_nb doc _ (List.mem_of_getElem? (i := 10) rfl)

theorem noUnusedFragments_nb (doc : ATree) : NeverBreaks (noUnusedFragments (τ := τ) doc) :=
  modelled_nb doc _ (List.mem_of_getElem? (i := 4) rfl)

theorem noUndefinedVariables_nb (doc : ATree) : NeverBreaks (noUndefinedVariables (τ := τ) doc) :=
  modelled_nb doc _ (List.mem_of_getElem? (i := 7) rfl)

end Gql.Validation.Rules
