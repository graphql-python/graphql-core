import Gql.Proofs.SchemaSortReorders
/-!
C19: sorting is idempotent (`natLe` is a total preorder, merge sort of a sorted list is the list).
-/
namespace Gql.Types
open Gql Gql.Generated Std

theorem natLe_trans (a b c : Str) (h1 : natLe a b = true) (h2 : natLe b c = true) : natLe a c = true := by
  unfold natLe at *
  exact TransCmp.isLE_trans h1 h2

theorem natLe_total (a b : Str) : (natLe a b || natLe b a) = true := by
  unfold natLe
  have h := OrientedCmp.eq_swap (cmp := compare) (a := natKey a) (b := natKey b)
  cases hc : compare (natKey b) (natKey a) <;> simp [hc] at h ⊢ <;> simp [h]

theorem sortByName_sorted {α : Type} (key : α → Str) (xs : List α) :
    (sortByName key xs).Pairwise (fun a b => natLe (key a) (key b) = true) := by
  unfold sortByName
  apply List.pairwise_mergeSort
  · intro a b c; exact natLe_trans _ _ _
  · intro a b; exact natLe_total _ _

theorem sortByName_idem {α : Type} (key : α → Str) (xs : List α) :
    sortByName key (sortByName key xs) = sortByName key xs := by
  have := sortByName_sorted key xs
  unfold sortByName at *
  exact List.mergeSort_of_pairwise this

theorem sortMap_idem {α : Type} (key : α → Str) (g : α → α) (hg : ∀ x, g (g x) = g x) (xs : List α) :
    sortByName key ((sortByName key (xs.map g)).map g) = sortByName key (xs.map g) := by
  have : (sortByName key (xs.map g)).map g = sortByName key (xs.map g) :=
    (List.map_congr_left fun x hx => by
      obtain ⟨y, _, rfl⟩ := List.mem_map.mp ((mem_sortByName key _ x).mp hx)
      exact hg y).trans (List.map_id _)
  rw [this, sortByName_idem]

theorem sortArgs_idem (as : List Arg) : sortArgs (sortArgs as) = sortArgs as := sortByName_idem _ _

theorem sortField_idem (f : Field) : sortField (sortField f) = sortField f := by
  simp [sortField, sortArgs_idem]

theorem sortFields_idem (fs : List Field) : sortFields (sortFields fs) = sortFields fs :=
  sortMap_idem Field.name sortField sortField_idem fs

theorem sortType_idem (t : TypeDef) : sortType (sortType t) = sortType t := by
  cases t <;> simp [sortType, sortByName_idem, sortFields_idem, sortArgs_idem]

theorem sortDirective_idem (d : Directive) : sortDirective (sortDirective d) = sortDirective d := by
  simp [sortDirective, sortByName_idem, sortArgs_idem]

theorem sort_idem (s : Schema) : sortSchema (sortSchema s) = sortSchema s := by
  simp only [sortSchema, sortMap_idem TypeDef.name sortType sortType_idem,
    sortMap_idem Directive.name sortDirective sortDirective_idem]

end Gql.Types
