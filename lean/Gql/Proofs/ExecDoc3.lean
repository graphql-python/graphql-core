import Gql.Proofs.ExecDocParse
import Gql.Proofs.TypeSystemParse
import Gql.Proofs.ExecDocLex3
/-!
`parse` of a text that lexes to the tokens of a document of executable definitions, type-system
definitions and extensions — in particular of the printed text of such a document.
-/
namespace Gql.Syntax
open Gql Gql.Text
open Gql.Generated

/-- An optional description and a keyword other than `implements` may follow a definition. -/
theorem desc_kw_head (d : Desc) (kw : List Nat) (hkw : kw ≠ S "implements") (rest : List KV) :
    ∃ k ks, Exec.descKvs d ++ ((.name, some kw) :: rest) = k :: ks ∧ k.1 ≠ .eof ∧ defNext k := by
  match d with
  | none => exact ⟨_, _, rfl, by simp, by simp [NextIn], by simpa using hkw⟩
  | some (s, true) => exact ⟨_, _, rfl, by simp, by simp [NextIn], by simp⟩
  | some (s, false) => exact ⟨_, _, rfl, by simp, by simp [NextIn], by simp⟩

/-- The first token of a definition: `{` for a shorthand query, else a description or a keyword
other than `implements`. -/
theorem gdefKvs_head (fa dd : Bool) (d : GDef) (h : Exec.gdefWf fa dd d) :
    ∃ k ks, Exec.gdefKvs d = k :: ks ∧ k.1 ≠ .eof ∧ (Exec.isShortG d = false → defNext k) := by
  have key : ∀ (desc : Desc) (kw : List Nat) (rest : List KV), kw ≠ S "implements" →
      ∃ k ks, Exec.descKvs desc ++ ((.name, some kw) :: rest) = k :: ks ∧ k.1 ≠ .eof ∧
        (Exec.isShortG d = false → defNext k) := by
    intro desc kw rest hkw
    obtain ⟨k, ks, e, h1, h2⟩ := desc_kw_head desc kw hkw rest
    exact ⟨k, ks, e, h1, fun _ => h2⟩
  cases d with
  | t d =>
    -- the keyword form of a type-system definition
    rw [show Exec.gdefKvs (.t d) = Exec.tdefKvs d from rfl, Exec.tdefKvs_eq Widths.generated]
    refine key _ _ _ ?_
    cases d with
    | object iface => cases iface <;> (show S _ ≠ S "implements") <;> decide
    | _ => (show S _ ≠ S "implements"); decide
  | e d => exact ⟨_, _, rfl, by simp, fun _ => ⟨by decide, by decide⟩⟩
  | x d =>
    cases d with
    | frag desc nm vds tc ds ss =>
      simp only [Exec.gdefKvs, Exec.xdefKvs, List.append_assoc, List.cons_append]
      exact key _ _ _ (by decide)
    | op desc ot nm vds ds ss =>
      simp only [Exec.gdefKvs, Exec.xdefKvs]
      by_cases hs : desc = none ∧ ot = S "query" ∧ nm = [] ∧ vds.isEmpty = true ∧ ds.isEmpty = true
      · rw [if_pos hs]
        exact ⟨_, _, rfl, by simp, fun hf => by rw [(isShortG_iff _ _ _ _ _ _).mpr hs] at hf; cases hf⟩
      · rw [if_neg hs]
        simp only [List.append_assoc, List.cons_append]
        exact key _ _ _ (by rcases h.2.1 with rfl | rfl | rfl <;> decide)

/-- What follows a definition that does not end with a block, in a printed document. -/
theorem gdefsKvs_headD (fa dd : Bool) (rest : List GDef) (h : Exec.gdefsWf fa dd rest) :
    defNext ((Exec.gdefsKvs false rest).headD (.eof, none)) := by
  cases rest with
  | nil => exact ⟨by decide, by decide⟩
  | cons d2 r2 =>
    obtain ⟨k, ks, hk, _, hg⟩ := gdefKvs_head fa dd d2 (h d2 (by simp))
    simp only [Exec.gdefsKvs, Bool.not_false, Bool.and_true]
    cases hs : Exec.isShortG d2 with
    | true =>
      simp only [↓reduceIte, List.cons_append, List.nil_append, List.headD_cons]
      exact ⟨by decide, by decide⟩
    | false => simpa [hk] using hg hs

theorem gdefsKvs_length_le (fa dd : Bool) (defs : List GDef) (h : Exec.gdefsWf fa dd defs) :
    ∀ pb, defs.length ≤ (Exec.gdefsKvs pb defs).length := by
  induction defs with
  | nil => intro pb; simp [Exec.gdefsKvs]
  | cons d r ih =>
    intro pb
    obtain ⟨k, ks, hk, _⟩ := gdefKvs_head fa dd d (h d (by simp))
    have := ih (fun x hx => h x (by simp [hx])) (Exec.endsBlock d)
    simp only [Exec.gdefsKvs, hk, List.length_append, List.length_cons]
    omega

section
variable (cfg : Cfg) (hm : cfg.maxTokens = none)
include hm

/-- `parse_definition` on one definition of a printed document, possibly with the `query` keyword
the printer adds to a shorthand query. -/
theorem parses_gdef {n : Nat} (d : GDef) (pre : Bool) (h : Exec.gdefWf cfg.fragArgs cfg.dirOnDir d)
    (hpre : pre = true → Exec.isShortG d = true) :
    Parses n (parseDefinition cfg n) ((if pre then [((TokKind.name, some (S "query")) : KV)] else []) ++ Exec.gdefKvs d)
      (Exec.gdefAst cfg.fragArgs cfg.dirOnDir d) (fun k => Exec.endsBlock d = false → defNext k) := by
  cases pre with
  | false =>
    simp only [Bool.false_eq_true, ↓reduceIte, List.nil_append]
    cases d with
    | x d => exact parses_xdef cfg hm d h _
    | t d => exact parses_tdef cfg hm d h
    | e d => exact parses_edef cfg hm d h
  | true =>
    have hs := hpre rfl
    cases d with
    | t d => simp [Exec.isShortG] at hs
    | e d => simp [Exec.isShortG] at hs
    | x d =>
      cases d with
      | frag => simp [Exec.isShortG] at hs
      | op desc ot nm vds ds ss =>
        obtain ⟨rfl, rfl, rfl, hv, hd⟩ := (isShortG_iff _ _ _ _ _ _).mp hs
        have hv' : vds = [] := by cases vds <;> simp_all
        have hd' : ds = [] := by cases ds <;> simp_all
        subst hv' hd'
        have hp := parses_xop_long cfg hm (n := n) none (S "query") [] [] [] ss cfg.fragArgs h
          (fun k => Exec.endsBlock (.x (.op none (S "query") [] [] [] ss)) = false → defNext k)
        simp only [↓reduceIte, Exec.gdefKvs, Exec.xdefKvs, List.isEmpty_nil, and_self, List.cons_append,
          List.nil_append]
        simp only [Exec.descKvs, Exec.varDefsKvs, Exec.dirsKvs, List.isEmpty_nil, ↓reduceIte, List.nil_append] at hp
        refine Parses.definition (ks := Exec.ssKvs ss) none (S "query") "operation_definition" (by decide) ?_
        rw [show dispatchDefinition cfg n "operation_definition" = parseOperationDefinition cfg n by
          simp [dispatchDefinition]]
        exact hp

/-- The `while not expect_optional_token(EOF)` loop of `parse_document` over the remaining definitions. -/
theorem gdefsLoop_ok (defs : List GDef) (h : Exec.gdefsWf cfg.fragArgs cfg.dirOnDir defs) :
    ∀ (pb : Bool) (n m : Nat) (acc : List Ast), defs.length < m →
    Parses n (untilClose cfg .eof (parseDefinition cfg n) m acc) (Exec.gdefsKvs pb defs)
      (acc ++ defs.map (Exec.gdefAst cfg.fragArgs cfg.dirOnDir)) (· = (.eof, none)) := by
  induction defs with
  | nil =>
    intro pb n m acc hmm
    obtain ⟨m, rfl⟩ : ∃ m', m = m' + 1 := ⟨m - 1, by simp at hmm; omega⟩
    rw [untilClose]
    simpa [Exec.gdefsKvs] using Parses.optEof cfg (g := fun closed => if closed = true then pure acc else _)
      (Parses.pure acc anyKV)
  | cons d rest ih =>
    intro pb n m acc hmm
    obtain ⟨m, rfl⟩ : ∃ m', m = m' + 1 := ⟨m - 1, by simp at hmm; omega⟩
    have hwfr : Exec.gdefsWf cfg.fragArgs cfg.dirOnDir rest := fun x hx => h x (by simp [hx])
    obtain ⟨k0, ks0, hk0, hk0e, _⟩ := gdefKvs_head cfg.fragArgs cfg.dirOnDir d (h d (by simp))
    simp only [Exec.gdefsKvs]
    rw [untilClose]
    refine Parses.optTok_no cfg .eof ?_ fun k _ => by
      rw [headD_append, headD_append, hk0]; split <;> simp [hk0e]
    simp only [Bool.false_eq_true, ↓reduceIte]
    refine Parses.result (by simp) (Parses.bind (parses_gdef cfg hm d (Exec.isShortG d && !pb) (h d (by simp))
      (by intro hp; simp only [Bool.and_eq_true] at hp; exact hp.1))
      (ih hwfr (Exec.endsBlock d) n m (acc ++ [Exec.gdefAst cfg.fragArgs cfg.dirOnDir d])
        (by simp at hmm; omega)) fun k hk he => ?_)
    rw [he, hk]
    exact gdefsKvs_headD cfg.fragArgs cfg.dirOnDir rest hwfr

/-- **`parse` of any text that lexes to the tokens of a well-formed document** (the parser sees tokens
only) is the document's tree. -/
theorem parseSource_gdoc_of_lexes (text : List Nat) (defs : List GDef) (hdne : defs ≠ [])
    (hwf : Exec.gdefsWf cfg.fragArgs cfg.dirOnDir defs) (hlex : Lexes true text (Exec.gdefsKvs true defs)) :
    parseSource .document cfg text = .ok (Exec.gdocAst cfg.fragArgs cfg.dirOnDir defs) := by
  refine parseSource_of_parses cfg .document (by decide) hlex ?_
  obtain ⟨d, rest, rfl⟩ := List.exists_cons_of_ne_nil hdne
  have hwfr : Exec.gdefsWf cfg.fragArgs cfg.dirOnDir rest := fun x hx => hwf x (by simp [hx])
  have hl := gdefsKvs_length_le cfg.fragArgs cfg.dirOnDir rest hwfr (Exec.endsBlock d)
  rw [runEntry, parseDocument, parseMany]
  simp only [Exec.gdefsKvs, Bool.not_true, Bool.and_false, Bool.false_eq_true, ↓reduceIte, List.nil_append,
    List.length_append] at hl ⊢
  generalize hN : (Exec.gdefKvs d).length + (Exec.gdefsKvs (Exec.endsBlock d) rest).length + 3 = N
  have hd := parses_gdef cfg hm (n := N) d false (hwf d (by simp)) (fun h => nomatch h)
  simp only [Bool.false_eq_true, ↓reduceIte, List.nil_append] at hd
  have hloop := gdefsLoop_ok cfg hm rest hwfr (Exec.endsBlock d) N N [Exec.gdefAst cfg.fragArgs cfg.dirOnDir d]
    (by omega)
  refine Parses.result (by rw [mk_docNode]; simp [Exec.gdocAst]) (Parses.map
    (Parses.tok cfg hm .sof none (by decide) fun _ _ => Parses.bind hd hloop fun k hk he => ?_) _)
  rw [he, hk]
  exact gdefsKvs_headD cfg.fragArgs cfg.dirOnDir rest hwfr

/-- **Round trip for documents of executable and type-system definitions (stage 3) at the source level.** -/
theorem parseSource_gdoc_print (w : Widths) (hw : 4 ≤ w.object)
    (hT : tableOK Generated.escapeTable = true) (hC : tableComplete Generated.escapeTable = true)
    (defs : List GDef) (hdne : defs ≠ []) (hwf : Exec.gdefsWf cfg.fragArgs cfg.dirOnDir defs) :
    parseSource .document cfg (Exec.printGDoc w defs) = .ok (Exec.gdocAst cfg.fragArgs cfg.dirOnDir defs) :=
  parseSource_gdoc_of_lexes cfg hm _ defs hdne hwf (lexes_gdoc w hw hT hC cfg.fragArgs cfg.dirOnDir defs hwf)

/-- **Round trip for executable documents (stage 2) at the source level.** -/
theorem parseSource_xdoc_print (w : Widths) (hw : 4 ≤ w.object)
    (hT : tableOK Generated.escapeTable = true) (hC : tableComplete Generated.escapeTable = true)
    (defs : List XDef) (hdne : defs ≠ []) (hwf : Exec.xdefsWf cfg.fragArgs defs) :
    parseSource .document cfg (Exec.printXDoc w defs) = .ok (Exec.xdocAst cfg.fragArgs defs) := by
  rw [← Exec.printGDoc_x, ← Exec.gdocAst_x cfg.fragArgs cfg.dirOnDir]
  exact parseSource_gdoc_print cfg hm w hw hT hC _ (by simpa using hdne) (Exec.gdefsWf_x _ _ defs hwf)

/-- **Round trip for executable documents (stage 1) at the source level.** -/
theorem parseSource_doc_print (w : Widths) (hw : 4 ≤ w.object)
    (hT : tableOK Generated.escapeTable = true) (hC : tableComplete Generated.escapeTable = true)
    (defs : List Def) (hdne : defs ≠ []) (hwf : Exec.defsWf defs) :
    parseSource .document cfg (Exec.printDoc w defs) = .ok (Exec.docAst cfg.fragArgs defs) := by
  rw [← Exec.printXDoc_toX, ← Exec.xdocAst_toX]
  exact parseSource_xdoc_print cfg hm w hw hT hC _ (by simpa using hdne) (Exec.xdefsWf_toX _ defs hwf)

end

end Gql.Syntax
