import Gql.Proofs.Lexes
import Gql.Proofs.BlockIndent
import Gql.Proofs.TokenStable
/-!
`Lexes` for the leaf tokens of printed text — punctuators, names, numbers, quoted strings, block
strings (also re-indented) — and for printed types.  Each leaf is a computation of the grammar's
`lexToken?` on the text followed by any (safe) rest; `Lexes.of_grammar` turns it into a fact about
the lexer, through `readNextToken_tokAgree`.
-/
namespace Gql.Text
open Gql.Spec.Lex

/-- Left inverse of `kindOf` on the kinds of the grammar. -/
def ofKind : Kind → TokKind
  | .bang => .bang | .dollar => .dollar | .amp => .amp | .parenL => .parenL | .parenR => .parenR
  | .spread => .spread | .colon => .colon | .equals => .equals | .at => .at
  | .bracketL => .bracketL | .bracketR => .bracketR | .braceL => .braceL | .pipe => .pipe
  | .braceR => .braceR | .name => .name | .int => .int | .float => .float | .string => .string
  | .blockString => .blockString | .eof => .eof | .other => .comment

theorem ofKind_kindOf {a : TokKind} (h : kindOf a ≠ .other) : ofKind (kindOf a) = a := by
  cases a <;> first | rfl | exact absurd rfl h

/-- Where no Ignored item starts, a token of the grammar is what `read_next_token` returns. -/
theorem readNextToken_of_lexToken (body : List Nat) (st : LexState) (pos : Nat) {m : Match}
    (hni : ignoredLen (body.drop pos) = none) (hm : lexToken? (body.drop pos) = some m) :
    ∃ tok st', readNextToken body st pos = .ok (tok, st') ∧
      toSpec tok = ⟨m.kind, pos, pos + m.len, m.value⟩ := by
  have hlt : pos < body.length := by
    false_or_by_contra; rename_i h
    rw [List.drop_eq_nil_of_le (by omega)] at hm
    cases hm
  have hag := readNextToken_tokAgree body st pos hlt (stringClassOK body) (blockClassOK body) hni
  rw [hm] at hag
  cases hr : readNextToken body st pos with
  | ok ts =>
    rw [hr] at hag
    obtain ⟨mm, hmm, hsp, _⟩ := hag
    cases hmm
    exact ⟨ts.1, ts.2, rfl, hsp⟩
  | err e => rw [hr] at hag; cases hag
  | crash c => rw [hr] at hag; exact hag.elim

/-- One token of `Lexes` from the grammar. -/
theorem Lexes.of_grammar (strict : Bool) (text : List Nat) (k : TokKind) (v : Option (List Nat))
    (hk : k ≠ .eof) (hc : kindOf k ≠ .other)
    (h : ∀ rest, (strict = true → Safe rest) → ignoredLen (text ++ rest) = none ∧
      lexToken? (text ++ rest) = some ⟨kindOf k, text.length, v⟩) :
    Lexes strict text [(k, v)] := by
  apply Lexes.single strict text k v hk (by rintro rfl; exact hc rfl)
  intro pre rest st hs
  obtain ⟨hni, hm⟩ := h rest hs
  obtain ⟨tok, st', hr, hsp⟩ := readNextToken_of_lexToken (pre ++ (text ++ rest)) st pre.length
    (by rw [List.drop_left]; exact hni) (by rw [List.drop_left]; exact hm)
  simp only [toSpec, SpecToken.mk.injEq] at hsp
  exact ⟨tok, st', hr, (ofKind_kindOf (hsp.1 ▸ hc)).symm.trans ((congrArg ofKind hsp.1).trans (ofKind_kindOf hc)),
    hsp.2.2.2, hsp.2.2.1⟩

theorem ignoredLen_of_not_start {c : Nat} (r : List Nat) (h : ¬ IgnoredStart c) : ignoredLen (c :: r) = none :=
  Option.not_isSome_iff_eq_none.mp (mt ignoredLen_isSome_iff.mp h)

theorem Lexes.punct (c : Nat) (k : TokKind) (h : punctKind c = some k) : Lexes false [c] [(k, none)] := by
  apply Lexes.of_grammar false [c] k none (punctKind_kind h).2.1
    (punctKind_forall (P := fun _ k => kindOf k ≠ .other) (by decide) h)
  intro rest _
  have hc := punctKind_start h
  exact ⟨ignoredLen_of_not_start _ (by unfold PunctStart at hc; unfold IgnoredStart SkipChar; omega),
    lexToken?_punct c rest k h⟩

theorem Lexes.append_punct {a : List Nat} {ka : List KV} (ha : Lexes true a ka) (c : Nat) (k : TokKind)
    (hk : punctKind c = some k) (hc : safeHead c = true) : Lexes false (a ++ [c]) (ka ++ [(k, none)]) :=
  Lexes.append ha (Lexes.punct c k hk) (fun _ rest _ => Safe.cons hc)

theorem Lexes.name (n : List Nat) (h : validName n = true) : Lexes true n [(.name, some n)] := by
  apply Lexes.of_grammar true n .name (some n) (by decide) (by decide)
  intro rest hs
  cases n with
  | nil => simp [validName] at h
  | cons c r =>
    simp only [validName, Bool.and_eq_true, List.all_eq_true] at h
    have hns : NameStart c := (isNameStart_iff c).mp h.1
    have hc : (65 ≤ c ∧ c ≤ 90) ∨ (97 ≤ c ∧ c ≤ 122) ∨ c = 95 := by
      unfold NameStart Letter at hns; omega
    exact ⟨ignoredLen_of_not_start _ (by unfold IgnoredStart SkipChar; omega),
      (lexToken?_iff c (r ++ rest) _).2 (.name (by omega) (punctKind_eq_none (by unfold PunctStart; omega))
        (by unfold Digit; omega) hns ((name?_append_iff c r rest _ rfl).2
          ⟨rfl, hns, fun d hd => (isNameContinue_iff d).mp (h.2 d hd), (hs rfl).not_nameContinue⟩))⟩

theorem Lexes.number (fl : Bool) (s : List Nat) (h : IsNum fl s) :
    Lexes true s [(if fl then .float else .int, some s)] := by
  apply Lexes.of_grammar true s _ (some s) (by cases fl <;> decide) (by cases fl <;> decide)
  intro rest hs
  obtain ⟨c, r, rfl, hstart⟩ := isNum_head h
  have hc : (48 ≤ c ∧ c ≤ 57) ∨ c = 45 := hstart.imp (by simp [isDigit]) id
  exact ⟨ignoredLen_of_not_start _ (by unfold IgnoredStart SkipChar; omega),
    (lexToken?_iff c (r ++ rest) _).2 (.number (by omega) (punctKind_eq_none (by unfold PunctStart; omega))
      (by unfold Digit; omega) ((number?_append_iff (c :: r) rest _ rfl).2
        ⟨fl, by cases fl <;> rfl, h, (headAll_numTerm_iff _).2 (safe_lookahead (hs rfl))⟩))⟩

theorem Lexes.stringP (s : List Nat) (hsc : Pairs.Paired s)
    (hT : tableOK Generated.escapeTable = true) (hC : tableComplete Generated.escapeTable = true) :
    Lexes true (printString s) [(.string, some s)] := by
  apply Lexes.of_grammar true _ .string (some s) (by decide) (by decide)
  intro rest hs
  exact ⟨rfl, lexToken?_printString _ hT hC hsc rest fun h => absurd (hs rfl 34 h) (by decide)⟩

theorem Lexes.string (s : List Nat) (hsc : ∀ c ∈ s, isScalar c = true)
    (hT : tableOK Generated.escapeTable = true) (hC : tableComplete Generated.escapeTable = true) :
    Lexes true (printString s) [(.string, some s)] :=
  Lexes.stringP s (Pairs.Paired.of_forall_scalar hsc) hT hC

theorem Lexes.blockP (k w : Nat) (s : List Nat) (hsc : Pairs.Paired s)
    (hrep : BlockRepresentable s) :
    Lexes true (indentLF k (printBlockStringW w s false)) [(.blockString, some s)] := by
  apply Lexes.of_grammar true _ .blockString (some s) (by decide) (by decide)
  intro rest _
  rw [indentLF_printed]
  exact ⟨rfl, lexToken?_raw ((pbsRaw_rawOf w false hsc hrep).indentLF k) rest⟩

theorem Lexes.ty (t : Gql.Text.Ty) (h : t.wf = true) : Lexes true t.print t.kvs := by
  induction t with
  | named n => exact Lexes.name n h
  | list t ih =>
    have := Lexes.append_l (Lexes.punct 91 .bracketL (by decide))
      (Lexes.append_punct (ih h) 93 .bracketR (by decide) (by decide))
    simpa [Ty.print, Ty.kvs] using this.weaken true
  | nonNull t ih =>
    have := Lexes.append_punct (ih h) 33 .bang (by decide) (by decide)
    simpa [Ty.print, Ty.kvs] using this.weaken true

theorem lexAll_ty (t : Ty) (hwf : t.wf = true) :
    ∃ toks : List Token, lexAll t.print = .ok toks ∧
      toks.map Token.kv = t.kvs ++ [(.eof, none)] := by
  obtain ⟨tks, e, hall, hkv, he, _⟩ := lexAll_of_lexes' (Lexes.ty t hwf)
  exact ⟨_, hall, by simp [hkv, he]⟩

end Gql.Text
