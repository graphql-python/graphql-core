import Gql.Types.WFSchema
import Gql.Proofs.Introspection
import Gql.Proofs.ClientDefaults
/-! Lemmas for C18: `buildClient` inverts `introspect` on well-formed schemas.  The print/parse law for default
values is needed only of those that occur in the schema: `P` is any property of them under which it holds
(C08 gives it for well-formed constant literals). -/
namespace Gql.Types
open Json

theorem mapMOut_map_ok {α β γ : Type} (f : β → R γ) (g : α → β) (h : α → γ) (xs : List α)
    (H : ∀ x ∈ xs, f (g x) = .ok (h x)) : mapMOut f (xs.map g) = .ok (xs.map h) := by
  induction xs with
  | nil => rfl
  | cons x xs ih =>
    have hx := H x (by simp)
    have hr := ih (fun y hy => H y (by simp [hy]))
    simp [mapMOut, hx, hr]

theorem mapMOut_map_id {α β : Type} (f : β → R α) (g : α → β) (xs : List α)
    (H : ∀ x ∈ xs, f (g x) = .ok x) : mapMOut f (xs.map g) = .ok xs := by
  have := mapMOut_map_ok f g id xs (by simpa using H)
  simpa using this

theorem nodupNames_cons {n : List Nat} {ns : List (List Nat)} :
    nodupNames (n :: ns) = true ↔ n ∉ ns ∧ nodupNames ns = true := by
  simp [nodupNames]

theorem dictInsert_not_mem {α : Type} (key : α → List Nat) (a : α) (acc : List α)
    (h : ∀ b ∈ acc, key b ≠ key a) : dictInsert key a acc = acc ++ [a] := by
  induction acc with
  | nil => rfl
  | cons b bs ih =>
    have hb : key b ≠ key a := h b (by simp)
    simp [dictInsert, hb, ih (fun c hc => h c (by simp [hc]))]

theorem dictOfList_nodup {α : Type} (key : α → List Nat) (xs : List α)
    (h : nodupNames (xs.map key) = true) : dictOfList key xs = xs := by
  have gen : ∀ (xs acc : List α), (∀ b ∈ acc, ∀ x ∈ xs, key b ≠ key x) → nodupNames (xs.map key) = true →
      xs.foldl (fun acc a => dictInsert key a acc) acc = acc ++ xs := by
    intro xs
    induction xs with
    | nil => intro acc _ _; simp
    | cons x xs ih =>
      intro acc hacc hnd
      rw [List.map_cons, nodupNames_cons] at hnd
      rw [List.foldl_cons, dictInsert_not_mem key x acc fun b hb => hacc b hb x (by simp), ih _ _ hnd.2]
      · simp
      · intro b hb y hy
        rcases List.mem_append.mp hb with hb | hb
        · exact hacc b hb y (by simp [hy])
        · rw [List.mem_singleton.mp hb]
          exact fun heq => hnd.1 (heq ▸ List.mem_map_of_mem hy)
  simpa [dictOfList] using gen xs [] (by simp) h

theorem dictInsert_subset {α : Type} (key : α → List Nat) (a : α) (acc : List α) :
    dictInsert key a acc ⊆ a :: acc := by
  induction acc with
  | nil => simp [dictInsert]
  | cons c cs ih =>
    unfold dictInsert
    split
    · simp
    · exact List.cons_subset.2 ⟨by simp, ih.trans (by simp)⟩

theorem dictOfList_subset {α : Type} (key : α → List Nat) (xs : List α) : dictOfList key xs ⊆ xs := by
  have gen : ∀ (xs acc : List α), xs.foldl (fun acc a => dictInsert key a acc) acc ⊆ acc ++ xs := by
    intro xs
    induction xs with
    | nil => intro acc; simp
    | cons x xs ih =>
      intro acc
      refine (ih _).trans (List.append_subset.2 ⟨(dictInsert_subset key x acc).trans (by simp), by simp⟩)
  simpa [dictOfList] using gen xs []

theorem kindName_ne_list (k : Kind) : k.name ≠ cLIST := by cases k <;> decide
theorem kindName_ne_nonNull (k : Kind) : k.name ≠ cNON_NULL := by cases k <;> decide

theorem refJson_truthy (d : Nat) (r : TypeRef) : (refJson d r).truthy = true := by
  cases d <;> cases r <;> simp [refJson, Json.truthy]

theorem getNamedType_named (km : KindMap) (n : List Nat) (k : Kind) (rest : List (Key × Json))
    (hn : n.isEmpty = false) (hk : km.lookup n = some k) :
    getNamedType km (obj ((.kind, str k.name) :: (.name, str n) :: rest)) = .ok (.named n k) := by
  simp [getNamedType, Json.get?, List.lookup, hn, hk]

theorem getType_refJson (km : KindMap) (r : TypeRef) :
    ∀ (d fuel : Nat), r.depth ≤ d → r.depth < fuel → r.wellWrapped = true →
      r.namedName.isEmpty = false → km.lookup r.namedName = some r.namedKind →
      getType km fuel (refJson d r) = .ok r := by
  induction r with
  | named n k =>
    intro d fuel _ hf _ hn hk
    cases fuel with
    | zero => simp [TypeRef.depth] at hf
    | succ fuel =>
      have h1 := kindName_ne_list k
      have h2 := kindName_ne_nonNull k
      cases d <;>
        simp [refJson, getType, Json.get?, List.lookup, h1, h2] <;>
        exact getNamedType_named km n k _ hn hk
  | list r ih =>
    intro d fuel hd hf hw hn hk
    cases fuel with
    | zero => simp at hf
    | succ fuel =>
      cases d with
      | zero => simp [TypeRef.depth] at hd
      | succ d =>
        have hrec := ih d fuel (by simp [TypeRef.depth] at hd; omega) (by simp [TypeRef.depth] at hf; omega)
          (by simpa [TypeRef.wellWrapped] using hw) hn hk
        simp [refJson, getType, Json.get?, List.lookup, refJson_truthy, hrec]
  | nonNull r ih =>
    intro d fuel hd hf hw hn hk
    cases fuel with
    | zero => simp at hf
    | succ fuel =>
      cases d with
      | zero => simp [TypeRef.depth] at hd
      | succ d =>
        have hw' : r.isNonNull = false ∧ r.wellWrapped = true := by
          simpa [TypeRef.wellWrapped] using hw
        have hrec := ih d fuel (by simp [TypeRef.depth] at hd; omega) (by simp [TypeRef.depth] at hf; omega)
          hw'.2 hn hk
        have hne : cNON_NULL ≠ cLIST := by decide
        simp [refJson, getType, Json.get?, List.lookup, refJson_truthy, hrec, hne, hw'.1]

theorem getType_wfRef (km : KindMap) (d fuel : Nat) (r : TypeRef) (hlim : d < fuel)
    (h : wfRef km d r = true) : getType km fuel (refJson d r) = .ok r := by
  simp [wfRef] at h
  obtain ⟨⟨⟨h1, h2⟩, h3⟩, h4⟩ := h
  exact getType_refJson km r d fuel h1 (by omega) h2 (by simpa using h3) h4

theorem getTypeOfKind_wfNamedRef (km : KindMap) (d fuel : Nat) (want : Kind) (r : TypeRef) (hf : 0 < fuel)
    (h : wfNamedRef km want r = true) : getTypeOfKind km fuel want (refJson d r) = .ok r := by
  cases r with
  | named n k =>
    simp [wfNamedRef] at h
    obtain ⟨⟨hk, hn⟩, hl⟩ := h
    subst hk
    have := getType_refJson km (.named n k) d fuel (by simp [TypeRef.depth]) (by simpa [TypeRef.depth] using hf)
      rfl (by simpa [TypeRef.namedName] using hn) (by simpa [TypeRef.namedName, TypeRef.namedKind] using hl)
    simp [getTypeOfKind, this]
  | list r => simp [wfNamedRef] at h
  | nonNull r => simp [wfNamedRef] at h

@[simp] theorem optStrOf_ofOptStr (x : Option (List Nat)) : optStrOf (ofOptStr x) = .ok x := by
  cases x <;> rfl

section
variable {V : Type} (env : ClientEnv V) (km : KindMap) (printV : V → List Nat)

theorem ivJson_full (d : Nat) (iv : InputValue V) :
    ivJson printV (Options.full d) iv = obj [(.name, str iv.name), (.description, ofOptStr iv.description),
      (.type, refJson d iv.type), (.defaultValue, ofOptStr (iv.default.map printV)),
      (.isDeprecated, Json.bool iv.deprecationReason.isSome), (.deprecationReason, ofOptStr iv.deprecationReason)] := by
  simp [ivJson, descPart]

theorem parseDefault_print (P : V → Prop) (hpp : ∀ v, P v → env.parseV (printV v) = .ok v) (x : Option V)
    (hx : ∀ v, x = some v → P v) :
    parseDefault env (ofOptStr (x.map printV)) = .ok x := by
  cases x with
  | none => rfl
  | some v => simp [ofOptStr, parseDefault, hpp v (hx v rfl)]

theorem buildInputValue_ivJson (P : V → Prop) (hpp : ∀ v, P v → env.parseV (printV v) = .ok v) (d : Nat) (hlim : d < env.limit)
    (iv : InputValue V) (hwf : wfInputValue km d iv = true) (hP : ∀ v, iv.default = some v → P v) :
    buildInputValue env km (ivJson printV (Options.full d) iv) = .ok iv := by
  simp [wfInputValue] at hwf
  obtain ⟨⟨_, hr⟩, hi⟩ := hwf
  have hty := getType_wfRef km d env.limit iv.type hlim hr
  have hdv := parseDefault_print env printV P hpp iv.default hP
  rw [ivJson_full]
  simp [buildInputValue, index, dget, List.lookup, hty, hi, hdv, nameOf]

theorem checkNames_ok {α : Type} (name : α → List Nat) (xs : List α)
    (h : ∀ x ∈ xs, isName (name x) = true) : checkNames name xs = .ok () := by
  have : (xs.all fun x => isName (name x)) = true := by simpa using h
  simp [checkNames, this]

/-- What `build_argument_def_map` and the constructor receiving the map do on well-formed arguments
(`buildInputValues` and `buildDirective` run the same three stages). -/
theorem buildArgs_ok (P : V → Prop) (hpp : ∀ v, P v → env.parseV (printV v) = .ok v) (d : Nat)
    (hlim : d < env.limit) (ivs : List (InputValue V)) (hwf : wfInputValues km d ivs = true)
    (hP : ivsSat P ivs) :
    mapMOut (buildInputValue env km) (ivs.map (ivJson printV (Options.full d))) = .ok ivs ∧
      dictOfList InputValue.name ivs = ivs ∧ checkNames InputValue.name ivs = .ok () := by
  simp [wfInputValues] at hwf
  obtain ⟨hall, hnd⟩ := hwf
  exact ⟨mapMOut_map_id _ _ ivs
      (fun iv hiv => buildInputValue_ivJson env km printV P hpp d hlim iv (hall iv hiv) (hP iv hiv)),
    dictOfList_nodup _ ivs hnd,
    checkNames_ok _ ivs (fun iv hiv => by have := hall iv hiv; simp [wfInputValue] at this; exact this.1.1)⟩

theorem buildInputValues_ivsJson (P : V → Prop) (hpp : ∀ v, P v → env.parseV (printV v) = .ok v) (d : Nat)
    (hlim : d < env.limit) (ivs : List (InputValue V)) (hwf : wfInputValues km d ivs = true)
    (hP : ivsSat P ivs) :
    buildInputValues env km (ivsJson printV (Options.full d) ivs) = .ok ivs := by
  obtain ⟨hm, hd, hc⟩ := buildArgs_ok env km printV P hpp d hlim ivs hwf hP
  simp [buildInputValues, ivsJson, visibleInputs, items, hm, hd, hc]

theorem fieldJson_full (d : Nat) (f : Field V) :
    fieldJson printV (Options.full d) f = obj [(.name, str f.name), (.description, ofOptStr f.description),
      (.args, ivsJson printV (Options.full d) f.args), (.type, refJson d f.type),
      (.isDeprecated, Json.bool f.deprecationReason.isSome), (.deprecationReason, ofOptStr f.deprecationReason)] := by
  simp [fieldJson, descPart]

theorem ivsJson_ne_null (o : Options) (ivs : List (InputValue V)) : ivsJson printV o ivs ≠ null := by
  simp [ivsJson]

theorem buildField_fieldJson (P : V → Prop) (hpp : ∀ v, P v → env.parseV (printV v) = .ok v) (d : Nat) (hlim : d < env.limit)
    (f : Field V) (hwf : wfField km d f = true) (hP : ivsSat P f.args) :
    buildField env km (fieldJson printV (Options.full d) f) = .ok f := by
  simp [wfField] at hwf
  obtain ⟨⟨⟨_, hr⟩, ho⟩, ha⟩ := hwf
  have hty := getType_wfRef km d env.limit f.type hlim hr
  have hargs := buildInputValues_ivsJson env km printV P hpp d hlim f.args ha hP
  rw [fieldJson_full]
  simp only [buildField, index, dget, List.lookup, key_beq]
  simp [hty, ho, nameOf]
  simp only [ivsJson] at hargs ⊢
  simp [hargs]

theorem enumValueJson_full (d : Nat) (e : EnumValue) :
    enumValueJson (Options.full d) e = obj [(.name, str e.name), (.description, ofOptStr e.description),
      (.isDeprecated, Json.bool e.deprecationReason.isSome), (.deprecationReason, ofOptStr e.deprecationReason)] := by
  simp [enumValueJson, descPart]

theorem buildEnumValue_enumValueJson (d : Nat) (e : EnumValue) :
    buildEnumValue (enumValueJson (Options.full d) e) = .ok e := by
  rw [enumValueJson_full]
  simp [buildEnumValue, index, dget, List.lookup, nameOf]

theorem typeJson_full (types : List (TypeDef V)) (d : Nat) (t : TypeDef V) :
    typeJson printV types (Options.full d) t = obj [(.kind, str t.kind.name), (.name, str t.name),
      (.description, ofOptStr t.description), (.specifiedByURL, ofOptStr t.specifiedByURL),
      (.isOneOf, if t.kind = .inputObject then Json.bool t.isOneOf else null),
      (.fields, if t.kind = .object ∨ t.kind = .interface then
          arr (t.fields.map (fieldJson printV (Options.full d))) else null),
      (.inputFields, if t.kind = .inputObject then ivsJson printV (Options.full d) t.inputFields else null),
      (.interfaces, if t.kind = .object ∨ t.kind = .interface then arr (t.interfaces.map (refJson d)) else null),
      (.enumValues, if t.kind = .enum then arr (t.enumValues.map (enumValueJson (Options.full d))) else null),
      (.possibleTypes,
        if t.kind = .union then arr (t.members.map (refJson d))
        else if t.kind = .interface then arr ((implementors types t.name).map (refJson d))
        else null)] := by
  simp [typeJson, descPart]

theorem kindOfName_name (k : Kind) : kindOfName k.name = some k := by cases k <;> decide

theorem isReserved_eq (n : List Nat) :
    isReserved env n = (env.reserved.find? fun r => r.name = n).isSome := by
  unfold isReserved
  induction env.reserved with
  | nil => rfl
  | cons r rs ih =>
    by_cases h : r.name = n <;> simp [List.find?, List.any, h, ih]

variable [DecidableEq V]

theorem eagerEntry_typeJson (types : List (TypeDef V)) (d : Nat) (t : TypeDef V)
    (hwf : wfType env km d t = true) :
    eagerEntry env (typeJson printV types (Options.full d) t)
      = .ok ⟨t.name, t.kind, typeJson printV types (Options.full d) t⟩ := by
  have hev : mapMOut (index .name) (t.enumValues.map (enumValueJson (Options.full d)))
      = .ok (t.enumValues.map fun e => str e.name) :=
    mapMOut_map_ok _ _ _ t.enumValues (fun e _ => by rw [enumValueJson_full]; simp [index, List.lookup])
  have hres := isReserved_eq env t.name
  unfold wfType at hwf
  rw [typeJson_full]
  cases hf : env.reserved.find? (fun r => r.name = t.name) with
  | some r =>
    rw [hf] at hwf hres
    simp at hwf hres
    obtain ⟨_, hk⟩ := hwf
    rcases hk with (hk | hk) | hk <;>
      simp [eagerEntry, index, List.lookup, Json.get?, kindOfName_name, nameOf, hres, hk]
  | none =>
    rw [hf] at hwf hres
    simp at hwf hres
    have hname : isName t.name = true := hwf.1.1.1.1.1.1.1
    cases hk : t.kind <;>
      simp [eagerEntry, index, List.lookup, Json.get?, kindOfName_name, nameOf, hres, hk, assertName, hname,
        items, hev, ivsJson]

theorem wrapThunk_ok {α : Type} (a : α) : wrapThunk (Out.ok a : R α) = .ok a := rfl

theorem buildTypeDef_typeJson (P : V → Prop) (hpp : ∀ v, P v → env.parseV (printV v) = .ok v) (types : List (TypeDef V))
    (d : Nat) (hlim : d < env.limit) (t : TypeDef V)
    (hnr : (env.reserved.find? fun r => r.name = t.name) = none) (hwf : wfType env km d t = true)
    (hP : typeSat P t) :
    buildTypeDef env km t.name t.kind (typeJson printV types (Options.full d) t) = .ok t := by
  unfold wfType at hwf
  rw [hnr] at hwf
  simp at hwf
  obtain ⟨⟨⟨⟨⟨⟨⟨_, hshape⟩, hfields⟩, hfnd⟩, hifaces⟩, hmembers⟩, hevnd⟩, hifs⟩ := hwf
  have hpos : 0 < env.limit := by omega
  have hfs : mapMOut (buildField env km) (t.fields.map (fieldJson printV (Options.full d))) = .ok t.fields :=
    mapMOut_map_id _ _ t.fields
      (fun f hf => buildField_fieldJson env km printV P hpp d hlim f (hfields f hf) (hP.1 f hf))
  have hfd : dictOfList Field.name t.fields = t.fields := dictOfList_nodup _ _ hfnd
  have hfc : checkNames Field.name t.fields = .ok () :=
    checkNames_ok _ _ (fun f hf => by have := hfields f hf; simp [wfField] at this; exact this.1.1.1)
  have his : mapMOut (getTypeOfKind km env.limit .interface) (t.interfaces.map (refJson d)) = .ok t.interfaces :=
    mapMOut_map_id _ _ t.interfaces
      (fun r hr => getTypeOfKind_wfNamedRef km d env.limit .interface r hpos (hifaces r hr))
  have hms : mapMOut (getTypeOfKind km env.limit .object) (t.members.map (refJson d)) = .ok t.members :=
    mapMOut_map_id _ _ t.members
      (fun r hr => getTypeOfKind_wfNamedRef km d env.limit .object r hpos (hmembers r hr))
  have hevs : mapMOut buildEnumValue (t.enumValues.map (enumValueJson (Options.full d))) = .ok t.enumValues :=
    mapMOut_map_id _ _ t.enumValues (fun e _ => buildEnumValue_enumValueJson d e)
  have hevd : dictOfList EnumValue.name t.enumValues = t.enumValues := dictOfList_nodup _ _ hevnd
  have hinp := buildInputValues_ivsJson env km printV P hpp d hlim t.inputFields hifs hP.2
  rw [typeJson_full]
  obtain ⟨kind, name, desc, url, fields, ifaces, members, evs, ifs, oneOf⟩ := t
  simp only at *
  cases kind <;>
    simp [wfShape] at hshape <;>
    simp [buildTypeDef, dget, List.lookup, buildInterfaces, buildFields, items, wrapThunk_ok, boolOf,
      hfs, hfd, hfc, his, hms, hevs, hevd, hinp, hshape]

theorem directiveJson_full (d : Nat) (x : Directive V) :
    directiveJson printV (Options.full d) x = obj [(.name, str x.name), (.description, ofOptStr x.description),
      (.isRepeatable, Json.bool x.isRepeatable), (.isDeprecated, Json.bool x.deprecationReason.isSome),
      (.deprecationReason, ofOptStr x.deprecationReason), (.locations, arr (x.locations.map str)),
      (.args, ivsJson printV (Options.full d) x.args)] := by
  simp [directiveJson, descPart]

theorem buildDirective_directiveJson (P : V → Prop) (hpp : ∀ v, P v → env.parseV (printV v) = .ok v) (d : Nat)
    (hlim : d < env.limit) (x : Directive V) (hwf : wfDirective env km d x = true) (hP : ivsSat P x.args) :
    buildDirective env km (directiveJson printV (Options.full d) x) = .ok x := by
  simp [wfDirective] at hwf
  obtain ⟨⟨hname, hlocs⟩, hargs⟩ := hwf
  obtain ⟨hm, hd, hc⟩ := buildArgs_ok env km printV P hpp d hlim x.args hargs hP
  have hl : mapMOut (buildLocation env) (x.locations.map str) = .ok x.locations :=
    mapMOut_map_id _ _ x.locations (fun l hl => by simp [buildLocation, hlocs l hl])
  rw [directiveJson_full]
  simp [buildDirective, index, dget, List.lookup, ivsJson, visibleInputs, items, nameOf, assertName, hname, hm, hd,
    hc, hl, boolOf]

theorem buildDirectives_ok (P : V → Prop) (hpp : ∀ v, P v → env.parseV (printV v) = .ok v) (d : Nat) (hlim : d < env.limit)
    (ds : List (Directive V)) (hwf : ∀ x ∈ ds, wfDirective env km d x = true)
    (hP : ∀ x ∈ ds, ivsSat P x.args) :
    buildDirectives env km (arr (ds.map (directiveJson printV (Options.full d)))) = .ok ds := by
  have hm : mapMOut (buildDirective env km) (ds.map (directiveJson printV (Options.full d))) = .ok ds :=
    mapMOut_map_id _ _ ds
      (fun x hx => buildDirective_directiveJson env km printV P hpp d hlim x (hwf x hx) (hP x hx))
  cases ds with
  | nil => simp [buildDirectives, Json.truthy]
  | cons x xs => simp [buildDirectives, Json.truthy, items] at hm ⊢; simpa [items] using hm

theorem buildRoot_rootJson (r : Option (List Nat × Kind)) (hpos : 0 < env.limit) (hwf : wfRoot km r = true) :
    buildRoot env km (rootJson r) = .ok r := by
  cases r with
  | none => rfl
  | some nk =>
    obtain ⟨n, k⟩ := nk
    simp [wfRoot] at hwf
    obtain ⟨⟨hk, hn⟩, hl⟩ := hwf
    subst hk
    obtain ⟨fuel, hfuel⟩ : ∃ f, env.limit = f + 1 := ⟨env.limit - 1, by omega⟩
    have h1 : Kind.object.name ≠ cLIST := by decide
    have h2 : Kind.object.name ≠ cNON_NULL := by decide
    simp [buildRoot, rootJson, getTypeOfKind, hfuel, getType, Json.get?, List.lookup, h1, h2, getNamedType, hn, hl]

theorem entryKind_of_wf (d : Nat) (t : TypeDef V) (j : Json)
    (hwf : wfType env km d t = true) : entryKind env ⟨t.name, t.kind, j⟩ = t.kind := by
  unfold wfType at hwf
  unfold entryKind
  cases hf : env.reserved.find? (fun r => r.name = t.name) with
  | none => simp [hf]
  | some r =>
    simp only [hf] at hwf ⊢
    simp at hwf
    rw [hwf.1]

theorem finishEntry_ok (P : V → Prop) (hpp : ∀ v, P v → env.parseV (printV v) = .ok v) (types : List (TypeDef V)) (d : Nat)
    (hlim : d < env.limit) (t : TypeDef V) (hwf : wfType env km d t = true) (hP : typeSat P t) :
    finishEntry env km ⟨t.name, t.kind, typeJson printV types (Options.full d) t⟩ = .ok t := by
  unfold finishEntry
  cases hf : env.reserved.find? (fun r => r.name = t.name) with
  | none =>
    simp only [hf]
    exact buildTypeDef_typeJson env km printV P hpp types d hlim t hf hwf hP
  | some r =>
    unfold wfType at hwf
    simp only [hf] at hwf ⊢
    simp at hwf
    rw [hwf.1]

theorem schemaJson_full (s : Schema V) (d : Nat) :
    schemaJson printV s (Options.full d) = obj [(.description, ofOptStr s.description),
      (.queryType, rootJson s.query), (.mutationType, rootJson s.mutation),
      (.subscriptionType, rootJson s.subscription),
      (.types, arr (s.types.map (typeJson printV s.types (Options.full d)))),
      (.directives, arr (s.directives.map (directiveJson printV (Options.full d))))] := by
  simp [schemaJson, visibleDirectives]

theorem client_roundtrip_on (P : V → Prop) (hpp : ∀ v, P v → env.parseV (printV v) = .ok v) (d : Nat) (s : Schema V)
    (hwf : wfSchema env d s = true) (hP : DefaultsSat P s) :
    buildClient env (introspect printV s (Options.full d)) = .ok s := by
  simp [wfSchema] at hwf
  obtain ⟨⟨⟨⟨⟨⟨hlim, hnd⟩, htypes⟩, hdirs⟩, hq⟩, hm⟩, hsub⟩ := hwf
  have hpos : 0 < env.limit := by omega
  let mk : TypeDef V → Entry := fun t => ⟨t.name, t.kind, typeJson printV s.types (Options.full d) t⟩
  have he : mapMOut (eagerEntry env) (s.types.map (typeJson printV s.types (Options.full d)))
      = .ok (s.types.map mk) :=
    mapMOut_map_ok _ _ mk s.types
      (fun t ht => eagerEntry_typeJson env (kindMapOf s.types) printV s.types d t (htypes t ht))
  have hdict : dictOfList Entry.name (s.types.map mk) = s.types.map mk :=
    dictOfList_nodup _ _ (by simpa [List.map_map, Function.comp_def, mk] using hnd)
  have hkm : (s.types.map mk).map (fun e => (e.name, entryKind env e)) = kindMapOf s.types := by
    simp only [List.map_map, kindMapOf]
    apply List.map_congr_left
    intro t ht
    simp [mk, entryKind_of_wf env (kindMapOf s.types) d t _ (htypes t ht)]
  have hfin : mapMOut (finishEntry env (kindMapOf s.types)) (s.types.map mk) = .ok s.types :=
    mapMOut_map_id _ _ s.types
      (fun t ht => finishEntry_ok env (kindMapOf s.types) printV P hpp s.types d hlim t (htypes t ht) (hP.1 t ht))
  have hds := buildDirectives_ok env (kindMapOf s.types) printV P hpp d hlim s.directives hdirs hP.2
  have hrq := buildRoot_rootJson env (kindMapOf s.types) s.query hpos hq
  have hrm := buildRoot_rootJson env (kindMapOf s.types) s.mutation hpos hm
  have hrs := buildRoot_rootJson env (kindMapOf s.types) s.subscription hpos hsub
  simp [introspect, schemaJson_full, buildClient, Json.get?, List.lookup, index, dget, items,
    he, hdict, hkm, hfin, hds, hrq, hrm, hrs]

theorem client_roundtrip (hpp : ∀ v, env.parseV (printV v) = .ok v) (d : Nat) (s : Schema V)
    (hwf : wfSchema env d s = true) :
    buildClient env (introspect printV s (Options.full d)) = .ok s :=
  client_roundtrip_on env printV (fun _ => True) (fun v _ => hpp v) d s hwf
    ⟨fun _ _ => ⟨fun _ _ _ _ _ _ => trivial, fun _ _ _ _ => trivial⟩, fun _ _ _ _ _ _ => trivial⟩

end

end Gql.Types
