import Gql.Proofs.SchemaBuildParts
/-!
C17: one printed type or directive definition builds back to the type or directive, and what
`extend_schema_args` collects from the printed definitions of a schema.
-/
namespace Gql.Types
open Gql Gql.Generated

/-- The `(description, node)` pair `typeToDef` wraps. -/
def typeToPair : TypeDef → Option DescNode × TypeNode
  | .scalar n d u => (descNode d, ⟨n, specifiedByDirs u, .scalar⟩)
  | .object n d is fs => (descNode d, ⟨n, [], .object is (fs.map fieldToFD)⟩)
  | .interface n d is fs => (descNode d, ⟨n, [], .interface is (fs.map fieldToFD)⟩)
  | .union n d ms => (descNode d, ⟨n, [], .union ms⟩)
  | .enum n d vs => (descNode d, ⟨n, [], .enum (vs.map enumValToEVD)⟩)
  | .input n d oneOf fs =>
      (descNode d, ⟨n, if oneOf then [⟨SchemaConsts.oneOfName, []⟩] else [], .input (fs.map argToIVD)⟩)

theorem typeToDef_eq (t : TypeDef) : typeToDef t = .typeDef (typeToPair t).1 (typeToPair t).2 := by
  cases t <;> rfl

theorem typeToPair_name (t : TypeDef) : (typeToPair t).2.name = t.name := by
  cases t <;> rfl

theorem mapMOut_fields (s : Schema) (fs : List Field) (h : fs.all (wfField s) = true) :
    mapMOut fdToField (fs.map fieldToFD) = .ok fs := by
  apply mapMOut_map_ok
  intro f hf
  have := List.all_eq_true.mp h f hf
  simp only [wfField, wfArgs, Bool.and_eq_true] at this
  exact fdToField_fieldToFD f this.2.1

theorem buildNamedType_typeToPair (s : Schema) (t : TypeDef) (h : wfType s t = true) :
    buildNamedType (typeToPair t).1 (typeToPair t).2 [] = .ok t := by
  cases t with
  | scalar n d u =>
    simp [typeToPair, buildNamedType, specifiedByOf_dirs, extendType, foldSpecifiedBy, descValue_descNode]
  | object n d is fs | interface n d is fs =>
    simp only [wfType, Bool.and_eq_true] at h
    simp [typeToPair, buildNamedType, extendType, Body.fields, Body.interfaces, mapMOut_fields s fs h.2,
      upsertAll_nil_nodup Field.name fs h.1.2, descValue_descNode]
  | union n d ms =>
    simp [typeToPair, buildNamedType, extendType, Body.members, descValue_descNode]
  | enum n d vs =>
    simp only [wfType, Bool.and_eq_true] at h
    simp [typeToPair, buildNamedType, extendType, Body.values,
      mapMOut_map_ok evdToEnumVal enumValToEVD vs (fun v _ => evdToEnumVal_enumValToEVD v),
      upsertAll_nil_nodup EnumVal.name vs h.1.2, descValue_descNode]
  | input n d o fs =>
    simp only [wfType, wfArgs, Bool.and_eq_true] at h
    simp [typeToPair, buildNamedType, extendType, Body.inputFields,
      mapMOut_map_ok ivdToArg argToIVD fs (fun a _ => ivdToArg_argToIVD a),
      upsertAll_nil_nodup Arg.name fs h.2.1, descValue_descNode, isOneOf_dirs]

theorem extendDirective_nil (d : Directive) : extendDirective [] d = .ok d := by
  unfold extendDirective
  cases d with | mk _ _ _ _ _ depr => cases depr <;> rfl

theorem buildDirective_directiveToDef (s : Schema) (d : Directive) (h : wfDirective s d = true) :
    buildDirective [] (directiveToDef d) = .ok d := by
  simp only [wfDirective, wfArgs, Bool.and_eq_true] at h
  simp [directiveToDef, buildDirective, h.2, deprecationOf_deprDirs, buildArgs_map d.args h.1.1.2.1,
    extendDirective_nil, descValue_descNode]

theorem collect_dirs (p : Parts) (ds : List Directive) :
    (ds.map directiveToDef).foldl collectStep p =
      { p with dirDefs := p.dirDefs ++ ds.map directiveToDef } := by
  induction ds generalizing p with
  | nil => simp
  | cons d ds ih => simp [ih, collectStep, directiveToDef]

theorem collect_types (p : Parts) (ts : List TypeDef) :
    (ts.map typeToDef).foldl collectStep p =
      { p with typeDefs := p.typeDefs ++ ts.map typeToPair } := by
  induction ts generalizing p with
  | nil => simp
  | cons t ts ih => simp [ih, collectStep, typeToDef_eq]

/-- What `extend_schema_args` collects from the printed definitions. -/
theorem collect_schemaToDefs (s : Schema) :
    collect (schemaToDefs s) =
      { typeDefs := s.types.map typeToPair
        typeExts := []
        dirDefs := s.directives.map directiveToDef
        dirExts := []
        schemaDef := match schemaDefOf s with
          | [.schemaDef d _ ops] => some (d, ops)
          | _ => none
        schemaExts := [] } := by
  unfold collect schemaToDefs
  rw [List.foldl_append, List.foldl_append, collect_types, collect_dirs]
  unfold schemaDefOf
  split
  · simp
  · split
    · simp
    · simp [collectStep]

theorem filter_nonreserved (s : Schema) (h : s.types.all (wfType s) = true) :
    newTypeDefs (collect (schemaToDefs s)) = s.types.map typeToPair := by
  rw [collect_schemaToDefs]
  unfold newTypeDefs
  apply List.filter_eq_self.mpr
  intro dn hdn
  obtain ⟨t, ht, rfl⟩ := List.mem_map.mp hdn
  rw [typeToPair_name, wfType_not_reserved s t (List.all_eq_true.mp h t ht)]
  rfl

theorem filter_nonspecified (s : Schema) (h : s.directives.all (wfDirective s) = true) :
    (s.directives.map directiveToDef).filter Def.isUserDirectiveDef = s.directives.map directiveToDef := by
  apply List.filter_eq_self.mpr
  intro d hd
  obtain ⟨t, ht, rfl⟩ := List.mem_map.mp hd
  have := List.all_eq_true.mp h t ht
  simp only [wfDirective, Bool.and_eq_true] at this
  exact this.1.1.1.2

theorem mapMOut_types (s : Schema) (h : s.types.all (wfType s) = true) :
    mapMOut (fun (dn : Option DescNode × TypeNode) =>
        buildNamedType dn.1 dn.2 (extsFor dn.2.body.kind dn.2.name [])) (s.types.map typeToPair) = .ok s.types := by
  apply mapMOut_map_ok
  intro t ht
  simp only [extsFor, List.filter_nil]
  exact buildNamedType_typeToPair s t (List.all_eq_true.mp h t ht)

theorem mapMOut_directives (s : Schema) (h : s.directives.all (wfDirective s) = true) :
    mapMOut (buildDirective []) (s.directives.map directiveToDef) = .ok s.directives := by
  apply mapMOut_map_ok
  intro d hd
  exact buildDirective_directiveToDef s d (List.all_eq_true.mp h d hd)

end Gql.Types
