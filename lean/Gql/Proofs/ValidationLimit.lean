import Gql.Validation.Framework
/-!
Lemmas for C12-4 (`limit_prefix`): the sink of `validate(max_errors = max)` as a function `Sink.cut max` of the
errors the run has to hand to `on_error`.  `report`, `reportAll` and the member loop extend the argument
(`Sink.cut_report`, `Sink.cut_reportAll`, `memberLoop_cut`); once aborted the sink takes nothing more
(`Sink.cut_aborted`); `Sink.cut_result` reads the returned list off it.  The closed form of the whole run for
every `max` is `par_run_cut` (ValidationParallel).
-/
namespace Gql.Validation
variable {τ σ ε : Type}

/-- The `errors` list of `validate(max_errors = max)` for a run that has `es` to hand to `on_error`: the call with
the (n+1)-th aborts the run, so what comes later in `es` is never handed over. -/
def Sink.cut (max : Option Nat) (es : List ε) : Sink ε :=
  match max with
  | some n => if n < es.length then ⟨es.take n, true⟩ else ⟨es, false⟩
  | none => ⟨es, false⟩

theorem Sink.cut_report (max : Option Nat) (es : List ε) (e : ε) :
    (Sink.cut max es).report max e = Sink.cut max (es ++ [e]) := by
  cases max with
  | none => rfl
  | some n =>
    simp only [Sink.cut, Sink.report, List.length_append, List.length_cons, List.length_nil]
    by_cases h : n < es.length
    · simp [h, Nat.lt_succ_of_lt h, List.take_append_of_le_length (Nat.le_of_lt h)]
    · by_cases h' : n ≤ es.length
      · have : es.length = n := by omega
        simp [← this]
      · simp [h, h']; omega

theorem Sink.cut_reportAll (max : Option Nat) (es es' : List ε) :
    (Sink.cut max es).reportAll max es' = Sink.cut max (es ++ es') := by
  induction es' generalizing es with
  | nil => simp [Sink.reportAll]
  | cons e es' ih =>
    rw [Sink.reportAll, List.foldl_cons, Sink.cut_report, ← Sink.reportAll, ih]; simp

/-- once aborted, nothing is stored any more -/
theorem Sink.cut_aborted {max : Option Nat} {es : List ε} (h : (Sink.cut max es).aborted = true) (es' : List ε) :
    Sink.cut max (es ++ es') = Sink.cut max es := by
  cases max with
  | none => cases h
  | some n =>
    have hn : n < es.length := by
      simp only [Sink.cut] at h; split at h
      · assumption
      · cases h
    simp [Sink.cut, hn, Nat.lt_add_right _ hn, List.take_append_of_le_length (Nat.le_of_lt hn)]

theorem memberLoop_cut (max : Option Nat) (f : Member τ σ ε → Member τ σ ε × List ε) (ms : List (Member τ σ ε))
    (es : List ε) :
    (memberLoop max f ms (Sink.cut max es)).2 = Sink.cut max (es ++ ms.flatMap (fun m => (f m).2)) ∧
    ((Sink.cut max (es ++ ms.flatMap (fun m => (f m).2))).aborted = false →
      (memberLoop max f ms (Sink.cut max es)).1 = ms.map (fun m => (f m).1)) := by
  induction ms generalizing es with
  | nil => simp [memberLoop]
  | cons m ms ih =>
    rw [memberLoop, List.flatMap_cons, ← List.append_assoc]
    by_cases h : (Sink.cut max es).aborted = true
    · rw [if_pos h, Sink.cut_aborted (Sink.cut_aborted h _ ▸ h), Sink.cut_aborted h]
      exact ⟨rfl, fun h' => by simp [h] at h'⟩
    · rw [if_neg h]; dsimp only; rw [Sink.cut_reportAll]
      exact ⟨(ih _).1, fun h' => by simp [(ih _).2 h']⟩

theorem Sink.cut_nil (max : Option Nat) : Sink.cut max ([] : List ε) = ⟨[], false⟩ := by
  cases max <;> rfl

theorem Sink.cut_result (n : Nat) (es : List ε) :
    (Sink.cut (some n) es).result =
      if n < (Sink.cut none es).result.length then (Sink.cut none es).result.take n ++ [Reported.aborted]
      else (Sink.cut none es).result := by
  simp only [Sink.cut, Sink.result, Bool.false_eq_true, if_false, List.length_map]
  split <;> simp [List.map_take]

theorem par_hEnter_eq (m1 m2 : Option Nat) (ps : PState τ σ ε) (k : String) :
    (parallel m1).hEnter ps k = (parallel m2).hEnter ps k := rfl
theorem par_hLeave_eq (m1 m2 : Option Nat) (ps : PState τ σ ε) (k : String) :
    (parallel m1).hLeave ps k = (parallel m2).hLeave ps k := rfl

end Gql.Validation
