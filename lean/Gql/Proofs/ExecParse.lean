import Gql.Proofs.ValueParse
import Gql.Proofs.ExecDefs3
/-!
The parser model on the tokens of the parts of a definition: names joined by a delimiter, arguments, directives,
fields, fragment spreads, inline fragments and selection sets; descriptions, default values and variable definitions.
-/
namespace Gql.Syntax
open Gql Gql.Text

section
variable (cfg : Cfg) (hm : cfg.maxTokens = none)
include hm

/-- `optional_many(open, item, close)`: absent when there is no item and no `open` follows. -/
theorem Parses.optMany {β : Type} {item : P Ast} {close : TokKind} {nx : KV → Prop} {ast : β → Ast}
    {kvs : β → List KV} {n : Nat} (o : TokKind) (ho : o ≠ .eof) (hce : close ≠ .eof) (xs : List β)
    (hx : Items item (close, none) nx ast kvs n xs) :
    Parses n (parseOptionalMany cfg n o item close) (Exec.bracketKvs o close (xs.flatMap kvs) xs.isEmpty)
      (if xs = [] then none else some (xs.map ast)) (fun k => xs = [] → k.1 ≠ o) := by
  cases xs with
  | nil =>
    rw [parseOptionalMany]
    exact Parses.optTok_no cfg o (by simpa [Exec.bracketKvs] using Parses.pure none _) (fun d hd => hd rfl)
  | cons x rest =>
    have e : Exec.bracketKvs o close ((x :: rest).flatMap kvs) (x :: rest).isEmpty =
        (o, none) :: (kvs x ++ (rest.flatMap kvs ++ [(close, none)])) := by simp [Exec.bracketKvs]
    rw [parseOptionalMany, if_neg (List.cons_ne_nil x rest), e]
    refine Parses.optTok_yes cfg hm o none ho ?_
    simp only [↓reduceIte]
    exact Parses.bind (hx.parses x (by simp)) (Parses.map (Parses.untilCloseN cfg hm hce rest hx.tail _ [ast x]) some)
      (fun d _ => hx.tail.next d)

omit hm in
theorem delimKvs_length (d : TokKind) (ns : List (List Nat)) : ns.length ≤ (Exec.delimKvs d ns).length := by
  induction ns with
  | nil => simp
  | cons a r ih =>
    cases r with
    | nil => simp [Exec.delimKvs]
    | cons b r' => simp [Exec.delimKvs] at ih ⊢; omega

/-- `delimited_many(delim, item)` on names separated by `delim`; `item` reads one NAME token. -/
theorem Parses.delimMany {n : Nat} (delim : TokKind) (hd : delim ≠ .eof) (hdn : delim ≠ .name) (item : P Ast)
    (f : List Nat → Ast) (ns : List (List Nat)) (hne : ns ≠ [])
    (hp : ∀ nm ∈ ns, Parses n item [(.name, some nm)] (f nm) anyKV) :
    Parses n (parseDelimitedMany cfg n delim item) (Exec.delimKvs delim ns) (ns.map f) (fun k => k.1 ≠ delim) := by
  have loop : ∀ (ns : List (List Nat)), ns ≠ [] → (∀ nm ∈ ns, Parses n item [(.name, some nm)] (f nm) anyKV) →
      ∀ (m : Nat) (acc : List Ast), ns.length ≤ m →
      Parses n (delimitedLoop cfg delim item m acc) (Exec.delimKvs delim ns) (acc ++ ns.map f)
        (fun k => k.1 ≠ delim) := by
    intro ns
    induction ns with
    | nil => intro h; exact absurd rfl h
    | cons a rest ih =>
      intro _ hp m acc hmm
      obtain ⟨m, rfl⟩ : ∃ m', m = m' + 1 := ⟨m - 1, by simp at hmm; omega⟩
      rw [delimitedLoop]
      cases rest with
      | nil =>
        refine Parses.bind_nil (hp a (by simp)) ?_ (fun _ _ => trivial)
        exact Parses.optTok_no cfg delim (by simpa using Parses.pure _ _) (fun d hd => hd)
      | cons b rest' =>
        have ih' := ih (by simp) (fun nm hnm => hp nm (by simp at hnm ⊢; exact Or.inr hnm)) m (acc ++ [f a])
          (by simp at hmm ⊢; omega)
        rw [Exec.delimKvs]
        refine Parses.bind (ka := [(.name, some a)]) (hp a (by simp)) ?_ (fun _ _ => trivial)
        refine Parses.optTok_yes cfg hm delim none hd ?_
        simpa using ih'
  rw [parseDelimitedMany]
  refine Parses.of_lt fun hn => Parses.optTok_no cfg delim
    (by simpa using loop ns hne hp n [] (Nat.le_of_lt (Nat.lt_of_le_of_lt (delimKvs_length delim ns) hn))) (fun d _ => ?_)
  obtain ⟨a, rest, rfl⟩ := List.exists_cons_of_ne_nil hne
  cases rest <;> simpa [Exec.delimKvs] using fun h => hdn h.symm

end

theorem optL_map_opt {α : Type} (f : α → Ast) (xs : List α) :
    optListO (if xs = [] then none else some (xs.map f)) = optL (xs.map f) := by
  cases xs <;> simp [optListO, optL]

theorem dirsAst_opt (ds : List Dir) :
    optListO (if ds = [] then none else some (ds.map Exec.dirAst)) = Exec.dirsAst ds :=
  optL_map_opt Exec.dirAst ds

theorem wfFields_mem {c : Bool} {args : Args} (h : Val.wfFields c args) : ∀ a ∈ args, Val.wf c a.2 :=
  forall_mem_of_rec (Val.wfFields c) _ (fun _ _ h => h.2) args h

theorem argsKvs_headD (args : Args) (d : KV) : (Exec.argsKvs args).headD d = if args = [] then d else (.parenL, none) := by
  cases args <;> rfl

theorem dirsKvs_headD (ds : List Dir) (d : KV) : (Exec.dirsKvs ds).headD d = if ds = [] then d else (.at, none) := by
  cases ds <;> rfl

theorem ssKvsOpt_headD (ss : List Sel) (d : KV) : (ssKvsOpt ss).headD d = if ss = [] then d else (.braceL, none) := by
  cases ss <;> rfl

theorem bracketKvs_headD (o c : TokKind) (inner : List KV) (e : Bool) (d : KV) :
    (Exec.bracketKvs o c inner e).headD d = if e then d else (o, none) := by
  cases e <;> rfl

theorem argsKvs_eq (args : Args) :
    Exec.argsKvs args = Exec.bracketKvs .parenL .parenR (args.flatMap argKvs) args.isEmpty := by
  cases args <;> simp [Exec.argsKvs, Exec.bracketKvs, kvsFields_eq]

theorem dirsKvs_length_le (ds : List Dir) : ds.length ≤ (Exec.dirsKvs ds).length := by
  rw [dirsKvs_eq]
  exact length_le_flatMap _ _ fun d _ => by simp [Exec.dirKvs]

section
variable (cfg : Cfg) (hm : cfg.maxTokens = none)
include hm

theorem parses_value {n : Nat} (c : Bool) (v : Val) (hv : Val.wf c v) (ok : KV → Prop) :
    Parses n (valueLit n cfg c) v.kvs v.toAst ok :=
  parses_valueP cfg hm c n v (Val.wfP_of_wf c v hv) ok

theorem parses_type {n : Nat} (t : Ty) (hwf : t.wf = true) (hsh : TyP.shaped t = true) :
    Parses n (typeRef n cfg) t.kvs t.toAst (fun k => k.1 ≠ .bang) :=
  (TyP.parses_typeRef cfg hm t hwf hsh).1 n _ (fun _ _ h => h)

theorem parses_argument {n : Nat} (c : Bool) (a : List Nat × Val) (hv : Val.wf c a.2) (ok : KV → Prop) :
    Parses n (parseArgument cfg n "ArgumentNode" c) (argKvs a) (argAst a) ok := by
  rw [parseArgument]
  exact Parses.result (mk_arg _ _) (Parses.name cfg hm a.1 (Parses.tok cfg hm .colon none (by decide) fun _ _ =>
    Parses.map (parses_value cfg hm c a.2 hv ok) _))

theorem parses_arguments {n : Nat} (c : Bool) (args : Args) (h : Exec.argsWfC c args) :
    Parses n (parseArguments cfg n c) (Exec.argsKvs args) (if args = [] then none else some (args.map argAst))
      (fun k => args = [] → k.1 ≠ .parenL) := by
  rw [argsKvs_eq]
  exact Parses.optMany cfg hm .parenL (by decide) (by decide) args
    ⟨trivial, fun a ha => parses_argument cfg hm c a (wfFields_mem h a ha) anyKV,
      fun a _ => ⟨_, _, rfl, trivial, by simp⟩⟩

theorem parses_directive {n : Nat} (c : Bool) (d : Dir) (h : Exec.dirWfC c d) :
    Parses n (parseDirective cfg n c) (Exec.dirKvs d) (Exec.dirAst d) (fun k => d.args = [] → k.1 ≠ .parenL) := by
  rw [parseDirective, Exec.dirKvs]
  exact Parses.result (by rw [mk_dir, optL_map_opt, ← argsAst_eq]; rfl)
    (Parses.tok cfg hm .at none (by decide) fun _ _ => Parses.name cfg hm d.name
      (Parses.map (parses_arguments cfg hm c d.args h.2) _))

theorem parses_dirsLoop {n : Nat} (c : Bool) (ds : List Dir) (h : Exec.dirsWfC c ds) :
    ∀ (k : Nat) (acc : List Ast), ds.length < k →
    Parses n (directivesLoop cfg n c k acc) (Exec.dirsKvs ds) (acc ++ ds.map Exec.dirAst)
      (fun k => k.1 ≠ .at ∧ k.1 ≠ .parenL) := by
  induction ds with
  | nil =>
    intro k acc hk
    obtain ⟨k, rfl⟩ : ∃ k', k = k' + 1 := ⟨k - 1, by simp at hk; omega⟩
    rw [directivesLoop]
    exact Parses.peek .at false (fun d hd => by simpa [Exec.dirsKvs] using hd.1)
      (by simpa [Exec.dirsKvs] using Parses.pure acc _)
  | cons d rest ih =>
    intro k acc hk
    obtain ⟨k, rfl⟩ : ∃ k', k = k' + 1 := ⟨k - 1, by simp at hk; omega⟩
    rw [directivesLoop, Exec.dirsKvs]
    refine Parses.peek .at true (fun _ _ => by simp [Exec.dirKvs]) ?_
    simp only [↓reduceIte]
    refine Parses.result (by simp) (Parses.bind (parses_directive cfg hm c d h.1)
      (ih h.2 k (acc ++ [Exec.dirAst d]) (by simp at hk; omega)) (fun x hx _ => ?_))
    rw [dirsKvs_headD]
    exact ite_kind_ne hx.2

theorem parses_dirs {n : Nat} (c : Bool) (ds : List Dir) (h : Exec.dirsWfC c ds) :
    Parses n (parseDirectives cfg n c) (Exec.dirsKvs ds) (if ds = [] then none else some (ds.map Exec.dirAst))
      (fun k => k.1 ≠ .at ∧ k.1 ≠ .parenL) := by
  rw [parseDirectives]
  exact Parses.of_lt fun hn => Parses.result (by cases ds <;> simp)
    (Parses.map (parses_dirsLoop cfg hm c ds h n [] (by have := dirsKvs_length_le ds; omega)) _)

theorem parseDirectives_ok (ds : List Dir) (h : Exec.dirsWf ds) (n : Nat) (toks : List Token) (r : Stream)
    (cnt : Nat) (hn : (Exec.dirsKvs ds).length < n) (hkv : toks.map Token.kv = Exec.dirsKvs ds)
    (hne : NonEof toks) (hr : r.Ready) (hat : headKind r ≠ .at) (hpar : headKind r ≠ .parenL) :
    ∃ c', (do let directives ← parseDirectives cfg n false
              pure (optListO directives) : P Ast) (PSat cnt (feed toks r)) = .ok (Exec.dirsAst ds, PSat c' r) :=
  Parses.result (dirsAst_opt ds) (Parses.map (parses_dirs cfg hm false ds h) optListO) hn toks r cnt hkv hne hr
    ⟨headKind_eq r ▸ hat, headKind_eq r ▸ hpar⟩

end

/-- What may follow a selection inside a selection set. -/
def SelNext (r : Stream) : Prop := headKind r = .name ∨ headKind r = .spread ∨ headKind r = .braceR

/-- `SelNext`, of the kind and value of the next token. -/
abbrev selNextKV : KV → Prop := NextIn [.name, .spread, .braceR]

/-- The kind of the first token of a kv list, `d` if it is empty. -/
def firstK (ks : List KV) (d : TokKind) : TokKind :=
  match ks with
  | [] => d
  | k :: _ => k.1

theorem firstK_ss (ss : List Sel) (d : TokKind) : firstK (Exec.ssKvs ss) d = .braceL := rfl

theorem ssAst_eq (ss : List Sel) :
    (match ss with
      | [] => Ast.none
      | s :: r => Ast.node "SelectionSetNode" [("selections", Ast.list (Exec.selsAst (s :: r)))]) =
    if ss = [] then Ast.none else Exec.ssAst ss := by
  cases ss <;> simp [Exec.ssAst]

theorem selKvs_head (s : Sel) : ∃ k ks, Exec.selKvs s = k :: ks ∧ selNextKV k ∧ k.1 ≠ .braceR := by
  cases s with
  | field al n args ds ss =>
    rw [selKvs_field]
    by_cases ha : al.isEmpty <;> simp [ha, NextIn]
  | spread n ds => simp [Exec.selKvs, NextIn]
  | inline tc ds ss => simp [selKvs_inline, NextIn]

section
variable (cfg : Cfg) (hm : cfg.maxTokens = none)
include hm

theorem parses_namedType {n : Nat} (nm : List Nat) (ok : KV → Prop) :
    Parses n (parseNamedType cfg) [(.name, some nm)] (namedType nm) ok := by
  rw [parseNamedType]
  exact Parses.result (mk_namedType _) (Parses.name cfg hm nm (Parses.pure _ ok))

theorem parses_fragmentName {n : Nat} (nm : List Nat) (hon : nm ≠ S "on") :
    Parses n (parseFragmentName cfg) [(.name, some nm)] (Val.nameNode nm) anyKV := by
  rw [parseFragmentName]
  refine Parses.cur fun t ⟨_, _, ht⟩ => ?_
  rw [valueIs_false (tok_of_kv ht).2 "on" hon]
  exact Parses.name_only cfg hm nm _

omit hm in
theorem parses_optSS {n : Nat} {β : Type} {g : Ast → P β} {b : β} {ok : KV → Prop} (ssP : P Ast) (ss : List Sel)
    (hSS : ss ≠ [] → Parses n ssP (Exec.ssKvs ss) (Exec.ssAst ss) ok)
    (hg : Parses n (g (if ss = [] then .none else Exec.ssAst ss)) [] b ok) (hno : ∀ d, ok d → d.1 ≠ .braceL) :
    Parses n (peek .braceL >>= fun hasSel => (if hasSel then ssP else pure .none) >>= g) (ssKvsOpt ss) b ok := by
  cases ss with
  | nil =>
    refine Parses.peek .braceL false (fun d hd => by simpa [ssKvsOpt] using hno d hd) ?_
    simp only [Bool.false_eq_true, ↓reduceIte]
    exact Parses.pure_bind hg
  | cons s r =>
    refine Parses.peek .braceL true (fun _ _ => rfl) ?_
    simp only [↓reduceIte]
    exact Parses.bind_nil (hSS (by simp)) hg fun _ h => h

/-- `parse_field`, given what the nested selection-set parser does on this field's selection set. -/
theorem parses_field {n : Nat} (ssP : P Ast) (al nm : List Nat) (args : Args) (ds : List Dir) (ss : List Sel)
    (hargs : Exec.argsWf args) (hds : Exec.dirsWf ds)
    (hSS : ss ≠ [] → Parses n ssP (Exec.ssKvs ss) (Exec.ssAst ss) selNextKV) :
    Parses n (parseField cfg n ssP) (Exec.selKvs (.field al nm args ds ss)) (Exec.selAst (.field al nm args ds ss))
      selNextKV := by
  rw [selKvs_field, List.append_assoc, selAst_field, parseField]
  -- the method from `parse_arguments` on, for any alias and name node
  have tail : ∀ A N : Ast, Parses n
      (parseArguments cfg n false >>= fun as => parseDirectives cfg n false >>= fun directives =>
        peek .braceL >>= fun hasSel => (if hasSel then ssP else pure .none) >>= fun sel =>
          pure (mkNode "FieldNode" [("alias", A), ("name", N), ("arguments", optListO as),
            ("directives", optListO directives), ("selection_set", sel)]))
      (Exec.argsKvs args ++ (Exec.dirsKvs ds ++ ssKvsOpt ss))
      (.node "FieldNode" [("directives", Exec.dirsAst ds), ("name", N), ("alias", A),
        ("arguments", optL (Exec.argsAst args)), ("selection_set", if ss = [] then Ast.none else Exec.ssAst ss)])
      selNextKV := by
    intro A N
    refine Parses.result ?_ (Parses.bind (parses_arguments cfg hm false args hargs)
      (Parses.bind (parses_dirs cfg hm false ds hds)
        (parses_optSS ssP ss hSS (Parses.pure _ _) fun d hd => hd.ne .braceL) fun d hd => ?_) fun d hd _ => ?_)
    · rw [mk_fieldNode, dirsAst_opt, optL_map_opt, ← argsAst_eq]
    · rw [ssKvsOpt_headD]
      exact ⟨ite_kind_ne (hd.ne .at), ite_kind_ne (hd.ne .parenL)⟩
    · rw [headD_append, dirsKvs_headD, ssKvsOpt_headD]
      exact ite_kind_ne (ite_kind_ne (hd.ne .parenL))
  have hcolon : ∀ d, selNextKV d → ((Exec.argsKvs args ++ (Exec.dirsKvs ds ++ ssKvsOpt ss)).headD d).1 ≠ .colon := by
    intro d hd
    rw [headD_append, headD_append, argsKvs_headD, dirsKvs_headD, ssKvsOpt_headD]
    exact ite_kind_ne (ite_kind_ne (ite_kind_ne (hd.ne .colon)))
  by_cases ha : al = []
  · subst ha
    refine Parses.result rfl (Parses.name cfg hm nm (Parses.optTok_no cfg .colon ?_ hcolon))
    simp only [Bool.false_eq_true, ↓reduceIte]
    exact Parses.pure_bind (tail _ _)
  · have hale : al.isEmpty = false := by cases al <;> simp_all
    simp only [hale, Bool.false_eq_true, ↓reduceIte, List.cons_append, List.nil_append]
    rw [show optName al = Val.nameNode al by simp [optName, hale]]
    refine Parses.name cfg hm al (Parses.optTok_yes cfg hm .colon none (by decide) ?_)
    simp only [↓reduceIte]
    exact Parses.name cfg hm nm (tail _ _)

theorem parses_spread {n : Nat} (ssP : P Ast) (nm : List Nat) (ds : List Dir) (hon : nm ≠ S "on")
    (hds : Exec.dirsWf ds) :
    Parses n (parseFragment cfg n ssP) (Exec.selKvs (.spread nm ds)) (Exec.selAst (.spread nm ds)) selNextKV := by
  have e : Exec.selKvs (.spread nm ds) = (.spread, none) :: ([(.name, some nm)] ++ Exec.dirsKvs ds) := by
    simp [Exec.selKvs]
  rw [e, parseFragment]
  refine Parses.tok cfg hm .spread none (by decide) fun _ _ => Parses.optKw_no cfg "on" ?_
    (fun _ _ => by simpa using hon)
  refine Parses.peek .name true (fun _ _ => rfl) ?_
  simp only [Bool.not_false, Bool.and_self, ↓reduceIte]
  refine Parses.bind (parses_fragmentName cfg hm nm hon) ?_ fun _ _ => trivial
  refine Parses.peek .parenL false (fun d hd => ?_) ?_
  · rw [dirsKvs_headD]
    simpa using ite_kind_ne (hd.ne .parenL)
  · simp only [Bool.false_and, Bool.false_eq_true, ↓reduceIte]
    exact Parses.result (by rw [mk_spreadNode, dirsAst_opt]; rfl)
      ((Parses.map (parses_dirs cfg hm false ds hds) _).mono fun d hd => ⟨hd.ne .at, hd.ne .parenL⟩)

theorem parses_inline {n : Nat} (ssP : P Ast) (tc : List Nat) (ds : List Dir) (ss : List Sel)
    (hds : Exec.dirsWf ds) (hSS : Parses n ssP (Exec.ssKvs ss) (Exec.ssAst ss) selNextKV) :
    Parses n (parseFragment cfg n ssP) (Exec.selKvs (.inline tc ds ss)) (Exec.selAst (.inline tc ds ss)) selNextKV := by
  rw [selKvs_inline, selAst_inline, parseFragment]
  -- the method from `parse_directives` on, for any type condition node
  have tail : ∀ T : Ast, Parses n
      (parseDirectives cfg n false >>= fun directives => ssP >>= fun sel =>
        pure (mkNode "InlineFragmentNode" [("type_condition", T), ("directives", optListO directives),
          ("selection_set", sel)]))
      (Exec.dirsKvs ds ++ Exec.ssKvs ss)
      (.node "InlineFragmentNode" [("directives", Exec.dirsAst ds), ("selection_set", Exec.ssAst ss),
        ("type_condition", T)]) selNextKV := by
    intro T
    exact Parses.result (by rw [mk_inlineNode, dirsAst_opt])
      (Parses.bind (parses_dirs cfg hm false ds hds) (Parses.map hSS _)
        fun _ _ => ⟨by simp [Exec.ssKvs], by simp [Exec.ssKvs]⟩)
  refine Parses.tok cfg hm .spread none (by decide) fun _ _ => ?_
  by_cases htc : tc = []
  · subst htc
    simp only [List.isEmpty_nil, ↓reduceIte, List.nil_append]
    have hk : ∀ d : KV, ((Exec.dirsKvs ds ++ Exec.ssKvs ss).headD d).1 ≠ .name := by
      intro d
      rw [headD_append, dirsKvs_headD]
      split <;> simp [Exec.ssKvs]
    refine Parses.optKw_no cfg "on" ?_ (fun d _ h => hk d (by rw [h]))
    refine Parses.peek .name false (fun d _ => by simpa using hk d) ?_
    simp only [Bool.not_false, Bool.and_false, Bool.false_eq_true, ↓reduceIte]
    exact Parses.pure_bind (tail _)
  · have htce : tc.isEmpty = false := by cases tc <;> simp_all
    simp only [htce, Bool.false_eq_true, ↓reduceIte, List.cons_append, List.nil_append]
    refine Parses.optKw_yes cfg hm "on" ?_
    refine Parses.peek .name true (fun _ _ => rfl) ?_
    simp only [Bool.not_true, Bool.false_and, Bool.false_eq_true, ↓reduceIte]
    exact Parses.bind1 (parses_namedType cfg hm tc anyKV) (tail _)

/-- `parse_selection_set`, given `parse_selection` on each of its selections. -/
theorem parses_ss (n : Nat) (ss : List Sel) (hne : ss ≠ [])
    (hp : ∀ s ∈ ss, Parses n (parseSelection cfg n (selectionSet n cfg)) (Exec.selKvs s) (Exec.selAst s) selNextKV)
    (ok : KV → Prop) : Parses (n + 1) (selectionSet (n + 1) cfg) (Exec.ssKvs ss) (Exec.ssAst ss) ok := by
  rw [selectionSet, Exec.ssKvs, Exec.ssAst, selsKvs_eq, selsAst_eq]
  exact Parses.result (mk_ssNode _) (Parses.map (Parses.many cfg hm .braceL (by decide) (by decide) ss hne
    ⟨by decide, hp, fun s _ => selKvs_head s⟩ ok) _)

mutual
  theorem parses_sel (s : Sel) (h : Exec.selWf s) (n : Nat) :
      Parses n (parseSelection cfg n (selectionSet n cfg)) (Exec.selKvs s) (Exec.selAst s) selNextKV := by
    refine Parses.of_lt fun hn => ?_
    obtain ⟨n, rfl⟩ : ∃ n', n = n' + 1 := ⟨n - 1, by omega⟩
    rw [parseSelection]
    match s, h with
    | .field al nm args ds ss, h =>
      unfold Exec.selWf at h
      refine Parses.peek .spread false (fun d _ => ?_) ?_
      · rw [selKvs_field]
        by_cases ha : al.isEmpty <;> simp [ha]
      · simp only [Bool.false_eq_true, ↓reduceIte]
        exact parses_field cfg hm _ al nm args ds ss h.2.2.1 h.2.2.2.1 fun hne =>
          parses_ss cfg hm n ss hne (parses_sels ss h.2.2.2.2 n) selNextKV
    | .spread nm ds, h =>
      unfold Exec.selWf at h
      refine Parses.peek .spread true (fun _ _ => by simp [Exec.selKvs]) ?_
      simp only [↓reduceIte]
      exact parses_spread cfg hm _ nm ds h.2.1 h.2.2
    | .inline tc ds ss, h =>
      unfold Exec.selWf at h
      refine Parses.peek .spread true (fun _ _ => by simp [selKvs_inline]) ?_
      simp only [↓reduceIte]
      exact parses_inline cfg hm _ tc ds ss h.2.1 (parses_ss cfg hm n ss h.2.2.1 (parses_sels ss h.2.2.2 n) selNextKV)
  theorem parses_sels (ss : List Sel) (h : Exec.selsWf ss) (n : Nat) : ∀ s ∈ ss,
      Parses n (parseSelection cfg n (selectionSet n cfg)) (Exec.selKvs s) (Exec.selAst s) selNextKV := by
    match ss, h with
    | [], _ => intro s hs; cases hs
    | s :: r, h =>
      unfold Exec.selsWf at h
      intro s' hs'
      cases hs' with
      | head => exact parses_sel s h.1 n
      | tail _ hs' => exact parses_sels r h.2 n s' hs'
end

theorem parses_selectionSet {n : Nat} (ss : List Sel) (hne : ss ≠ []) (h : Exec.selsWf ss) (ok : KV → Prop) :
    Parses n (selectionSet n cfg) (Exec.ssKvs ss) (Exec.ssAst ss) ok := by
  refine Parses.of_lt fun hn => ?_
  obtain ⟨n, rfl⟩ : ∃ n', n = n' + 1 := ⟨n - 1, by omega⟩
  exact parses_ss cfg hm n ss hne (parses_sels cfg hm ss h n) ok

theorem parseSel (s : Sel) (h : Exec.selWf s) (n : Nat) (toks : List Token) (r : Stream) (cnt : Nat)
    (hn : (Exec.selKvs s).length < n) (hkv : toks.map Token.kv = Exec.selKvs s) (hne : NonEof toks)
    (hr : r.Ready) (hnext : SelNext r) :
    ∃ c', parseSelection cfg n (selectionSet n cfg) (PSat cnt (feed toks r)) = .ok (Exec.selAst s, PSat c' r) :=
  parses_sel cfg hm s h n hn toks r cnt hkv hne hr (by simpa [SelNext, headKind_eq, NextIn] using hnext)

theorem parseSelsLoop (ss : List Sel) (h : Exec.selsWf ss) (n m : Nat) (toks : List Token) (tR : Token)
    (r : Stream) (cnt : Nat) (acc : List Ast) (hn : (Exec.selsKvs ss).length < n) (hmm : ss.length < m)
    (hkv : toks.map Token.kv = Exec.selsKvs ss) (hne : NonEof toks) (hRk : tR.kind = .braceR) (hr : r.Ready) :
    ∃ c', untilClose cfg .braceR (parseSelection cfg n (selectionSet n cfg)) m acc
        (PSat cnt (feed toks (.cons tR r))) = .ok (acc ++ Exec.selsAst ss, PSat c' r) := by
  rw [selsKvs_eq] at hn hkv
  have := Parses.untilClose cfg hm (by simp) ss (close := (.braceR, tR.value))
    ⟨by simp [NextIn], parses_sels cfg hm ss h n, fun s _ => selKvs_head s⟩ anyKV m acc hmm (by simpa using hn)
    (toks ++ [tR]) r cnt (by simp [hkv, Token.kv, hRk]) (nonEof_snoc hne (by rw [hRk]; decide)) hr trivial
  rw [feed_append] at this
  rwa [selsAst_eq]

end

theorem parseDescription_none (cfg : Cfg) (s : PS) (h1 : s.cur.kind ≠ .string) (h2 : s.cur.kind ≠ .blockString) :
    parseDescription cfg s = .ok (.none, s) := by
  simp [parseDescription, peekDescription, bind_eq, P.cur, pure_eq', h1, h2]

theorem descKvs_headD (d : Desc) (k : KV) :
    (Exec.descKvs d).headD k = k ∨ ((Exec.descKvs d).headD k).1 = .string ∨ ((Exec.descKvs d).headD k).1 = .blockString := by
  match d with
  | none => exact Or.inl rfl
  | some (s, true) => exact Or.inr (Or.inr rfl)
  | some (s, false) => exact Or.inr (Or.inl rfl)

/-- The tokens of an optional default value `= v`. -/
def dfltKvs : Option Val → List KV
  | none => []
  | some v => (.equals, none) :: v.kvs

theorem dfltKvs_headD (dflt : Option Val) (d : KV) :
    (dfltKvs dflt).headD d = if dflt = none then d else (.equals, none) := by
  cases dflt <;> rfl

section
variable (cfg : Cfg) (hm : cfg.maxTokens = none)
include hm

theorem parses_desc {n : Nat} (d : Desc) :
    Parses n (parseDescription cfg) (Exec.descKvs d) (Exec.descAst d)
      (fun k => d = none → k.1 ≠ .string ∧ k.1 ≠ .blockString) := by
  -- `peek_description` reads the kind of the current token and leaves the state as it is
  rw [show parseDescription cfg = P.cur >>= fun t =>
    if (t.kind == .string || t.kind == .blockString) = true then parseStringLiteral cfg else pure .none from rfl]
  refine Parses.cur fun t ⟨k, hk, ht⟩ => ?_
  match d with
  | none =>
    have h : t.kv.1 ≠ .string ∧ t.kv.1 ≠ .blockString := (show t.kv = k from ht) ▸ hk rfl
    rw [if_neg (by simpa [Token.kv] using h)]
    exact Parses.pure _ _
  | some (s, b) =>
    obtain ⟨hk1, hv1⟩ := tok_of_kv (show t.kv = ((if b then .blockString else .string), some s) from ht)
    rw [if_pos (by rw [hk1]; cases b <;> rfl), parseStringLiteral]
    exact Parses.take cfg hm (by cases b <;> decide) _ _ fun t' ht' => by
      cases b <;> simp [mk_str, tokValOrEmpty, (tok_of_kv ht').2, Exec.descAst, (tok_of_kv ht').1]

theorem Parses.desc {n : Nat} {β : Type} {g : Ast → P β} {ks : List KV} {b : β} {ok : KV → Prop} (d : Desc)
    (hg : Parses n (g (Exec.descAst d)) ks b ok)
    (hno : ∀ k, ok k → (ks.headD k).1 ≠ .string ∧ (ks.headD k).1 ≠ .blockString) :
    Parses n (parseDescription cfg >>= g) (Exec.descKvs d ++ ks) b ok :=
  Parses.bind (parses_desc cfg hm d) hg fun k hk _ => hno k hk

theorem Parses.dflt {n : Nat} {β : Type} {g : Ast → P β} {ks : List KV} {b : β} {ok : KV → Prop} (dflt : Option Val)
    (hdf : match dflt with
      | none => True
      | some v => Val.wf true v)
    (hg : Parses n (g (Exec.dfltAst dflt)) ks b ok)
    (hno : ∀ k, ok k → (ks.headD k).1 ≠ .equals) :
    Parses n (expectOptionalToken cfg .equals >>= fun hasDefault =>
      (if hasDefault then valueLit n cfg true else Pure.pure Ast.none) >>= g) (dfltKvs dflt ++ ks) b ok := by
  match dflt, hdf with
  | none, _ =>
    refine Parses.optTok_no cfg .equals ?_ hno
    simp only [Bool.false_eq_true, ↓reduceIte]
    exact Parses.pure_bind hg
  | some v, hv =>
    refine Parses.optTok_yes cfg hm .equals none (by decide) ?_
    simp only [↓reduceIte]
    exact Parses.bind (parses_value cfg hm true v hv anyKV) hg fun _ _ => trivial

end

theorem varDefKvs_eq (vd : VarDef) : Exec.varDefKvs vd = Exec.descKvs vd.desc ++
    ((.dollar, none) :: (.name, some vd.name) :: (.colon, none) :: (vd.ty.kvs ++ (dfltKvs vd.dflt ++ Exec.dirsKvs vd.dirs))) := by
  unfold Exec.varDefKvs dfltKvs
  cases vd.dflt <;> simp

/-- What may follow a variable definition inside `( … )`. -/
abbrev vdNext : KV → Prop := NextIn [.dollar, .string, .blockString, .parenR]

/-- What follows a type inside a variable or input value definition is not `!`, and what follows the
default value is not `=`, provided the token after the definition is neither. -/
theorem dflt_dirs_headD (dflt : Option Val) (ds : List Dir) (k : KV) (h1 : k.1 ≠ .bang) (h2 : k.1 ≠ .equals) :
    ((dfltKvs dflt ++ Exec.dirsKvs ds).headD k).1 ≠ .bang ∧ ((Exec.dirsKvs ds).headD k).1 ≠ .equals := by
  rw [headD_append, dfltKvs_headD, dirsKvs_headD]
  exact ⟨ite_kind_ne (ite_kind_ne h1), ite_kind_ne h2⟩

theorem varDefKvs_head (vd : VarDef) : ∃ k ks, Exec.varDefKvs vd = k :: ks ∧ vdNext k ∧ k.1 ≠ .parenR := by
  rw [varDefKvs_eq]
  match vd.desc with
  | none => exact ⟨_, _, rfl, by decide, by decide⟩
  | some (s, true) => exact ⟨_, _, rfl, by simp [NextIn], by simp⟩
  | some (s, false) => exact ⟨_, _, rfl, by simp [NextIn], by simp⟩

theorem varDefsKvs_eq (vds : List VarDef) :
    Exec.varDefsKvs vds = Exec.bracketKvs .parenL .parenR (vds.flatMap Exec.varDefKvs) vds.isEmpty := by
  cases vds <;> simp [Exec.varDefsKvs, Exec.bracketKvs, kvs_eq_flatMap Exec.varDefsKvsList Exec.varDefKvs rfl fun _ _ => rfl]

section
variable (cfg : Cfg) (hm : cfg.maxTokens = none)
include hm

theorem parses_varDef {n : Nat} (vd : VarDef) (h : Exec.varDefWf vd) :
    Parses n (parseVariableDefinition cfg n) (Exec.varDefKvs vd) (Exec.varDefAst vd) vdNext := by
  obtain ⟨_, _, hty, hsh, hdf, hds⟩ := h
  rw [varDefKvs_eq, parseVariableDefinition]
  have hvar : Parses n (parseVariable cfg) [(.dollar, none), (.name, some vd.name)]
      (.node "VariableNode" [("name", Val.nameNode vd.name)]) anyKV := by
    rw [parseVariable]
    exact Parses.result (mk_var _) (Parses.tok cfg hm .dollar none (by decide) fun _ _ =>
      Parses.name cfg hm vd.name (Parses.pure _ _))
  refine Parses.result ?_ (Parses.desc cfg hm vd.desc (Parses.bind (ka := [(.dollar, none), (.name, some vd.name)]) hvar
    (Parses.tok cfg hm .colon none (by decide) fun _ _ =>
      Parses.bind (parses_type cfg hm vd.ty hty hsh)
        (Parses.dflt cfg hm vd.dflt hdf
          ((Parses.map (parses_dirs cfg hm true vd.dirs hds) _).mono
            fun k (hk : vdNext k) => ⟨hk.ne .at, hk.ne .parenL⟩)
          fun k (hk : vdNext k) => (dflt_dirs_headD vd.dflt vd.dirs k (hk.ne .bang) (hk.ne .equals)).2)
        fun k (hk : vdNext k) => (dflt_dirs_headD vd.dflt vd.dirs k (hk.ne .bang) (hk.ne .equals)).1)
    fun _ _ => trivial) fun _ _ => ⟨by simp, by simp⟩)
  rw [mk_varDefNode, dirsAst_opt]; rfl

theorem parses_varDefs {n : Nat} (vds : List VarDef) (h : Exec.varDefsWf vds) :
    Parses n (parseVariableDefinitions cfg n) (Exec.varDefsKvs vds)
      (if vds = [] then none else some (vds.map Exec.varDefAst)) (fun k => vds = [] → k.1 ≠ .parenL) := by
  rw [varDefsKvs_eq]
  exact Parses.optMany cfg hm .parenL (by decide) (by decide) vds
    ⟨by decide, fun vd hvd => parses_varDef cfg hm vd (Exec.varDefsWf_mem h vd hvd),
      fun vd _ => varDefKvs_head vd⟩

end

theorem opTypes_any (t : Token) (ot : List Nat) (hv : t.value = some ot) (h : Exec.isOpType ot) :
    Generated.ParserTables.operationTypes.any (fun o => valueIs t o) = true := by
  rcases h with rfl | rfl | rfl <;>
    simp [Generated.ParserTables.operationTypes, (valueIs_iff hv _)]

theorem parses_operationType {n : Nat} (cfg : Cfg) (hm : cfg.maxTokens = none) (ot : List Nat) (h : Exec.isOpType ot) :
    Parses n (parseOperationType cfg) [(.name, some ot)] (.str ot) anyKV := by
  rw [parseOperationType]
  refine Parses.tok cfg hm .name (some ot) (by decide) fun t ht => ?_
  rw [opTypes_any t ot (tok_of_kv ht).2 h, if_pos rfl, tokVal, (tok_of_kv ht).2]
  exact Parses.pure _ _

end Gql.Syntax
