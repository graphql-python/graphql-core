import Gql.Proofs.Collect
import Gql.Proofs.Plan
import Gql.Proofs.Cut
/-!
The bridge between `collect_fields`, `build_execution_plan` and the cut model, for one object:
the grouped field set collected with live defer usages is split by the plan into the part executed
with the enclosing piece and the deferred parts; read as a `Cut.obj` (`cutOfPlan`) this is a
well-formed cut whose reference object has exactly the response keys that the non-incremental
collection has, each once.
-/
namespace Gql.Async

open Plan Collect

/-- the collected grouped field set as the plan's input -/
def toPlan (g : List (Nat × List FD)) : GroupedFieldSet Nat :=
  g.map (fun e => (e.1, e.2.map (fun fd => ({ node := fd.node, deferUsage := fd.du } : FieldDetails))))

theorem toPlan_keys (g : List (Nat × List FD)) : (toPlan g).map Prod.fst = g.map Prod.fst := by
  simp [toPlan, List.map_map, Function.comp_def]

/-- response key number `k` as a JSON key -/
def keyOf (k : Nat) : List Nat := [k]

def cutFields (sub : Nat → Cut) (part : GroupedFieldSet Nat) : List (List Nat × Cut) :=
  part.map (fun e => (keyOf e.1, sub e.1))

/-- One object as a cut: the planned grouped field set is delivered with the enclosing piece, each
new grouped field set by its own deferred piece; `sub k` is (the cut of) the value of key `k`. -/
def cutOfPlan (sub : Nat → Cut) (plan : ExecutionPlan Nat) : Cut :=
  .obj (cutFields sub plan.groupedFieldSet)
    (plan.newGroupedFieldSets.map (fun sg => cutFields sub sg.2))

theorem cutFields_keys (sub : Nat → Cut) (part : GroupedFieldSet Nat) :
    (cutFields sub part).map Prod.fst = (part.map Prod.fst).map keyOf := by
  simp [cutFields, List.map_map, Function.comp_def]

theorem cutOfPlan_ref_keys (sub : Nat → Cut) (plan : ExecutionPlan Nat) :
    (refFields (cutFields sub plan.groupedFieldSet) ++
      refGroups (plan.newGroupedFieldSets.map (fun sg => cutFields sub sg.2))).map Prod.fst =
    (((parts plan).flatten).map Prod.fst).map keyOf := by
  simp only [List.map_append, keys_refFields, keys_refGroups, cutFields_keys, parts,
    List.flatten_cons, List.map_map]
  simp [cutFields_keys, Function.comp_def, List.map_flatten]

theorem keyOf_injective : Function.Injective keyOf := fun a b h => by simpa [keyOf] using h

/-- **Bridge.**  Collect with live defer usages, plan, read the plan as a cut of this object:
the cut is well formed, its pieces reassemble to its reference, and the reference object has
exactly the response keys of the non-incremental collection, each exactly once. -/
theorem collect_plan_cut (table : Nat → List Sel) (base base' : Nat) (sels : List Sel)
    (hc : Consistent table sels) (ha : Acyclic sels)
    (parentOf : Nat → Option Nat) (fuel : Nat) (parent : DeferUsageSet)
    (sub : Nat → Cut) (hsub : ∀ k, (sub k).wf = true) :
    let plan := buildExecutionPlan parentOf fuel (toPlan (collectFields base sels).grouped) parent
    let c := cutOfPlan sub plan
    c.wf = true ∧ foldPieces c.initial c.pieces = .ok c.ref ∧
    ∃ kvs, c.ref = .obj kvs ∧ (kvs.map Prod.fst).Nodup ∧
      ∀ k, keyOf k ∈ kvs.map Prod.fst ↔
        k ∈ (collectFields base' (stripSels sels)).grouped.map Prod.fst := by
  intro plan c
  have hgood := collectFields_good base sels
  have hnd : ((toPlan (collectFields base sels).grouped).map Prod.fst).Nodup := by
    rw [toPlan_keys]; exact hgood.1
  have hkeysPerm : ((collectFields base sels).grouped.map Prod.fst).Perm
      (((parts plan).flatten).map Prod.fst) := by
    rw [← toPlan_keys]
    simpa [parts] using (build_inv parentOf fuel parent _ hnd).perm.map Prod.fst
  have hrefkeys := cutOfPlan_ref_keys sub plan
  have hndref : ((((parts plan).flatten).map Prod.fst).map keyOf).Nodup :=
    List.Pairwise.map keyOf (fun a b hab he => hab (keyOf_injective he)) (hkeysPerm.nodup_iff.mp hgood.1)
  have hwf : c.wf = true := by
    simp only [c, cutOfPlan, Cut.wf, Bool.and_eq_true, decide_eq_true_eq]
    have hf : ∀ part : GroupedFieldSet Nat, ∀ kc ∈ cutFields sub part, kc.2.wf = true := fun part kc h => by
      obtain ⟨e, _, rfl⟩ := List.mem_map.mp h; exact hsub _
    exact ⟨⟨by rw [hrefkeys]; exact hndref, wfCutFields_of _ (hf _)⟩,
      wfCutGroups_of _ fun g hg => by obtain ⟨sg, _, rfl⟩ := List.mem_map.mp hg; exact hf _⟩
  refine ⟨hwf, cut_reassembles c hwf, _, rfl, by rw [hrefkeys]; exact hndref, fun k => ?_⟩
  rw [hrefkeys, ← collect_same_keys table base base' sels hc ha k, hkeysPerm.mem_iff]
  exact ⟨fun h => by obtain ⟨k', hk', he⟩ := List.mem_map.mp h; exact keyOf_injective he ▸ hk',
    List.mem_map_of_mem⟩

end Gql.Async
