import Gql.Proofs.OverlapFlat
import Gql.Proofs.Util.Unmarked
/-! C14, named fragments: the specification's expansion "including visiting fragments" (depth
first, one shared visited set, fuel = number of fragment definitions + 1) collects exactly the
fields of the selection set itself and of every fragment reachable through spreads. -/
namespace Gql.Exec
open Overlap

/-- fragment `n` is defined and directly spreads `m` -/
def Edge (d : Doc) (n m : String) : Prop :=
  ∃ fr, d.getFragment n = some fr ∧ m ∈ selsDirectSpreads fr.ss.sels

inductive FReach (d : Doc) : String → String → Prop where
  | refl (n : String) : FReach d n n
  | step {n m k : String} : Edge d n m → FReach d m k → FReach d n k

theorem FReach.trans {d : Doc} {a b c : String} (h1 : FReach d a b) (h2 : FReach d b c) :
    FReach d a c := by
  induction h1 with
  | refl _ => exact h2
  | step he _ ih => exact FReach.step he (ih h2)

def fragSet (s : Schema) (d : Doc) (n : String) : Option (Option String × SelSet) :=
  (d.getFragment n).map (fun fr => (s.typeFromAst fr.typeCond, fr.ss))

theorem fragSet_some {s : Schema} {d : Doc} {n : String} {fr : FragDef}
    (h : d.getFragment n = some fr) : fragSet s d n = some (s.typeFromAst fr.typeCond, fr.ss) :=
  congrArg (Option.map _) h

theorem fragSet_none {s : Schema} {d : Doc} {n : String} (h : d.getFragment n = none) :
    fragSet s d n = none := congrArg (Option.map _) h

theorem fragSet_typed {s : Schema} {d : Doc} {n : String} {t : Option String × SelSet}
    (h : fragSet s d n = some t) : t ∈ d.typedSets s := by
  simp only [fragSet, Option.map_eq_some_iff] at h
  obtain ⟨fr, hfr, rfl⟩ := h
  simp only [Doc.typedSets, List.mem_flatMap, List.mem_cons]
  exact ⟨_, Doc.getFragment_defn hfr, Or.inl rfl⟩

/-- `c` is one of the fields of fragment `m` itself -/
def FieldsOfFrag (s : Schema) (d : Doc) (m : String) (c : Spec.FieldInst) : Prop :=
  ∃ t, fragSet s d m = some t ∧ c ∈ selsFlat s t.1 t.2.sels

/-- `c` is a field of the selection set, or of a fragment reachable from one of its spreads -/
def InE (s : Schema) (d : Doc) (p : Option String) (xs : List Sel) (c : Spec.FieldInst) : Prop :=
  c ∈ selsFlat s p xs ∨
    ∃ n ∈ selsDirectSpreads xs, ∃ m, FReach d n m ∧ FieldsOfFrag s d m c

def defNames (d : Doc) : List String := d.frags.map (·.name)

def unvisited (d : Doc) (vis : List String) : Nat :=
  ((defNames d).filter (fun m => !vis.contains m)).length

theorem getFragment_name {d : Doc} {n : String} {fr : FragDef} (h : d.getFragment n = some fr) :
    fr.name = n ∧ n ∈ defNames d := by
  have h1 := List.find?_some h
  have h2 := List.mem_reverse.1 (List.mem_of_find?_eq_some h)
  have e : fr.name = n := by simpa using h1
  exact ⟨e, List.mem_map.2 ⟨fr, h2, e⟩⟩

/-- `r = (fields, visited)` is a correct expansion of a selection with own fields `F` and direct
spreads `D` from the visited set `vis`. -/
structure ExpOK (s : Schema) (d : Doc) (F : List Spec.FieldInst) (D : List String)
    (vis : List String) (r : List Spec.FieldInst × List String) : Prop where
  sub : vis ⊆ r.2
  explored : ∀ m ∈ r.2, m ∉ vis → ∀ k, Edge d m k → k ∈ r.2
  spreads : D ⊆ r.2
  outSub : ∀ c ∈ r.1, c ∈ F ∨ ∃ m ∈ r.2, m ∉ vis ∧ FieldsOfFrag s d m c
  own : ∀ c ∈ F, c ∈ r.1
  newFields : ∀ m ∈ r.2, m ∉ vis → ∀ c, FieldsOfFrag s d m c → c ∈ r.1
  newReach : ∀ m ∈ r.2, m ∉ vis → ∃ n0 ∈ D, FReach d n0 m

theorem ExpOK.seq {s : Schema} {d : Doc} {F1 F2 : List Spec.FieldInst} {D1 D2 : List String}
    {vis : List String} {r1 r2 : List Spec.FieldInst × List String}
    (h1 : ExpOK s d F1 D1 vis r1) (h2 : ExpOK s d F2 D2 r1.2 r2) :
    ExpOK s d (F1 ++ F2) (D1 ++ D2) vis (r1.1 ++ r2.1, r2.2) := by
  refine ⟨fun x hx => h2.sub (h1.sub hx), ?_, ?_, ?_, ?_, ?_, ?_⟩
  · intro m hm hv k hk
    by_cases hm1 : m ∈ r1.2
    · exact h2.sub (h1.explored m hm1 hv k hk)
    · exact h2.explored m hm hm1 k hk
  · intro x hx
    rcases List.mem_append.1 hx with hx | hx
    · exact h2.sub (h1.spreads hx)
    · exact h2.spreads hx
  · intro c hc
    rcases List.mem_append.1 hc with hc | hc
    · rcases h1.outSub c hc with h | ⟨m, hm, hv, hf⟩
      · exact Or.inl (List.mem_append_left _ h)
      · exact Or.inr ⟨m, h2.sub hm, hv, hf⟩
    · rcases h2.outSub c hc with h | ⟨m, hm, hv, hf⟩
      · exact Or.inl (List.mem_append_right _ h)
      · exact Or.inr ⟨m, hm, fun hx => hv (h1.sub hx), hf⟩
  · intro c hc
    rcases List.mem_append.1 hc with hc | hc
    · exact List.mem_append_left _ (h1.own c hc)
    · exact List.mem_append_right _ (h2.own c hc)
  · intro m hm hv c hc
    by_cases hm1 : m ∈ r1.2
    · exact List.mem_append_left _ (h1.newFields m hm1 hv c hc)
    · exact List.mem_append_right _ (h2.newFields m hm hm1 c hc)
  · intro m hm hv
    by_cases hm1 : m ∈ r1.2
    · obtain ⟨n0, h0, hr⟩ := h1.newReach m hm1 hv
      exact ⟨n0, List.mem_append_left _ h0, hr⟩
    · obtain ⟨n0, h0, hr⟩ := h2.newReach m hm hm1
      exact ⟨n0, List.mem_append_right _ h0, hr⟩

theorem ExpOK.triv (s : Schema) (d : Doc) (F : List Spec.FieldInst) (D : List String)
    (vis : List String) (hD : D ⊆ vis) : ExpOK s d F D vis (F, vis) :=
  { sub := fun _ h => h
    explored := fun m hm hv => absurd hm hv
    spreads := hD
    outSub := fun c hc => Or.inl hc
    own := fun c hc => hc
    newFields := fun m hm hv => absurd hm hv
    newReach := fun m hm hv => absurd hm hv }

section rec
variable (s : Schema) (d : Doc) (rec : Spec.Expander) (B : Nat)
  (hrec : ∀ p xs vis, unvisited d vis < B →
    ExpOK s d (selsFlat s p xs) (selsDirectSpreads xs) vis (rec p xs vis))
include hrec

mutual
theorem expandSel_ok : ∀ (x : Sel) (p : Option String) (vis : List String),
    unvisited d vis ≤ B →
      ExpOK s d (x.flat s p) x.directSpreads vis (Spec.expandSel s d rec p x vis)
  | .field id al name args st hasSub subId sub, p, vis, _ => by
    simp only [Spec.expandSel, Sel.flat, Sel.directSpreads]
    exact ExpOK.triv s d _ _ vis (by simp)
  | .inline tc ssId sels, p, vis, hB => by
    cases tc <;> simp only [Spec.expandSel, Sel.flat, Sel.directSpreads] <;>
      exact expandSels_ok sels _ vis hB
  | .spread name, p, vis, hB => by
    simp only [Spec.expandSel, Sel.flat, Sel.directSpreads]
    by_cases hc : vis.contains name = true
    · have hmem : name ∈ vis := by simpa using hc
      simp only [hc, if_true]
      exact ExpOK.triv s d _ _ vis (by simpa using hmem)
    · have hnm : name ∉ vis := by simpa using hc
      simp only [hc, Bool.false_eq_true, if_false]
      cases hg : d.getFragment name with
      | none =>
        simp only
        refine ⟨fun _ h => List.mem_cons_of_mem _ h, ?_, by simp, ?_, ?_, ?_, ?_⟩
        · intro m hm hv k hk
          rcases List.mem_cons.1 hm with rfl | hm
          · obtain ⟨fr, hfr, _⟩ := hk
            rw [hg] at hfr; cases hfr
          · exact absurd hm hv
        · intro c hc; cases hc
        · intro c hc; cases hc
        · intro m hm hv c hcf
          rcases List.mem_cons.1 hm with rfl | hm
          · obtain ⟨t, ht, _⟩ := hcf
            simp [fragSet, hg] at ht
          · exact absurd hm hv
        · intro m hm hv
          rcases List.mem_cons.1 hm with rfl | hm
          · exact ⟨m, by simp, FReach.refl _⟩
          · exact absurd hm hv
      | some fr =>
        simp only
        have hlt : unvisited d (name :: vis) < B :=
          Nat.lt_of_lt_of_le (Unmarked.count_cons_lt (getFragment_name hg).2 hnm) hB
        have R := hrec (s.typeFromAst fr.typeCond) fr.ss.sels (name :: vis) hlt
        have hfs : fragSet s d name = some (s.typeFromAst fr.typeCond, fr.ss) := by
          simp [fragSet, hg]
        refine ⟨fun x hx => R.sub (List.mem_cons_of_mem _ hx), ?_, ?_, ?_, ?_, ?_, ?_⟩
        · intro m hm hv k hk
          by_cases hmn : m = name
          · subst hmn
            obtain ⟨fr', hfr', hk'⟩ := hk
            rw [hg] at hfr'
            cases hfr'
            exact R.spreads hk'
          · exact R.explored m hm (by simp [hmn, hv]) k hk
        · intro x hx
          simp only [List.mem_singleton] at hx
          subst hx
          exact R.sub List.mem_cons_self
        · intro c hc
          rcases R.outSub c hc with h | ⟨m, hm, hv, hf⟩
          · exact Or.inr ⟨name, R.sub List.mem_cons_self, hnm, _, hfs, h⟩
          · exact Or.inr ⟨m, hm, fun hx => hv (List.mem_cons_of_mem _ hx), hf⟩
        · intro c hc; cases hc
        · intro m hm hv c hcf
          by_cases hmn : m = name
          · subst hmn
            obtain ⟨t, ht, hct⟩ := hcf
            rw [hfs] at ht
            cases ht
            exact R.own c hct
          · exact R.newFields m hm (by simp [hmn, hv]) c hcf
        · intro m hm hv
          by_cases hmn : m = name
          · subst hmn
            exact ⟨m, by simp, FReach.refl _⟩
          · obtain ⟨n0, h0, hr⟩ := R.newReach m hm (by simp [hmn, hv])
            exact ⟨name, by simp, FReach.step ⟨fr, hg, h0⟩ hr⟩
theorem expandSels_ok : ∀ (xs : List Sel) (p : Option String) (vis : List String),
    unvisited d vis ≤ B →
      ExpOK s d (selsFlat s p xs) (selsDirectSpreads xs) vis (Spec.expandSels s d rec p xs vis)
  | [], p, vis, _ => by
    simp only [Spec.expandSels, selsFlat, selsDirectSpreads]
    exact ExpOK.triv s d _ _ vis (by simp)
  | x :: xs, p, vis, hB => by
    simp only [Spec.expandSels, selsFlat, selsDirectSpreads]
    have h1 := expandSel_ok x p vis hB
    have h2 := expandSels_ok xs p (Spec.expandSel s d rec p x vis).2
      (Nat.le_trans (Unmarked.count_mono _ fun _ hx => h1.sub hx) hB)
    exact h1.seq h2
end
end rec

theorem expandLvl_ok (s : Schema) (d : Doc) : ∀ (n : Nat) (p : Option String) (xs : List Sel)
    (vis : List String), unvisited d vis < n →
      ExpOK s d (selsFlat s p xs) (selsDirectSpreads xs) vis (Spec.expandLvl s d n p xs vis) := by
  intro n
  induction n with
  | zero => intro p xs vis h; omega
  | succ n ih =>
    intro p xs vis h
    simp only [Spec.expandLvl]
    exact expandSels_ok s d _ n ih xs p vis (by omega)

theorem expandWith_ok (s : Schema) (d : Doc) (p : Option String) (xs : List Sel)
    (vis : List String) :
    ExpOK s d (selsFlat s p xs) (selsDirectSpreads xs) vis (Spec.expandWith s d p xs vis) :=
  expandLvl_ok s d _ p xs vis (Nat.lt_succ_of_le
    (Nat.le_trans (Unmarked.count_le _ vis) (by simp [defNames])))

def ClosedVis (d : Doc) (vis : List String) : Prop := ∀ m ∈ vis, ∀ k, Edge d m k → k ∈ vis

theorem ClosedVis.nil (d : Doc) : ClosedVis d [] := fun _ hm => by cases hm

theorem ClosedVis.reach {d : Doc} {vis : List String} (h : ClosedVis d vis) {n m : String}
    (hn : n ∈ vis) (hr : FReach d n m) : m ∈ vis := by
  induction hr with
  | refl _ => exact hn
  | step he _ ih => exact ih (h _ hn _ he)

theorem ExpOK.closed {s : Schema} {d : Doc} {F : List Spec.FieldInst} {D vis : List String}
    {r : List Spec.FieldInst × List String} (h : ExpOK s d F D vis r) (hv : ClosedVis d vis) :
    ClosedVis d r.2 := by
  intro m hm k hk
  by_cases hmv : m ∈ vis
  · exact h.sub (hv m hmv k hk)
  · exact h.explored m hm hmv k hk

/-- what `ExpOK` says of the fields when the visited set one starts from is closed under spreads -/
theorem expandWith_mem (s : Schema) (d : Doc) (p : Option String) (xs : List Sel)
    {vis : List String} (hv : ClosedVis d vis) (c : Spec.FieldInst) :
    c ∈ (Spec.expandWith s d p xs vis).1 ↔ c ∈ selsFlat s p xs ∨
      ∃ n ∈ selsDirectSpreads xs, ∃ m, FReach d n m ∧ m ∉ vis ∧ FieldsOfFrag s d m c := by
  have R := expandWith_ok s d p xs vis
  constructor
  · intro h
    rcases R.outSub c h with h | ⟨m, hm, hm', hf⟩
    · exact Or.inl h
    · obtain ⟨n0, h0, hr⟩ := R.newReach m hm hm'
      exact Or.inr ⟨n0, h0, m, hr, hm', hf⟩
  · rintro (h | ⟨n0, h0, m, hr, hm', hf⟩)
    · exact R.own c h
    · exact R.newFields m ((R.closed hv).reach (R.spreads h0) hr) hm' c hf

theorem expand_mem (s : Schema) (d : Doc) (p : Option String) (xs : List Sel)
    (c : Spec.FieldInst) : c ∈ (Spec.expandWith s d p xs []).1 ↔ InE s d p xs c := by
  simp only [expandWith_mem s d p xs (.nil d) c, InE, List.not_mem_nil, not_false_eq_true, true_and]

/-- the selections of a field's sub-selection set (none if it has none) -/
def subSels (a : Spec.FieldInst) : List Sel := if a.node.hasSub = true then a.node.sub else []

/-- a field of the merged sub-selections of `a` and `b`, fragments visited -/
def MIn (s : Schema) (d : Doc) (a b c : Spec.FieldInst) : Prop :=
  InE s d (subP s a) (subSels a) c ∨ InE s d (subP s b) (subSels b) c

theorem merged_mem (s : Schema) (d : Doc) (a b c : Spec.FieldInst) :
    c ∈ Spec.mergedFields s d a b ↔ MIn s d a b c := by
  have RA := expandWith_ok s d (subP s a) (subSels a) []
  rw [Spec.mergedFields, List.mem_append]
  refine (or_congr (expand_mem s d (subP s a) (subSels a) c)
    (expandWith_mem s d (subP s b) (subSels b) (RA.closed (.nil d)) c)).trans ?_
  constructor
  · rintro (h | h | ⟨n0, h0, m, hr, _, hf⟩)
    · exact Or.inl h
    · exact Or.inr (Or.inl h)
    · exact Or.inr (Or.inr ⟨n0, h0, m, hr, hf⟩)
  · rintro (h | h | ⟨n0, h0, m, hr, hf⟩)
    · exact Or.inl h
    · exact Or.inr (Or.inl h)
    · -- a fragment already visited for `a` has its fields among those of `a`
      by_cases hmA : m ∈ (Spec.expandWith s d (subP s a) (subSels a) []).2
      · exact Or.inl ((expand_mem s d _ _ c).1 (RA.newFields m hmA (by simp) c hf))
      · exact Or.inr (Or.inr ⟨n0, h0, m, hr, hmA, hf⟩)

end Gql.Exec
