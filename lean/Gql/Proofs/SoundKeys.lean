import Gql.Proofs.SoundPlain

/-!
C13 — a simple, statically checkable sufficient condition for `MergeOk`: throughout the operation
and the fragment definitions, a response key always selects the same field name.
-/

namespace Gql.Exec.Valid
open Gql.Exec Gql.Exec.Refine

mutual
/-- (response key, field name) of every field selection, at every depth -/
def pairsSel : Selection → List (Name × Name)
  | .field alias name _ _ sels => ((match alias with | some a => a | none => name), name) :: pairsSels sels
  | .inline _ _ sels => pairsSels sels
  | .spread _ _ => []
def pairsSels : List Selection → List (Name × Name)
  | [] => []
  | sel :: rest => pairsSel sel ++ pairsSels rest
end

def allPairs (doc : Doc) (op : Operation) : List (Name × Name) :=
  pairsSels op.sels ++ doc.frags.flatMap (fun fr => pairsSels fr.sels)

/-- a response key determines the field name, everywhere in the operation and the fragments -/
def keyNamesConsistent (doc : Doc) (op : Operation) : Bool :=
  (allPairs doc op).all (fun p => (allPairs doc op).all (fun q => p.1 != q.1 || p.2 == q.2))

theorem pairsSels_append (a b : List Selection) : pairsSels (a ++ b) = pairsSels a ++ pairsSels b := by
  induction a with
  | nil => simp [pairsSels]
  | cons h t ih => simp [pairsSels, ih]

/-- the fields of the groups come from the document: their (key, name) and those of their
sub-selections are among `P`, and they sit under their own response key -/
def FromDoc (P : List (Name × Name)) (gs : Spec.Groups) : Prop :=
  ∀ p ∈ gs, ∀ f ∈ p.2, p.1 = f.key ∧ (f.key, f.name) ∈ P ∧ ∀ q ∈ pairsSels f.sels, q ∈ P

theorem FromDoc.appendGroups {P : List (Name × Name)} {gs : Spec.Groups} (h : FromDoc P gs)
    (k : Name) (fs : List FieldNode)
    (hf : ∀ f ∈ fs, k = f.key ∧ (f.key, f.name) ∈ P ∧ ∀ q ∈ pairsSels f.sels, q ∈ P) :
    FromDoc P (Spec.appendGroup gs k fs) :=
  AllK.appendGroups (R := fun k f => k = f.key ∧ (f.key, f.name) ∈ P ∧ ∀ q ∈ pairsSels f.sels, q ∈ P)
    h k fs hf

theorem FromDoc.mergeGroups {P : List (Name × Name)} {gs fg : Spec.Groups} (h : FromDoc P gs)
    (hf : FromDoc P fg) : FromDoc P (Spec.mergeGroups gs fg) :=
  AllK.mergeGroups (R := fun k f => k = f.key ∧ (f.key, f.name) ∈ P ∧ ∀ q ∈ pairsSels f.sels, q ∈ P)
    h hf

def FromDocOut (P : List (Name × Name)) : Out ErrKind (Spec.Groups × List Name) → Prop
  | .ok (gs, _) => FromDoc P gs
  | _ => True

theorem fromDocOut_iff {P : List (Name × Name)} {x : Out ErrKind (Spec.Groups × List Name)} :
    FromDocOut P x ↔ OutI (FromDoc P) True x := by
  cases x with
  | ok r => exact Iff.rfl
  | err e => exact Iff.rfl
  | crash c => exact Iff.rfl

variable (cx : Spec.Ctx) (rt : Name) (P : List (Name × Name))
variable (hfrags : ∀ n fr, cx.doc.frag n = some fr → ∀ q ∈ pairsSels fr.sels, q ∈ P)

include hfrags in
theorem fromDocInv : CollectInv cx rt (fun sels => ∀ q ∈ pairsSels sels, q ∈ P) (FromDoc P) True where
  nil := fun _ hp => nomatch hp
  merge := FromDoc.mergeGroups
  dirs := fun _ _ => trivial
  tail := fun hp q hq => hp q (by simp [pairsSels, hq])
  inline := fun hp _ q hq => hp q (by simp [pairsSels, pairsSel, hq])
  spread := fun _ hf _ => hfrags _ _ hf
  field := by
    rintro alias name args dirs sels rest acc hp hacc
    refine hacc.appendGroups _ _ fun f hf => ?_
    rw [List.mem_singleton] at hf
    subst hf
    refine ⟨rfl, hp _ ?_, fun q hq => hp q ?_⟩
    · cases alias <;> simp [pairsSels, pairsSel, FieldNode.key]
    · simp [pairsSels, pairsSel, hq]

variable (srecur : List Selection → List Name → Out ErrKind (Spec.Groups × List Name))
variable (hrec : ∀ sels vis, (∀ q ∈ pairsSels sels, q ∈ P) → FromDocOut P (srecur sels vis))

include hfrags hrec in
theorem collectOne_fromDoc : (sel : Selection) → ∀ (acc : Spec.Groups) (vis : List Name),
    (∀ q ∈ pairsSel sel, q ∈ P) → FromDoc P acc →
    FromDocOut P (Spec.collectOne cx rt srecur sel acc vis) :=
  fun sel acc vis hp hacc =>
    fromDocOut_iff.2 <| collectOne_inv (fromDocInv cx rt P hfrags) srecur
      (fun sels vis h => fromDocOut_iff.1 (hrec sels vis h)) sel [] acc vis
      (by simpa [pairsSels] using hp) hacc

include hfrags in
theorem collectFields_fromDoc (sels : List Selection) (hp : ∀ q ∈ pairsSels sels, q ∈ P)
    (gs : Spec.Groups) (h : Spec.collectFields cx rt sels = .ok gs) : FromDoc P gs := by
  simpa [h] using collectFields_inv (fromDocInv cx rt P hfrags) hp

end Gql.Exec.Valid

namespace Gql.Exec.Valid
open Gql.Exec

theorem frag_pairs_mem (doc : Doc) (op : Operation) (n : Name) (fr : FragDef)
    (h : doc.frag n = some fr) : ∀ q ∈ pairsSels fr.sels, q ∈ allPairs doc op := fun q hq =>
  List.mem_append.2 (.inr (List.mem_flatMap.2 ⟨fr, (Refine.frag_mem h).1, hq⟩))

theorem pairsSels_merge {fs : List FieldNode} {q : Name × Name}
    (h : q ∈ pairsSels (Spec.mergeSelectionSets fs)) : ∃ f ∈ fs, q ∈ pairsSels f.sels := by
  unfold Spec.mergeSelectionSets at h
  induction fs with
  | nil => simp [pairsSels] at h
  | cons f rest ih =>
    simp only [List.flatMap_cons, pairsSels_append, List.mem_append] at h
    rcases h with h | h
    · exact ⟨f, List.mem_cons_self .., h⟩
    · obtain ⟨f', hf', hq⟩ := ih h
      exact ⟨f', List.mem_cons_of_mem _ hf', hq⟩

/-- **A checkable instance of the merge hypothesis**: if a response key always selects the same
field name throughout the operation and the fragment definitions, `MergeOk` holds. -/
theorem mergeOk_of_keyNames (cx : Spec.Ctx) (op : Operation)
    (h : keyNamesConsistent cx.doc op = true) : MergeOk cx op := by
  have hfr := fun n fr hf => frag_pairs_mem cx.doc op n fr hf
  have hreach : ∀ rt sels, ReachSel cx op rt sels → ∀ q ∈ pairsSels sels, q ∈ allPairs cx.doc op := by
    intro rt sels hr
    induction hr with
    | root _ => intro q hq; simp [allPairs, hq]
    | @step rt0 sels0 groups k fs rt' _ hcol hmem _ ih =>
      have hfd := collectFields_fromDoc cx rt0 (allPairs cx.doc op) hfr sels0 ih groups hcol
      intro q hq
      obtain ⟨f, hf, hqf⟩ := pairsSels_merge hq
      exact (hfd (k, fs) hmem f hf).2.2 q hqf
  intro rt sels hr gs hcol
  have hfd := collectFields_fromDoc cx rt (allPairs cx.doc op) hfr sels (hreach rt sels hr) gs hcol
  intro p hp f hf f' hf'
  obtain ⟨hk, hm, _⟩ := hfd p hp f hf
  obtain ⟨hk', hm', _⟩ := hfd p hp f' hf'
  unfold keyNamesConsistent at h
  simp only [List.all_eq_true, Bool.or_eq_true, bne_iff_ne, ne_eq, beq_iff_eq] at h
  rcases h _ hm _ hm' with hne | heq
  · exact absurd (hk.symm.trans hk') hne
  · exact heq

end Gql.Exec.Valid
