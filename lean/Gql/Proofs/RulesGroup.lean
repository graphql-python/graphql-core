import Gql.Validation.Rules
/-!
C12 — `group_by` in closed form (`groupBy_eq`); "report every group with more than one node" reports nothing iff the
keys are pairwise distinct.
-/
namespace Gql.Validation.Rules

/-- one round of `group_by`: `result[key].append(item)` -/
def gstep (acc : List (String × List Nat)) (kv : String × Nat) : List (String × List Nat) :=
  if acc.any (fun g => g.1 == kv.1) then acc.map (fun g => if g.1 == kv.1 then (g.1, g.2 ++ [kv.2]) else g)
  else acc ++ [(kv.1, [kv.2])]

/-- `group_by` in closed form: the keys in order of first occurrence, each with the items filed under it -/
def groups (items : List (String × Nat)) : List (String × List Nat) :=
  (items.map Prod.fst).eraseDups.map fun k => (k, (items.filter (·.1 == k)).map Prod.snd)

theorem groups_snoc (pre : List (String × Nat)) (kv : String × Nat) :
    gstep (groups pre) kv = groups (pre ++ [kv]) := by
  have hk : ∀ k, ((pre ++ [kv]).filter (·.1 == k)).map Prod.snd =
      (pre.filter (·.1 == k)).map Prod.snd ++ if kv.1 == k then [kv.2] else [] := by
    intro k; by_cases h : kv.1 == k <;> simp [List.filter_append, h]
  unfold gstep groups
  simp only [List.map_append, List.eraseDups_append, List.map_cons, List.map_nil, hk]
  by_cases hm : kv.1 ∈ pre.map Prod.fst
  · -- the key has its group, which takes the item
    have hany : ∃ k ∈ pre.map Prod.fst, k = kv.1 := ⟨_, hm, rfl⟩
    simp only [List.any_map, List.any_eq_true, List.mem_eraseDups, Function.comp_def, beq_iff_eq, hany, if_true,
      List.removeAll, List.elem_eq_mem, hm, decide_true, Bool.not_true, List.filter_cons, Bool.false_eq_true, if_false,
      List.filter_nil, List.eraseDups_nil, List.map_nil, List.append_nil, List.map_map]
    refine List.map_congr_left fun k _ => ?_
    by_cases h : k = kv.1 <;> simp [h, eq_comm]
  · -- a new key: nothing was filed under it, and no group of an earlier key changes
    have hany : ¬ ∃ k ∈ pre.map Prod.fst, k = kv.1 := fun ⟨_, h, e⟩ => hm (e ▸ h)
    have hnil : pre.filter (·.1 == kv.1) = [] :=
      List.filter_eq_nil_iff.mpr fun x hx e => hm (List.mem_map.mpr ⟨x, hx, eq_of_beq e⟩)
    simp only [List.any_map, List.any_eq_true, List.mem_eraseDups, Function.comp_def, beq_iff_eq, hany, if_false,
      List.removeAll, List.elem_eq_mem, hm, decide_false, Bool.not_false, List.filter_cons, if_true,
      List.filter_nil, List.eraseDups_cons, List.eraseDups_nil, List.map_cons, List.map_nil, hnil, List.nil_append]
    congr 1
    refine List.map_congr_left fun k hk => ?_
    have : kv.1 ≠ k := fun e => hm (e ▸ List.mem_eraseDups.mp hk)
    simp [this]

theorem groupBy_eq (items : List (String × Nat)) : groupBy items = groups items := by
  have h : ∀ rest pre, rest.foldl gstep (groups pre) = groups (pre ++ rest) := by
    intro rest
    induction rest with
    | nil => intro pre; rw [List.foldl_nil, List.append_nil]
    | cons kv rest ih => intro pre; rw [List.foldl_cons, groups_snoc, ih, List.append_assoc]; rfl
  exact h items []

theorem dupErrors_nil_iff (rule : String) (items : List (String × Nat)) :
    dupErrors rule items = [] ↔ (items.map Prod.fst).Nodup := by
  have hc : ∀ k, (items.map Prod.fst).count k = ((items.filter (·.1 == k)).map Prod.snd).length := by
    intro k; simp [List.count_eq_length_filter, List.filter_map, Function.comp_def]
  simp only [dupErrors, groupBy_eq, groups, List.filterMap_eq_nil_iff, List.forall_mem_map, List.mem_eraseDups,
    List.nodup_iff_count, ← hc, gt_iff_lt, ite_eq_right_iff, reduceCtorEq, imp_false, Nat.not_lt]
  refine ⟨fun h k => ?_, fun h j _ => h j.1⟩
  by_cases hk : k ∈ items.map Prod.fst
  · obtain ⟨j, hj, rfl⟩ := List.mem_map.mp hk
    exact h j hj
  · simp only [List.count_eq_zero_of_not_mem hk, Nat.zero_le]

end Gql.Validation.Rules
