import Gql.Proofs.CoerceLiteral
/-!
`get_variable_values` returns errors, or a value for every provided / defaulted variable (C15).
-/
namespace Gql.Values
open Gql

/-- what the parser and `UniqueInputFieldNamesRule` guarantee about a default value literal -/
def VarDef.DefaultOK (d : VarDef) : Prop := ∀ dl, d.default = some dl → dl.isConst = true ∧ dl.Unique

def InputsWF (inputs : List (List Nat × PyVal)) : Prop := ∀ k v, (k, v) ∈ inputs → v.WF

def keys (kvs : List (List Nat × PyVal)) : List (List Nat) := kvs.map (·.1)

theorem dictGet_of_key {kvs : List (List Nat × PyVal)} {k : List Nat} (h : k ∈ keys kvs) :
    ∃ v, PyVal.dictGet kvs k = some v :=
  Option.ne_none_iff_exists'.mp fun hn => List.lookup_eq_none_iff_not_mem.mp (dictGet_eq .. ▸ hn) h

section
variable (c : PyConv) (D : Field → R) (tm : TypeMap)

/-- One variable never raises, and a state without errors afterwards says all the loop needs: there was
no error before, no coerced value was lost, and a provided or defaulted variable got its value.  Stated
under `st'.errors = []` because every branch that reports an error then has nothing to show. -/
theorem coerceVariable_step (hW : TmWF D tm) (inputs : List (List Nat × PyVal)) (hin : InputsWF inputs)
    (d : VarDef) (hd : d.DefaultOK) (st : VarState) :
    ∃ st', coerceVariable c D tm inputs d st = .ok st' ∧
      (st'.errors = [] → st.errors = [] ∧ st.coerced <+: st'.coerced ∧
        ((dictGetDefined inputs d.name ≠ none ∨ d.default ≠ none) → d.name ∈ keys st'.coerced)) := by
  unfold coerceVariable
  cases d.type with
  | none => exact ⟨_, rfl, fun h => by simp at h⟩
  | some t =>
    simp only
    cases hg : dictGetDefined inputs d.name with
    | none =>
      simp only
      cases hdl : d.default with
      | some dl =>
        obtain ⟨hc, hu⟩ := hd dl hdl
        obtain ⟨cv, hcv, _⟩ := coerce_validate_literal_full c D tm hW none dl t [] (fun _ => hc) hu
          (VarOK_of_not_var (asVar_none_of_const hc))
        simp only [useVarDefault]
        rw [hcv]
        split
        · refine ⟨_, rfl, fun h => ?_⟩
          have := List.map_eq_nil_iff.1 (List.append_eq_nil_iff.1 h).2
          split at this
          · cases this
          · exact absurd (List.isEmpty_iff.2 this) ‹_›
        · exact ⟨_, rfl, fun h => ⟨h, List.prefix_append .., fun _ => by simp [keys]⟩⟩
        all_goals (rename_i heq; cases heq)
      | none =>
        simp only
        split
        · exact ⟨_, rfl, fun h => ⟨h, List.prefix_rfl, by simp⟩⟩
        · exact ⟨_, rfl, fun h => ⟨(List.append_eq_nil_iff.1 h).1, List.prefix_rfl, by simp⟩⟩
    | some value' =>
      obtain ⟨cv, hcv, hiff⟩ := coerce_validate_value_full c D tm hW value' t []
        (hin d.name value' (dictGetDefined_mem hg).1)
      simp only
      rw [hcv]
      split
      · rename_i heq
        cases Out.ok.inj heq
        exact ⟨_, rfl, fun h => absurd (List.map_eq_nil_iff.1 (List.append_eq_nil_iff.1 h).2) fun h => hiff.1 h rfl⟩
      · exact ⟨_, rfl, fun h => ⟨h, List.prefix_append .., fun _ => by simp [keys]⟩⟩
      all_goals (rename_i heq; cases heq)

theorem coerceVariables_total (hW : TmWF D tm) (inputs : List (List Nat × PyVal)) (hin : InputsWF inputs)
    (defs : List VarDef) (hd : ∀ d ∈ defs, d.DefaultOK) (st : VarState) :
    ∃ st', coerceVariables c D tm inputs defs st = .ok st' ∧
      (st'.errors = [] → st.errors = [] ∧ st.coerced <+: st'.coerced ∧
        ∀ d ∈ defs, (dictGetDefined inputs d.name ≠ none ∨ d.default ≠ none) → d.name ∈ keys st'.coerced) := by
  induction defs generalizing st with
  | nil => exact ⟨st, rfl, fun h => ⟨h, List.prefix_rfl, nofun⟩⟩
  | cons d ds ih =>
    obtain ⟨st1, h1, p1⟩ := coerceVariable_step c D tm hW inputs hin d (hd d (by simp)) st
    obtain ⟨st2, h2, p2⟩ := ih (fun d' hd' => hd d' (by simp [hd'])) st1
    refine ⟨st2, by simp [coerceVariables, h1, h2], fun he => ?_⟩
    obtain ⟨e1, k2, a2⟩ := p2 he
    obtain ⟨e0, k1, a1⟩ := p1 e1
    exact ⟨e0, k1.trans k2, List.forall_mem_cons.2 ⟨fun hp => (k2.map _).subset (a1 hp), a2⟩⟩

/-- `get_variable_values` never raises and returns a non-empty error list, or variable values
containing every variable that was provided or has a default. -/
theorem getVariableValues_total (hW : TmWF D tm) (defs : List VarDef) (inputs : List (List Nat × PyVal))
    (hin : InputsWF inputs) (hd : ∀ d ∈ defs, d.DefaultOK) :
    (∃ errs, getVariableValues c D tm defs inputs = .ok (.inl errs) ∧ errs ≠ []) ∨
    (∃ vv, getVariableValues c D tm defs inputs = .ok (.inr vv) ∧
      ∀ d ∈ defs, (dictGetDefined inputs d.name ≠ none ∨ d.default ≠ none) →
        ∃ cv, PyVal.dictGet vv.coerced d.name = some cv) := by
  obtain ⟨st, hst, hp⟩ := coerceVariables_total c D tm hW inputs hin defs hd {}
  unfold getVariableValues
  rw [hst]
  cases he : st.errors with
  | nil => exact .inr ⟨⟨st.sources, st.coerced⟩, by simp [he], fun d hd' hprov => dictGet_of_key ((hp he).2.2 d hd' hprov)⟩
  | cons e es => exact .inl ⟨st.errors, by simp [he], by simp [he]⟩

end
end Gql.Values
