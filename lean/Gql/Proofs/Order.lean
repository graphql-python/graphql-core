import Gql.Proofs.Assemble
/-!
Order independence of assembling, for arbitrarily many entries.

`SameValue a b` — "the same JSON value when objects are read as unordered maps" — is stated
extensionally: every path resolves in `a` iff it resolves in `b`, to a value of the same kind
(same scalar, object, or list of the same length); `sameValue_iff` reads it one level at a time
(`SameChild`).

The argument (`runD_perm`): the head `e` of one order is moved to the front of the other (`bubble`),
one neighbour `x` at a time.  `x; e` becomes `e; x` by `stepD_swap` (a `Commutes SameValue` whatever
the two targets have to do with each other: apart, the same, one below the other), the rest of the
run follows by congruence (`runD_congr`), and `e` is applicable that early by `stepD_between`: it
is applicable at the start and where the given run applies it, and a run only ever adds (`Le`).
-/
namespace Gql.Async

inductive Tag where
  | null | bool (b : Bool) | int (i : Int) | str (s : List Nat) | obj | arr (n : Nat)
  deriving DecidableEq, Repr

def tag : J → Tag
  | .null => .null
  | .bool b => .bool b
  | .int i => .int i
  | .str s => .str s
  | .obj _ => .obj
  | .arr xs => .arr xs.length

/-- what a path denotes in a value -/
def den : Path → J → Option Tag
  | [], j => some (tag j)
  | .key k :: q, .obj kvs =>
    match lookup k kvs with
    | some c => den q c
    | none => none
  | .idx i :: q, .arr xs =>
    match xs[i]? with
    | some c => den q c
    | none => none
  | _ :: _, _ => none

def SameValue (a b : J) : Prop := ∀ q, den q a = den q b

theorem SameValue.refl (a : J) : SameValue a a := fun _ => rfl
theorem SameValue.symm {a b : J} (h : SameValue a b) : SameValue b a := fun q => (h q).symm
theorem SameValue.trans {a b c : J} (h1 : SameValue a b) (h2 : SameValue b c) : SameValue a c :=
  fun q => (h1 q).trans (h2 q)

theorem den_cons (seg : Seg) (q : Path) (j : J) :
    den (seg :: q) j = (childAt seg j).bind (den q) := by
  cases seg <;> cases j <;> simp only [den, childAt, Option.bind_none]
  all_goals split <;> simp [*]

/-- two optional children: both absent, or both present and the same value -/
def SameChild (x y : Option J) : Prop :=
  (x = none ∧ y = none) ∨ ∃ c c', x = some c ∧ y = some c' ∧ SameValue c c'

theorem SameChild.refl : ∀ x : Option J, SameChild x x
  | none => .inl ⟨rfl, rfl⟩
  | some v => .inr ⟨v, v, rfl, rfl, .refl v⟩

theorem SameChild.or {x y x' y' : Option J} (h : SameChild x y) (h' : SameChild x' y') :
    SameChild (x.or x') (y.or y') := by
  rcases h with ⟨rfl, rfl⟩ | ⟨c, c', rfl, rfl, hs⟩
  · simpa using h'
  · exact .inr ⟨c, c', rfl, rfl, hs⟩

theorem sameValue_iff (a b : J) :
    SameValue a b ↔ tag a = tag b ∧ ∀ seg, SameChild (childAt seg a) (childAt seg b) := by
  constructor
  · intro h
    refine ⟨by simpa [den] using h [], fun seg => ?_⟩
    have hs : ∀ q, (childAt seg a).bind (den q) = (childAt seg b).bind (den q) := fun q => by
      rw [← den_cons, ← den_cons]
      exact h _
    cases ha : childAt seg a <;> cases hb : childAt seg b <;>
      simp only [ha, hb, Option.bind_none, Option.bind_some] at hs
    · exact .inl ⟨rfl, rfl⟩
    · cases hs []
    · cases hs []
    · exact .inr ⟨_, _, rfl, rfl, hs⟩
  · rintro ⟨ht, hc⟩ q
    cases q with
    | nil => simp [den, ht]
    | cons seg q =>
      rcases hc seg with ⟨ha, hb⟩ | ⟨c, c', ha, hb, hs⟩
      · simp [den_cons, ha, hb]
      · simp [den_cons, ha, hb, hs q]

theorem tag_setChild (seg : Seg) (c j : J) : tag (setChild seg c j) = tag j := by
  cases seg <;> cases j <;> simp [setChild, tag]

theorem sameValue_setChild {a b c c' ca cb : J} {seg : Seg} (hab : SameValue a b)
    (ha : childAt seg a = some ca) (hb : childAt seg b = some cb) (hc : SameValue c c') :
    SameValue (setChild seg c a) (setChild seg c' b) := by
  rw [sameValue_iff] at hab ⊢
  refine ⟨by rw [tag_setChild, tag_setChild]; exact hab.1, ?_⟩
  intro seg'
  by_cases hs : seg = seg'
  · subst hs
    exact Or.inr ⟨c, c', childAt_setChild ha, childAt_setChild hb, hc⟩
  · rw [childAt_setChild_ne a c hs, childAt_setChild_ne b c' hs]
    exact hab.2 seg'

theorem act_respects (a : Act) {t u t' : J} (htu : SameValue t u) (h : a.fn t = .ok t') :
    ∃ u', a.fn u = .ok u' ∧ SameValue t' u' := by
  have hiff := (sameValue_iff _ _).mp htu
  cases a with
  | merge add =>
    obtain ⟨kvs, rfl, rfl, hfresh, hnd⟩ := mergeInto_eq_ok.mp h
    cases u <;> cases hiff.1
    rename_i kvs'
    have hfresh' : ∀ kv ∈ add, lookup kv.1 kvs' = none := by
      intro kv hkv
      rcases hiff.2 (.key kv.1) with ⟨_, hb⟩ | ⟨c, c', ha, _, _⟩
      · exact hb
      · simp [childAt, hfresh kv hkv] at ha
    refine ⟨.obj (kvs' ++ add), mergeInto_eq_ok.mpr ⟨_, rfl, rfl, hfresh', hnd⟩, ?_⟩
    rw [sameValue_iff]
    refine ⟨rfl, fun seg => ?_⟩
    cases seg with
    | idx i => exact .inl ⟨rfl, rfl⟩
    | key k =>
      simp only [childAt, lookup_append]
      exact (hiff.2 (.key k)).or (.refl _)
  | append items =>
    obtain ⟨xs, rfl, rfl⟩ := appendInto_eq_ok.mp h
    have hlen := hiff.1
    cases u <;> simp only [tag, reduceCtorEq, Tag.arr.injEq] at hlen
    rename_i ys
    refine ⟨.arr (ys ++ items), rfl, ?_⟩
    rw [sameValue_iff]
    refine ⟨by simp [tag, hlen], fun seg => ?_⟩
    cases seg with
    | key k => exact .inl ⟨rfl, rfl⟩
    | idx i =>
      simp only [childAt, List.getElem?_append, hlen]
      split
      · exact hiff.2 (.idx i)
      · exact .refl _

theorem updateAt_congr (a : Act) :
    ∀ (p : Path) (t u t' : J), SameValue t u → updateAt a.fn p t = .ok t' →
      ∃ u', updateAt a.fn p u = .ok u' ∧ SameValue t' u'
  | [], _, _, _, htu, h => act_respects a htu h
  | seg :: p, t, u, t', htu, h => by
    obtain ⟨c, c2, hl, hu, rfl⟩ := updateAt_cons_child h
    rcases ((sameValue_iff t u).mp htu).2 seg with ⟨hn, _⟩ | ⟨c0, c', ha, hb, hs⟩
    · rw [hl] at hn; cases hn
    · rw [hl] at ha; cases ha
      obtain ⟨c2', hu', hs2⟩ := updateAt_congr a p c c' c2 hs hu
      exact ⟨setChild seg c2' u, updateAt_cons_intro hb hu', sameValue_setChild htu hl hb hs2⟩

theorem apply_congr {st st' s : State} {e : IncE} (hd : SameValue st.data st'.data)
    (hp : st'.pending = st.pending) (h : apply st e = .ok s) :
    ∃ s', apply st' e = .ok s' ∧ SameValue s.data s'.data ∧ s'.pending = s.pending := by
  obtain ⟨p, f, d, ha, hu, rfl⟩ := apply_eq_ok.mp h
  obtain ⟨a, _, rfl⟩ := action_some ha
  obtain ⟨d', hu', hs⟩ := updateAt_congr a p st.data st'.data d hd hu
  exact ⟨_, apply_eq_ok.mpr ⟨p, _, d', hp ▸ ha, hu', rfl⟩, hs, hp⟩

theorem applyAll_cons {st s : State} {e : IncE} {rest : List IncE} :
    applyAll st (e :: rest) = .ok s ↔ ∃ s1, apply st e = .ok s1 ∧ applyAll s1 rest = .ok s := by
  simp only [applyAll]
  cases apply st e <;> simp

theorem applyAll_pending {st s : State} {es : List IncE} (h : applyAll st es = .ok s) :
    s.pending = st.pending := by
  induction es generalizing st with
  | nil => cases h; rfl
  | cons e rest ih =>
    obtain ⟨s1, he, h⟩ := applyAll_cons.mp h
    obtain ⟨_, _, _, _, _, rfl⟩ := apply_eq_ok.mp he
    exact (ih h :)

theorem applyAll_congr {es : List IncE} : ∀ {st st' s : State}, SameValue st.data st'.data →
    st'.pending = st.pending → applyAll st es = .ok s →
    ∃ s', applyAll st' es = .ok s' ∧ SameValue s.data s'.data ∧ s'.pending = s.pending := by
  induction es with
  | nil =>
    intro st st' s hd hp h
    cases h
    exact ⟨st', rfl, hd, hp⟩
  | cons e rest ih =>
    intro st st' s hd hp h
    obtain ⟨s1, he, h⟩ := applyAll_cons.mp h
    obtain ⟨s1', he', hd1, hp1⟩ := apply_congr hd hp he
    obtain ⟨s', hs', hd', hp'⟩ := ih hd1 hp1 h
    exact ⟨s', applyAll_cons.mpr ⟨s1', he', hs'⟩, hd', hp'⟩

/-- two merges into one object commute up to the order of the new keys -/
theorem merge_commutes (x y : List (List Nat × J)) (t : J) :
    Commutes SameValue (mergeInto x) (mergeInto y) t := by
  intro t1 t12 h1 h2
  obtain ⟨kvs, rfl, rfl, hfx, hndx⟩ := mergeInto_eq_ok.mp h1
  obtain ⟨_, he, rfl, hfy, hndy⟩ := mergeInto_eq_ok.mp h2
  cases he
  obtain ⟨_, hy, hyx, hxy⟩ :=
    mergeKeys_swap (mergeKeys_succeeds x kvs hfx hndx) (mergeKeys_succeeds y _ hfy hndy)
  refine ⟨.obj (kvs ++ y), .obj (kvs ++ y ++ x), by simp [mergeInto, hy], by simp [mergeInto, hyx],
    (sameValue_iff _ _).mpr ⟨rfl, fun seg => ?_⟩⟩
  cases seg with
  | idx i => exact .inl ⟨rfl, rfl⟩
  | key k =>
    have hlk : lookup k (kvs ++ x ++ y) = lookup k (kvs ++ y ++ x) := by
      rcases hxy k with h | h <;> simp [lookup_append, h]
    simp only [childAt, hlk]
    exact .refl _

/-- Two updates of one node that are not two stream batches commute: the first leaves an object or
a list, which only an update of its own kind accepts, so both are merges. -/
theorem act_commutes (a b : Act) (hns : ∀ xs ys, a = .append xs → b ≠ .append ys) (t : J) :
    Commutes SameValue a.fn b.fn t := by
  cases a <;> cases b
  · exact merge_commutes _ _ t
  · intro t1 t12 h1 h2
    obtain ⟨_, _, rfl, _⟩ := mergeInto_eq_ok.mp h1
    cases h2
  · intro t1 t12 h1 h2
    obtain ⟨_, _, rfl⟩ := appendInto_eq_ok.mp h1
    cases h2
  · exact absurd rfl (hns _ _ rfl)

/-- what kind of value: a scalar (which one), an object, a list (of whatever length) -/
def kind : J → Tag
  | .arr _ => .arr 0
  | j => tag j

/-- everything that resolves in `a` still resolves in `b`, to the same kind of value -/
def Le (a b : J) : Prop :=
  ∀ q t, Spec.getAt q a = some t → ∃ t', Spec.getAt q b = some t' ∧ kind t = kind t'

theorem Le.refl (a : J) : Le a a := fun _ t h => ⟨t, h, rfl⟩

theorem Le.trans {a b c : J} (h1 : Le a b) (h2 : Le b c) : Le a c := by
  intro q t h
  obtain ⟨t', h', hk⟩ := h1 q t h
  obtain ⟨t'', h'', hk'⟩ := h2 q t' h'
  exact ⟨t'', h'', hk.trans hk'⟩

theorem le_setChild {j c c' : J} {seg : Seg} (hc : childAt seg j = some c) (hle : Le c c') :
    Le j (setChild seg c' j) := by
  intro q t h
  cases q with
  | nil =>
    cases h
    exact ⟨_, rfl, by cases seg <;> cases j <;> rfl⟩
  | cons seg' q =>
    rw [getAt_cons] at h ⊢
    by_cases hs : seg = seg'
    · subst hs
      rw [hc] at h
      rw [childAt_setChild hc]
      exact hle q t h
    · rw [childAt_setChild_ne j c' hs]
      exact ⟨t, h, rfl⟩

theorem act_le (a : Act) {j j1 : J} (h : a.fn j = .ok j1) : Le j j1 := by
  intro q t hq
  cases q with
  | nil =>
    cases hq
    cases a with
    | merge add =>
      obtain ⟨_, rfl, rfl, _⟩ := mergeInto_eq_ok.mp h
      exact ⟨_, rfl, rfl⟩
    | append items =>
      obtain ⟨_, rfl, rfl⟩ := appendInto_eq_ok.mp h
      exact ⟨_, rfl, rfl⟩
  | cons seg q =>
    -- the children that exist are left alone
    rw [getAt_cons] at hq ⊢
    cases hc : childAt seg j with
    | none => simp [hc] at hq
    | some c =>
      rw [(act_preserves a h hc).1]
      rw [hc] at hq
      exact ⟨t, hq, rfl⟩

theorem updateAt_le (a : Act) : ∀ (p : Path) (j j1 : J), updateAt a.fn p j = .ok j1 → Le j j1
  | [], j, j1, h => act_le a h
  | seg :: p, j, j1, h => by
    obtain ⟨c, c', hl, hu, rfl⟩ := updateAt_cons_child h
    exact le_setChild hl (updateAt_le a p c c' hu)

/-! Folding a list of entries, generic in the type `ε` of entries: `A e` is the target path and the
kind of update of entry `e`. -/

section Generic
variable {ε : Type}

def stepD (A : ε → Option (Path × Act)) (j : J) (e : ε) : Option J :=
  match A e with
  | some (p, a) =>
    match updateAt a.fn p j with
    | .ok j' => some j'
    | .error _ => none
  | none => none

def runD (A : ε → Option (Path × Act)) (j : J) (es : List ε) : Option J :=
  es.foldlM (stepD A) j

theorem stepD_some {A : ε → Option (Path × Act)} {j j' : J} {e : ε} (h : stepD A j e = some j') :
    ∃ p a, A e = some (p, a) ∧ updateAt a.fn p j = .ok j' := by
  simp only [stepD] at h
  split at h
  · split at h <;> cases h
    exact ⟨_, _, ‹_›, ‹_›⟩
  · cases h

theorem stepD_of {A : ε → Option (Path × Act)} {j j' : J} {e : ε} {p : Path} {a : Act}
    (ha : A e = some (p, a)) (hu : updateAt a.fn p j = .ok j') : stepD A j e = some j' := by
  simp [stepD, ha, hu]

theorem runD_cons {A : ε → Option (Path × Act)} {j r : J} {e : ε} {rest : List ε} :
    runD A j (e :: rest) = some r ↔ ∃ j1, stepD A j e = some j1 ∧ runD A j1 rest = some r := by
  simp [runD, List.foldlM_cons, Option.bind_eq_some_iff]

theorem stepD_le {A : ε → Option (Path × Act)} {j j' : J} {e : ε} (h : stepD A j e = some j') :
    Le j j' := by
  obtain ⟨p, a, _, hu⟩ := stepD_some h
  exact updateAt_le a p j j' hu

theorem runD_le {A : ε → Option (Path × Act)} {es : List ε} : ∀ {j j' : J},
    runD A j es = some j' → Le j j' := by
  induction es with
  | nil => intro j j' h; cases h; exact Le.refl _
  | cons e rest ih =>
    intro j j' h
    obtain ⟨j1, hs, h⟩ := runD_cons.mp h
    exact (stepD_le hs).trans (ih h)

theorem stepD_congr {A : ε → Option (Path × Act)} {j k j1 : J} {e : ε} (hjk : SameValue j k)
    (h : stepD A j e = some j1) : ∃ k1, stepD A k e = some k1 ∧ SameValue j1 k1 := by
  obtain ⟨p, a, ha, hu⟩ := stepD_some h
  obtain ⟨k1, hk1, hs⟩ := updateAt_congr a p j k j1 hjk hu
  exact ⟨k1, stepD_of ha hk1, hs⟩

theorem runD_congr {A : ε → Option (Path × Act)} {es : List ε} : ∀ {j k r : J}, SameValue j k →
    runD A j es = some r → ∃ r', runD A k es = some r' ∧ SameValue r r' := by
  induction es with
  | nil => intro j k r hjk h; cases h; exact ⟨k, rfl, hjk⟩
  | cons e rest ih =>
    intro j k r hjk h
    obtain ⟨j1, hs, h⟩ := runD_cons.mp h
    obtain ⟨k1, hk1, hs1⟩ := stepD_congr hjk hs
    obtain ⟨r', hr', hsr⟩ := ih hs1 h
    exact ⟨r', runD_cons.mpr ⟨k1, hk1, hr'⟩, hsr⟩

/-- `e` is a stream batch for the list at `p` -/
def isStreamAt (A : ε → Option (Path × Act)) (p : Path) (e : ε) : Bool :=
  match A e with
  | some (q, .append _) => q == p
  | _ => false

/-- the stream batches for the list at `p`, in order -/
def streamsOf (A : ε → Option (Path × Act)) (p : Path) (es : List ε) : List ε :=
  es.filter (isStreamAt A p)

/-- two entries that are stream batches for the same list -/
def sameList (A : ε → Option (Path × Act)) (x e : ε) : Prop :=
  ∃ p, isStreamAt A p x = true ∧ isStreamAt A p e = true

/-- **The swap lemma.**  `x` and then `e` succeed from `j`, and `e` is also applicable to `j`
directly; they are not two stream batches for the same list.  Then `x` is applicable after `e`, and
the two results are the same JSON value. -/
theorem stepD_swap {A : ε → Option (Path × Act)} {j j1 j12 j2 : J} {x e : ε}
    (h1 : stepD A j x = some j1) (h2 : stepD A j1 e = some j12) (h3 : stepD A j e = some j2)
    (hns : ¬ sameList A x e) : ∃ j21, stepD A j2 x = some j21 ∧ SameValue j12 j21 := by
  obtain ⟨p, a, ha, hu1⟩ := stepD_some h1
  obtain ⟨q, b, hb, hu2⟩ := stepD_some h2
  obtain ⟨q', b', hb', hu3⟩ := stepD_some h3
  rw [hb] at hb'; cases hb'
  have heq : ∀ x y : J, x = y → SameValue x y := fun x _ h => h ▸ .refl x
  have hcomm : Commutes SameValue (updateAt a.fn p) (updateAt b.fn q) j := by
    rcases path_cases p q with hd | rfl | ⟨seg, r, rfl⟩ | ⟨seg, r, rfl⟩
    · exact (updateAt_comm a.fn b.fn p q j hd).mono heq
    · -- the same target: the two updates commute on it, up to key order
      exact Commutes.under (fun hl h => sameValue_setChild (.refl _) hl hl h) p fun t _ =>
        act_commutes a b (fun xs ys ha' hb' =>
          hns ⟨p, by simp [isStreamAt, ha, ha'], by simp [isStreamAt, hb, hb']⟩) t
    · -- e strictly below x, through a child that is there before x
      exact (updateAt_comm_below a b.fn r p (exists_child_of_updateAt hu3)).mono heq
    · exact (updateAt_comm_above b a.fn r q j).mono heq
  obtain ⟨_, j21, hu3', hu, hs⟩ := hcomm j1 j12 hu1 hu2
  cases hu3.symm.trans hu3'
  exact ⟨j21, stepD_of ha hu, hs⟩

/-- **Convexity.**  An entry that is applicable at the start and at the end of a growing sequence
of values is applicable at every value in between. -/
theorem stepD_between {A : ε → Option (Path × Act)} {j s late j' late' : J} {e : ε}
    (hj : stepD A j e = some j') (hlate : stepD A late e = some late')
    (h1 : Le j s) (h2 : Le s late) : ∃ s', stepD A s e = some s' := by
  obtain ⟨q, a, ha, hj⟩ := stepD_some hj
  obtain ⟨q', a', ha', hlate⟩ := stepD_some hlate
  rw [ha] at ha'; cases ha'
  obtain ⟨t, t1, hgt, hft⟩ := updateAt_ok_iff.mp ⟨_, hj⟩
  obtain ⟨u, u1, hgu, hfu⟩ := updateAt_ok_iff.mp ⟨_, hlate⟩
  obtain ⟨w, hgs, hk⟩ := h1 q t hgt
  -- the target exists at `s`; it remains to apply the update to it
  suffices ∃ w', a.fn w = .ok w' by
    obtain ⟨w', hw⟩ := this
    obtain ⟨s', hs'⟩ := updateAt_ok_iff.mpr ⟨w, w', hgs, hw⟩
    exact ⟨s', stepD_of ha hs'⟩
  cases a with
  | append items =>
    -- the target is a list at `j`, hence a list at `s`
    obtain ⟨_, rfl, _⟩ := appendInto_eq_ok.mp hft
    cases w <;> cases hk
    exact ⟨_, rfl⟩
  | merge add =>
    -- an object at `j`, hence at `s`; a key of it at `s` is still there at `late`, so the keys
    -- that are fresh at `late` are fresh at `s`
    obtain ⟨_, rfl, _⟩ := mergeInto_eq_ok.mp hft
    cases w <;> cases hk
    rename_i kvs'
    obtain ⟨kvsL, rfl, _, hfresh, hnd⟩ := mergeInto_eq_ok.mp hfu
    refine ⟨_, mergeInto_eq_ok.mpr ⟨_, rfl, rfl, fun kv hkv => ?_, hnd⟩⟩
    cases hl : lookup kv.1 kvs' with
    | none => rfl
    | some c =>
      obtain ⟨_, hd', _⟩ := h2 (q ++ [.key kv.1]) c (by rw [getAt_append, hgs]; simp [Spec.getAt, hl])
      rw [getAt_append, hgu] at hd'
      simp [Spec.getAt, hfresh kv hkv] at hd'

/-- **Bubbling.**  An entry that is applicable right away can be moved to the front of a
successful run, past entries that are not stream batches of its own list. -/
theorem bubble {A : ε → Option (Path × Act)} {e : ε} {post : List ε} :
    ∀ (pre : List ε) (j je r : J), runD A j (pre ++ e :: post) = some r →
      stepD A j e = some je → (∀ x ∈ pre, ¬ sameList A x e) →
      ∃ r', runD A je (pre ++ post) = some r' ∧ SameValue r r'
  | [], j, je, r, hrun, he, _ => by
    obtain ⟨j1, he', hrun⟩ := runD_cons.mp hrun
    rw [he] at he'; cases he'
    exact ⟨r, hrun, SameValue.refl r⟩
  | x :: pre, j, je, r, hrun, he, hns => by
    obtain ⟨j1, hx, hrun1⟩ := runD_cons.mp hrun
    -- the state in which `e` is applied in the given run
    obtain ⟨late, hpre, hlate⟩ :=
      Option.bind_eq_some_iff.mp ((List.foldlM_append ..).symm.trans hrun1)
    obtain ⟨late', hel, _⟩ := runD_cons.mp hlate
    obtain ⟨j1e, hj1e⟩ := stepD_between he hel (stepD_le hx) (runD_le hpre)
    obtain ⟨r1, hr1, hs1⟩ := bubble pre j1 j1e r hrun1 hj1e (fun y hy => hns y (by simp [hy]))
    obtain ⟨j21, hj21, hs21⟩ := stepD_swap hx hj1e he (hns x (by simp))
    obtain ⟨r', hr', hs'⟩ := runD_congr hs21 hr1
    exact ⟨r', runD_cons.mpr ⟨j21, hj21, hr'⟩, hs1.trans hs'⟩

theorem streams_split {A : ε → Option (Path × Act)} {p : Path} {e : ε} {pre post r' : List ε}
    (hn : e ∉ pre)
    (h : streamsOf A p (pre ++ e :: post) = streamsOf A p (e :: r')) :
    (isStreamAt A p e = true → streamsOf A p pre = []) ∧
    streamsOf A p (pre ++ post) = streamsOf A p r' := by
  simp only [streamsOf, List.filter_append, List.filter_cons] at h ⊢
  cases he : isStreamAt A p e with
  | false =>
    simp only [he, Bool.false_eq_true, if_false] at h
    exact ⟨fun h' => Bool.noConfusion h', h⟩
  | true =>
    -- a batch of the stream in `pre` would have to be `e`, the head of the other side
    simp only [he, if_true] at h
    rcases List.append_eq_cons_iff.mp h with ⟨hpre, h'⟩ | ⟨ys, hpre, _⟩
    · exact ⟨fun _ => hpre, by simpa [hpre] using h'⟩
    · exact absurd (List.mem_filter.mp (hpre ▸ List.mem_cons_self)).1 hn

/-- **Order independence, data level.**  Two orders of the same entries, in which the batches of
every stream keep their relative order, that both run to completion produce the same JSON value. -/
theorem runD_perm {A : ε → Option (Path × Act)} : ∀ (es' es : List ε) (j x y : J),
    es.Perm es' → (∀ p, streamsOf A p es = streamsOf A p es') →
    runD A j es = some x → runD A j es' = some y → SameValue x y
  | [], es, j, x, y, hperm, _, hx, hy => by
    cases List.Perm.eq_nil hperm
    cases hx; cases hy
    exact SameValue.refl _
  | e :: r', es, j, x, y, hperm, hstreams, hx, hy => by
    have hmem : e ∈ es := hperm.symm.subset (by simp)
    obtain ⟨pre, post, rfl, hn⟩ := List.eq_append_cons_of_mem hmem
    obtain ⟨je, he, hy⟩ := runD_cons.mp hy
    have hns : ∀ z ∈ pre, ¬ sameList A z e := by
      rintro z hz ⟨p, hzp, hep⟩
      have hzin : z ∈ streamsOf A p pre := List.mem_filter.mpr ⟨hz, hzp⟩
      rw [(streams_split hn (hstreams p)).1 hep] at hzin
      cases hzin
    obtain ⟨r1, hr1, hs1⟩ := bubble pre j je x hx he hns
    exact hs1.trans (runD_perm r' (pre ++ post) je r1 y
      ((List.perm_cons e).mp (List.perm_middle.symm.trans hperm))
      (fun p => (streams_split hn (hstreams p)).2) hr1 hy)

end Generic

theorem applyAll_runD {es : List IncE} : ∀ {st s : State}, applyAll st es = .ok s →
    runD (IncE.act st.pending) st.data es = some s.data := by
  induction es with
  | nil => intro st s h; cases h; rfl
  | cons e rest ih =>
    intro st s h
    obtain ⟨s1, he, h⟩ := applyAll_cons.mp h
    obtain ⟨p, f, d, ha, hu, rfl⟩ := apply_eq_ok.mp he
    obtain ⟨a, hact, rfl⟩ := action_some ha
    exact runD_cons.mpr ⟨d, stepD_of hact hu, ih h⟩

/-- for the format's entries, `isStreamAt` says: a stream entry whose id is pending at `p` -/
theorem isStreamAt_incE (P : List (List Nat × Path)) (p : Path) (e : IncE) :
    isStreamAt (IncE.act P) p e =
      (match e with
       | .stream id _ _ => pendingPath id P == some p
       | _ => false) := by
  cases e with
  | defer id sub data errs =>
    cases data <;> simp [isStreamAt, IncE.act] <;> (cases pendingPath id P <;> rfl)
  | stream id items errs =>
    simp only [isStreamAt, IncE.act]
    cases pendingPath id P with
    | none => simp
    | some q => simp

end Gql.Async
