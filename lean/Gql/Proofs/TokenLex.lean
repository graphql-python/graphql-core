import Gql.Proofs.StringRoundtrip
/-!
Kind and value of a token; which texts are names.
-/
namespace Gql.Text

/-- Kind and value of a token (positions and line bookkeeping erased). -/
def Token.kv (t : Token) : TokKind × Option (List Nat) := (t.kind, t.value)

theorem punctKind_kind {c : Nat} {k : TokKind} (h : punctKind c = some k) :
    k ∉ [TokKind.name, .int, .float, .string, .blockString] ∧ k ≠ .eof ∧ k ≠ .comment :=
  punctKind_forall (P := fun _ k => k ∉ [TokKind.name, .int, .float, .string, .blockString] ∧ k ≠ .eof ∧ k ≠ .comment)
    (by decide) h

def validName : List Nat → Bool
  | [] => false
  | c :: r => isNameStart c && r.all isNameContinue

theorem validName_ne_nil {n : List Nat} (h : validName n = true) : n ≠ [] := by
  intro h0; subst h0; simp [validName] at h

end Gql.Text
