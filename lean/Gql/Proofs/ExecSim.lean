import Gql.Proofs.ExecCollect

/-!
C02 — simulation framework: invariants of the executor state (sub-selection memo, default memo,
nulled positions), what a computation at a path did to the state (`Post`), the relation `Sim`
between a stateful implementation computation and the specification's pure result (`Run` at every
state), and its rules: `pure_ok`, `throw_raw`, `throw_located`, `map` (`R.mapOut`), `protect`
(`absorb`), a silent prefix (`Run.prefix`).
-/

namespace Gql.Exec.Refine
open Gql.Exec Gql.Exec.Impl

theorem GroupsOk.fdsOk {heap : List FieldNode} {g : Groups} (h : GroupsOk heap g)
    {k : Name} {fds : List FieldDetails} (hm : (k, fds) ∈ g) : FdsOk heap fds := h (k, fds) hm

/-- every memo entry equals recomputation (for any live field details carrying the keyed serials) -/
def MemoInv (cx : Ctx) (st : EState) : Prop :=
  ∀ e ∈ st.memo,
    (∀ s ∈ e.1.2, s < st.heap.length) ∧
    (cx.schema.kind e.1.1 = .object → ∀ fds : List FieldDetails, e.1.2 = fds.map (·.serial) →
      FdsOk st.heap fds →
      Spec.collectFields (toSpec cx) e.1.1 (Spec.mergeSelectionSets (fds.map (·.node))) = .ok (nodes e.2) ∧
      (keys (nodes e.2)).Nodup ∧ GroupsOk st.heap e.2)

/-- every memoised default equals recomputation -/
def DInv (cx : Ctx) (dm : DMemo) : Prop :=
  ∀ e ∈ dm, ∀ (fdef : FieldDef) (a : ArgDef) (lit : Value),
    cx.schema.getField e.1.1 e.1.2.1 = some fdef → fdef.args[e.1.2.2]? = some a →
    a.default = some lit → cx.ops.coerceLiteral cx.schema [] a.type lit = some e.2

/-- all nulled positions are incomparable with `path` -/
def PosInv (positions : List (Option IPath)) (path : IPath) : Prop :=
  ∀ o ∈ positions, ∃ q, o = some q ∧ ¬ q <:+ path ∧ ¬ path <:+ q

structure Inv (cx : Ctx) (st : EState) (path : IPath) : Prop where
  memo : MemoInv cx st
  dmemo : DInv cx st.dmemo
  pos : PosInv st.positions path

structure Post (cx : Ctx) (st st' : EState) (path : IPath) (strict : Bool) (errs : List FErr)
    (log : List Call) : Prop where
  errors : st'.errors = st.errors ++ errs
  log : st'.log = st.log ++ log
  positions : ∃ ps, st'.positions = st.positions ++ ps ∧
    ∀ o ∈ ps, ∃ q, o = some q ∧ path <:+ q ∧ (strict = true → q ≠ path)
  heap : ∃ ext, st'.heap = st.heap ++ ext
  memo : MemoInv cx st'
  dmemo : DInv cx st'.dmemo

theorem Post.refl {cx : Ctx} {st : EState} {path : IPath} {strict : Bool}
    (hm : MemoInv cx st) (hd : DInv cx st.dmemo) : Post cx st st path strict [] [] :=
  ⟨by simp, by simp, ⟨[], by simp, by simp⟩, ⟨[], by simp⟩, hm, hd⟩

theorem Post.trans {cx : Ctx} {st st1 st2 : EState} {path : IPath} {strict : Bool}
    {e1 e2 : List FErr} {l1 l2 : List Call}
    (h1 : Post cx st st1 path strict e1 l1) (h2 : Post cx st1 st2 path strict e2 l2) :
    Post cx st st2 path strict (e1 ++ e2) (l1 ++ l2) := by
  obtain ⟨ps1, hp1, hq1⟩ := h1.positions
  obtain ⟨ps2, hp2, hq2⟩ := h2.positions
  obtain ⟨x1, hx1⟩ := h1.heap
  obtain ⟨x2, hx2⟩ := h2.heap
  refine ⟨by rw [h2.errors, h1.errors, List.append_assoc], by rw [h2.log, h1.log, List.append_assoc],
    ⟨ps1 ++ ps2, by rw [hp2, hp1, List.append_assoc], ?_⟩, ⟨x1 ++ x2, by rw [hx2, hx1, List.append_assoc]⟩,
    h2.memo, h2.dmemo⟩
  intro o ho
  rcases List.mem_append.1 ho with ho | ho
  · exact hq1 o ho
  · exact hq2 o ho

theorem Post.lift {cx : Ctx} {st st' : EState} {path : IPath} {seg : ISeg} {strict : Bool}
    {e : List FErr} {l : List Call}
    (h : Post cx st st' (seg :: path) strict e l) : Post cx st st' path true e l := by
  obtain ⟨ps, hp, hq⟩ := h.positions
  refine ⟨h.errors, h.log, ⟨ps, hp, ?_⟩, h.heap, h.memo, h.dmemo⟩
  intro o ho
  obtain ⟨q, rfl, hsuf, _⟩ := hq o ho
  refine ⟨q, rfl, ?_, ?_⟩
  · exact List.IsSuffix.trans (List.suffix_cons seg path) hsuf
  · intro _ heq
    subst heq
    have := List.IsSuffix.length_le hsuf
    simp only [List.length_cons] at this
    omega

theorem Post.weaken {cx : Ctx} {st st' : EState} {path : IPath} {strict : Bool}
    {e : List FErr} {l : List Call}
    (h : Post cx st st' path strict e l) : Post cx st st' path false e l := by
  obtain ⟨ps, hp, hq⟩ := h.positions
  refine ⟨h.errors, h.log, ⟨ps, hp, ?_⟩, h.heap, h.memo, h.dmemo⟩
  intro o ho
  obtain ⟨q, rfl, hsuf, _⟩ := hq o ho
  exact ⟨q, rfl, hsuf, by simp⟩

/-- the ancestor filter of `CollectedErrors.add` never fires in depth-first order -/
theorem hasNulled_false (positions : List (Option IPath)) (path : IPath)
    (h : ∀ o ∈ positions, ∃ q, o = some q ∧ ¬ q <:+ path) : hasNulled positions path = false := by
  induction path with
  | nil =>
    simp only [hasNulled, Bool.or_eq_false_iff, List.contains_eq_mem, decide_eq_false_iff_not]
    constructor
    · intro hm
      obtain ⟨q, hq, hn⟩ := h _ hm
      cases hq
      exact hn (List.suffix_refl _)
    · intro hm
      obtain ⟨q, hq, _⟩ := h _ hm
      cases hq
  | cons seg prev ih =>
    simp only [hasNulled, Bool.or_eq_false_iff, List.contains_eq_mem, decide_eq_false_iff_not]
    constructor
    · intro hm
      obtain ⟨q, hq, hn⟩ := h _ hm
      cases hq
      exact hn (List.suffix_refl _)
    · apply ih
      intro o ho
      obtain ⟨q, hq, hn⟩ := h o ho
      exact ⟨q, hq, fun hs => hn (List.IsSuffix.trans hs (List.suffix_cons seg prev))⟩

theorem PosInv.cons {positions : List (Option IPath)} {path : IPath} (h : PosInv positions path)
    (seg : ISeg) : PosInv positions (seg :: path) := by
  intro o ho
  obtain ⟨q, rfl, h1, h2⟩ := h o ho
  refine ⟨q, rfl, ?_, ?_⟩
  · intro hs
    rcases List.suffix_cons_iff.1 hs with heq | hs'
    · subst heq
      exact h2 (List.suffix_cons seg path)
    · exact h1 hs'
  · intro hs
    exact h2 (List.IsSuffix.trans (List.suffix_cons seg path) hs)

theorem incomparable_sibling {path q : IPath} {seg seg' : ISeg} (hne : seg ≠ seg')
    (hq : (seg :: path) <:+ q) : ¬ q <:+ (seg' :: path) ∧ ¬ (seg' :: path) <:+ q := by
  -- either way one of `seg :: path`, `seg' :: path`, of one length, would be a suffix of the other
  have key : ∀ {a b : ISeg}, a ≠ b → ¬ (a :: path) <:+ (b :: path) := fun hab h =>
    hab (List.cons.inj (h.eq_of_length (by simp))).1
  exact ⟨fun hs => key hne (hq.trans hs),
    fun hs => key (Ne.symm hne) (List.suffix_of_suffix_length_le hs hq (by simp))⟩

/-- An implementation run that ended in `res` behaves, from `st`, as the specification result `r`
says: same value / a pending exception that locates to the last recorded error, errors and call
log appended in order, new nulled positions below `path`, invariants kept. -/
abbrev Run (cx : Ctx) (path : IPath) (strict : Bool) {α : Type} (res : Out Exn α × EState)
    (st : EState) (r : Spec.R α) : Prop :=
  ∃ st', match r.out with
    | some a => res = (.ok a, st') ∧ Post cx st st' path strict r.errs r.log
    | none => ∃ exn es, res = (.err exn, st') ∧ r.errs = es ++ [locate exn path] ∧
        Post cx st st' path strict es r.log ∧ (strict = false → ∃ e, exn = .located e)

/-- the implementation computation `m`, run at `path` from any state satisfying the invariants
(and `pre` on the heap), behaves as the specification result `r` says -/
def Sim (cx : Ctx) (path : IPath) (strict : Bool) (pre : List FieldNode → Prop) {α : Type}
    (m : M α) (r : Spec.R α) : Prop :=
  ∀ st, Inv cx st path → pre st.heap → Run cx path strict (m st) st r

/-- a silent prefix: the run started at `st1`, reached from `st` with no error and the calls `l` -/
theorem Run.prefix {cx : Ctx} {path : IPath} {strict : Bool} {α : Type} {res : Out Exn α × EState}
    {st st1 : EState} {r : Spec.R α} {l : List Call} (hp : Post cx st st1 path strict [] l)
    (h : Run cx path strict res st1 r) : Run cx path strict res st { r with log := l ++ r.log } := by
  obtain ⟨st', h⟩ := h
  refine ⟨st', ?_⟩
  cases hout : r.out with
  | some a =>
    simp only [hout] at h ⊢
    exact ⟨h.1, by simpa using hp.trans h.2⟩
  | none =>
    simp only [hout] at h ⊢
    obtain ⟨exn, es, hm, herrs, hp', hloc⟩ := h
    exact ⟨exn, es, hm, herrs, by simpa using hp.trans hp', hloc⟩

theorem MemoInv.congr {cx : Ctx} {st st' : EState} (h : MemoInv cx st)
    (h1 : st'.memo = st.memo) (h2 : st'.heap = st.heap) : MemoInv cx st' := by
  unfold MemoInv at *
  rw [h1, h2]
  exact h

theorem locate_located (e : FErr) (p : IPath) : locate (.located e) p = e := rfl

theorem suffix_antisymm_ne {p q : IPath} (h1 : p <:+ q) (hne : q ≠ p) : ¬ q <:+ p := by
  intro h2
  have hl1 := List.IsSuffix.length_le h1
  have hl2 := List.IsSuffix.length_le h2
  exact hne (List.IsSuffix.eq_of_length h2 (by omega))

theorem Sim.protect {cx : Ctx} {path : IPath} {pre : List FieldNode → Prop} {m : M Json}
    {r : Spec.R Json} (t : TypeRef) (h : Sim cx path true pre m r) :
    Sim cx path false pre (Impl.protect t path m) (Spec.absorb t r) := by
  intro st hinv hpre
  obtain ⟨st', h'⟩ := h st hinv hpre
  cases hr : r.out with
  | some j =>
    simp only [hr] at h'
    refine ⟨st', ?_⟩
    simp only [Spec.absorb, hr, Impl.protect, h'.1]
    exact ⟨trivial, h'.2.weaken⟩
  | none =>
    simp only [hr] at h'
    obtain ⟨exn, es, hm, herrs, hpost, _⟩ := h'
    cases hnn : t.nonNull with
    | true =>
      refine ⟨st', ?_⟩
      simp only [Spec.absorb, hr, hnn, ↓reduceIte]
      refine ⟨.located (locate exn path), es, ?_, ?_, hpost.weaken, fun _ => ⟨_, rfl⟩⟩
      · simp [Impl.protect, hm, handleFieldError, hnn, M.throw]
      · rw [locate_located]; exact herrs
    | false =>
      have hnul : hasNulled st'.positions path = false := by
        apply hasNulled_false
        obtain ⟨ps, hp, hq⟩ := hpost.positions
        intro o ho
        rw [hp] at ho
        rcases List.mem_append.1 ho with ho | ho
        · obtain ⟨q, hq1, hq2, _⟩ := hinv.pos o ho
          exact ⟨q, hq1, hq2⟩
        · obtain ⟨q, hq1, hq2, hq3⟩ := hq o ho
          exact ⟨q, hq1, suffix_antisymm_ne hq2 (hq3 rfl)⟩
      let st'' : EState := { st' with positions := st'.positions ++ [some path],
                                      errors := st'.errors ++ [locate exn path] }
      refine ⟨st'', ?_⟩
      simp only [Spec.absorb, hr, hnn, Bool.false_eq_true, ↓reduceIte]
      constructor
      · simp [Impl.protect, hm, handleFieldError, hnn, addError, hasNulledOpt, hnul, st'']
      · -- what the computation did, then the one error and the one nulled position more
        have hnull : Post cx st' st'' path false [locate exn path] [] :=
          ⟨rfl, by simp [st''], ⟨[some path], rfl, by simp⟩, ⟨[], by simp [st'']⟩,
            hpost.memo.congr rfl rfl, hpost.dmemo⟩
        simpa [herrs] using hpost.weaken.trans hnull

theorem Sim.map {cx : Ctx} {path : IPath} {strict : Bool} {pre : List FieldNode → Prop}
    {α β : Type} {m : M α} {r : Spec.R α} (f : α → β) (h : Sim cx path strict pre m r) :
    Sim cx path strict pre (M.bind m (fun a => M.pure (f a))) (r.mapOut f) := by
  intro st hinv hpre
  obtain ⟨st', h'⟩ := h st hinv hpre
  refine ⟨st', ?_⟩
  unfold Spec.R.mapOut
  cases hr : r.out with
  | some a =>
    simp only [hr] at h'
    simp [M.bind, M.pure, h'.1, h'.2]
  | none =>
    simp only [hr] at h'
    obtain ⟨exn, es, hm, herrs, hpost, hloc⟩ := h'
    simp only [Option.map_none]
    exact ⟨exn, es, by simp [M.bind, hm], herrs, hpost, hloc⟩

theorem Sim.pure_ok {cx : Ctx} {path : IPath} {strict : Bool} {pre : List FieldNode → Prop}
    {α : Type} (a : α) : Sim cx path strict pre (M.pure a) (Spec.R.pure a) := by
  intro st hinv _
  exact ⟨st, rfl, Post.refl hinv.memo hinv.dmemo⟩

theorem Sim.throw_raw {cx : Ctx} {path : IPath} {pre : List FieldNode → Prop}
    {α : Type} (k : ErrKind) :
    Sim cx path true pre (M.throw (.raw k) : M α) (Spec.R.fail (asList path) k) := by
  intro st hinv _
  exact ⟨st, .raw k, [], rfl, rfl, Post.refl hinv.memo hinv.dmemo, by simp⟩

theorem Sim.throw_located {cx : Ctx} {path : IPath} {pre : List FieldNode → Prop}
    {α : Type} (e : FErr) :
    Sim cx path true pre (M.throw (.located e) : M α) { out := none, errs := [e], log := [] } := by
  intro st hinv _
  exact ⟨st, .located e, [], rfl, rfl, Post.refl hinv.memo hinv.dmemo, by simp⟩

end Gql.Exec.Refine
