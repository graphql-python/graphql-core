import Gql.Proofs.ExecGroups
import Gql.Proofs.SpecFacts

/-!
C02 — CollectFields refinement: the implementation's `collect_fields_impl` (shared mutable
grouped dict, visited map checked after the type condition) computes the specification's
CollectFields (fresh groups merged upward, visited set extended before the fragment lookup).
-/

namespace Gql.Exec.Refine
open Gql.Exec

/-- The one law of the value layer the refinement needs: a variable without a runtime value is
not coercible at a Non-Null type (`coerce_input_literal` returns `Undefined`). -/
structure OpsOk (ops : Ops) : Prop where
  missing_var : ∀ (s : Schema) (vars : Vars) (t : TypeRef) (x : Name),
    vars.lookup x = none → t.nonNull = true → ops.coerceLiteral s vars t (.var x) = none

def toSpec (cx : Impl.Ctx) : Spec.Ctx :=
  { ops := cx.ops, schema := cx.schema, doc := cx.doc, vars := cx.vars }

def dirOut : Option Bool → Out Impl.Exn Bool
  | some b => .ok b
  | none => .err (.raw .directiveCoercion)

/-- `@skip`/`@include` coerce their `if` as CoerceArgumentValues does for the one required
argument `if: Boolean!` -/
theorem directiveIf_eq (scx : Spec.Ctx) (d : Directive) :
    Spec.directiveIf scx d =
      (specHere scx d.args { name := "if", type := boolNN, default := none }).bind (·.map PyVal.truthy) := by
  unfold Spec.directiveIf
  rw [spec_coerce_cons]
  cases specHere scx d.args { name := "if", type := boolNN, default := none } with
  | none => rfl
  | some o => cases o <;> simp [Spec.coerceArgumentValues, ArgMap.set, List.lookup]

theorem dirIf_eq (cx : Impl.Ctx) (h : OpsOk cx.ops) (d : Directive) :
    Impl.dirIf cx d = dirOut (Spec.directiveIf (toSpec cx) d) := by
  rw [directiveIf_eq]
  unfold Impl.dirIf
  cases hl : lookupArg d.args "if" with
  | none => rw [specHere_absent (by rw [hl]; rfl)]; rfl
  | some v =>
    cases hv : hasValue cx.vars (some v) with
    | true =>
      rw [specHere_present (scx := toSpec cx) (a := { name := "if", type := boolNN, default := none }) hl hv]
      simp only [toSpec]
      cases cx.ops.coerceLiteral cx.schema cx.vars boolNN v <;> rfl
    | false =>
      obtain ⟨x, rfl, hx⟩ := hasValue_false hv
      rw [specHere_absent (by rw [hl]; exact hv)]
      simp only [h.missing_var cx.schema cx.vars boolNN x hx rfl]
      rfl

theorem shouldInclude_eq (cx : Impl.Ctx) (h : OpsOk cx.ops) (dirs : List Directive) :
    Impl.shouldInclude cx dirs = dirOut (Spec.included (toSpec cx) dirs) := by
  unfold Impl.shouldInclude Spec.included
  cases hs : dirs.find? (fun d => d.name == "skip") with
  | none =>
    simp only
    cases hi : dirs.find? (fun d => d.name == "include") with
    | none => simp [dirOut]
    | some d => simp [dirIf_eq cx h]
  | some d =>
    simp only [dirIf_eq cx h]
    cases hd : Spec.directiveIf (toSpec cx) d with
    | none => simp [dirOut]
    | some b =>
      cases b with
      | true => simp [dirOut]
      | false =>
        simp only [dirOut]
        cases hi : dirs.find? (fun d => d.name == "include") with
        | none => simp
        | some d' => simp [dirIf_eq cx h, dirOut]

theorem condMatch_eq (s : Schema) (c rt : Name) (hrt : s.kind rt = .object) :
    Impl.condMatch s (some c) rt = Spec.doesFragmentTypeApply s rt c := by
  unfold Impl.condMatch Spec.doesFragmentTypeApply
  by_cases hc : c = rt
  · subst hc
    unfold Schema.kind at hrt
    cases hl : s.lookup c with
    | none => simp [hl] at hrt
    | some d => cases d <;> simp_all
  · have hc' : (c == rt) = false := by simpa using hc
    unfold Schema.kind
    cases hl : s.lookup c with
    | none => simp [hl]
    | some d => cases d <;> simp [hc', hl]

/-- the fragment `n` is defined and its type condition matches `rt`: the fragments the
implementation enters and records -/
def applicable (cx : Impl.Ctx) (rt : Name) (n : Name) : Bool :=
  match cx.doc.frag n with
  | none => false
  | some fr => Impl.condMatch cx.schema (some fr.cond) rt

/-- the implementation only records fragments it actually entered -/
def VisRel (cx : Impl.Ctx) (rt : Name) (ivis svis : List Name) : Prop :=
  ivis = svis.filter (applicable cx rt)

def FdsOk (heap : List FieldNode) (fds : List Impl.FieldDetails) : Prop :=
  fds ≠ [] ∧ ∀ fd ∈ fds, heap[fd.serial]? = some fd.node

theorem getElem?_mono {α} {l : List α} {i : Nat} {a : α} (h : l[i]? = some a) (ext : List α) :
    (l ++ ext)[i]? = some a := by
  have hlt : i < l.length := (List.getElem?_eq_some_iff.1 h).1
  rw [List.getElem?_append_left hlt]; exact h

theorem FdsOk.mono {heap : List FieldNode} {fds : List Impl.FieldDetails} (h : FdsOk heap fds)
    (ext : List FieldNode) : FdsOk (heap ++ ext) fds :=
  ⟨h.1, fun fd hfd => getElem?_mono (h.2 fd hfd) ext⟩

def GroupsOk (heap : List FieldNode) (g : Impl.Groups) : Prop :=
  ∀ p ∈ g, p.2 ≠ [] ∧ ∀ fd ∈ p.2, heap[fd.serial]? = some fd.node

theorem GroupsOk.mono {heap : List FieldNode} {g : Impl.Groups} (h : GroupsOk heap g)
    (ext : List FieldNode) : GroupsOk (heap ++ ext) g :=
  fun p hp => FdsOk.mono (h p hp) ext

theorem GroupsOk.addField {heap : List FieldNode} {g : Impl.Groups} (h : GroupsOk heap g)
    (k : Name) (node : FieldNode) :
    GroupsOk (heap ++ [node]) (Impl.addField g k ⟨heap.length, node⟩) := by
  rw [addField_eq]
  exact List.forall_mem_extendAt (G := fun (_ : Name) fds => FdsOk (heap ++ [node]) fds)
    (fun ha hb => ⟨by simp [ha.1], fun fd hfd => (List.mem_append.1 hfd).elim (ha.2 fd) (hb.2 fd)⟩)
    (h.mono [node]) ⟨by simp, by simp⟩

open Impl in
/-- One collection step on both sides.  `B` is what the specification holds outside its current
accumulator `acc'`: the implementation's shared groups are `B` merged with `acc'`. -/
def CRel (cx : Impl.Ctx) (rt : Name) (B : SG) (st : CState) (ir : Out Exn CState)
    (sr : Out ErrKind (SG × List Name)) : Prop :=
  match sr with
  | .ok (acc', vis') =>
    ∃ st', ir = .ok st' ∧ nodes st'.groups = Spec.mergeGroups B acc' ∧ (keys acc').Nodup ∧
      VisRel cx rt st'.visited vis' ∧ (∃ ext, st'.heap = st.heap ++ ext) ∧ GroupsOk st'.heap st'.groups
  | .err k => ir = .err (.raw k)
  | .crash c => ir = .crash c

open Impl in
/-- what is assumed of the two calls on a fragment definition's selection set: `CRel` from related
states, the specification starting from empty groups -/
def RecRel (cx : Impl.Ctx) (rt : Name)
    (irecur : List Selection → CState → Out Exn CState)
    (srecur : List Selection → List Name → Out ErrKind (SG × List Name)) : Prop :=
  ∀ sels st vis, VisRel cx rt st.visited vis → GroupsOk st.heap st.groups →
    CRel cx rt (nodes st.groups) st (irecur sels st) (srecur sels vis)

end Gql.Exec.Refine

namespace Gql.Exec.Refine
open Gql.Exec Gql.Exec.Impl

theorem visRel_not_mem {cx : Impl.Ctx} {rt : Name} {ivis svis : List Name} {n : Name}
    (h : VisRel cx rt ivis svis) (hn : applicable cx rt n = true) :
    ivis.contains n = svis.contains n := by
  subst h
  cases hc : svis.contains n
  · simp only [List.contains_eq_mem, decide_eq_false_iff_not] at hc ⊢
    intro hm
    exact hc (List.mem_filter.1 hm).1
  · simp only [List.contains_eq_mem, decide_eq_true_eq] at hc ⊢
    exact List.mem_filter.2 ⟨hc, hn⟩

/-- a fragment the specification marks visited without entering it leaves no trace in the
implementation; one both enter is recorded by both -/
theorem VisRel.cons {cx : Impl.Ctx} {rt : Name} {ivis svis : List Name} (h : VisRel cx rt ivis svis)
    (n : Name) : VisRel cx rt (if applicable cx rt n then n :: ivis else ivis) (n :: svis) := by
  unfold VisRel at h ⊢
  cases ha : applicable cx rt n <;> simp [List.filter_cons, ha, h]

theorem CRel.same {cx : Impl.Ctx} {rt : Name} {B acc : SG} {st : CState} {vis : List Name}
    (h1 : nodes st.groups = Spec.mergeGroups B acc) (h2 : (keys acc).Nodup)
    (h3 : VisRel cx rt st.visited vis) (h4 : GroupsOk st.heap st.groups) :
    CRel cx rt B st (.ok st) (.ok (acc, vis)) :=
  ⟨st, rfl, h1, h2, h3, ⟨[], by simp⟩, h4⟩

/-- the groups of a fragment, collected by the implementation straight into the shared groups, are
what the specification merges into its accumulator afterwards -/
theorem CRel.merged {cx : Impl.Ctx} {rt : Name} {B acc : SG} (h2 : (keys acc).Nodup) {st : CState}
    {ir : Out Exn CState} {sr : Out ErrKind (SG × List Name)} :
    CRel cx rt (Spec.mergeGroups B acc) st ir sr →
    CRel cx rt B st ir (match sr with
      | .ok (fg, v) => .ok (Spec.mergeGroups acc fg, v)
      | .err e => .err e
      | .crash c => .crash c) := by
  intro h
  cases sr with
  | crash c => exact h
  | err e => exact h
  | ok r =>
    obtain ⟨st', e1, e2, _, e4, e5, e6⟩ := h
    exact ⟨st', e1, by rw [e2, mergeGroups_assoc _ _ _ h2], nodup_keys_mergeGroups _ _ h2, e4, e5, e6⟩

theorem CRel.bind {cx : Impl.Ctx} {rt : Name} {B : SG} {st : CState} {ir : Out Exn CState}
    {sr : Out ErrKind (SG × List Name)}
    {ki : CState → Out Exn CState} {ks : SG → List Name → Out ErrKind (SG × List Name)} :
    CRel cx rt B st ir sr →
    (∀ st' acc' vis', nodes st'.groups = Spec.mergeGroups B acc' → (keys acc').Nodup →
      VisRel cx rt st'.visited vis' → GroupsOk st'.heap st'.groups →
      CRel cx rt B st' (ki st') (ks acc' vis')) →
    CRel cx rt B st
      (match ir with
        | .ok st' => ki st'
        | .err e => .err e
        | .crash c => .crash c)
      (match sr with
        | .ok (acc', vis') => ks acc' vis'
        | .err e => .err e
        | .crash c => .crash c) := by
  intro h hk
  cases sr with
  | crash c => simp only [CRel] at h; rw [h]; rfl
  | err e => simp only [CRel] at h; rw [h]; rfl
  | ok r =>
    obtain ⟨st', e1, e2, e3, e4, ⟨ext, e5⟩, e6⟩ := h
    rw [e1]
    have h2 := hk st' r.1 r.2 e2 e3 e4 e6
    revert h2
    simp only
    cases ks r.1 r.2 with
    | crash c => exact id
    | err e => exact id
    | ok r2 =>
      rintro ⟨st2, f1, f2, f3, f4, ⟨ext2, f5⟩, f6⟩
      exact ⟨st2, f1, f2, f3, f4, ⟨ext ++ ext2, by rw [f5, e5, List.append_assoc]⟩, f6⟩

@[simp] theorem toSpec_schema (cx : Impl.Ctx) : (toSpec cx).schema = cx.schema := rfl
@[simp] theorem toSpec_doc (cx : Impl.Ctx) : (toSpec cx).doc = cx.doc := rfl
@[simp] theorem toSpec_vars (cx : Impl.Ctx) : (toSpec cx).vars = cx.vars := rfl
@[simp] theorem toSpec_ops (cx : Impl.Ctx) : (toSpec cx).ops = cx.ops := rfl

theorem CRel.guard {cx : Impl.Ctx} (hops : OpsOk cx.ops) {rt : Name} {B acc : SG} {st : CState}
    {vis : List Name} (dirs : List Directive) {X : Out Exn CState} {Y : Out ErrKind (SG × List Name)}
    (hsame : CRel cx rt B st (.ok st) (.ok (acc, vis))) (h : CRel cx rt B st X Y) :
    CRel cx rt B st
      (match shouldInclude cx dirs with
        | .ok true => X
        | .ok false => .ok st
        | .err e => .err e
        | .crash c => .crash c)
      (match Spec.included (toSpec cx) dirs with
        | none => .err .directiveCoercion
        | some false => .ok (acc, vis)
        | some true => Y) := by
  rw [shouldInclude_eq cx hops]
  cases Spec.included (toSpec cx) dirs with
  | none => simp [dirOut, CRel]
  | some b => cases b <;> simpa [dirOut]

variable (cx : Impl.Ctx) (hops : OpsOk cx.ops) (rt : Name) (hrt : cx.schema.kind rt = .object)
variable (irecur : List Selection → CState → Out Exn CState)
variable (srecur : List Selection → List Name → Out ErrKind (SG × List Name))
variable (hrec : RecRel cx rt irecur srecur)

include hops hrt hrec in
mutual
theorem collectSel_rel : (sel : Selection) → ∀ (st : CState) (acc : SG) (vis : List Name) (B : SG),
    nodes st.groups = Spec.mergeGroups B acc → (keys acc).Nodup → VisRel cx rt st.visited vis →
    GroupsOk st.heap st.groups →
    CRel cx rt B st (collectSel cx rt irecur sel st)
      (Spec.collectOne (toSpec cx) rt srecur sel acc vis)
  | .field alias name args dirs sels, st, acc, vis, B, h1, h2, h3, h4 => by
    unfold collectSel Spec.collectOne
    refine CRel.guard hops dirs (CRel.same h1 h2 h3 h4) ?_
    refine ⟨_, rfl, ?_, nodup_keys_appendGroup _ _ _ h2, h3, ⟨_, rfl⟩, GroupsOk.addField h4 _ _⟩
    simp only [nodes_addField, h1]
    rw [mergeGroups_appendGroup _ _ _ _ h2]
  | .inline cond dirs sels, st, acc, vis, B, h1, h2, h3, h4 => by
    unfold collectSel Spec.collectOne
    refine CRel.guard hops dirs (CRel.same h1 h2 h3 h4) ?_
    -- the implementation goes on with its groups; for the specification they are `B` merged
    -- with `acc`, and it starts the fragment from the empty accumulator
    have ih := CRel.merged h2 (collectSels_rel sels st [] vis (Spec.mergeGroups B acc)
      (by rw [mergeGroups_nil]; exact h1) (by simp [keys]) h3 h4)
    simp only [toSpec_schema]
    cases cond with
    | none =>
      simp only [condMatch, ↓reduceIte, Bool.not_true, Bool.false_eq_true]
      exact ih
    | some c =>
      rw [condMatch_eq cx.schema c rt hrt]
      cases hc : Spec.doesFragmentTypeApply cx.schema rt c with
      | false => simpa [hc] using CRel.same h1 h2 h3 h4
      | true =>
        simp only [hc, ↓reduceIte, Bool.not_true, Bool.false_eq_true]
        exact ih
  | .spread name dirs, st, acc, vis, B, h1, h2, h3, h4 => by
    unfold collectSel Spec.collectOne
    refine CRel.guard hops dirs (CRel.same h1 h2 h3 h4) ?_
    have h3' := h3.cons name
    simp only [toSpec_doc, toSpec_schema]
    -- a fragment that is unknown or does not apply: only the specification's visited set grows
    have hskip : applicable cx rt name = false →
        CRel cx rt B st (.ok st)
          (if vis.contains name = true then .ok (acc, vis) else .ok (acc, name :: vis)) := by
      intro ha
      rw [ha] at h3'
      cases hv : vis.contains name with
      | true => simpa using CRel.same h1 h2 h3 h4
      | false => simpa using CRel.same h1 h2 h3' h4
    cases hf : cx.doc.frag name with
    | none => simpa using hskip (by simp [applicable, hf])
    | some fr =>
      simp only [← condMatch_eq cx.schema fr.cond rt hrt]
      cases hc : condMatch cx.schema (some fr.cond) rt with
      | false => simpa using hskip (by simp [applicable, hf, hc])
      | true =>
        have happ : applicable cx rt name = true := by simp [applicable, hf, hc]
        rw [happ] at h3'
        simp only [visRel_not_mem h3 happ, Bool.not_true, Bool.false_eq_true, ↓reduceIte]
        cases hv : vis.contains name with
        | true => simpa using CRel.same h1 h2 h3 h4
        | false =>
          simp only [Bool.false_eq_true, ↓reduceIte]
          exact CRel.merged h2
            (h1 ▸ hrec fr.sels { st with visited := name :: st.visited } (name :: vis) h3' h4)

theorem collectSels_rel : (sels : List Selection) → ∀ (st : CState) (acc : SG) (vis : List Name) (B : SG),
    nodes st.groups = Spec.mergeGroups B acc → (keys acc).Nodup → VisRel cx rt st.visited vis →
    GroupsOk st.heap st.groups →
    CRel cx rt B st (collectSels cx rt irecur sels st)
      (Spec.collectLoop (toSpec cx) rt srecur sels acc vis)
  | [], st, acc, vis, B, h1, h2, h3, h4 => by
    unfold collectSels Spec.collectLoop
    exact CRel.same h1 h2 h3 h4
  | sel :: rest, st, acc, vis, B, h1, h2, h3, h4 => by
    unfold collectSels Spec.collectLoop
    exact (collectSel_rel sel st acc vis B h1 h2 h3 h4).bind
      fun st' acc' vis' c1 c2 c3 c4 => collectSels_rel rest st' acc' vis' B c1 c2 c3 c4
end

end Gql.Exec.Refine

namespace Gql.Exec.Refine
open Gql.Exec Gql.Exec.Impl

theorem appendGroup_of_not_mem (b : SG) (k : Name) (fs : List FieldNode) (h : k ∉ keys b) :
    Spec.appendGroup b k fs = b ++ [(k, fs)] :=
  appendGroup_eq b k fs ▸ List.extendAt_of_not_mem fs h

theorem mergeGroups_disjoint (b a : SG) (hnd : (keys a).Nodup)
    (hdis : ∀ k ∈ keys a, k ∉ keys b) : Spec.mergeGroups b a = b ++ a := by
  induction a generalizing b with
  | nil => simp [Spec.mergeGroups]
  | cons hd t ih =>
    obtain ⟨k, fs⟩ := hd
    have hk : k ∉ keys b := hdis k (by simp [keys])
    have hnd' : (keys t).Nodup := by
      simp only [keys, List.map_cons, List.nodup_cons] at hnd; exact hnd.2
    have hkt : k ∉ keys t := by
      simp only [keys, List.map_cons, List.nodup_cons] at hnd; exact hnd.1
    rw [mergeGroups_cons, appendGroup_of_not_mem b k fs hk, ih (b ++ [(k, fs)]) hnd']
    · simp
    · intro k' hk' hmem
      simp only [keys, List.map_append, List.map_cons, List.map_nil, List.mem_append,
        List.mem_singleton] at hmem
      rcases hmem with hmem | hmem
      · exact hdis k' (by simp only [keys, List.map_cons, List.mem_cons]; exact Or.inr hk') hmem
      · subst hmem; exact hkt hk'

theorem mergeGroups_nil_left (a : SG) (hnd : (keys a).Nodup) : Spec.mergeGroups [] a = a := by
  rw [mergeGroups_disjoint [] a hnd (by simp [keys])]
  rfl

variable (cx : Impl.Ctx) (hops : OpsOk cx.ops) (rt : Name) (hrt : cx.schema.kind rt = .object)

include hops hrt in
theorem recRel_fuel : ∀ n, RecRel cx rt (collectFuel cx rt n) (Spec.collectFieldsFuel (toSpec cx) rt n)
  | 0 => by
    intro sels st vis _ _
    simp [collectFuel, Spec.collectFieldsFuel, CRel]
  | n + 1 => by
    intro sels st vis h3 h4
    unfold collectFuel Spec.collectFieldsFuel
    exact collectSels_rel cx hops rt hrt _ _ (recRel_fuel n) sels st [] vis (nodes st.groups)
      (by rw [mergeGroups_nil]) (by simp [keys]) h3 h4

/-- what the executors need to know about one collection -/
def CollectPost (heap : List FieldNode) (ir : Out Exn (Groups × List FieldNode))
    (sr : Out ErrKind SG) : Prop :=
  match sr with
  | .ok G =>
    ∃ g heap', ir = .ok (g, heap') ∧ nodes g = G ∧ (keys G).Nodup ∧
      (∃ ext, heap' = heap ++ ext) ∧ GroupsOk heap' g
  | .err k => ir = .err (.raw k)
  | .crash c => ir = .crash c

theorem CRel.toPost {cx : Impl.Ctx} {rt : Name} {heap : List FieldNode} {ir : Out Exn CState}
    {sr : Out ErrKind (SG × List Name)} :
    CRel cx rt [] { groups := [], visited := [], heap := heap } ir sr →
    CollectPost heap
      (match ir with
        | .ok st => .ok (st.groups, st.heap)
        | .err e => .err e
        | .crash c => .crash c)
      (match sr with
        | .ok (g, _) => .ok g
        | .err e => .err e
        | .crash c => .crash c) := by
  intro h
  cases sr with
  | crash c => simp only [CRel] at h; rw [h]; rfl
  | err e => simp only [CRel] at h; rw [h]; rfl
  | ok r =>
    obtain ⟨st', e1, e2, e3, _, e5, e6⟩ := h
    rw [e1]
    exact ⟨st'.groups, st'.heap, rfl, by rw [e2]; exact mergeGroups_nil_left r.1 e3, e3, e5, e6⟩

include hops hrt in
theorem collectRoot_rel (sels : List Selection) (heap : List FieldNode) :
    CollectPost heap (collectRoot cx rt sels heap) (Spec.collectFields (toSpec cx) rt sels) :=
  (recRel_fuel cx hops rt hrt (fuelOf cx.doc) sels
    { groups := [], visited := [], heap := heap } [] (by simp [VisRel]) (by intro p hp; cases hp)).toPost

theorem collectLoop_append (scx : Spec.Ctx) (srecur) (a b : List Selection) (acc : SG) (vis : List Name) :
    Spec.collectLoop scx rt srecur (a ++ b) acc vis =
      match Spec.collectLoop scx rt srecur a acc vis with
      | .ok (acc', vis') => Spec.collectLoop scx rt srecur b acc' vis'
      | .err e => .err e
      | .crash c => .crash c := by
  induction a generalizing acc vis with
  | nil => simp [Spec.collectLoop]
  | cons hd t ih =>
    simp only [List.cons_append, Spec.collectLoop]
    cases hc : Spec.collectOne scx rt srecur hd acc vis with
    | crash c => rfl
    | err e => rfl
    | ok r => obtain ⟨a', v'⟩ := r; simp only; exact ih a' v'

include hops hrt in
theorem collectSubLoop_rel (fds : List FieldDetails) : ∀ (st : CState) (acc : SG) (vis : List Name),
    nodes st.groups = Spec.mergeGroups [] acc → (keys acc).Nodup → VisRel cx rt st.visited vis →
    GroupsOk st.heap st.groups →
    CRel cx rt [] st (collectSubLoop cx rt fds st)
      (Spec.collectLoop (toSpec cx) rt (Spec.collectFieldsFuel (toSpec cx) rt cx.doc.frags.length)
        (Spec.mergeSelectionSets (fds.map (·.node))) acc vis) := by
  induction fds with
  | nil =>
    intro st acc vis h1 h2 h3 h4
    simp only [collectSubLoop, List.map_nil, Spec.mergeSelectionSets, List.flatMap_nil, Spec.collectLoop]
    exact CRel.same h1 h2 h3 h4
  | cons fd rest ih =>
    intro st acc vis h1 h2 h3 h4
    simp only [collectSubLoop, List.map_cons, Spec.mergeSelectionSets, List.flatMap_cons]
    rw [collectLoop_append]
    exact (collectSels_rel cx hops rt hrt _ _ (recRel_fuel cx hops rt hrt cx.doc.frags.length)
      fd.node.sels st acc vis [] h1 h2 h3 h4).bind fun st' acc' vis' c1 c2 c3 c4 => ih st' acc' vis' c1 c2 c3 c4

include hops hrt in
theorem collectSubfields_rel (fds : List FieldDetails) (heap : List FieldNode) :
    CollectPost heap (collectSubfields cx rt fds heap)
      (Spec.collectFields (toSpec cx) rt (Spec.mergeSelectionSets (fds.map (·.node)))) :=
  (collectSubLoop_rel cx hops rt hrt fds { groups := [], visited := [], heap := heap } [] []
    rfl (by simp [keys]) (by simp [VisRel]) (by intro p hp; cases hp)).toPost

end Gql.Exec.Refine
