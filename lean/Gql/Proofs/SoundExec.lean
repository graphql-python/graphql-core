import Gql.Proofs.SoundCollect
import Gql.Proofs.SpecFacts

/-!
C13 — soundness: the hypotheses about the schema and the value layer (`SoundHyps`), the typing of
a single field node used by the statement for plain documents (`NodeWT`), and how the fields of a
runtime object type relate to those of the static type.
-/

namespace Gql.Exec.Valid
open Gql.Exec Gql.Exec.Refine

/-- schema validity and value-layer laws the soundness proof uses -/
structure SoundHyps (ops : Ops) (s : Schema) : Prop where
  opsSound : OpsSound ops s
  defaultsOk : DefaultsOk ops s
  /-- an object type implementing an interface has the interface's fields with identical
  definitions (the specification allows covariant return types; the stage proved here assumes
  identical ones) -/
  ifaceOk : ∀ (i o name : Name) (fd : FieldDef), s.isSubType i o = true → s.kind o = .object →
    getFieldAny s i name = some fd → s.getField o name = some fd
  stringId : ∀ cs, ops.serialize s "String" (.str cs) = some (.str cs)
  serializeShape : ∀ n l j, ops.serialize s n l = some j → j ≠ .null → leafShape s n j = true

def vctx (s : Schema) (doc : Doc) : VCtx := { schema := s, doc := doc, env := [] }

def NodeWT (s : Schema) (doc : Doc) (S : Name) (node : FieldNode) : Prop :=
  if isLeaf s S = true then node.sels = []
  else plainSels node.sels = true ∧ distinctSels node.sels = true ∧
    validSels (vctx s doc) S node.sels = true

theorem getField_eq_any {s : Schema} {o name : Name} (h : s.kind o = .object) :
    s.getField o name = getFieldAny s o name := by
  unfold Schema.getField Schema.objectFields getFieldAny
  unfold Schema.kind at h
  cases hl : s.lookup o with
  | none => simp [hl] at h
  | some d => cases d <;> simp_all

theorem getField_mem {s : Schema} {o name : Name} {fd : FieldDef} {fs : List FieldDef}
    (h : s.getField o name = some fd) (hfs : s.objectFields o = some fs) :
    fd ∈ fs ∧ fd.name = name := by
  unfold Schema.getField at h
  rw [hfs] at h
  exact ⟨List.mem_of_find?_eq_some h, by simpa using List.find?_some h⟩

theorem mergeSelectionSets_single (node : FieldNode) :
    Spec.mergeSelectionSets [node] = node.sels := by
  simp [Spec.mergeSelectionSets]

theorem runtimeType_kind {s : Schema} {n : Name} {tn : TN} {rt : Name}
    (h : runtimeType s n tn = some rt) : s.kind n = .object ∧ rt = n ∨
      s.kind n = .abstract ∧ Spec.resolveAbstractType s n tn = .ok rt := by
  unfold runtimeType at h
  cases hk : s.kind n with
  | object => simp only [hk, Option.some.injEq] at h; exact Or.inl ⟨rfl, h.symm⟩
  | abstract =>
    simp only [hk] at h
    cases hr : Spec.resolveAbstractType s n tn with
    | error k => simp [hr] at h
    | ok rt' => simp only [hr, Option.some.injEq] at h; subst h; exact Or.inr ⟨rfl, rfl⟩
  | leaf => simp [hk] at h
  | input => simp [hk] at h
  | unknown => simp [hk] at h

/-- the fields a selection set valid on `S` may name exist, identically, on the runtime type -/
def FieldsAgree (s : Schema) (S rt : Name) : Prop :=
  ∀ name fd, getFieldAny s S name = some fd → s.getField rt name = some fd

end Gql.Exec.Valid
