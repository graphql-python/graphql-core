import Gql.Proofs.Publisher
/-!
The domain of the publisher's id table, tracked along a stream of work-queue events (`domSteps`),
the two conditions on an event stream stated with it (`AnnFresh`: only nodes absent from the
tracked domain are announced; `EvsPre`: values and success are reported for tracked nodes), and
`DomIs`: the tracked domain is the table's domain.
-/
namespace Gql.Async
open Gql.Spec.Protocol

/-- (A superset of) the table's domain after the `_ensure_id` / `del` part of an event. -/
def domMid (D : List Node) : WQEvent → List Node
  | .groupValues g _ => Node.group g :: D
  | .groupSuccess g _ _ => D.filter (fun n => decide (n ≠ Node.group g))
  | .groupFailure g => D.filter (fun n => decide (n ≠ Node.group g))
  | .streamValues s _ _ _ => Node.stream s :: D
  | .streamSuccess s => D.filter (fun n => decide (n ≠ Node.stream s))
  | .streamFailure s => D.filter (fun n => decide (n ≠ Node.stream s))
  | .termination => D

def domStep (D : List Node) (e : WQEvent) : List Node := domMid D e ++ evNew e

def domSteps (D : List Node) (evs : List WQEvent) : List Node := evs.foldl domStep D

/-- The announcements of `e` are fresh with respect to the tracked domain `D`. -/
def annOk (D : List Node) (e : WQEvent) : Prop :=
  (evNew e).Nodup ∧ ∀ n ∈ evNew e, n ∉ domMid D e

/-- Every event of the stream announces fresh nodes. -/
def AnnFresh : List Node → List WQEvent → Prop
  | _, [] => True
  | D, e :: r => annOk D e ∧ AnnFresh (domStep D e) r

theorem annFresh_append (D : List Node) (a b : List WQEvent) :
    AnnFresh D (a ++ b) ↔ AnnFresh D a ∧ AnnFresh (domSteps D a) b := by
  induction a generalizing D with
  | nil => simp [AnnFresh, domSteps]
  | cons e a ih => simp [AnnFresh, domSteps, ih, and_assoc]

theorem domSteps_append (D : List Node) (a b : List WQEvent) :
    domSteps D (a ++ b) = domSteps (domSteps D a) b := by simp [domSteps]

/-- The node an event reports values / success for is in the tracked domain. -/
def evPre (D : List Node) : WQEvent → Prop
  | .groupValues g _ => Node.group g ∈ D
  | .groupSuccess g _ _ => Node.group g ∈ D
  | .streamValues s _ _ _ => Node.stream s ∈ D
  | .streamSuccess s => Node.stream s ∈ D
  | _ => True

def EvsPre : List Node → List WQEvent → Prop
  | _, [] => True
  | D, e :: r => evPre D e ∧ EvsPre (domStep D e) r

theorem evsPre_append (D : List Node) (a b : List WQEvent) :
    EvsPre D (a ++ b) ↔ EvsPre D a ∧ EvsPre (domSteps D a) b := by
  induction a generalizing D with
  | nil => simp [EvsPre, domSteps]
  | cons e a ih => simp [EvsPre, domSteps, ih, and_assoc]

def DomIs (p : Pub) (D : List Node) : Prop := ∀ n, n ∈ D ↔ ∃ i, alookup p.ids n = some i

theorem toPending_nil (π : PubStatic) (p : Pub) : toPendingResults π p [] [] = (p, []) := rfl

theorem domMid_node {e : WQEvent} {n : Node} (h : evNode e = some n) (D : List Node) :
    domMid D e = if (evDone e).isSome then D.filter (fun x => decide (x ≠ n)) else n :: D := by
  cases e <;> cases h <;> rfl

theorem evTable_dom (p : Pub) (n : Node) (d : Bool) (D : List Node) (h : DomIs p D) :
    DomIs (evTable p n d) (if d then D.filter (fun x => decide (x ≠ n)) else n :: D) := by
  intro m
  cases d with
  | false =>
    simp only [evTable, Bool.false_eq_true, if_false, List.mem_cons, h m]
    constructor
    · rintro (rfl | ⟨i, hi⟩)
      · exact ⟨_, ensureId_self p m⟩
      · exact ⟨i, ensureId_lookup p n m i hi⟩
    · rintro ⟨i, hi⟩
      exact (ensureId_dom p n m i hi).symm.imp id fun h => ⟨i, h⟩
  | true =>
    simp only [evTable, if_true, List.mem_filter, decide_eq_true_eq, h m]
    constructor
    · rintro ⟨⟨i, hi⟩, hne⟩
      exact ⟨i, dropId_lookup _ n m i (ensureId_lookup p n m i hi) hne⟩
    · rintro ⟨i, hi⟩
      obtain ⟨h1, h2⟩ := dropId_dom _ n m i hi
      exact ⟨(ensureId_dom p n m i h1).elim (fun h => ⟨i, h⟩) (absurd · h2), h2⟩

theorem Announced.domIs {p : Pub} {ns : List Node} {r : Pub × List (Node × Nat)} (sp : Announced p ns r)
    {D : List Node} (h : DomIs p D) : DomIs r.1 (D ++ ns) := by
  intro m
  rw [List.mem_append, h m]
  constructor
  · rintro (⟨i, hi⟩ | hm)
    · exact ⟨i, sp.keep m i hi⟩
    · rw [← sp.nodes] at hm
      obtain ⟨x, hx, rfl⟩ := List.mem_map.mp hm
      exact ⟨x.2, sp.mem x hx⟩
  · rintro ⟨i, hi⟩
    exact (sp.src m i hi).imp (fun h => ⟨i, h⟩) fun h => sp.nodes ▸ List.mem_map_of_mem (f := (·.1)) h

/-- `_handle_work_queue_event` moves the table's domain as `domStep` says. -/
theorem handleEvent_dom (π : PubStatic) (p : Pub) (c : PCtx) (e : WQEvent) (D : List Node)
    (h : DomIs p D) : DomIs (handleEvent π p c e).1 (domStep D e) := by
  cases hn : evNode e with
  | none =>
    rw [evNode_none hn, handleEvent_term]
    simpa [domStep, domMid, evNew] using h
  | some n =>
    rw [handleEvent_node π p c hn, domStep, domMid_node hn]
    exact (toPendingNodes_spec _ _).domIs (evTable_dom p n _ D h)

theorem handleEvents_dom (π : PubStatic) (evs : List WQEvent) {p : Pub} {c : PCtx} {D : List Node}
    (h : DomIs p D) : DomIs (handleEvents π p c evs).1 (domSteps D evs) := by
  induction evs generalizing p c D with
  | nil => exact h
  | cons e evs ih => rw [handleEvents_cons]; exact ih (handleEvent_dom π p c e D h)

theorem handleBatch_dom (π : PubStatic) (evs : List WQEvent) (p : Pub) (D : List Node)
    (h : DomIs p D) : DomIs (handleBatch π p evs).1 (domSteps D evs) :=
  handleEvents_dom π evs (c := {}) h

theorem publish_dom (π : PubStatic) (bs : List (List WQEvent)) (p : Pub) (D : List Node)
    (h : DomIs p D) : DomIs (publish π p bs).1 (domSteps D bs.flatten) := by
  induction bs generalizing p D with
  | nil => exact h
  | cons b bs ih =>
    simp only [publish, List.flatten_cons, domSteps_append]
    exact ih _ _ (handleBatch_dom π b p D h)

end Gql.Async
