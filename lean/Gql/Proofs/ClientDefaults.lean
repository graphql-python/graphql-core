import Gql.Types.IntroSchema
/-! C18: the default values that occur in a schema, and properties that hold of all of them. -/
namespace Gql.Types

variable {V : Type}

/-- Every default value of a list of arguments / input fields satisfies `P`. -/
def ivsSat (P : V → Prop) (ivs : List (InputValue V)) : Prop :=
  ∀ iv ∈ ivs, ∀ v, iv.default = some v → P v

/-- Every default value in a type (arguments of its fields, its input fields) satisfies `P`. -/
def typeSat (P : V → Prop) (t : TypeDef V) : Prop :=
  (∀ f ∈ t.fields, ivsSat P f.args) ∧ ivsSat P t.inputFields

/-- Every default value that occurs in the schema — arguments of fields, input fields, arguments of
directives — satisfies `P`. -/
def DefaultsSat (P : V → Prop) (s : Schema V) : Prop :=
  (∀ t ∈ s.types, typeSat P t) ∧ (∀ x ∈ s.directives, ivsSat P x.args)

/-- The default values of a schema, in order of occurrence. -/
def ivsDefaults (ivs : List (InputValue V)) : List V := ivs.filterMap (·.default)
def Schema.defaults (s : Schema V) : List V :=
  s.types.flatMap (fun t => t.fields.flatMap (fun f => ivsDefaults f.args) ++ ivsDefaults t.inputFields)
    ++ s.directives.flatMap (fun x => ivsDefaults x.args)

theorem ivsSat_iff (P : V → Prop) (ivs : List (InputValue V)) :
    ivsSat P ivs ↔ ∀ v ∈ ivsDefaults ivs, P v := by
  simp only [ivsSat, ivsDefaults, List.mem_filterMap]
  constructor
  · rintro h v ⟨iv, hiv, hv⟩; exact h iv hiv v hv
  · intro h iv hiv v hv; exact h v ⟨iv, hiv, hv⟩

theorem defaultsSat_iff (P : V → Prop) (s : Schema V) : DefaultsSat P s ↔ ∀ v ∈ s.defaults, P v := by
  simp only [DefaultsSat, typeSat, ivsSat_iff, Schema.defaults, List.mem_append, List.mem_flatMap]
  constructor
  · rintro ⟨ht, hd⟩ v (⟨t, htm, ⟨f, hf, hv⟩ | hv⟩ | ⟨x, hx, hv⟩)
    · exact (ht t htm).1 f hf v hv
    · exact (ht t htm).2 v hv
    · exact hd x hx v hv
  · intro h
    exact ⟨fun t ht => ⟨fun f hf v hv => h v (Or.inl ⟨t, ht, Or.inl ⟨f, hf, hv⟩⟩),
        fun v hv => h v (Or.inl ⟨t, ht, Or.inr hv⟩)⟩,
      fun x hx v hv => h v (Or.inr ⟨x, hx, hv⟩)⟩

end Gql.Types
