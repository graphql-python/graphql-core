import Gql.Async.Lifecycle
/-! Lemmas for C06: invariant and measure of the lifecycle bookkeeping machine. -/
namespace Gql.Async.Lifecycle

theorem pendingCount_modifyAt (f : Task → Task) (i : Nat) (l : List Task) (t : Task)
    (hi : l[i]? = some t) (hp : t.isPending = true) (hf : (f t).isPending = false) :
    pendingCount (modifyAt f i l) + 1 = pendingCount l := by
  induction l generalizing i with
  | nil => simp at hi
  | cons a l ih =>
    cases i with
    | zero =>
      simp at hi
      subst hi
      simp [modifyAt, pendingCount, hp, hf]
      omega
    | succ i =>
      simp at hi
      have := ih i hi
      simp [modifyAt, pendingCount]
      omega

theorem pendingCount_modifyAt_same (f : Task → Task) (i : Nat) (l : List Task)
    (hf : ∀ t, (f t).isPending = t.isPending) :
    pendingCount (modifyAt f i l) = pendingCount l := by
  induction l generalizing i with
  | nil => simp [modifyAt]
  | cons a l ih =>
    cases i with
    | zero => simp [modifyAt, pendingCount, hf]
    | succ i => simp [modifyAt, pendingCount, ih]

/-- The invariant of every state reachable when all created tasks are registered. -/
structure Inv (s : St) : Prop where
  reg : ∀ t ∈ s.tasks, t.registered = true
  srcRun : ∀ t ∈ s.tasks, t.src = some .running → t.isPending = true
  srcClosed : ∀ t ∈ s.tasks, ∀ n, t.src = some (.closed n) → n = 1
  stopped : s.phase ≠ .running → ∀ t ∈ s.tasks, t.isPending = true → t.cancelReq = true
  hook : s.hookFired = (if s.phase = .finished then 1 else 0)
  rel : s.released = (s.phase == .finished)

theorem inv_init : Inv init := by
  refine ⟨?_, ?_, ?_, ?_, ?_, ?_⟩ <;> simp [init]

/-- The clauses of `Inv` that speak of one task; `stopped`: the phase is not `running`. -/
def TaskOk (stopped : Prop) (t : Task) : Prop :=
  t.registered = true ∧ (t.src = some .running → t.isPending = true) ∧
    (∀ n, t.src = some (.closed n) → n = 1) ∧ (stopped → t.isPending = true → t.cancelReq = true)

theorem inv_iff (s : St) : Inv s ↔ (∀ t ∈ s.tasks, TaskOk (s.phase ≠ .running) t) ∧
    s.hookFired = (if s.phase = .finished then 1 else 0) ∧ s.released = (s.phase == .finished) :=
  ⟨fun ⟨h1, h2, h3, h4, h5, h6⟩ => ⟨fun t ht => ⟨h1 t ht, h2 t ht, h3 t ht, fun hs => h4 hs t ht⟩, h5, h6⟩,
    fun ⟨h, h5, h6⟩ => ⟨fun t ht => (h t ht).1, fun t ht => (h t ht).2.1, fun t ht => (h t ht).2.2.1,
      fun hs t ht => (h t ht).2.2.2 hs, h5, h6⟩⟩

theorem forall_modifyAt {P : Task → Prop} {f : Task → Task} {i : Nat} {l : List Task}
    (h : ∀ t ∈ l, P t) (hf : ∀ t, l[i]? = some t → P t → P (f t)) : ∀ t ∈ modifyAt f i l, P t := by
  induction l generalizing i with
  | nil => simp [modifyAt]
  | cons a l ih =>
    simp only [List.forall_mem_cons] at h
    cases i with
    | zero => simpa [modifyAt] using ⟨hf a rfl h.1, h.2⟩
    | succ i => simpa [modifyAt] using ⟨h.1, ih h.2 (fun t ht => hf t (by simpa using ht))⟩

theorem leave_ok {stopped : Prop} (t : Task) (st' : TaskSt) (hst : st' ≠ .pending)
    (h : TaskOk stopped t) : TaskOk stopped { t with st := st', src := closeSrc t.src } := by
  have hp : ({ t with st := st', src := closeSrc t.src } : Task).isPending = false := by
    cases st' <;> simp [Task.isPending] at hst ⊢
  refine ⟨h.1, ?_, ?_, fun _ hp' => by rw [hp] at hp'; cases hp'⟩
  · cases hs : t.src with
    | none => simp [closeSrc]
    | some x => cases x <;> simp [closeSrc]
  · intro n
    cases hs : t.src with
    | none => simp [closeSrc]
    | some x =>
      cases x <;> simp [closeSrc]
      · exact fun h => h.symm
      · exact fun h' => h.2.2.1 n (by rw [hs, h'])

theorem inv_step (s : St) (a : Action) (h : Inv s) (hen : enabled s a = true)
    (hreg : AllRegistered [a]) : Inv (step s a) := by
  rw [inv_iff] at h ⊢
  obtain ⟨ht, hh, hrel⟩ := h
  cases a with
  | spawn r hg ws =>
    have hph : s.phase = .running := by simpa [enabled] using hen
    refine ⟨fun t ht' => ?_, hh, hrel⟩
    simp only [step, List.mem_append, List.mem_singleton] at ht'
    rcases ht' with ht' | rfl
    · exact ht t ht'
    · exact ⟨hreg.1, by cases ws <;> simp, by cases ws <;> simp, fun hs => absurd hph hs⟩
  | startSrc i =>
    refine ⟨forall_modifyAt ht fun t hi h => ?_, hh, hrel⟩
    simp only [enabled, hi, Bool.and_eq_true] at hen
    exact ⟨h.1, fun _ => hen.1.1, fun n h' => (by cases h'), h.2.2.2⟩
  | finish i => exact ⟨forall_modifyAt ht fun t _ h => leave_ok t .done (by simp) h, hh, hrel⟩
  | deliverCancel i =>
    exact ⟨forall_modifyAt ht fun t _ h => leave_ok t .cancelled (by simp) h, hh, hrel⟩
  | stop k =>
    have hph : s.phase = .running := by simpa [enabled] using hen
    refine ⟨fun t ht' => ?_, by simp [step, hh, hph], by simp only [step, hrel, hph]; decide⟩
    obtain ⟨u, hu, rfl⟩ := List.mem_map.mp ht'
    obtain ⟨h1, h2, h3, _⟩ := ht u hu
    unfold requestCancel
    split
    · exact ⟨h1, h2, h3, fun _ _ => rfl⟩
    · rename_i hn
      exact ⟨h1, h2, h3, fun _ hp => by simp [hp, h1] at hn⟩
  | fireHook =>
    have hph : s.phase = .stopping := by
      simp [enabled] at hen; exact hen.1
    refine ⟨fun t ht' => ?_, by simp [step, hh, hph], by simp [step]⟩
    obtain ⟨h1, h2, h3, h4⟩ := ht t ht'
    exact ⟨h1, h2, h3, fun _ => h4 (by simp [hph])⟩

theorem allRegistered_cons {a : Action} {acts : List Action} (h : AllRegistered (a :: acts)) :
    AllRegistered [a] ∧ AllRegistered acts := by
  cases a <;> simp_all [AllRegistered]

theorem inv_run (acts : List Action) (s : St) (h : Inv s) (hreg : AllRegistered acts)
    (hen : EnabledRun s acts) : Inv (run s acts) := by
  induction acts generalizing s with
  | nil => exact h
  | cons a acts ih =>
    exact ih _ (inv_step s a h hen.1 (allRegistered_cons hreg).1) (allRegistered_cons hreg).2 hen.2

theorem inv_stop (pre : List Action) (k : StopKind) (hreg : AllRegistered pre)
    (hpre : EnabledRun init pre) (hstop : enabled (run init pre) (.stop k) = true) :
    Inv (step (run init pre) (.stop k)) :=
  inv_step _ (.stop k) (inv_run pre init inv_init hreg hpre) hstop trivial

theorem quiescent_good (s : St) (h : Inv s) (hph : s.phase ≠ .running) (hq : Quiescent s) :
    Good s := by
  obtain ⟨hr, hsr, hsc, hst, hh, hrel⟩ := h
  have hnp : ∀ t ∈ s.tasks, t.isPending = false := by
    intro t ht
    cases hp : t.isPending with
    | false => rfl
    | true =>
      obtain ⟨i, hi⟩ := List.mem_iff_getElem?.1 ht
      have := hq (.deliverCancel i)
      simp [enabled, hi, hp, hst hph t ht hp] at this
  have hfin : s.phase = .finished := by
    cases hphase : s.phase with
    | running => exact absurd hphase hph
    | finished => rfl
    | stopping =>
      have := hq .fireHook
      simp [enabled, hphase] at this
      obtain ⟨t, ht, hp, _⟩ := this
      rw [hnp t ht] at hp; cases hp
  refine ⟨hnp, ?_, ?_, ?_⟩
  · intro t ht
    cases hs : t.src with
    | none => exact Or.inl rfl
    | some st =>
      cases st with
      | notStarted => exact Or.inr (Or.inl rfl)
      | running => have := hsr t ht hs; rw [hnp t ht] at this; cases this
      | closed n => have := hsc t ht n hs; subst this; exact Or.inr (Or.inr rfl)
  · simp [hh, hfin]
  · simp [hrel, hfin]

theorem phase_step (s : St) (a : Action) (hph : s.phase ≠ .running) :
    (step s a).phase ≠ .running := by
  cases a <;> simp [step, hph]

theorem fuel_step (s : St) (a : Action) (h : Inv s) (hph : s.phase ≠ .running)
    (hen : enabled s a = true) : fuel (step s a) + 1 = fuel s := by
  cases a with
  | spawn r hg ws => simp [enabled] at hen; exact absurd hen hph
  | stop k => simp [enabled] at hen; exact absurd hen hph
  | startSrc i | finish i =>
    -- after the stop a pending task has been asked to cancel: only the cancellation is delivered
    simp only [enabled] at hen
    cases hi : s.tasks[i]? with
    | none => simp [hi] at hen
    | some t =>
      simp [hi] at hen
      simp [h.stopped hph t (List.mem_of_getElem? hi) hen.1.1] at hen
  | deliverCancel i =>
    simp only [enabled] at hen
    cases hi : s.tasks[i]? with
    | none => simp [hi] at hen
    | some t =>
      simp [hi] at hen
      simp only [fuel, step]
      rw [Nat.add_right_comm, pendingCount_modifyAt _ i _ t hi hen.1 rfl]
      rfl
  | fireHook =>
    simp [enabled] at hen
    simp [fuel, step, hen.1]

theorem run_bounded (acts : List Action) (s : St) (h : Inv s) (hph : s.phase ≠ .running)
    (hreg : AllRegistered acts) (hen : EnabledRun s acts) : acts.length ≤ fuel s := by
  induction acts generalizing s with
  | nil => simp
  | cons a acts ih =>
    obtain ⟨he, hrest⟩ := hen
    have := ih (step s a) (inv_step s a h he (allRegistered_cons hreg).1) (phase_step s a hph)
      (allRegistered_cons hreg).2 hrest
    have hf := fuel_step s a h hph he
    simp; omega

theorem phase_run (acts : List Action) (s : St) (hph : s.phase ≠ .running) :
    (run s acts).phase ≠ .running := by
  induction acts generalizing s with
  | nil => exact hph
  | cons a acts ih => exact ih _ (phase_step s a hph)

instance decEnabledRun : (s : St) → (acts : List Action) → Decidable (EnabledRun s acts)
  | _, [] => isTrue trivial
  | s, a :: acts =>
    have := decEnabledRun (step s a) acts
    (inferInstance : Decidable (enabled s a = true ∧ EnabledRun (step s a) acts))

instance decAllRegistered : (acts : List Action) → Decidable (AllRegistered acts)
  | [] => isTrue trivial
  | .spawn r _ _ :: acts =>
    have := decAllRegistered acts
    (inferInstance : Decidable (r = true ∧ AllRegistered acts))
  | .startSrc _ :: acts => decAllRegistered acts
  | .finish _ :: acts => decAllRegistered acts
  | .stop _ :: acts => decAllRegistered acts
  | .deliverCancel _ :: acts => decAllRegistered acts
  | .fireHook :: acts => decAllRegistered acts

end Gql.Async.Lifecycle
