import Gql.Proofs.ExecArgs

/-!
C02 — simulation of `execute_field` and of `execute_fields` over a grouped field set; `Outcome`
of a sibling loop with its two rules: the frame shared with list completion (`Outcome.cons`, the
implementation side of `R.andThen`) and the step to the parent value (`Outcome.map`).
-/

namespace Gql.Exec.Refine
open Gql.Exec Gql.Exec.Impl

theorem asList_cons (seg : ISeg) (p : IPath) : asList (seg :: p) = asList p ++ [seg.toP] := by
  simp [asList]

def ChildRel (cx : Ctx) (ichild : Child) (schild : Spec.Child) : Prop :=
  ∀ name args t fds path,
    Sim cx path true (fun h => FdsOk h fds) (ichild name args t fds path)
      (schild name args t (fds.map (·.node)) (asList path))

theorem completeLeaf_sim (cx : Ctx) (path : IPath) (pre : List FieldNode → Prop) (n : Name)
    (l : PyLeaf) :
    Sim cx path true pre (completeLeaf cx n l) (Spec.coerceResult (toSpec cx) (asList path) n l) := by
  unfold completeLeaf Spec.coerceResult
  simp only [toSpec_ops, toSpec_schema]
  cases hs : cx.ops.serialize cx.schema n l with
  | none => exact Sim.throw_raw _
  | some j =>
    cases j with
    | null => exact Sim.throw_raw _
    | _ => exact Sim.pure_ok _

theorem completeNull_sim (cx : Ctx) (path : IPath) (pre : List FieldNode → Prop) (t : TypeRef) :
    Sim cx path true pre (completeNull t) (Spec.completeNull t (asList path)) := by
  unfold completeNull Spec.completeNull
  cases t.nonNull with
  | true => exact Sim.throw_raw _
  | false => exact Sim.pure_ok _

variable (cx : Ctx) (hops : OpsOk cx.ops)

include hops in
/-- the body of `execute_field`'s `try`: arguments, resolver call (logged), completion -/
theorem fieldBody_sim (parent : Name) (ichild : Child) (schild : Spec.Child)
    (hch : ChildRel cx ichild schild) (path : IPath) (fds : List FieldDetails)
    (name : Name) (fdef : FieldDef) (hf : cx.schema.getField parent name = some fdef)
    (args : List (Name × Value)) :
    Sim cx path true (fun h => FdsOk h fds)
      (M.bind (getArgumentValues cx parent name args 0 fdef.args []) fun a =>
        M.bind (logCall { path := asList path, parent := parent, field := name, args := a })
          fun _ => ichild name a fdef.type fds path)
      (match Spec.coerceArgumentValues (toSpec cx) args fdef.args [] with
        | none => Spec.R.fail (asList path) .argCoercion
        | some argumentValues =>
          let c := schild name argumentValues fdef.type (fds.map (·.node)) (asList path)
          { c with log := { path := asList path, parent := parent, field := name,
                            args := argumentValues } :: c.log }) := by
  intro st hinv hpre
  obtain ⟨dm', hdm', hargs⟩ := getArgumentValues_eq cx hops parent name fdef hf args fdef.args 0 []
    st (by simp) hinv.dmemo
  cases hc : Spec.coerceArgumentValues (toSpec cx) args fdef.args [] with
  | none =>
    simp only [hc] at hargs
    refine ⟨{ st with dmemo := dm' }, .raw .argCoercion, [], by simp [M.bind, hargs], rfl, ?_, by simp⟩
    exact ⟨by simp, by simp [Spec.R.fail], ⟨[], by simp, by simp⟩, ⟨[], by simp⟩,
      hinv.memo.congr rfl rfl, hdm'⟩
  | some m =>
    simp only [hc] at hargs
    let call : Call := { path := asList path, parent := parent, field := name, args := m }
    let st2 : EState := { st with dmemo := dm', log := st.log ++ [call] }
    have hm2 : MemoInv cx st2 := hinv.memo.congr rfl rfl
    rw [show (M.bind (getArgumentValues cx parent name args 0 fdef.args []) fun a =>
        M.bind (logCall { path := asList path, parent := parent, field := name, args := a })
          fun _ => ichild name a fdef.type fds path) st = ichild name m fdef.type fds path st2 by
      simp [M.bind, hargs, logCall, st2, call]]
    exact (hch name m fdef.type fds path st2 ⟨hm2, hdm', hinv.pos⟩ hpre).prefix
      ⟨by simp [st2], rfl, ⟨[], by simp [st2], by simp⟩, ⟨[], by simp [st2]⟩, hm2, hdm'⟩

include hops in
theorem executeField_sim (parent : Name) (ichild : Child) (schild : Spec.Child)
    (hch : ChildRel cx ichild schild) (path : IPath) (fds : List FieldDetails) :
    Sim cx path false (fun h => FdsOk h fds) (executeField cx parent ichild path fds)
      (Spec.executeField (toSpec cx) parent schild (asList path) (fds.map (·.node))) := by
  cases fds with
  | nil => intro st _ hpre; exact absurd rfl hpre.1
  | cons fd0 rest =>
    unfold executeField Spec.executeField
    simp only [List.map_cons, toSpec_schema]
    by_cases hty : (fd0.node.name == "__typename") = true
    · simp only [hty, ↓reduceIte]
      exact Sim.map some (Sim.protect typenameType (completeLeaf_sim cx path _ "String" _))
    · simp only [hty, Bool.false_eq_true, ↓reduceIte]
      cases hf : cx.schema.getField parent fd0.node.name with
      | none => exact Sim.pure_ok none
      | some fdef =>
        exact Sim.map some (Sim.protect fdef.type
          (fieldBody_sim cx hops parent ichild schild hch path (fd0 :: rest) fd0.node.name fdef hf
            fd0.node.args))

/-- outcome of a computation producing `α` against a specification result (like `Sim`, for a
given start state) -/
def Outcome (cx : Ctx) (path : IPath) {α : Type} (res : Out Exn α × EState) (st : EState)
    (r : Spec.R α) : Prop :=
  ∃ st', match r.out with
  | some a => res = (.ok a, st') ∧ Post cx st st' path true r.errs r.log
  | none => ∃ e es, res = (.err (.located e), st') ∧ r.errs = es ++ [e] ∧
      Post cx st st' path true es r.log

theorem Post.sibling {cx : Ctx} {st st1 : EState} {path : IPath} {seg seg' : ISeg} {strict : Bool}
    {e : List FErr} {l : List Call} (hp : Post cx st st1 (seg :: path) strict e l)
    (hpos : PosInv st.positions (seg' :: path)) (hne : seg ≠ seg') :
    PosInv st1.positions (seg' :: path) := by
  obtain ⟨ps, hps, hq⟩ := hp.positions
  intro o ho
  rw [hps] at ho
  rcases List.mem_append.1 ho with ho | ho
  · exact hpos o ho
  · obtain ⟨q, rfl, hsuf, _⟩ := hq o ho
    exact ⟨q, rfl, incomparable_sibling hne hsuf⟩

/-- The frame of `execute_fields` and of list completion: a protected computation at the child
position `seg :: path`, then the remaining siblings.  A (located) exception of the first ends the
sequence with the errors so far; otherwise values, errors and calls combine: the specification
side is `R.andThen`. -/
theorem Outcome.cons {cx : Ctx} {path : IPath} {seg : ISeg} {st : EState} {pre : List FieldNode → Prop}
    {α β γ : Type} {m1 : M α} {r1 : Spec.R α} {m2 : M β} {r2 : Spec.R β} {f : α → β → γ}
    (h1 : Sim cx (seg :: path) false pre m1 r1)
    (hinv : Inv cx st (seg :: path)) (hpre : pre st.heap)
    (h2 : ∀ st1, Post cx st st1 (seg :: path) false r1.errs r1.log → Outcome cx path (m2 st1) st1 r2) :
    Outcome cx path ((M.bind m1 fun a => M.bind m2 fun b => M.pure (f a b)) st) st
      (r1.andThen f r2) := by
  obtain ⟨st1, h⟩ := h1 st hinv hpre
  unfold Spec.R.andThen
  cases hout : r1.out with
  | none =>
    simp only [hout] at h
    obtain ⟨exn, es, he, herrs, hp, hloc⟩ := h
    obtain ⟨e, rfl⟩ := hloc trivial
    exact ⟨st1, e, es, by simp [M.bind, he], herrs, hp.lift⟩
  | some a =>
    simp only [hout] at h
    obtain ⟨st2, h2⟩ := h2 st1 h.2
    refine ⟨st2, ?_⟩
    cases hout2 : r2.out with
    | none =>
      simp only [hout2] at h2
      obtain ⟨e, es, he2, herrs2, hp2⟩ := h2
      exact ⟨e, r1.errs ++ es, by simp [M.bind, h.1, he2], by rw [herrs2, List.append_assoc],
        h.2.lift.trans hp2⟩
    | some b =>
      simp only [hout2] at h2
      exact ⟨by simp [M.bind, M.pure, h.1, h2.1], h.2.lift.trans h2.2⟩

/-- an `Outcome`, then `pure ∘ g` -/
theorem Outcome.map {cx : Ctx} {path : IPath} {st : EState} {α β : Type} {m : M α} {r : Spec.R α}
    (g : α → β) (h : Outcome cx path (m st) st r) :
    Run cx path true ((M.bind m fun a => M.pure (g a)) st) st (r.mapOut g) := by
  obtain ⟨st', h⟩ := h
  refine ⟨st', ?_⟩
  unfold Spec.R.mapOut
  cases hout : r.out with
  | none =>
    simp only [hout] at h
    obtain ⟨e, es, he, herrs, hp⟩ := h
    exact ⟨.located e, es, by simp [M.bind, he], herrs, hp, by simp⟩
  | some a =>
    simp only [hout] at h
    exact ⟨by simp [M.bind, M.pure, h.1], h.2⟩

include hops in
theorem executeFields_sim (parent : Name) (ichild : Child) (schild : Spec.Child)
    (hch : ChildRel cx ichild schild) (path : IPath) :
    ∀ (groups : Groups) (st : EState), MemoInv cx st → DInv cx st.dmemo →
      (∀ p ∈ groups, PosInv st.positions (.key p.1 parent :: path)) →
      GroupsOk st.heap groups → (groups.map (·.1)).Nodup →
      Outcome cx path (executeFields cx parent ichild path groups st) st
        (Spec.executeGroups (toSpec cx) parent schild (asList path) (nodes groups)) := by
  intro groups
  induction groups with
  | nil =>
    intro st hm hd _ _ _
    exact ⟨st, rfl, Post.refl hm hd⟩
  | cons hd tl ih =>
    obtain ⟨key, fds⟩ := hd
    intro st hm hdm hpos hok hnd
    simp only [List.map_cons, List.nodup_cons] at hnd
    have h1 := executeField_sim cx hops parent ichild schild hch (.key key parent :: path) fds
    rw [show asList (ISeg.key key parent :: path) = asList path ++ [PSeg.key key] from asList_cons _ _] at h1
    simp only [executeFields, nodes, List.map_cons, Spec.executeGroups_cons]
    refine Outcome.cons h1 ⟨hm, hdm, hpos _ (List.mem_cons_self ..)⟩ (hok _ (List.mem_cons_self ..))
      (fun st1 hp => ?_)
    obtain ⟨ext, hext⟩ := hp.heap
    exact ih st1 hp.memo hp.dmemo
      (fun p hp' => hp.sibling (hpos p (List.mem_cons_of_mem _ hp'))
        (by intro h; cases h; exact hnd.1 (List.mem_map_of_mem hp')))
      (hext ▸ GroupsOk.mono (fun p hp' => hok p (List.mem_cons_of_mem _ hp')) ext) hnd.2

end Gql.Exec.Refine
