import Gql.Proofs.BlockPrinter
import Gql.Proofs.LexerBlock
/-!
C08-2, forcedness: every value the lexer produces for a block string literal is
`BlockRepresentable` — the hypothesis of `block_roundtrip` excludes nothing that a parsed
document can contain.  The raw lines collected by `read_block_string` are the specification's
split of the raw text at line terminators (`readBlockStringLoop_agree`), so they contain no line
terminator (`readBlockString_lines`); the dedentation of any such lines is block-representable
(`dedent_representable`).
-/
namespace Gql.Text
open Gql.Spec.Lex (splitLinesAux blockRest isBlank)

def NoNL (l : List Nat) : Prop := ∀ c ∈ l, c ≠ 10 ∧ c ≠ 13

theorem NoNL_nil : NoNL [] := by intro c hc; simp at hc

theorem NoNL_append {a b : List Nat} (ha : NoNL a) (hb : NoNL b) : NoNL (a ++ b) := by
  intro c hc
  rcases List.mem_append.mp hc with h | h
  · exact ha c h
  · exact hb c h

theorem splitLinesAux_NoNL (cur raw : List Nat) (h : NoNL cur) : ∀ l ∈ splitLinesAux cur raw, NoNL l := by
  have hcons : ∀ {cur rest : List Nat}, NoNL cur → (∀ l ∈ splitLinesAux [] rest, NoNL l) →
      ∀ l ∈ cur :: splitLinesAux [] rest, NoNL l :=
    fun h ih l hl => (List.mem_cons.mp hl).elim (fun e => e ▸ h) (ih l)
  induction cur, raw using Gql.Spec.Lex.splitLinesAux.induct with
  | case1 cur => simpa [splitLinesAux] using h
  | case2 cur rest ih => rw [splitLinesAux_crlf]; exact hcons h (ih NoNL_nil)
  | case3 cur rest hr ih =>
    rw [splitLinesAux_cr _ _ fun h => (List.head?_eq_some_iff.mp h).elim fun r e => hr r e]
    exact hcons h (ih NoNL_nil)
  | case4 cur rest ih => rw [splitLinesAux_lf]; exact hcons h (ih NoNL_nil)
  | case5 cur c rest _ h13 h10 ih =>
    rw [splitLinesAux_plain _ _ _ h10 h13]
    exact ih (NoNL_append h fun d hd => by simp at hd; subst hd; exact ⟨h10, h13⟩)

theorem readBlockString_lines (body : List Nat) (st : LexState) (start : Nat) (tok : Token)
    (st' : LexState) (h : readBlockString body st start = .ok (tok, st')) :
    ∃ lines, tok.value = some (joinLines (dedentBlockStringLines lines)) ∧ ∀ l ∈ lines, NoNL l := by
  unfold readBlockString at h
  have hag := readBlockStringLoop_agree body st start (start + 3) _ (start + 3) st.lineStart [] []
    (Nat.le_refl _) (Nat.le_refl _)
  cases hbr : blockRest (body.length - (start + 3)) (body.drop (start + 3)) with
  | none =>
    rw [hbr] at hag
    obtain ⟨e, he⟩ := hag
    rw [he] at h; cases h
  | some nraw =>
    rw [hbr] at hag
    obtain ⟨st'', hst⟩ := hag
    rw [hst] at h
    cases h
    exact ⟨_, rfl, fun l hl => splitLinesAux_NoNL _ _ (by simp [slice_self, NoNL_nil]) l hl⟩

theorem getElem?_cons_zero' {α : Type} (a : α) (l : List α) : (a :: l)[0]? = some a := rfl

theorem splitLF_no10 (l : List Nat) (h : ∀ c ∈ l, c ≠ 10) : splitLF l = [l] := by
  induction l with
  | nil => rfl
  | cons a r ih =>
    have ha : a ≠ 10 := h a (by simp)
    have := ih (fun c hc => h c (by simp [hc]))
    simp [splitLF, ha, this]

theorem splitLF_append_lf (l X : List Nat) (h : ∀ c ∈ l, c ≠ 10) :
    splitLF (l ++ 10 :: X) = l :: splitLF X := by
  rw [← linesFrom_nil, linesFrom_append_lf, linesFrom_nil, linesFrom_nil, splitLF_no10 l h]; rfl

theorem splitLF_joinLines (D : List (List Nat)) (hD : D ≠ []) (h : ∀ l ∈ D, NoNL l) :
    splitLF (joinLines D) = D := by
  induction D with
  | nil => exact absurd rfl hD
  | cons l rest ih =>
    have hl : ∀ c ∈ l, c ≠ 10 := fun c hc => (h l (by simp) c hc).1
    by_cases hr : rest = []
    · subst hr; simp [joinLines, splitLF_no10 l hl]
    · rw [joinLines_cons l rest hr]
      simp only [List.append_assoc, List.singleton_append]
      rw [splitLF_append_lf l _ hl, ih hr (fun x hx => h x (by simp [hx]))]

theorem joinLines_no13 (D : List (List Nat)) (h : ∀ l ∈ D, NoNL l) : ∀ c ∈ joinLines D, c ≠ 13 := by
  induction D with
  | nil => intro c hc; simp [joinLines] at hc
  | cons l rest ih =>
    by_cases hr : rest = []
    · subst hr; intro c hc; simp [joinLines] at hc; exact (h l (by simp) c hc).2
    · rw [joinLines_cons l rest hr]
      intro c hc
      simp at hc
      rcases hc with hc | hc | hc
      · exact (h l (by simp) c hc).2
      · subst hc; decide
      · exact ih (fun x hx => h x (by simp [hx])) c hc

theorem cut_NoNL (ci : Option Nat) {x : List Nat} (hx : NoNL x) : NoNL (cut ci x) := by
  cases ci with
  | none => exact NoNL_nil
  | some c => exact fun d hd => hx d (List.mem_of_mem_drop hd)

theorem dedent_representable (lines : List (List Nat)) (hnl : ∀ l ∈ lines, NoNL l) :
    BlockRepresentable (joinLines (dedentBlockStringLines lines)) := by
  cases lines with
  | nil => rfl
  | cons a t =>
    rw [dedent_eq_trim]
    obtain ⟨_, _, _, _, _, hhd, hlast⟩ := trim_spec (a :: t.map (cut (cmin none t)))
    generalize hD : trim (a :: t.map (cut (cmin none t))) = D at hhd hlast
    by_cases hne : D = []
    · subst hne; rfl
    have hDnl : ∀ l ∈ D, NoNL l := by
      intro l hl
      rcases List.mem_cons.mp (mem_of_mem_trim (hD ▸ hl)) with rfl | h
      · exact hnl _ (by simp)
      · obtain ⟨x, hx, rfl⟩ := List.mem_map.mp h
        exact cut_NoNL _ (hnl x (by simp [hx]))
    -- one line only (no later line is non-blank), or the line that attains the common indentation
    -- survives unindented
    have hthird : D.length = 1 ∨ ∃ x ∈ D, Unindented x := by
      cases hc : cmin none t with
      | none =>
        have hb : ∀ x ∈ t.map (cut none), Blank x := by
          intro x hx; simp [cut] at hx; rw [hx.2]; rfl
        rw [hc, trim_cons_allBlank a _ hb] at hD
        split at hD <;> subst hD
        · exact absurd rfl hne
        · exact Or.inl rfl
      | some c =>
        rcases (cmin_spec t none c hc).2.2 with h | ⟨x, hx, hnb, hl⟩
        · cases h
        · have hnb' : ¬ Blank (x.drop c) := mt (blank_drop_iff (by omega)).mp hnb
          refine Or.inr ⟨x.drop c, ?_, hnb', by rw [lws_drop x c (by omega)]; omega⟩
          rw [← hD, hc]
          exact mem_trim (List.mem_cons_of_mem _ (List.mem_map_of_mem (f := cut (some c)) hx)) hnb'
    refine (blockRepresentable_iff _).mpr (.inr ⟨joinLines_no13 D hDnl, ?_⟩)
    rw [splitLF_joinLines D hne hDnl]
    exact ⟨_, _, List.head?_eq_some_head hne, List.getLast?_eq_some_getLast hne,
      hhd _ (List.head?_eq_some_head hne), hlast _ (List.getLast?_eq_some_getLast hne), hthird⟩

/-- `BlockStringValue()` of any raw text is block-representable. -/
theorem blockStringValue_representable (raw : List Nat) :
    BlockRepresentable (Gql.Spec.Lex.blockStringValue raw) := by
  unfold Gql.Spec.Lex.blockStringValue Gql.Spec.Lex.splitLines
  rw [← dedent_eq_spec, ← joinLines_eq]
  exact dedent_representable _ (splitLinesAux_NoNL [] raw NoNL_nil)

/-- **Forcedness.** Every block string token value the lexer produces is block-representable. -/
theorem readBlockString_representable (body : List Nat) (st : LexState) (start : Nat) (tok : Token)
    (st' : LexState) (h : readBlockString body st start = .ok (tok, st')) :
    ∃ v, tok.value = some v ∧ BlockRepresentable v := by
  obtain ⟨lines, hv, hnl⟩ := readBlockString_lines body st start tok st' h
  exact ⟨_, hv, dedent_representable lines hnl⟩

end Gql.Text
