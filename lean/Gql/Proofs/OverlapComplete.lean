import Gql.Proofs.OverlapRun
import Gql.Proofs.OverlapHyps
/-! C14, named fragments, completeness: a run that reports nothing keeps the invariant of
`OverlapRun` and establishes the post-condition of each of its calls (`Call.Post`). One step may
write one memo entry; once its body has run, the entry is closed (`step_complete`);
`run_complete` is the induction over the run; hence `implConflictsFuel_complete`. -/
namespace Gql.Exec
open Overlap

/-- what `find_conflicts_between_sub_selection_sets(e, t1, t2)` establishes -/
def SubOK (s : Schema) (d : Doc) (σ : St) (e : Bool) (t1 t2 : TSet) : Prop :=
  PairsPass s d σ e t1 t2 ∧
    (∀ n ∈ selsDirectSpreads t2.2.sels, CovFF σ t1.2.id (keyOf d n) e) ∧
    (∀ n ∈ selsDirectSpreads t1.2.sels, CovFF σ t2.2.id (keyOf d n) e) ∧
    (∀ n1 ∈ selsDirectSpreads t1.2.sels, ∀ n2 ∈ selsDirectSpreads t2.2.sels,
      CovFR σ (keyOf d n1) (keyOf d n2) e)

section
variable (env : Env)

/-- what a call that reported nothing has established, relative to the memo tables -/
def Call.Post : Call → St → Prop
  | .fc excl _ e1 e2, σ => PPass env.s env.d σ excl e1.inst e2.inst
  | .bs excl t1 t2 _ _, σ => SubOK env.s env.d σ excl t1 t2
  | .ff excl t _ sp, σ => CovFF σ t.2.id sp.key excl
  | .fr excl sp1 sp2, σ => CovFR σ sp1.key sp2.key excl
  | .ws t _, σ => SetsCov env.s env.d σ false t t

variable {env}

theorem Call.Post.mono {c : Call} {σ σ' : St} (hT : TLe σ σ') (h : c.Post env σ) :
    c.Post env σ' := by
  cases c with
  | fc => exact PPass.mono hT h
  | bs =>
    exact ⟨h.1.mono hT, fun n hn => (h.2.1 n hn).mono hT, fun n hn => (h.2.2.1 n hn).mono hT,
      fun n1 h1 n2 h2 => (h.2.2.2 n1 h1 n2 h2).mono hT⟩
  | ff => exact CovFF.mono hT h
  | fr => exact CovFR.mono hT h
  | ws =>
    exact ⟨fun c1 h1 c2 h2 hrn => (h.1 c1 h1 c2 h2 hrn).imp (.mono hT) (.imp_left (.mono hT)),
      fun n hn => (h.2.1 n hn).mono hT, fun n hn => (h.2.2.1 n hn).mono hT,
      fun n1 h1 n2 h2 => (h.2.2.2 n1 h1 n2 h2).mono hT⟩

theorem pairsPass_of_between {σ : St} {e : Bool} {t1 t2 : TSet} {q1 q2 : Option String}
    (hq1 : PEq env.s t1.1 q1) (hq2 : PEq env.s t2.1 q2)
    (h : ∀ u ∈ betweenPairs (fmOf env t1 q1) (fmOf env t2 q2), (Call.fcOf e u).Post env σ) :
    PairsPass env.s env.d σ e t1 t2 := by
  intro c1 hc1 c2 hc2 hrn
  obtain ⟨u, hu, i1, i2⟩ := between_of_flat env hq1 hq2 hc1 hc2 hrn
  exact PPass.instEq (h u hu) i1 i2

/-- the rule lists a spread for every direct spread of a typed set -/
theorem mem_sprs (hK : KeysInj env.d) {t : TSet} (ht : t ∈ env.d.typedSets env.s) {n : String}
    (hn : n ∈ selsDirectSpreads t.2.sels) : mkSpread env.d n ∈ sprs env t :=
  mem_spreadsOf_of_name hK (Doc.typedSets_spreads ht) hn

/-- One step of a run that reports nothing: once the body has run and established its posts, the
memo entry the step wrote (if any) is closed and the call's own post holds. -/
theorem step_complete (hU : TypedIdsUnique env.s env.d) (hK : KeysInj env.d)
    {c : Call} {σ σ0 σ1 : St} {body : List Call} {wrap : List Conflict → List Conflict}
    (hw : c.WF env) (hs : Step env c σ body σ0 wrap) (hq : wrap [] = [])
    (h1 : ClosedSince env.s env.d σ0 σ1) (pb : ∀ b ∈ body, b.Post env σ1) :
    ClosedSince env.s env.d σ σ1 ∧ c.Post env σ1 := by
  cases hs with
  | fc_fire => cases hq
  | fc_leaf hdir hno =>
    exact ⟨h1, PPass.mk hdir (fun a b => absurd ⟨a, b⟩ hno) (fun a b => absurd ⟨a, b⟩ hno)⟩
  | fc_sub hdir hs1 hs2 =>
    obtain ⟨hp, x1, x2, x3⟩ := pb _ List.mem_cons_self
    exact ⟨h1, PPass.mk hdir (fun _ _ c1 hc1 c2 hc2 hrn => hp c1 hc1 c2 hc2 hrn)
      (fun _ _ => ⟨x1, x2, x3⟩)⟩
  | bs hq1 hq2 =>
    obtain ⟨ht1, ht2, _, _⟩ := hw
    simp only [fcs, List.forall_mem_append, List.forall_mem_map, List.forall_mem_flatMap] at pb
    obtain ⟨pfc, pf1, pf2, pfr⟩ := pb
    exact ⟨h1, pairsPass_of_between hq1 hq2 pfc, fun n hn => pf1 _ (mem_sprs hK ht2 hn),
      fun n hn => pf2 _ (mem_sprs hK ht1 hn),
      fun n1 hn1 n2 hn2 => pfr _ (mem_sprs hK ht1 hn1) _ (mem_sprs hK ht2 hn2)⟩
  | ff_hit hhas => exact ⟨h1, CovFF.mono h1.1 hhas⟩
  | @ff_skip excl t q _ _ hno hsame =>
    obtain ⟨ht, _, nm, hnm, rfl⟩ := hw
    exact h1.cfpAdd hU hK ht hnm hno fun tf hfs => Or.inl (hsame tf hfs)
  | @ff_body excl t q _ _ tf q2 hno hfs hq2 =>
    obtain ⟨ht, hq', nm, hnm, rfl⟩ := hw
    refine h1.cfpAdd hU hK ht hnm hno fun tf' hfs' => ?_
    cases hfs.symm.trans hfs'
    simp only [fcs, List.forall_mem_append, List.forall_mem_map] at pb
    exact Or.inr ⟨pairsPass_of_between hq' hq2 pb.1,
      fun n' hn' => pb.2 _ (mem_sprs hK (fragSet_typed hfs) hn')⟩
  | fr_hit hcov => exact ⟨h1, CovFR.mono h1.1 hcov⟩
  | @fr_skip excl _ _ _ hno hnone =>
    obtain ⟨⟨n1, hm1, rfl⟩, n2, hm2, rfl⟩ := hw
    refine h1.cmpAdd hK hm1 hm2 hno fun t1 t2 f1 f2 => ?_
    rcases hnone with h | h
    · cases h.symm.trans f1
    · cases h.symm.trans f2
  | @fr_body excl _ _ _ t1 t2 q1 q2 hno hfs1 hfs2 hq1 hq2 =>
    obtain ⟨⟨n1, hm1, rfl⟩, n2, hm2, rfl⟩ := hw
    refine h1.cmpAdd hK hm1 hm2 hno fun t1' t2' f1 f2 => ?_
    cases hfs1.symm.trans f1; cases hfs2.symm.trans f2
    simp only [fcs, List.forall_mem_append, List.forall_mem_map] at pb
    exact ⟨pairsPass_of_between hq1 hq2 pb.1,
      fun n' hn' => pb.2.1 _ (mem_sprs hK (fragSet_typed hfs2) hn'),
      fun n' hn' => pb.2.2 _ (mem_sprs hK (fragSet_typed hfs1) hn')⟩
  | @ws t p _ q hq' =>
    obtain ⟨ht, _⟩ := hw
    simp only [List.forall_mem_append, List.forall_mem_map] at pb
    have cov : ∀ n ∈ selsDirectSpreads t.2.sels, CovFF σ1 t.2.id (keyOf env.d n) false :=
      fun n hn => pb.2 _ (fieldsFrag_mem_withinTasks.2 (mem_sprs hK ht hn))
    refine ⟨h1, fun c1 hc1 c2 hc2 hrn => upToOrder_of_mem hc1 hc2 hrn fun p hp => ?_, cov, cov,
      fun n1 hn1 n2 hn2 => ?_⟩
    · obtain ⟨hpr, hrn⟩ := Spec.mem_sameNamePairs.1 hp
      obtain ⟨u, hu, i1, i2⟩ := within_of_pair env hq' hpr hrn
      exact PPass.instEq (pb.1 u hu) i1 i2
    · rcases mem_pairs_or (mem_sprs hK ht hn1) (mem_sprs hK ht hn2) with hp | hp | he
      · exact pb.2 _ (frags_mem_withinTasks.2 hp)
      · exact (pb.2 _ (frags_mem_withinTasks.2 hp) : CovFR σ1 _ _ false).symm
      · exact Or.inl (congrArg Spread.key he)

theorem wrap_nil {c : Call} {σ σ0 : St} {body : List Call}
    {wrap : List Conflict → List Conflict} {cs : List Conflict}
    (hs : Step env c σ body σ0 wrap) (h : wrap cs = []) : cs = [] ∧ wrap [] = [] := by
  cases hs with
  | fc_fire => cases h
  | fc_sub =>
    exact ⟨Decidable.byContradiction fun hne => (subfieldConflicts_ne_nil _ _ _ _).2 hne h, rfl⟩
  | _ => exact ⟨h, rfl⟩

/-- Completeness of a run that reports nothing. -/
theorem run_complete (hU : TypedIdsUnique env.s env.d) (hK : KeysInj env.d) {cs : List Call}
    {σ σ' : St} {out : List Conflict} (h : Run env cs σ σ' out) : out = [] →
    ClosedSince env.s env.d σ σ' ∧ ∀ c ∈ cs, c.Post env σ' := by
  induction h with
  | nil => exact fun _ => ⟨.refl _, fun _ h => by cases h⟩
  | @cons c rest σ body σ0 σ0' wrap σ1 cs1 σ' cs2 hw hs hsame _ _ ihb ihr =>
    intro hout
    obtain ⟨h1, h2⟩ := List.append_eq_nil_iff.1 hout
    obtain ⟨hcs1, hq⟩ := wrap_nil hs h1
    obtain ⟨c1, pb⟩ := ihb hcs1
    obtain ⟨c1', pc⟩ := step_complete hU hK hw hs hq ((ClosedSince.same hsame).trans c1) pb
    obtain ⟨c2, pr⟩ := ihr h2
    refine ⟨c1'.trans c2, fun x hx => ?_⟩
    rcases List.mem_cons.1 hx with rfl | hx
    · exact pc.mono c2.1
    · exact pr x hx

end

theorem implConflictsFuel_complete (le : String → String → Bool) (hle : LinOrd le) (s : Schema)
    (d : Doc) (hU : TypedIdsUnique s d) (hA : ∀ a, DocInst s d a → a.node.argsOK)
    (hT : ∀ a, DocInst s d a → a.node.name ≠ "__typename") (hR : RootsObject s d)
    (hK : KeysInj d) (n : Nat) (h : implConflictsFuel le n s d = some []) : ¬ UWConf s d := by
  simp only [implConflictsFuel, Option.map_eq_some_iff] at h
  obtain ⟨⟨σ', cs'⟩, e, hcs⟩ := h
  simp only at hcs
  subst hcs
  rw [visitDoc_eq ⟨s, d, le⟩] at e
  obtain ⟨r, -⟩ := run_visits ⟨s, d, le⟩ hle hU hA hT n _ (Doc.visits_ok hR hT) {} σ' []
    (fun i c h => by simp [assocGet] at h) e
  obtain ⟨hC, hw⟩ := run_complete (env := ⟨s, d, le⟩) hU hK r rfl
  refine no_uwconf hC.closed (fun t ht => ?_) hU hK hA
  rw [← Doc.visits_typed] at ht
  obtain ⟨v, hv, rfl⟩ := List.mem_map.1 ht
  exact hw _ (List.mem_map_of_mem (f := fun v : Visit => Call.ws v.2 v.1) hv)

end Gql.Exec
