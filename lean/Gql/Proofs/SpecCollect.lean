import Gql.Exec.SpecExec

/-!
C02/C13 — the specification's CollectFields read through two operations on its outcomes:
`guarded` (what `@skip`/`@include` make of a selection) and `merging` (the groups of a fragment go
into the accumulator); sequencing is `Out.bind`.  `collectLoop_cons` and `collectOne_field` are
equations in these terms; `collectOne_inline` and `collectOne_spread` say that a fragment is
passed over (a spread is then at most marked visited) or — its type applies and, for a spread, it
is new and defined — entered and its groups merged in.  A predicate on outcomes is carried over
the collection by its rules for `guarded`, `merging` and `bind`.
-/

namespace Gql.Exec.Spec

abbrev COut := Out ErrKind (Groups × List Name)

def guarded (inc : Option Bool) (acc : Groups) (vis : List Name) (body : COut) : COut :=
  match inc with
  | none => .err .directiveCoercion
  | some false => .ok (acc, vis)
  | some true => body

def merging (acc : Groups) (r : COut) : COut := r.bind fun p => .ok (mergeGroups acc p.1, p.2)

variable (cx : Ctx) (rt : Name) (recur : List Selection → List Name → COut)

theorem collectLoop_cons (sel : Selection) (rest : List Selection) (acc : Groups) (vis : List Name) :
    collectLoop cx rt recur (sel :: rest) acc vis =
      (collectOne cx rt recur sel acc vis).bind fun p => collectLoop cx rt recur rest p.1 p.2 := by
  rw [collectLoop]
  cases collectOne cx rt recur sel acc vis <;> rfl

theorem collectOne_field (alias : Option Name) (name : Name) (args : List (Name × Value))
    (dirs : List Directive) (sels : List Selection) (acc : Groups) (vis : List Name) :
    collectOne cx rt recur (.field alias name args dirs sels) acc vis =
      guarded (included cx dirs) acc vis
        (.ok (appendGroup acc (FieldNode.key ⟨alias, name, args, dirs, sels⟩)
          [⟨alias, name, args, dirs, sels⟩], vis)) := by
  unfold collectOne
  rfl

theorem collectOne_inline (cond : Option Name) (dirs : List Directive) (sels : List Selection)
    (acc : Groups) (vis : List Name) :
    ∃ body, collectOne cx rt recur (.inline cond dirs sels) acc vis =
        guarded (included cx dirs) acc vis body ∧
      (body = .ok (acc, vis) ∨
        (∀ c, cond = some c → doesFragmentTypeApply cx.schema rt c = true) ∧
          body = merging acc (collectLoop cx rt recur sels [] vis)) := by
  unfold collectOne
  refine ⟨_, rfl, ?_⟩
  dsimp only
  by_cases happ : ∀ c, cond = some c → doesFragmentTypeApply cx.schema rt c = true
  · refine .inr ⟨happ, ?_⟩
    unfold merging
    cases cond with
    | none => cases collectLoop cx rt recur sels [] vis <;> rfl
    | some c => simp only [happ c rfl]; cases collectLoop cx rt recur sels [] vis <;> rfl
  · cases cond with
    | none => exact absurd (fun c hc => nomatch hc) happ
    | some c => exact .inl (by simp only [show _ = false by simpa using happ]; rfl)

theorem collectOne_spread (name : Name) (dirs : List Directive) (acc : Groups) (vis : List Name) :
    ∃ body, collectOne cx rt recur (.spread name dirs) acc vis =
        guarded (included cx dirs) acc vis body ∧
      ((∃ vis', (vis' = vis ∨ vis' = name :: vis) ∧ body = .ok (acc, vis')) ∨
        ∃ fr, vis.contains name = false ∧ cx.doc.frag name = some fr ∧
          doesFragmentTypeApply cx.schema rt fr.cond = true ∧
          body = merging acc (recur fr.sels (name :: vis))) := by
  unfold collectOne
  refine ⟨_, rfl, ?_⟩
  dsimp only
  split
  · exact .inl ⟨vis, .inl rfl, rfl⟩
  · rename_i hv
    split
    · exact .inl ⟨_, .inr rfl, rfl⟩
    · rename_i fr hf
      split
      · exact .inl ⟨_, .inr rfl, rfl⟩
      · rename_i happ
        refine .inr ⟨fr, by simpa using hv, hf, by simpa using happ, ?_⟩
        unfold merging
        cases recur fr.sels (name :: vis) <;> rfl

end Gql.Exec.Spec
