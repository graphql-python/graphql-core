import Gql.Proofs.Frame
/-!
What `_prune_empty_groups` returns (`PruneOut`): the promoted groups are pairwise distinct, each is an
element of the argument list or a listed child of a node that `prune` deleted, and each still
has its node.  `prune_spec` assembles it: a step of the loop does nothing (`PruneOut.nil`), promotes
its element (`keep`) or deletes it and prunes its children (`drop`); two runs in a row compose
(`append`), hence so does the loop (`foldl`).
-/
namespace Gql.Async

/-- The preconditions of `prune` on a graph: the `parent` / `nodup` halves of `Forest`. -/
structure TreeLike (σ : Static) (q : WQ) : Prop where
  parent : ∀ p c, hasChild q p c → σ.parent c = some p
  nodup : ∀ p n, alookup q.groupNodes p = some n → n.children.Nodup

theorem TreeLike.sub {σ : Static} {q q' : WQ} (t : TreeLike σ q) (h : SubGraph q q') : TreeLike σ q' where
  parent p c hc := t.parent p c (h.hasChild hc)
  nodup p n' e := by
    obtain ⟨n, e0, c0⟩ := h p n' e
    rw [c0]; exact t.nodup p n e0

theorem Forest.treeLike {σ : Static} {q : WQ} (f : Forest σ q) : TreeLike σ q := ⟨f.parent, f.nodup⟩

theorem hasNode_erase {q : WQ} {a p : Nat} (h : hasNode q p) (hpa : p ≠ a) :
    hasNode { q with groupNodes := aerase q.groupNodes a } p := by
  obtain ⟨m, hm⟩ := h
  exact ⟨m, by simp only; rw [alookup_aerase_ne _ _ _ (fun e => hpa e.symm)]; exact hm⟩

/-- `prune gs` gets at `x`: it is in the list, or a listed child (in `qin`) of a node that is deleted
(in `qout`). -/
def Reached (qin : WQ) (gs : List Nat) (qout : WQ) (x : Nat) : Prop :=
  x ∈ gs ∨ ∃ p, hasChild qin p x ∧ alookup qout.groupNodes p = none

structure PruneOut (qin : WQ) (gs : List Nat) (qout : WQ) (new : List Nat) : Prop where
  sub : SubGraph qin qout
  nodup : new.Nodup
  src : ∀ x ∈ new, Reached qin gs qout x
  kept : ∀ x ∈ new, hasNode qout x
  del : ∀ p, hasNode qin p → ¬ hasNode qout p → Reached qin gs qout p

theorem PruneOut.nil (q : WQ) (gs : List Nat) : PruneOut q gs q [] :=
  ⟨.refl q, List.nodup_nil, fun _ => nofun, fun _ => nofun, fun _ h1 h2 => absurd h1 h2⟩

theorem PruneOut.keep {q : WQ} {a : Nat} (h : hasNode q a) : PruneOut q [a] q [a] :=
  ⟨.refl q, by simp, fun _ hx => .inl hx, fun _ hx => List.mem_singleton.mp hx ▸ h, fun _ h1 h2 => absurd h1 h2⟩

/-- In a tree-like graph, and in what is left of it after deleting nodes, a group whose parent has
no node is listed nowhere. -/
theorem TreeLike.detached {σ : Static} {q q' : WQ} (tl : TreeLike σ q) (s : SubGraph q q') {x : Nat}
    (h : ∀ p, σ.parent x = some p → alookup q'.groupNodes p = none) : Detached q' x := by
  intro p ⟨m, hm, hc⟩
  rw [h p (tl.parent p x (s.hasChild ⟨m, hm, hc⟩))] at hm
  cases hm

theorem TreeLike.detached_of_gone {σ : Static} {q q' : WQ} {p x : Nat} (tl : TreeLike σ q) (s : SubGraph q q')
    (hc : hasChild q p x) (hp : alookup q'.groupNodes p = none) : Detached q' x :=
  tl.detached s fun p' hp' => by cases (tl.parent p x hc).symm.trans hp'; exact hp

/-- `a` is deleted and its children are pruned in a graph `q'` that has lost only `a`: seen from `q`,
this prunes `[a]`. -/
theorem PruneOut.drop {q q' q1 : WQ} {a : Nat} {n : GroupNode} {new : List Nat}
    (po : PruneOut q' n.children q1 new) (hl : alookup q.groupNodes a = some n) (s : SubGraph q q')
    (k : ∀ p, hasNode q p → p ≠ a → hasNode q' p) (ha : alookup q'.groupNodes a = none) :
    PruneOut q [a] q1 new := by
  have up : ∀ x, Reached q' n.children q1 x → Reached q [a] q1 x
    | _, .inl h => .inr ⟨a, ⟨n, hl, h⟩, po.sub.none ha⟩
    | _, .inr ⟨p, h1, h2⟩ => .inr ⟨p, s.hasChild h1, h2⟩
  refine ⟨s.trans po.sub, po.nodup, fun x hx => up x (po.src x hx), po.kept, fun p h1 h2 => ?_⟩
  by_cases hpa : p = a
  · exact .inl (List.mem_singleton.mpr hpa)
  · exact up p (po.del p (k p h1 hpa) h2)

/-- Two runs in a row.  No node is reached by both: it is in one list only, no list element is a
child, and a parent deleted by the first run has no node left for the second. -/
theorem PruneOut.append {σ : Static} {q q1 q2 : WQ} {gs1 gs2 new1 new2 : List Nat}
    (h1 : PruneOut q gs1 q1 new1) (h2 : PruneOut q1 gs2 q2 new2) (tl : TreeLike σ q)
    (hd : ∀ x ∈ gs1, x ∉ gs2) (hdet : ∀ x ∈ gs1 ++ gs2, Detached q x) :
    PruneOut q (gs1 ++ gs2) q2 (new1 ++ new2) := by
  have clash : ∀ x, Reached q gs1 q1 x → Reached q1 gs2 q2 x → False := by
    intro x r1 r2
    rcases r1 with h | ⟨p, hp, hn⟩ <;> rcases r2 with h' | ⟨p', hp', _⟩
    · exact hd x h h'
    · exact hdet x (List.mem_append_left _ h) p' (h1.sub.hasChild hp')
    · exact hdet x (List.mem_append_right _ h') p hp
    · exact tl.detached_of_gone h1.sub hp hn p' hp'
  have up1 : ∀ x, Reached q gs1 q1 x → Reached q (gs1 ++ gs2) q2 x := fun x h =>
    h.imp (List.mem_append_left _) fun ⟨p, hp, hn⟩ => ⟨p, hp, h2.sub.none hn⟩
  have up2 : ∀ x, Reached q1 gs2 q2 x → Reached q (gs1 ++ gs2) q2 x := fun x h =>
    h.imp (List.mem_append_right _) fun ⟨p, hp, hn⟩ => ⟨p, h1.sub.hasChild hp, hn⟩
  refine ⟨h1.sub.trans h2.sub,
    List.nodup_append.mpr ⟨h1.nodup, h2.nodup, fun x hx y hy e => clash x (h1.src x hx) (h2.src x (e ▸ hy))⟩,
    fun x hx => (List.mem_append.mp hx).elim (fun hx => up1 x (h1.src x hx)) (fun hx => up2 x (h2.src x hx)),
    fun x hx => (List.mem_append.mp hx).elim (fun hx => ?_) (h2.kept x), fun p hp hno => ?_⟩
  · exact Classical.byContradiction fun hno => clash x (h1.src x hx) (h2.del x (h1.kept x hx) hno)
  · by_cases hmid : hasNode q1 p
    · exact up2 p (h2.del p hmid hno)
    · exact up1 p (h1.del p hp hmid)

/-- A loop each step of which prunes its element prunes the list. -/
theorem PruneOut.foldl {σ : Static} (step : WQ × List Nat → Nat → WQ × List Nat)
    (hstep : ∀ st a, TreeLike σ st.1 →
      ∃ new, (step st a).2 = st.2 ++ new ∧ PruneOut st.1 [a] (step st a).1 new) :
    ∀ (gs : List Nat) (st : WQ × List Nat), TreeLike σ st.1 → gs.Nodup → (∀ x ∈ gs, Detached st.1 x) →
    ∃ new, (gs.foldl step st).2 = st.2 ++ new ∧ PruneOut st.1 gs (gs.foldl step st).1 new := by
  intro gs
  induction gs with
  | nil => intro st _ _ _; exact ⟨[], (List.append_nil _).symm, .nil st.1 []⟩
  | cons a rest ih =>
    intro st tl hnd hdet
    have hnd' := List.nodup_cons.mp hnd
    obtain ⟨new1, e1, p1⟩ := hstep st a tl
    obtain ⟨new2, e2, p2⟩ := ih (step st a) (tl.sub p1.sub) hnd'.2 fun x hx => (hdet x (.tail _ hx)).sub p1.sub
    exact ⟨new1 ++ new2, by rw [List.foldl_cons, e2, e1, List.append_assoc],
      p1.append p2 tl (fun x hx => List.mem_singleton.mp hx ▸ hnd'.1) hdet⟩

theorem prune_spec (σ : Static) (fuel : Nat) :
    ∀ (gs : List Nat) (q : WQ) (acc : List Nat), TreeLike σ q → gs.Nodup → (∀ x ∈ gs, Detached q x) →
    ∃ new, (prune fuel gs (q, acc)).2 = acc ++ new ∧ PruneOut q gs (prune fuel gs (q, acc)).1 new := by
  induction fuel with
  | zero => intro gs q acc _ _ _; exact ⟨[], (List.append_nil _).symm, .nil q gs⟩
  | succ fuel ihf =>
    intro gs q acc
    unfold prune
    refine PruneOut.foldl _ (fun st a tl => ?_) gs (q, acc)
    cases hl : alookup st.1.groupNodes a with
    | none => exact ⟨[], (List.append_nil _).symm, .nil st.1 _⟩
    | some n =>
      simp only
      split
      · exact ⟨[a], rfl, .keep ⟨n, hl⟩⟩
      · -- `a` is empty: deleted, its children are looked at
        have hqa := subGraph_erase st.1 a
        have hla : alookup ({ st.1 with groupNodes := aerase st.1.groupNodes a } : WQ).groupNodes a = none :=
          alookup_aerase_self _ _
        obtain ⟨newc, ec, pc⟩ := ihf n.children { st.1 with groupNodes := aerase st.1.groupNodes a } st.2
          (tl.sub hqa) (tl.nodup a n hl) (fun x hx => tl.detached_of_gone hqa ⟨n, hl, hx⟩ hla)
        exact ⟨newc, ec, pc.drop hl hqa (fun _ => hasNode_erase) hla⟩

theorem pruneEmpty_spec (σ : Static) (q : WQ) (gs : List Nat) (tl : TreeLike σ q) (hnd : gs.Nodup)
    (hdet : ∀ x ∈ gs, Detached q x) : PruneOut q gs (pruneEmpty q gs).1 (pruneEmpty q gs).2 := by
  obtain ⟨new, en, po⟩ := prune_spec σ _ gs q [] tl hnd hdet
  rw [pruneEmpty, en]; exact po

end Gql.Async
