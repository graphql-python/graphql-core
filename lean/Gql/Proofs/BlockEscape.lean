import Gql.Text.BlockString
/-!
Facts about `escapeTQ` (`value.replace('"""', '\\"""')`): its equations, `endsOpen` (the
values after which the closing `"""` may not follow directly), what can follow a quote or a
backslash in the escaped text (the look-ahead of the grammar's `blockRest`), and how both behave
under `++`.
-/
namespace Gql.Text

theorem escapeTQ_ne {c : Nat} (r : List Nat) (h : c ≠ 34) : escapeTQ (c :: r) = c :: escapeTQ r := by
  rw [escapeTQ]
  all_goals (intros; simp_all)

@[simp] theorem escapeTQ_nil : escapeTQ [] = [] := by simp [escapeTQ]
@[simp] theorem escapeTQ_q1 : escapeTQ [34] = [34] := by decide
@[simp] theorem escapeTQ_qq : escapeTQ [34, 34] = [34, 34] := by decide

theorem escapeTQ_qqq (r : List Nat) :
    escapeTQ (34 :: 34 :: 34 :: r) = 92 :: 34 :: 34 :: 34 :: escapeTQ r := by
  rw [escapeTQ]

/-- After matching triple quotes from the left, the value ends with an unmatched quote or a
backslash: the closing `"""` may not follow directly. -/
def endsOpen : List Nat → Bool
  | 34 :: 34 :: 34 :: rest => endsOpen rest
  | [c] => c = 34 || c = 92
  | _ :: rest => endsOpen rest
  | [] => false

theorem endsOpen_ne {c : Nat} (r : List Nat) (h : c ≠ 34) (hr : r ≠ []) :
    endsOpen (c :: r) = endsOpen r := by
  rw [endsOpen]
  all_goals (intros; simp_all)

theorem endsOpen_q_ne {b : Nat} (r : List Nat) (h : b ≠ 34) :
    endsOpen (34 :: b :: r) = endsOpen (b :: r) := by
  rw [endsOpen]
  all_goals (intros; simp_all)

theorem endsOpen_qq_ne {d : Nat} (r : List Nat) (h : d ≠ 34) :
    endsOpen (34 :: 34 :: d :: r) = endsOpen (d :: r) := by
  rw [endsOpen, endsOpen_q_ne r h]
  all_goals (intros; simp_all)

theorem escapeTQ_cons_nt {c : Nat} {r : List Nat} (h : ¬ ∃ r', c = 34 ∧ r = 34 :: 34 :: r') :
    escapeTQ (c :: r) = c :: escapeTQ r := by
  rw [escapeTQ]
  all_goals (intros; simp_all)

theorem endsOpen_cons_nt {c : Nat} {r : List Nat} (h : ¬ ∃ r', c = 34 ∧ r = 34 :: 34 :: r')
    (hr : r ≠ []) : endsOpen (c :: r) = endsOpen r := by
  rw [endsOpen]
  all_goals (intros; simp_all)

theorem endsOpen_single (c : Nat) : endsOpen [c] = (c = 34 || c = 92) := by
  rw [endsOpen]
  all_goals (intros; simp_all)

/-- An end that is not open was not open before the first character either. -/
theorem endsOpen_tail {c : Nat} {r : List Nat} (h : ¬ ∃ r', c = 34 ∧ r = 34 :: 34 :: r')
    (ho : endsOpen (c :: r) = false) : endsOpen r = false := by
  cases r with
  | nil => rfl
  | cons d r => rwa [endsOpen_cons_nt h (by simp)] at ho

theorem tq_induction {P : List Nat → Prop} (nil : P []) (qqq : ∀ r, P r → P (34 :: 34 :: 34 :: r))
    (cons : ∀ c r, (¬ ∃ r', c = 34 ∧ r = 34 :: 34 :: r') → P r → P (c :: r)) (v : List Nat) : P v := by
  induction v using escapeTQ.induct with
  | case1 r ih => exact qqq r ih
  | case2 c r h ih => exact cons c r (fun ⟨r', hc, hr⟩ => h r' hc hr) ih
  | case3 => exact nil

/-- What follows an unmatched quote in the escaped text is never `""`. -/
theorem look2 (r T : List Nat) (hnt : ∀ r', r ≠ 34 :: 34 :: r') (ho : endsOpen (34 :: r) = false) :
    (escapeTQ r ++ T).take 2 ≠ [34, 34] := by
  intro h
  match r, hnt, ho, h with
  | [], _, ho, _ => exact absurd ho (by decide)
  | [a], _, ho, h =>
    have ha : a ≠ 34 := by rintro rfl; exact absurd ho (by decide)
    rw [escapeTQ_ne _ ha] at h
    simp at h
    exact ha h.1
  | a :: b :: r, hnt, _, h =>
    have hb : a = 34 → b ≠ 34 := fun ha hb => hnt r (by rw [ha, hb])
    rw [escapeTQ_cons_nt (fun ⟨r', ha, hr⟩ => hb ha (List.cons.inj hr).1)] at h
    obtain rfl : a = 34 := by simpa using (List.cons.inj h).1
    rw [escapeTQ_ne _ (hb rfl)] at h
    exact hb rfl (by simpa using h)

/-- What follows a backslash in the escaped text is never `"""`. -/
theorem look3 (r T : List Nat) (ho : endsOpen (92 :: r) = false) :
    (escapeTQ r ++ T).take 3 ≠ [34, 34, 34] := by
  intro h
  rcases r with _ | ⟨a, r⟩
  · exact absurd ho (by decide)
  · by_cases ht : ∃ r', a = 34 ∧ r = 34 :: 34 :: r'
    · obtain ⟨r', rfl, rfl⟩ := ht
      rw [escapeTQ_qqq] at h
      simp at h
    · rw [escapeTQ_cons_nt ht, List.cons_append, List.take_succ_cons] at h
      obtain rfl : a = 34 := (List.cons.inj h).1
      -- after the first quote the look-ahead is that of `look2`
      rw [endsOpen_ne _ (by decide) (by simp)] at ho
      exact look2 r T (fun r' hr => ht ⟨r', rfl, hr⟩) ho (List.cons.inj h).2

theorem qq_of_append_qq {r b r' : List Nat} (hb : b.head? ≠ some 34) (h : r ++ b = 34 :: 34 :: r') :
    ∃ r'', r = 34 :: 34 :: r'' := by
  match r, h with
  | [], h => simp at h; rw [h] at hb; simp at hb
  | [x], h => simp at h; rw [h.2] at hb; simp at hb
  | x :: y :: r'', h => simp at h; exact ⟨r'', by rw [h.1, h.2.1]⟩

theorem escapeTQ_append_noq (a b : List Nat) (hb : b.head? ≠ some 34) :
    escapeTQ (a ++ b) = escapeTQ a ++ escapeTQ b := by
  induction a using tq_induction with
  | nil => simp
  | qqq r ih => simp only [List.cons_append, escapeTQ_qqq, ih]
  | cons c r ht ih =>
    have ht' : ¬ ∃ r', c = 34 ∧ r ++ b = 34 :: 34 :: r' :=
      fun ⟨r', hc, hr⟩ => (qq_of_append_qq hb hr).elim fun r'' h => ht ⟨r'', hc, h⟩
    rw [List.cons_append, escapeTQ_cons_nt ht, escapeTQ_cons_nt ht', ih]
    rfl

/-- What stands in front of a text that does not begin with a quote does not change how it ends. -/
theorem endsOpen_append_noq (a b : List Nat) (hb : b.head? ≠ some 34) (hne : b ≠ []) :
    endsOpen (a ++ b) = endsOpen b := by
  induction a using tq_induction with
  | nil => rfl
  | qqq r ih => rw [List.cons_append, List.cons_append, List.cons_append, endsOpen]; exact ih
  | cons c r ht ih =>
    have ht' : ¬ ∃ r', c = 34 ∧ r ++ b = 34 :: 34 :: r' :=
      fun ⟨r', hc, hr⟩ => (qq_of_append_qq hb hr).elim fun r'' h => ht ⟨r'', hc, h⟩
    rw [List.cons_append, endsOpen_cons_nt ht' (by simp [hne]), ih]

/-- A text without quotes in front of a non-empty text does not change how that ends. -/
theorem endsOpen_noq_append (a : List Nat) {W : List Nat} (ha : ∀ c ∈ a, c ≠ 34) (hW : W ≠ []) :
    endsOpen (a ++ W) = endsOpen W := by
  induction a with
  | nil => rfl
  | cons c r ih =>
    rw [List.cons_append, endsOpen_ne _ (ha c (by simp)) (by simp [hW]), ih fun d hd => ha d (by simp [hd])]

theorem length_le_escapeTQ (v : List Nat) : v.length ≤ (escapeTQ v).length := by
  induction v using tq_induction with
  | nil => simp
  | qqq r ih => rw [escapeTQ_qqq]; simp; omega
  | cons c r ht ih => rw [escapeTQ_cons_nt ht]; simp; omega

theorem escapeTQ_ne_nil {r : List Nat} (h : r ≠ []) : escapeTQ r ≠ [] := fun he =>
  h (List.eq_nil_of_length_eq_zero (Nat.le_zero.mp (by simpa [he] using length_le_escapeTQ r)))

theorem escapeTQ_peel {a : Nat} {r x : List Nat} (h : escapeTQ (a :: r) = 34 :: x) :
    a = 34 ∧ escapeTQ r = x := by
  by_cases ht : ∃ r', a = 34 ∧ r = 34 :: 34 :: r'
  · obtain ⟨r', ha, hr⟩ := ht; subst ha hr; simp [escapeTQ_qqq] at h
  · rw [escapeTQ_cons_nt ht] at h
    simp at h
    exact h

theorem escapeTQ_ne_qqq (r : List Nat) : escapeTQ r ≠ [34, 34, 34] := by
  intro h
  match r, h with
  | [], h => simp at h
  | [a], h =>
    by_cases ha : a = 34
    · subst ha; simp at h
    · simp [escapeTQ_ne [] ha] at h
  | [a, b], h =>
    obtain ⟨ha, h1⟩ := escapeTQ_peel h
    obtain ⟨hb, h2⟩ := escapeTQ_peel h1
    simp at h2
  | a :: b :: d :: r', h =>
    have h0 := h
    obtain ⟨ha, h1⟩ := escapeTQ_peel h
    obtain ⟨hb, h2⟩ := escapeTQ_peel h1
    obtain ⟨hd, h3⟩ := escapeTQ_peel h2
    subst ha hb hd
    simp [escapeTQ_qqq] at h0

end Gql.Text
