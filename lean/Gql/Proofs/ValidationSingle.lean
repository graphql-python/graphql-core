import Gql.Proofs.ValidationTI
/-!
Lemmas for C12-1 in its direct form (`parallel_alone_single`): a rule used *directly* as the visitor of
`visit(doc, TypeInfoVisitor(type_info, rule))` — SKIP and BREAK answered to `visit()` itself — receives
exactly the calls (with the same TypeInfo at each call) and reports exactly the errors it receives/reports as
a member of a `ParallelVisitor` (`Member.trav`).

What this needs beyond the `skipping` bookkeeping:
* `Tree.noSelfNest`: the node being skipped is not one of its own descendants;
* a `Frame` for the TypeInfo driver: the traversal of the children of a *skipped* node, had it happened,
  would have left the TypeInfo as it was (then `type_info.enter; type_info.leave` = the full subtree).  For the
  real `TypeInfo` this holds on trees without register nesting, started where the registers that are set are
  not touched by the tree (`Quiet`), e.g. from `TI.init`.
-/
namespace Gql.Validation
variable {τ σ ε : Type}

/-- A precondition on (TypeInfo, subtree) that is inherited by children and later siblings and under which
the complete traversal of a list of subtrees restores the TypeInfo exactly. -/
structure Frame (D : Driver τ) where
  P : TI τ → Tree → Prop
  PL : TI τ → List Tree → Prop
  node : ∀ ti i cs, P ti (.node i cs) → PL (D.enter ti i) cs
  cons : ∀ ti t ts, PL ti (t :: ts) → P ti t ∧ PL (tiTrav D ti t) ts
  restore : ∀ ti ts, PL ti ts → tiTravList D ti ts = ti

def Frame.id : Frame (idDriver (τ := τ)) where
  P := fun _ _ => True
  PL := fun _ _ => True
  node := fun _ _ _ _ => trivial
  cons := fun _ _ _ _ => ⟨trivial, trivial⟩
  restore := by
    intro ti ts _
    have : (∀ t (ti : TI τ), tiTrav idDriver ti t = ti) ∧ (∀ ts (ti : TI τ), tiTravList idDriver ti ts = ti) := by
      apply Tree.induct
      · intro i cs ih ti; rw [tiTrav]; simp only [idDriver]; exact ih ti
      · intro ti; rw [tiTravList]
      · intro t ts iht ihts ti; rw [tiTravList, iht, ihts]
    exact this.2 ts ti

/-- the record of the directly-run rule, seen as a member whose `skipping` entry is BREAK iff it stopped -/
def asMember (m : Member τ σ ε) (stop : Bool) : Member τ σ ε :=
  { m with skipping := if stop then .brk else .none }

theorem asMember_false (m : Member τ σ ε) (h : m.skipping = .none) : asMember m false = m := by
  cases m; simp_all [asMember]

/-- The handler call of a directly-run rule and the loop body of `ParallelVisitor` for a member that is not
skipping do the same; the answer goes to `visit()` in one case and into `skipping` in the other. -/
theorem single_enterStep (ti : TI τ) (i : Info) (m : Member τ σ ε) (h : m.skipping = .none) :
    (Member.enter ti i m).1 =
      { (single.enterStep m ti i).2 with skipping := Member.skipOf (single.enterStep m ti i).1 i } ∧
    (single.enterStep m ti i).2.skipping = .none := by
  unfold V.enterStep Member.enter
  cases hE : m.rule.hEnter i.kind
  · cases m; simp_all [single, Member.skipOf]
  · simp [single, h, hE]

theorem single_leaveStep (ti : TI τ) (i : Info) (m : Member τ σ ε) (h : m.skipping = .none) :
    (Member.leave ti i m).1 = asMember (single.leaveStep m ti i).2 ((single.leaveStep m ti i).1 == Action.brk) ∧
    (single.leaveStep m ti i).2.skipping = .none := by
  unfold V.leaveStep Member.leave
  cases hL : m.rule.hLeave i.kind
  · cases m; simp_all [single, asMember]
  · simp only [single, h, hL, if_true, asMember]
    cases (m.rule.step m.st Phase.leave i ti).1 <;> simp

/-- The outcome `r` of a stretch of the direct run against the member record `out` and the TypeInfo `tiOut` that the
complete traversal of the same stretch gives: the same record, with BREAK in `skipping` iff the direct run stopped,
and the same TypeInfo unless it stopped. -/
structure Agrees (out : Member τ σ ε) (tiOut : TI τ) (r : (TI τ × Member τ σ ε) × Bool) : Prop where
  member : out = asMember r.1.2 r.2
  idle : r.1.2.skipping = .none
  ti : r.2 = false → r.1.1 = tiOut

/-- a stretch followed by another: `g` on the direct side (run only if not stopped), `gM` on the member; a member
that has broken passes `gM` unchanged -/
theorem Agrees.seq {tiC tiG : TI τ} {mC : Member τ σ ε} {rl : (TI τ × Member τ σ ε) × Bool} (h : Agrees mC tiC rl)
    {g : TI τ × Member τ σ ε → (TI τ × Member τ σ ε) × Bool} (gM : Member τ σ ε → Member τ σ ε)
    (hstop : ∀ m : Member τ σ ε, m.skipping = .brk → gM m = m)
    (hgo : ∀ m : Member τ σ ε, m.skipping = .none → Agrees (gM m) tiG (g (tiC, m))) :
    Agrees (gM mC) tiG (andThen rl g) := by
  obtain ⟨⟨ti2, m2⟩, stop⟩ := rl
  obtain ⟨h1, h2, h3⟩ := h
  simp only at h1 h2 h3
  cases stop with
  | true =>
    subst h1
    exact ⟨hstop _ (by simp [asMember]), h2, by simp [andThen]⟩
  | false =>
    obtain rfl := h3 rfl
    rw [asMember_false _ h2] at h1
    subst h1
    exact hgo mC h2

theorem single_sim (D : Driver τ) (F : Frame D) :
    (∀ t (ti : TI τ) (m : Member τ σ ε), F.P ti t → t.noSelfNest = true → m.skipping = .none →
      Agrees (Member.trav D ti m t) (tiTrav D ti t) (run0 (tiVisitor D single) (ti, m) t)) ∧
    (∀ ts (ti : TI τ) (m : Member τ σ ε), F.PL ti ts → Tree.noSelfNestList ts = true → m.skipping = .none →
      Agrees (Member.travList D ti m ts) (tiTravList D ti ts) (run0List (tiVisitor D single) (ti, m) ts)) := by
  apply Tree.induct
  · intro i cs ih ti m hP hN hm
    simp only [Tree.noSelfNest, Bool.and_eq_true, Bool.not_eq_true', List.contains_eq_mem, decide_eq_false_iff_not] at hN
    have hPL := F.node ti i cs hP
    obtain ⟨he, hs⟩ := single_enterStep (D.enter ti i) i m hm
    rw [run0_node, Member.trav, tiTrav, tiVisitor_enter, he]
    generalize single.enterStep m (D.enter ti i) i = r at hs
    obtain ⟨a, m1⟩ := r
    have hm1 : ({ m1 with skipping := Skipping.none } : Member τ σ ε) = m1 := asMember_false m1 hs
    cases a with
    | brk =>
      simp only [Member.skipOf]
      rw [(Member.trav_stopped D).2 cs _ _ (.inl rfl)]
      exact ⟨by simp [Member.leave, asMember], hs, by simp⟩
    | skip =>
      simp only [Member.skipOf]
      rw [(Member.trav_stopped D).2 cs _ _ (.inr ⟨i, rfl, hN.1⟩), F.restore _ _ hPL]
      exact ⟨by simp [Member.leave, asMember, hm1], hs, fun _ => by simp⟩
    | idle =>
      simp only [Member.skipOf, if_true, hm1]
      exact (ih (D.enter ti i) m1 hPL hN.2 hs).seq
        (fun m => (Member.leave (tiTravList D (D.enter ti i) cs) i m).1) (fun m hb => by simp [Member.leave, hb])
        (fun m hm => by
          rw [tiVisitor_leave]
          exact ⟨(single_leaveStep _ i m hm).1, (single_leaveStep _ i m hm).2, fun _ => rfl⟩)
  · intro ti m _ _ hm
    simp only [run0List, Member.travList, tiTravList]
    exact ⟨(asMember_false m hm).symm, hm, fun _ => rfl⟩
  · intro t ts iht ihts ti m hPL hN hm
    simp only [Tree.noSelfNestList, Bool.and_eq_true] at hN
    obtain ⟨hP1, hP2⟩ := F.cons ti t ts hPL
    rw [run0List_cons, Member.travList, tiTravList]
    exact (iht ti m hP1 hN.1 hm).seq
      (fun m => Member.travList D (tiTrav D ti t) m ts) (fun m hb => (Member.trav_stopped D).2 ts _ m (.inl hb))
      (fun m hm' => ihts _ m hP2 hN.2 hm')

/-- every register that is set in `ti` is left alone by all kinds in `ks` -/
def Quiet (tbl : TITable) (ti : TI τ) (ks : List String) : Prop :=
  ∀ r, ti.regs r ≠ none → ∀ k ∈ ks, r ∉ tbl.resetsOf k

theorem Quiet.init (tbl : TITable) (ks : List String) : Quiet tbl (TI.init : TI τ) ks := by
  intro r h; simp [TI.init] at h

theorem Quiet.mono {tbl : TITable} {ti : TI τ} {ks ks' : List String} (h : Quiet tbl ti ks) (hs : ∀ k ∈ ks', k ∈ ks) :
    Quiet tbl ti ks' := fun r hr k hk => h r hr k (hs k hk)

theorem tiTrav_untouched (tbl : TITable) (hr : tbl.RegsReset) (L : Lookups τ) (r : String) :
    (∀ t (ti : TI τ), (∀ k ∈ t.kinds, r ∉ tbl.resetsOf k) → (tiTrav (realDriver tbl L) ti t).regs r = ti.regs r) ∧
    (∀ ts (ti : TI τ), (∀ k ∈ Tree.kindsList ts, r ∉ tbl.resetsOf k) → (tiTravList (realDriver tbl L) ti ts).regs r = ti.regs r) := by
  apply Tree.induct
  · intro i cs ih ti h
    simp only [Tree.kinds, List.mem_cons, forall_eq_or_imp] at h
    rw [tiTrav]
    show ((tiTravList (realDriver tbl L) (ti.enter tbl L i) cs).leave tbl i).regs r = _
    rw [TI.leave_reg, if_neg h.1, ih _ h.2, TI.enter_reg, if_neg fun hs => h.1 (hr.sub hs)]
  · intro ti _; rw [tiTravList]
  · intro t ts iht ihts ti h
    simp only [Tree.kindsList, List.mem_append] at h
    rw [tiTravList, ihts _ (fun k hk => h k (Or.inr hk)), iht _ (fun k hk => h k (Or.inl hk))]

theorem tiTrav_restored (tbl : TITable) (hb : tbl.Balanced) (hr : tbl.RegsReset) (L : Lookups τ) :
    (∀ t (ti : TI τ), Restored ti (tiTrav (realDriver tbl L) ti t)) ∧
    (∀ ts (ti : TI τ), Restored ti (tiTravList (realDriver tbl L) ti ts)) := by
  apply Tree.induct
  · intro i cs ih ti
    rw [tiTrav]
    exact restored_around tbl hb hr L ti _ i (ih _)
  · intro ti; rw [tiTravList]; exact .refl ti
  · intro t ts iht ihts ti
    rw [tiTravList]
    exact (iht ti).trans (ihts _)

theorem Restored.eq_of {a b : TI τ} (h : Restored a b) (hq : ∀ r, a.regs r ≠ none → b.regs r = a.regs r) : b = a := by
  obtain ⟨sa, ra⟩ := a
  obtain ⟨sb, rb⟩ := b
  obtain rfl : sb = sa := h.1
  congr
  funext r
  by_cases hn : ra r = none
  · rcases h.2 r with h' | h'
    · exact h'
    · exact h'.trans hn.symm
  · exact hq r hn

theorem tiTrav_exact (tbl : TITable) (hb : tbl.Balanced) (hr : tbl.RegsReset) (L : Lookups τ) (t : Tree) (ti : TI τ)
    (hq : Quiet tbl ti t.kinds) : tiTrav (realDriver tbl L) ti t = ti :=
  ((tiTrav_restored tbl hb hr L).1 t ti).eq_of (fun r hn => (tiTrav_untouched tbl hr L r).1 t ti (hq r hn))

theorem tiTravList_exact (tbl : TITable) (hb : tbl.Balanced) (hr : tbl.RegsReset) (L : Lookups τ) (ts : List Tree) (ti : TI τ)
    (hq : Quiet tbl ti (Tree.kindsList ts)) : tiTravList (realDriver tbl L) ti ts = ti :=
  ((tiTrav_restored tbl hb hr L).2 ts ti).eq_of (fun r hn => (tiTrav_untouched tbl hr L r).2 ts ti (hq r hn))

/-- The real TypeInfo, on trees without register nesting, from a TypeInfo whose set registers the tree leaves alone. -/
def Frame.real (tbl : TITable) (hb : tbl.Balanced) (hr : tbl.RegsReset) (L : Lookups τ) : Frame (realDriver tbl L) where
  P := fun ti t => Quiet tbl ti t.kinds ∧ t.noRegNest tbl = true
  PL := fun ti ts => Quiet tbl ti (Tree.kindsList ts) ∧ Tree.noRegNestList tbl ts = true
  node := by
    intro ti i cs ⟨hq, hn⟩
    simp only [Tree.noRegNest, Bool.and_eq_true, List.all_eq_true, Bool.not_eq_true', List.contains_eq_mem,
      decide_eq_false_iff_not] at hn
    refine ⟨?_, hn.2⟩
    intro r hne k hk
    by_cases hs : r ∈ tbl.setsOf i.kind
    · exact hn.1 r hs k hk
    · have : ((realDriver tbl L).enter ti i).regs r = ti.regs r := (TI.enter_reg tbl L ti i r).trans (if_neg hs)
      rw [this] at hne
      exact hq r hne k (by simp [Tree.kinds, hk])
  cons := by
    intro ti t ts ⟨hq, hn⟩
    simp only [Tree.noRegNestList, Bool.and_eq_true] at hn
    have hq1 : Quiet tbl ti t.kinds := hq.mono (by intro k hk; simp [Tree.kindsList, hk])
    refine ⟨⟨hq1, hn.1⟩, ?_, hn.2⟩
    rw [tiTrav_exact tbl hb hr L t ti hq1]
    exact hq.mono (by intro k hk; simp [Tree.kindsList, hk])
  restore := fun ti ts h => tiTravList_exact tbl hb hr L ts ti h.1

end Gql.Validation
