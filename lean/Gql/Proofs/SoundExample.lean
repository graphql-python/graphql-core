import Gql.Proofs.SoundKeys
import Gql.Exec.Values

/-!
C13 — a concrete instance of the hypotheses of `soundness_partial₁` (non-vacuity).
-/

namespace Gql.Exec.Valid
open Gql.Exec

theorem conforms_obj {ops : Ops} {s : Schema} {n : Name} {nn : Bool} {tn : TN}
    {f : Name → ArgMap → RVal} (rt : Name) {fs : List FieldDef}
    (hrt : runtimeType s n tn = some rt) (hfs : s.objectFields rt = some fs)
    (h : ∀ fd ∈ fs, ∀ args, Conforms ops s fd.type (f fd.name args)) :
    Conforms ops s (.named n nn) (.obj tn f) := by
  simp only [Conforms]
  exact ⟨rt, fs, hrt, hfs, h⟩

end Gql.Exec.Valid

namespace Gql.Exec.Valid.Example
open Gql Gql.Exec Gql.Exec.Valid

/-- a value layer for the example: leaves pass through when they have the prescribed kind,
literals coerce to `null` -/
def exOps : Ops :=
  { serialize := fun s n l =>
      let j := Gql.Exec.Concrete.leafJson l
      if leafShape s n j then some j else none,
    coerceLiteral := fun _ _ _ _ => some .null }

def exS : Schema :=
  { query := "Query", mutation := none,
    types := [
      .object "Query" [] [⟨"a", [], .named "A" false⟩, ⟨"n", [⟨"x", .named "Int" false, some (.int 5)⟩], .named "Int" true⟩],
      .object "A" [] [⟨"id", [], .named "ID" true⟩]] }

theorem lookup_name (s : Schema) (n : Name) (d : TypeDef) (h : s.lookup n = some d) :
    (d ∈ s.types ∧ d.name = n) ∨ d = .scalar n := by
  unfold Schema.lookup at h
  cases hf : s.types.find? (fun d => d.name == n) with
  | some d' =>
    simp only [hf, Option.some.injEq] at h
    subst h
    exact Or.inl ⟨List.mem_of_find?_eq_some hf, by simpa using List.find?_some hf⟩
  | none =>
    simp only [hf] at h
    split at h
    · simp only [Option.some.injEq] at h; exact Or.inr h.symm
    · cases h

theorem noSub_of_objects (s : Schema)
    (h : s.types.all (fun d => match d with | .object .. => true | _ => false) = true)
    (i o : Name) : s.isSubType i o = false := by
  cases hb : s.isSubType i o with
  | false => rfl
  | true =>
    unfold Schema.isSubType at hb
    cases hl : s.lookup i with
    | none => simp [hl] at hb
    | some d =>
      rcases lookup_name s i d hl with ⟨hm, _⟩ | rfl
      · have := List.all_eq_true.1 h d hm
        cases d with
        | object n is fs => simp only [hl] at hb; cases hb
        | _ => simp at this
      · simp only [hl] at hb; cases hb

/-- `exOps` over any schema: what is left of `SoundHyps` is that `String` is the built-in scalar
and that object types implement their interfaces' fields identically -/
theorem exOps_hyps (s : Schema) (hstr : s.lookup "String" = some (.scalar "String"))
    (hiface : ∀ (i o name : Name) (fd : FieldDef), s.isSubType i o = true → s.kind o = .object →
      getFieldAny s i name = some fd → s.getField o name = some fd) : SoundHyps exOps s where
  opsSound := by intro t d v _ vars; simp [exOps]
  defaultsOk := by intro o f fd _ a _ d _; simp [exOps]
  ifaceOk := hiface
  stringId := by
    intro cs
    simp only [exOps, leafShape, Concrete.leafJson, beq_iff_eq, Bool.or_eq_true, hstr,
      String.reduceEq, ↓reduceIte, or_false]
  serializeShape := by
    intro n l j h _
    simp only [exOps] at h
    split at h
    · cases h; assumption
    · cases h

theorem exOps_soundV (s : Schema) (env : List VarDef) (vars : Vars) : OpsSoundV exOps s env vars := by
  intro _ t d v _ _ _
  simp [exOps]

theorem exHyps : SoundHyps exOps exS :=
  exOps_hyps exS rfl fun i o _ _ h => by simp [noSub_of_objects exS (by decide)] at h

def exOp : Operation :=
  { kind := .query, name := none, vars := [],
    sels := [.field none "a" [] [] [.field none "id" [] [] [], .field (some "t") "__typename" [] [] []],
             .field none "n" [("x", .int 3)] [] []] }

def exDoc : Doc := { ops := [exOp], frags := [] }

def exRoot : RVal :=
  .obj .missing (fun f _ =>
    if f == "a" then .obj .missing (fun g _ => if g == "id" then .leaf (.str [120]) else .null)
    else if f == "n" then .leaf (.int 7)
    else .null)

theorem exConf : Conforms exOps exS (.named "Query" true) exRoot :=
  conforms_obj "Query" (by decide) rfl <| by
    simp only [List.forall_mem_cons, List.not_mem_nil, false_imp_iff, implies_true, and_true]
    refine ⟨fun _ => conforms_obj "A" (by decide) rfl ?_, fun _ => ?_⟩
    · simp only [List.forall_mem_cons, List.not_mem_nil, false_imp_iff, implies_true, and_true]
      exact fun _ => ⟨by decide, .str [120], rfl, by simp⟩
    · exact ⟨by decide, .int 7, rfl, by simp⟩

/-- stage 3 example: a variable with default, a Boolean variable in `@skip`, a fragment spread,
an inline fragment with type condition, a response key selected twice (merged) -/
def exOp3 : Operation :=
  { kind := .query, name := none,
    vars := [⟨"v", .named "Int" false, some (.int 3)⟩, ⟨"b", .named "Boolean" true, none⟩],
    sels := [.field none "a" [] [] [.spread "F" [], .inline (some "A") [] [.field none "id" [] [] []]],
             .field none "n" [("x", .var "v")] [⟨"skip", [("if", .var "b")]⟩] []] }

def exDoc3 : Doc :=
  { ops := [exOp3],
    frags := [{ name := "F", cond := "A",
                sels := [.field none "id" [] [] [], .field (some "t") "__typename" [] [] []] }] }

def exVars3 : Vars := [("v", .int 3), ("b", .bool false)]

theorem exVarsOk3 : VarsOk exOp3.vars exVars3 := by
  intro vd hvd _
  simp only [exOp3, List.mem_cons, List.mem_nil_iff, or_false] at hvd
  rcases hvd with rfl | rfl <;> decide

theorem exVarsTyped3 : VarsTyped exS exOp3.vars exVars3 := by
  intro vd hvd w hw
  simp only [exOp3, List.mem_cons, List.mem_nil_iff, or_false] at hvd
  rcases hvd with rfl | rfl
  · simp only [exVars3, List.lookup] at hw
    cases hw
    simp only [pyConforms]
    exact Or.inl (by decide)
  · simp only [exVars3, List.lookup] at hw
    have hb : ("b" == "v") = false := by decide
    simp only [hb, beq_self_eq_true, Option.some.injEq] at hw
    subst hw
    simp only [pyConforms]
    exact Or.inl (by decide)

theorem exOpsV3 : OpsSoundV exOps exS exOp3.vars exVars3 := exOps_soundV _ _ _

end Gql.Exec.Valid.Example
