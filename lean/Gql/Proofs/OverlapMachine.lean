import Gql.Proofs.OverlapFieldMap
/-! C14, named fragments: the recursion of the rule as calls that hand over to calls. A `Call` names
what one of the five functions is applied to, in the specification's vocabulary (typed selection
sets, parent variants, spreads of the document); `Step` says what a single call does — which test
decides, which memo entry it writes, which calls it hands over to and how their conflicts are
wrapped; `Run` is the run of a list of calls. `run_of_eval` reads an evaluation (any fuel, from a
state whose cache is good) as such a run: fuel, the cache of field maps, `andThen` / `forEach` and
the `if`s of the definitions are read here, once, for soundness and for completeness. -/
namespace Gql.Exec
open Overlap

inductive Call where
  | fc (excl : Bool) (rn : String) (e1 e2 : FieldEntry)
  | bs (excl : Bool) (t1 t2 : TSet) (p1 p2 : Option String)
  | ff (excl : Bool) (t : TSet) (q : Option String) (sp : Spread)
  | fr (excl : Bool) (sp1 sp2 : Spread)
  | ws (t : TSet) (p : Option String)

section
variable (env : Env)

/-- `find_conflicts_within_selection_set` hands its own fuel on, so it stands one level above the
functions it calls. -/
def Call.eval (n : Nat) : Call → St → Res
  | .fc excl rn e1 e2 => findConflict env n excl rn e1 e2
  | .bs excl t1 t2 p1 p2 => findConflictsBetweenSubSelectionSets env n excl p1 t1.2 p2 t2.2
  | .ff excl t q sp => collectConflictsBetweenFieldsAndFragment env n excl (fmOf env t q) sp
  | .fr excl sp1 sp2 => collectConflictsBetweenFragments env n excl sp1 sp2
  | .ws t p =>
    match n with
    | 0 => fun _ => none
    | n + 1 => findConflictsWithinSelectionSet env n p t.2

def DocSpread (sp : Spread) : Prop := ∃ nm ∈ env.d.spreadNames, sp = mkSpread env.d nm

def Call.WF : Call → Prop
  | .fc _ _ e1 e2 => Known env e1 ∧ Known env e2
  | .bs _ t1 t2 p1 p2 => t1 ∈ env.d.typedSets env.s ∧ t2 ∈ env.d.typedSets env.s ∧
      PEq env.s t1.1 p1 ∧ PEq env.s t2.1 p2
  | .ff _ t q sp => t ∈ env.d.typedSets env.s ∧ PEq env.s t.1 q ∧ DocSpread env sp
  | .fr _ sp1 sp2 => DocSpread env sp1 ∧ DocSpread env sp2
  | .ws t p => t ∈ env.d.typedSets env.s ∧ PEq env.s t.1 p

/-- `find_conflict` on a triple as `betweenPairs` / `withinPairs` list them -/
abbrev Call.fcOf (excl : Bool) (u : String × FieldEntry × FieldEntry) : Call :=
  .fc excl u.1 u.2.1 u.2.2

/-- steps (D), (F), (H): all same-name pairs of two field maps -/
def fcs (excl : Bool) (t1 : TSet) (q1 : Option String) (t2 : TSet) (q2 : Option String) :
    List Call :=
  (betweenPairs (fmOf env t1 q1) (fmOf env t2 q2)).map (Call.fcOf excl)

/-- the spreads of a typed set as the rule lists them -/
def sprs (t : TSet) : List Spread := spreadsOf env.d (selsDirectSpreads t.2.sels)

/-- steps (B), (C) of `find_conflicts_within_selection_set` -/
def taskCall (t : TSet) (q : Option String) : Task → Call
  | .fieldsFrag sp => .ff false t q sp
  | .frags a b => .fr false a b

/-- `Step c σ body σ0 wrap`: call `c`, made in `σ`, leaves the memo tables as in `σ0`, hands over to
`body` and returns `wrap` of what `body` reports. -/
inductive Step : Call → St → List Call → St → (List Conflict → List Conflict) → Prop where
  | fc_fire {excl rn e1 e2 σ} (c : Conflict) :
      Spec.direct env.s ⟨e1.inst, e2.inst, !excl⟩ = true →
      Step (.fc excl rn e1 e2) σ [] σ (fun _ => [c])
  | fc_sub {excl rn e1 e2 σ} : Spec.direct env.s ⟨e1.inst, e2.inst, !excl⟩ = false →
      e1.node.hasSub = true → e2.node.hasSub = true →
      Step (.fc excl rn e1 e2) σ
        [.bs (!Spec.deeper env.s ⟨e1.inst, e2.inst, !excl⟩) (subP env.s e1.inst, e1.node.subSet)
          (subP env.s e2.inst, e2.node.subSet) (e1.defTy.map Ty.named) (e2.defTy.map Ty.named)] σ
        (fun cs => subfieldConflicts cs rn e1.node.id e2.node.id)
  | fc_leaf {excl rn e1 e2 σ} : Spec.direct env.s ⟨e1.inst, e2.inst, !excl⟩ = false →
      ¬ (e1.node.hasSub = true ∧ e2.node.hasSub = true) → Step (.fc excl rn e1 e2) σ [] σ id
  | bs {excl t1 t2 p1 p2 σ q1 q2} : PEq env.s t1.1 q1 → PEq env.s t2.1 q2 →
      Step (.bs excl t1 t2 p1 p2) σ
        (fcs env excl t1 q1 t2 q2 ++ ((sprs env t2).map (Call.ff excl t1 q1) ++
          ((sprs env t1).map (Call.ff excl t2 q2) ++
            (sprs env t1).flatMap (fun a => (sprs env t2).map (Call.fr excl a))))) σ id
  | ff_hit {excl t q sp σ} : σ.cfpHas t.2.id sp.key excl = true → Step (.ff excl t q sp) σ [] σ id
  /-- no such fragment, or `field_map is field_map2` -/
  | ff_skip {excl t q sp σ} : σ.cfpHas t.2.id sp.key excl = false →
      (∀ tf, fragSet env.s env.d sp.name = some tf → t.2.id = tf.2.id) →
      Step (.ff excl t q sp) σ [] (σ.cfpAdd t.2.id sp.key excl) id
  | ff_body {excl t q sp σ tf q2} : σ.cfpHas t.2.id sp.key excl = false →
      fragSet env.s env.d sp.name = some tf → PEq env.s tf.1 q2 →
      Step (.ff excl t q sp) σ (fcs env excl t q tf q2 ++ (sprs env tf).map (Call.ff excl t q))
        (σ.cfpAdd t.2.id sp.key excl) id
  | fr_hit {excl sp1 sp2 σ} : sp1.key = sp2.key ∨ σ.cmpHas sp1.key sp2.key excl = true →
      Step (.fr excl sp1 sp2) σ [] σ id
  | fr_skip {excl sp1 sp2 σ} : σ.cmpHas sp1.key sp2.key excl = false →
      fragSet env.s env.d sp1.name = none ∨ fragSet env.s env.d sp2.name = none →
      Step (.fr excl sp1 sp2) σ [] (σ.cmpAdd sp1.key sp2.key excl) id
  | fr_body {excl sp1 sp2 σ t1 t2 q1 q2} : σ.cmpHas sp1.key sp2.key excl = false →
      fragSet env.s env.d sp1.name = some t1 → fragSet env.s env.d sp2.name = some t2 →
      PEq env.s t1.1 q1 → PEq env.s t2.1 q2 →
      Step (.fr excl sp1 sp2) σ
        (fcs env excl t1 q1 t2 q2 ++ ((sprs env t2).map (Call.fr excl sp1) ++
          (sprs env t1).map (fun sp => Call.fr excl sp sp2)))
        (σ.cmpAdd sp1.key sp2.key excl) id
  | ws {t p σ q} : PEq env.s t.1 q →
      Step (.ws t p) σ ((withinPairs (fmOf env t q)).map (Call.fcOf false) ++
        (withinTasks (sprs env t)).map (taskCall t q)) σ id

/-- the memo tables of `σ'` are those of `σ` (field maps may have been cached in between) -/
def SameT (σ σ' : St) : Prop := σ'.cfp = σ.cfp ∧ σ'.cmp = σ.cmp

/-- the run of a list of well-formed calls, depth first -/
inductive Run : List Call → St → St → List Conflict → Prop where
  | nil {σ} : Run [] σ σ []
  | cons {c rest σ body σ0 σ0' wrap σ1 cs1 σ' cs2} : c.WF env → Step env c σ body σ0 wrap →
      SameT σ0 σ0' → Run body σ0' σ1 cs1 → Run rest σ1 σ' cs2 →
      Run (c :: rest) σ σ' (wrap cs1 ++ cs2)

/-- `n` is a fuel at which every evaluation is a run -/
def Reads (n : Nat) : Prop := ∀ c σ σ' cs, c.WF env → CacheNF env σ →
  c.eval env n σ = some (σ', cs) → Run env [c] σ σ' cs ∧ CacheNF env σ'

variable {env}

theorem Run.append {as bs : List Call} {σ σ1 σ2 : St} {c1 c2 : List Conflict}
    (h1 : Run env as σ σ1 c1) (h2 : Run env bs σ1 σ2 c2) : Run env (as ++ bs) σ σ2 (c1 ++ c2) := by
  induction h1 with
  | nil => exact h2
  | cons hw hs ht hb _ _ ih => rw [List.append_assoc]; exact Run.cons hw hs ht hb (ih h2)

theorem Step.run {c : Call} {σ σ0 σ0' σ' : St} {body : List Call} {cs : List Conflict}
    {wrap : List Conflict → List Conflict} (hs : Step env c σ body σ0 wrap) (hw : c.WF env)
    (ht : SameT σ0 σ0') (hb : Run env body σ0' σ' cs) : Run env [c] σ σ' (wrap cs) := by
  have := Run.cons hw hs ht hb Run.nil
  rwa [List.append_nil] at this

/-- then a loop over calls is the run of these calls -/
theorem Reads.forEach {n : Nat} (hev : Reads env n) : ∀ body : List Call, (∀ b ∈ body, b.WF env) →
    ∀ σ σ' cs, CacheNF env σ → Overlap.forEach body (Call.eval env n) σ = some (σ', cs) →
      Run env body σ σ' cs ∧ CacheNF env σ'
  | [], _, σ, σ', cs, hσ, h => by cases h; exact ⟨Run.nil, hσ⟩
  | b :: body, hw, σ, σ', cs, hσ, h => by
    rw [forEach_cons] at h
    obtain ⟨σ1, c1, c2, e1, e2, rfl⟩ := andThen_some h
    obtain ⟨r1, g1⟩ := hev b σ σ1 c1 (hw b List.mem_cons_self) hσ e1
    obtain ⟨r2, g2⟩ := hev.forEach body (fun y hy => hw y (List.mem_cons_of_mem _ hy)) σ1 σ' c2 g1 e2
    exact ⟨r1.append r2, g2⟩

/-- and an evaluation that is the loop over the body of a step, one level down, is the run of
that step's call -/
theorem Reads.step {n : Nat} (hev : Reads env n) {c : Call} {σ σ0 σ0' σ' : St} {body : List Call}
    {wrap : List Conflict → List Conflict} {cs : List Conflict} (hs : Step env c σ body σ0 wrap)
    (hw : c.WF env) (ht : SameT σ0 σ0') (hσ : CacheNF env σ0') (hb : ∀ b ∈ body, b.WF env)
    (h : Overlap.forEach body (Call.eval env n) σ0' = some (σ', cs)) :
    Run env [c] σ σ' (wrap cs) ∧ CacheNF env σ' := by
  obtain ⟨r, g⟩ := hev.forEach body hb σ0' σ' cs hσ h
  exact ⟨hs.run hw ht r, g⟩

theorem sprs_doc {t : TSet} (ht : t ∈ env.d.typedSets env.s) {sp : Spread} (h : sp ∈ sprs env t) :
    DocSpread env sp := by
  obtain ⟨nm, hnm, rfl⟩ := mem_spreadsOf h
  exact ⟨nm, Doc.typedSets_spreads ht hnm, rfl⟩

end

section read
variable (env : Env) (hle : LinOrd env.le) (hU : TypedIdsUnique env.s env.d)
  (hA : ∀ a, DocInst env.s env.d a → a.node.argsOK)
  (hT : ∀ a, DocInst env.s env.d a → a.node.name ≠ "__typename")
include hle hU hA hT

theorem run_of_eval : ∀ n : Nat, Reads env n := by
  intro n
  induction n with
  | zero => intro c σ σ' cs _ _ h; cases c <;> cases h
  | succ n ih =>
    have between : ∀ excl {t1 t2 : TSet} {q1 q2}, t1 ∈ env.d.typedSets env.s →
        t2 ∈ env.d.typedSets env.s → PEq env.s t1.1 q1 → PEq env.s t2.1 q2 →
        ∀ u ∈ betweenPairs (fmOf env t1 q1) (fmOf env t2 q2), (Call.fcOf excl u).WF env :=
      fun _ _ _ _ _ h1 h2 hq1 hq2 u hu =>
        have k := between_known env h1 h2 hq1 hq2 hu
        ⟨k.1, k.2.1⟩
    intro c σ σ' cs hw hσ h
    cases c with
    | fc excl rn e1 e2 =>
      obtain ⟨ha1, hd1, p1, m1⟩ := known_facts env hA hT hw.1
      obtain ⟨ha2, hd2, p2, m2⟩ := known_facts env hA hT hw.2
      rcases findConflict_direct env hle n excl rn e1 e2 σ ha1 ha2 hd1 hd2 with
        ⟨hdir, c, hc⟩ | ⟨hdir, hF⟩
      · cases hc.symm.trans h
        exact ⟨(Step.fc_fire c hdir).run hw ⟨rfl, rfl⟩ Run.nil, hσ⟩
      · replace h := hF.symm.trans h
        rw [subResult] at h
        by_cases hsub : (e1.node.hasSub && e2.node.hasSub) = true
        · obtain ⟨hs1, hs2⟩ := Bool.and_eq_true_iff.1 hsub
          rw [if_pos hsub] at h
          generalize hb : findConflictsBetweenSubSelectionSets env n _ _ _ _ _ σ = r at h
          rcases r with _ | ⟨σ1, cs1⟩
          · cases h
          · cases h
            obtain ⟨r, g⟩ := ih (.bs _ (subP env.s e1.inst, e1.node.subSet)
              (subP env.s e2.inst, e2.node.subSet) _ _) _ _ _ ⟨m1 hs1, m2 hs2, p1, p2⟩ hσ hb
            exact ⟨(Step.fc_sub hdir hs1 hs2).run hw ⟨rfl, rfl⟩ r, g⟩
        · rw [if_neg hsub] at h; cases h
          exact ⟨(Step.fc_leaf hdir fun hh => hsub (Bool.and_eq_true_iff.2 hh)).run hw ⟨rfl, rfl⟩
            Run.nil, hσ⟩
    | bs excl t1 t2 p1 p2 =>
      obtain ⟨h1, h2, hp1, hp2⟩ := hw
      obtain ⟨σ1, q1, e1, g1, hq1, a1, b1⟩ := getFields_nf env hU hσ h1 hp1
      obtain ⟨σ2, q2, e2, g2, hq2, a2, b2⟩ := getFields_nf env hU g1 h2 hp2
      simp only [Call.eval, findConflictsBetweenSubSelectionSets, e1, e2] at h
      exact ih.step (Step.bs hq1 hq2) ⟨h1, h2, hp1, hp2⟩ ⟨a2.trans a1, b2.trans b1⟩ g2
        (List.forall_mem_append.2 ⟨List.forall_mem_map.2 (between excl h1 h2 hq1 hq2),
          List.forall_mem_append.2 ⟨List.forall_mem_map.2 fun sp hsp => ⟨h1, hq1, sprs_doc h2 hsp⟩,
          List.forall_mem_append.2 ⟨List.forall_mem_map.2 fun sp hsp => ⟨h2, hq2, sprs_doc h1 hsp⟩,
          List.forall_mem_flatMap.2 fun a ha => List.forall_mem_map.2 fun b hb =>
            ⟨sprs_doc h1 ha, sprs_doc h2 hb⟩⟩⟩⟩)
        (by simpa only [fcs, sprs, forEach_append, forEach_map, forEach_flatMap, Call.eval] using h)
    | ff excl t q sp =>
      have ht := hw.1
      have hq := hw.2.1
      have hfm : (fmOf env t q).id = t.2.id := rfl
      rw [Call.eval, collectConflictsBetweenFieldsAndFragment, hfm] at h
      by_cases hhas : σ.cfpHas t.2.id sp.key excl = true
      · rw [if_pos hhas] at h; cases h
        exact ⟨(Step.ff_hit hhas).run hw ⟨rfl, rfl⟩ Run.nil, hσ⟩
      rw [if_neg hhas] at h
      rw [Bool.not_eq_true] at hhas
      have hσ1 : CacheNF env (σ.cfpAdd t.2.id sp.key excl) := hσ
      cases hfr : env.d.getFragment sp.name with
      | none =>
        rw [hfr] at h; cases h
        exact ⟨(Step.ff_skip hhas fun tf hfs => by cases (fragSet_none hfr).symm.trans hfs).run hw
          ⟨rfl, rfl⟩ Run.nil, hσ1⟩
      | some fr =>
        have hfs := fragSet_some (s := env.s) hfr
        obtain ⟨htf, σ2, q2, e2, g2, hq2, a2, b2⟩ := getReferenced_nf env hU hσ1 hfr
        simp only [hfr, e2] at h
        by_cases hid : (t.2.id == (fmOf env (env.s.typeFromAst fr.typeCond, fr.ss) q2).id) = true
        · rw [if_pos hid] at h; cases h
          exact ⟨(Step.ff_skip hhas fun tf hfs' => by
            cases hfs.symm.trans hfs'; exact beq_iff_eq.1 hid).run hw ⟨a2, b2⟩ Run.nil, g2⟩
        · rw [if_neg hid] at h
          exact ih.step (Step.ff_body hhas hfs hq2) hw ⟨a2, b2⟩ g2
            (List.forall_mem_append.2 ⟨List.forall_mem_map.2 (between excl ht htf hq hq2),
              List.forall_mem_map.2 fun sp' h' => ⟨ht, hq, sprs_doc htf h'⟩⟩)
            (by simpa only [fcs, sprs, forEach_append, forEach_map, Call.eval] using h)
    | fr excl sp1 sp2 =>
      rw [Call.eval, collectConflictsBetweenFragments] at h
      by_cases hkey : (sp1.key == sp2.key) = true
      · rw [if_pos hkey] at h; cases h
        exact ⟨(Step.fr_hit (Or.inl (by simpa using hkey))).run hw ⟨rfl, rfl⟩ Run.nil, hσ⟩
      rw [if_neg hkey] at h
      by_cases hhas : σ.cmpHas sp1.key sp2.key excl = true
      · rw [if_pos hhas] at h; cases h
        exact ⟨(Step.fr_hit (Or.inr hhas)).run hw ⟨rfl, rfl⟩ Run.nil, hσ⟩
      rw [if_neg hhas] at h
      rw [Bool.not_eq_true] at hhas
      have hσ1 : CacheNF env (σ.cmpAdd sp1.key sp2.key excl) := hσ
      cases hfr1 : env.d.getFragment sp1.name with
      | none =>
        rw [hfr1] at h; cases h
        exact ⟨(Step.fr_skip hhas (Or.inl (fragSet_none hfr1))).run hw ⟨rfl, rfl⟩ Run.nil, hσ1⟩
      | some fr1 =>
        cases hfr2 : env.d.getFragment sp2.name with
        | none =>
          rw [hfr1, hfr2] at h; cases h
          exact ⟨(Step.fr_skip hhas (Or.inr (fragSet_none hfr2))).run hw ⟨rfl, rfl⟩ Run.nil, hσ1⟩
        | some fr2 =>
          obtain ⟨ht1, σ2, q1, e1, g1, hq1, a1, b1⟩ := getReferenced_nf env hU hσ1 hfr1
          obtain ⟨ht2, σ3, q2, e2, g2, hq2, a2, b2⟩ := getReferenced_nf env hU g1 hfr2
          simp only [hfr1, hfr2, e1, e2] at h
          exact ih.step (Step.fr_body hhas (fragSet_some hfr1) (fragSet_some hfr2) hq1 hq2) hw
            ⟨a2.trans a1, b2.trans b1⟩ g2
            (List.forall_mem_append.2 ⟨List.forall_mem_map.2 (between excl ht1 ht2 hq1 hq2),
              List.forall_mem_append.2 ⟨List.forall_mem_map.2 fun sp hsp => ⟨hw.1, sprs_doc ht2 hsp⟩,
              List.forall_mem_map.2 fun sp hsp => ⟨sprs_doc ht1 hsp, hw.2⟩⟩⟩)
            (by simpa only [fcs, sprs, forEach_append, forEach_map, Call.eval] using h)
    | ws t p =>
      obtain ⟨ht, hp⟩ := hw
      obtain ⟨σ1, q, e1, g1, hq, a1, b1⟩ := getFields_nf env hU hσ ht hp
      simp only [Call.eval, findConflictsWithinSelectionSet, e1] at h
      refine ih.step (Step.ws hq) ⟨ht, hp⟩ ⟨a1, b1⟩ g1
        (List.forall_mem_append.2 ⟨List.forall_mem_map.2 fun u hu =>
            have k := within_known env ht hq hu
            ⟨k.1, k.2.1⟩,
          List.forall_mem_map.2 fun tk htk => ?_⟩) ?_
      · cases tk with
        | fieldsFrag sp => exact ⟨ht, hq, sprs_doc ht (fieldsFrag_mem_withinTasks.1 htk)⟩
        | frags a b =>
          have hm := Spec.pairsOf_mem (frags_mem_withinTasks.1 htk)
          exact ⟨sprs_doc ht hm.1, sprs_doc ht hm.2⟩
      · rw [forEach_append, forEach_map, forEach_map]
        exact (congrArg (fun f => andThen _ (Overlap.forEach _ f))
          (funext fun tk => by cases tk <;> rfl)).trans h

/-- the visitor's loop over the selection sets it enters -/
theorem run_visits (n : Nat) (vs : List Visit)
    (hv : ∀ v ∈ vs, v.2 ∈ env.d.typedSets env.s ∧ PEq env.s v.2.1 v.1) :
    ∀ σ σ' cs, CacheNF env σ → forEach vs (visitStep env n) σ = some (σ', cs) →
      Run env (vs.map (fun v => Call.ws v.2 v.1)) σ σ' cs ∧ CacheNF env σ' := by
  intro σ σ' cs hσ h
  refine (run_of_eval env hle hU hA hT (n + 1)).forEach _ (List.forall_mem_map.2 hv) σ σ' cs hσ ?_
  rw [forEach_map]; exact h

end read

end Gql.Exec
