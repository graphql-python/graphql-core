import Gql.Proofs.ExecParse
import Gql.Proofs.ParseDefinition
/-!
The parser model on printed operation and fragment definitions.
-/
namespace Gql.Syntax
open Gql Gql.Text
open Gql.Generated

theorem ssKvs_ne (ss : List Sel) : ∃ ks, Exec.ssKvs ss = (.braceL, none) :: ks := ⟨_, rfl⟩

theorem varDefsKvs_headD (vds : List VarDef) (d : KV) :
    (Exec.varDefsKvs vds).headD d = if vds = [] then d else (.parenL, none) := by
  cases vds <;> rfl

section
variable (cfg : Cfg) (hm : cfg.maxTokens = none)
include hm

/-- `parse_operation_definition` on the keyword form of an operation (also for `query { … }`). -/
theorem parses_xop_long {n : Nat} (desc : Desc) (ot nm : List Nat) (vds : List VarDef) (ds : List Dir) (ss : List Sel)
    (fa : Bool) (h : Exec.xdefWf fa (.op desc ot nm vds ds ss)) (ok : KV → Prop) :
    Parses n (parseOperationDefinition cfg n)
      (Exec.descKvs desc ++ ((TokKind.name, some ot) :: ((if nm.isEmpty then [] else [(TokKind.name, some nm)]) ++
        (Exec.varDefsKvs vds ++ (Exec.dirsKvs ds ++ Exec.ssKvs ss)))))
      (Exec.xdefAst fa (.op desc ot nm vds ds ss)) ok := by
  obtain ⟨_, hot, _, hvds, hds, hssne, hss⟩ := h
  rw [parseOperationDefinition, Exec.xdefAst]
  have hhead : ∀ d : KV, ((Exec.varDefsKvs vds ++ (Exec.dirsKvs ds ++ Exec.ssKvs ss)).headD d).1 ≠ .name := by
    intro d
    rw [headD_append, headD_append, varDefsKvs_headD, dirsKvs_headD]
    exact ite_kind_ne (ite_kind_ne (by simp [Exec.ssKvs]))
  -- the optional name: `peek(NAME)` answers whether there is one
  have hname : Parses n (if (!nm.isEmpty) = true then parseName cfg else pure .none)
      (if nm.isEmpty then [] else [(.name, some nm)]) (optName nm) anyKV := by
    cases nm with
    | nil => exact Parses.pure _ _
    | cons a r => exact Parses.name_only cfg hm _ _
  refine Parses.peek .braceL false (fun d _ => ?_) ?_
  · rw [headD_append, List.headD_cons]
    rcases descKvs_headD desc ((TokKind.name, some ot) : KV) with h | h | h <;> rw [h] <;> rfl
  simp only [Bool.false_eq_true, ↓reduceIte]
  refine Parses.result (by rw [mk_opNode, dirsAst_opt, optL_map_opt]) (Parses.desc cfg hm desc
    (Parses.bind1 (parses_operationType cfg hm ot hot) (Parses.peek .name (!nm.isEmpty) (fun d _ => ?_)
      (Parses.bind hname
        (Parses.bind (parses_varDefs cfg hm vds hvds)
          (Parses.bind (parses_dirs cfg hm false ds hds)
            (Parses.map (parses_selectionSet cfg hm ss hssne hss ok) _)
            fun _ _ => ⟨by simp [Exec.ssKvs], by simp [Exec.ssKvs]⟩) fun d _ _ => ?_)
        fun _ _ => trivial))) fun _ _ => ⟨by simp, by simp⟩)
  · cases nm with
    | nil => simpa using hhead d
    | cons a r => rfl
  · rw [headD_append, dirsKvs_headD]
    split <;> simp [Exec.ssKvs]

theorem parses_xop {n : Nat} (desc : Desc) (ot nm : List Nat) (vds : List VarDef) (ds : List Dir) (ss : List Sel)
    (fa : Bool) (h : Exec.xdefWf fa (.op desc ot nm vds ds ss)) (ok : KV → Prop) :
    Parses n (parseOperationDefinition cfg n) (Exec.xdefKvs (.op desc ot nm vds ds ss))
      (Exec.xdefAst fa (.op desc ot nm vds ds ss)) ok := by
  simp only [Exec.xdefKvs]
  by_cases hs : desc = none ∧ ot = S "query" ∧ nm = [] ∧ vds.isEmpty = true ∧ ds.isEmpty = true
  · simp only [hs, and_self, ↓reduceIte]
    obtain ⟨rfl, rfl, rfl, hv, hd⟩ := hs
    have hv' : vds = [] := by cases vds <;> simp_all
    have hd' : ds = [] := by cases ds <;> simp_all
    subst hv' hd'
    rw [parseOperationDefinition]
    refine Parses.peek .braceL true (fun _ _ => rfl) ?_
    simp only [↓reduceIte]
    exact Parses.result (by rw [mk_opNode]; rfl)
      (Parses.map (parses_selectionSet cfg hm ss h.2.2.2.2.2.1 h.2.2.2.2.2.2 ok) _)
  · simp only [hs, ↓reduceIte, List.append_assoc, List.cons_append]
    exact parses_xop_long cfg hm desc ot nm vds ds ss fa h ok

theorem parses_xfrag {n : Nat} (desc : Desc) (nm : List Nat) (vds : List VarDef) (tc : List Nat) (ds : List Dir)
    (ss : List Sel) (h : Exec.xdefWf cfg.fragArgs (.frag desc nm vds tc ds ss)) (ok : KV → Prop) :
    Parses n (parseFragmentDefinition cfg n) (Exec.xdefKvs (.frag desc nm vds tc ds ss))
      (Exec.xdefAst cfg.fragArgs (.frag desc nm vds tc ds ss)) ok := by
  obtain ⟨_, _, hon, hfa, hvds, _, hds, hssne, hss⟩ := h
  simp only [Exec.xdefKvs, List.append_assoc, List.cons_append]
  rw [parseFragmentDefinition, Exec.xdefAst]
  have htc : Parses n (parseTypeCondition cfg) [(.name, some (S "on")), (.name, some tc)] (namedType tc) anyKV := by
    rw [parseTypeCondition]
    exact Parses.kw cfg hm "on" (parses_namedType cfg hm tc anyKV)
  -- the variable definitions are read only under `cfg.fragArgs`, and there are none otherwise
  have hvars : Parses n (if cfg.fragArgs then parseVariableDefinitions cfg n >>= fun v => pure (optListO v)
      else pure (.list [])) (Exec.varDefsKvs vds)
      (if cfg.fragArgs then optL (vds.map Exec.varDefAst) else .list []) (fun k => k.1 ≠ .parenL) := by
    cases hfa' : cfg.fragArgs with
    | false =>
      obtain rfl : vds = [] := hfa.resolve_right (by simp [hfa'])
      exact Parses.pure _ _
    | true =>
      exact Parses.result (optL_map_opt _ _)
        ((Parses.map (parses_varDefs cfg hm vds hvds) _).mono fun _ h _ => h)
  exact Parses.result (by rw [mk_fragNode, dirsAst_opt])
    (Parses.desc cfg hm desc (Parses.kw cfg hm "fragment" (Parses.bind1 (parses_fragmentName cfg hm nm hon)
      (Parses.bind hvars
        (Parses.bind (ka := [(.name, some (S "on")), (.name, some tc)]) htc
          (Parses.bind (parses_dirs cfg hm false ds hds)
            (Parses.map (parses_selectionSet cfg hm ss hssne hss ok) _)
            fun _ _ => ⟨by simp [Exec.ssKvs], by simp [Exec.ssKvs]⟩) fun _ _ => trivial)
        fun _ _ => by simp))) fun _ _ => ⟨by simp, by simp⟩)

/-- `parse_definition` on a printed operation or fragment definition. -/
theorem parses_xdef {n : Nat} (d : XDef) (h : Exec.xdefWf cfg.fragArgs d)
    (ok : KV → Prop) : Parses n (parseDefinition cfg n) (Exec.xdefKvs d) (Exec.xdefAst cfg.fragArgs d) ok := by
  cases d with
  | op desc ot nm vds ds ss =>
    have hp := parses_xop cfg hm (n := n) desc ot nm vds ds ss cfg.fragArgs h ok
    simp only [Exec.xdefKvs] at hp ⊢
    by_cases hs : desc = none ∧ ot = S "query" ∧ nm = [] ∧ vds.isEmpty = true ∧ ds.isEmpty = true
    · simp only [hs, and_self, ↓reduceIte] at hp ⊢
      rw [parseDefinition]
      exact Parses.peek .braceL true (fun _ _ => rfl) hp
    · simp only [hs, ↓reduceIte, List.append_assoc, List.cons_append] at hp ⊢
      refine Parses.definition desc ot "operation_definition" ?_ hp
      rcases h.2.1 with rfl | rfl | rfl
      · exact defMethod_keywords ("query", _) (by simp) _
      · exact defMethod_keywords ("mutation", _) (by simp) _
      · exact defMethod_keywords ("subscription", _) (by simp) _
  | frag desc nm vds tc ds ss =>
    have hp := parses_xfrag cfg hm (n := n) desc nm vds tc ds ss h ok
    simp only [Exec.xdefKvs, List.append_assoc, List.cons_append] at hp ⊢
    exact Parses.definition desc (S "fragment") "fragment_definition"
      (defMethod_keywords ("fragment", _) (by simp) _) hp

end

end Gql.Syntax
