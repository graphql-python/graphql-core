import Gql.Proofs.ClientSchema
/-! Lemmas for C18: `buildClient` does not crash on results of `introspect` (any schema, any options).

Each builder is a cascade of stages that propagates the first error or crash.  The model writes these
cascades as nested `match`es, not with `>>=`, so there is no `bind` lemma to apply stage by stage (as the
`Post` / `Agree` combinators of the lexer and parser proofs do).  Instead, for an arbitrary object (`*_obj`,
`*_arr`) the proof walks the cascade with `split`: every leaf is a value, an error, or the crash of a stage,
and the `first | …` list names the stages that can be reached and why none of them crashes.  What the
builder needs of the object — which keys must be there, which entries it iterates — are the hypotheses;
the introspection objects supply them whatever the options (`*Json_obj`). -/
namespace Gql.Types
open Json

/-- The call raises nothing but the function's own errors. -/
def NoCrash {α : Type} (x : R α) : Prop := x.isCrash = false

@[simp] theorem noCrash_ok {α : Type} (a : α) : NoCrash (Out.ok a : R α) := rfl
@[simp] theorem noCrash_err {α : Type} (e : String) : NoCrash (Out.err e : R α) := rfl
@[simp] theorem noCrash_crash {α : Type} (c : String) : ¬ NoCrash (Out.crash c : R α) := by
  simp [NoCrash, Out.isCrash]

@[simp] theorem noCrash_eTypeError {α : Type} : NoCrash (eTypeError : R α) := rfl

@[simp] theorem eGraphQLError_ne_crash {α : Type} (c : String) : (eGraphQLError : R α) = .crash c ↔ False := by
  simp [eGraphQLError]
@[simp] theorem ite_eType_ok_ne_crash {α : Type} (p : Prop) [Decidable p] (a : α) (x : String) :
    (if p then eTypeError else (Out.ok a : R α)) = Out.crash x ↔ False := by split <;> simp [eTypeError]

/-- A stage that cannot crash did not produce the crash a cascade propagates. -/
theorem NoCrash.elim {α : Type} {x : R α} (h : NoCrash x) {c : String} {p : Prop} (heq : x = .crash c) : p := by
  subst heq; cases h

theorem optStrOf_noCrash (j : Json) : NoCrash (optStrOf j) := by cases j <;> rfl
theorem nameOf_noCrash (j : Json) : NoCrash (nameOf j) := by cases j <;> rfl
@[simp] theorem optStrOf_null : optStrOf null = .ok none := rfl

theorem mapMOut_noCrash {α β : Type} (f : α → R β) (xs : List α) (h : ∀ x ∈ xs, NoCrash (f x)) :
    NoCrash (mapMOut f xs) := by
  induction xs with
  | nil => rfl
  | cons x xs ih =>
    have hr := ih fun y hy => h y (List.mem_cons_of_mem _ hy)
    unfold mapMOut
    repeat' split
    all_goals first | rfl | exact (h x List.mem_cons_self).elim ‹_› | exact hr.elim ‹_›

theorem mapMOut_ok_mem {α β : Type} (f : α → R β) :
    ∀ (xs : List α) (ys : List β), mapMOut f xs = .ok ys → ∀ y ∈ ys, ∃ x ∈ xs, f x = .ok y := by
  intro xs
  induction xs with
  | nil => intro ys h y hy; cases h; cases hy
  | cons x xs ih =>
    intro ys h y hy
    unfold mapMOut at h
    split at h
    · rename_i b hfx
      split at h <;> cases h
      rename_i bs hm
      rcases List.mem_cons.mp hy with rfl | hy'
      · exact ⟨x, by simp, hfx⟩
      · obtain ⟨x', hx', hfx'⟩ := ih _ hm y hy'
        exact ⟨x', by simp [hx'], hfx'⟩
    · cases h
    · cases h

theorem wrapThunk_noCrash {α : Type} (x : R α) : NoCrash (wrapThunk x) := by
  unfold wrapThunk; repeat' split
  all_goals rfl

theorem getNamedType_noCrash (km : KindMap) (j : Json) : NoCrash (getNamedType km j) := by
  unfold getNamedType; repeat' split
  all_goals rfl

theorem assertName_noCrash (n : List Nat) : NoCrash (assertName n) := by
  unfold assertName; split <;> rfl

theorem checkNames_noCrash {α : Type} (name : α → List Nat) (xs : List α) : NoCrash (checkNames name xs) := by
  unfold checkNames; split <;> rfl

theorem getType_refJson_noCrash (km : KindMap) (r : TypeRef) :
    ∀ d fuel : Nat, d < fuel → NoCrash (getType km fuel (refJson d r)) := by
  induction r with
  | named n k =>
    intro d fuel h
    cases fuel with
    | zero => omega
    | succ fuel =>
      have h1 := kindName_ne_list k
      have h2 := kindName_ne_nonNull k
      cases d <;> simp [refJson, getType, Json.get?, List.lookup, h1, h2] <;> exact getNamedType_noCrash _ _
  | list r ih =>
    intro d fuel h
    cases fuel with
    | zero => omega
    | succ fuel =>
      cases d with
      | zero => simp [refJson, getType, Json.get?, List.lookup]
      | succ d =>
        have := ih d fuel (by omega)
        simp [refJson, getType, Json.get?, List.lookup, refJson_truthy]
        cases hg : getType km fuel (refJson d r) <;> simp_all
  | nonNull r ih =>
    intro d fuel h
    cases fuel with
    | zero => omega
    | succ fuel =>
      have hne : cNON_NULL ≠ cLIST := by decide
      cases d with
      | zero => simp [refJson, getType, Json.get?, List.lookup, hne]
      | succ d =>
        have := ih d fuel (by omega)
        simp [refJson, getType, Json.get?, List.lookup, refJson_truthy, hne]
        cases hg : getType km fuel (refJson d r) with
        | ok a => by_cases hnn : a.isNonNull = true <;> simp [hnn]
        | err e => simp
        | crash c => simp [hg] at this

theorem getTypeOfKind_noCrash (km : KindMap) {fuel : Nat} {want : Kind} {j : Json} (h : NoCrash (getType km fuel j)) :
    NoCrash (getTypeOfKind km fuel want j) := by
  unfold getTypeOfKind
  repeat' split
  all_goals first | rfl | exact h

theorem getTypeOfKind_refJson_noCrash (km : KindMap) (want : Kind) (r : TypeRef) (d fuel : Nat) (h : d < fuel) :
    NoCrash (getTypeOfKind km fuel want (refJson d r)) :=
  getTypeOfKind_noCrash km (getType_refJson_noCrash km r d fuel h)

section
variable {V : Type} (env : ClientEnv V) (km : KindMap) (printV : V → List Nat)

theorem parseDefault_noCrash (hp : ∀ x, NoCrash (env.parseV x)) (x : Option (List Nat)) :
    NoCrash (parseDefault env (ofOptStr x)) := by
  cases x with
  | none => rfl
  | some v =>
    simp only [ofOptStr, parseDefault]
    split
    all_goals first | rfl | exact (hp v).elim ‹_›

theorem buildInputValue_obj {kvs : List (Key × Json)} {nj tj : Json}
    (hn : kvs.lookup .name = some nj) (ht : kvs.lookup .type = some tj)
    (hT : NoCrash (getType km env.limit tj))
    (hD : NoCrash (parseDefault env ((kvs.lookup .defaultValue).getD null))) :
    NoCrash (buildInputValue env km (obj kvs)) := by
  simp only [buildInputValue, index, dget, hn, ht]
  repeat' split
  all_goals first | rfl | exact hT.elim ‹_› | exact hD.elim ‹_› | exact (optStrOf_noCrash _).elim ‹_› |
    exact (nameOf_noCrash _).elim ‹_›

theorem buildInputValues_arr {xs : List Json} (h : ∀ x ∈ xs, NoCrash (buildInputValue env km x)) :
    NoCrash (buildInputValues env km (arr xs)) := by
  simp only [buildInputValues, items]
  repeat' split
  all_goals first | rfl | exact (mapMOut_noCrash _ _ h).elim ‹_› | exact (checkNames_noCrash _ _).elim ‹_›

theorem buildField_obj {kvs : List (Key × Json)} {nj tj : Json} {xs : List Json}
    (hn : kvs.lookup .name = some nj) (ht : kvs.lookup .type = some tj)
    (hT : NoCrash (getType km env.limit tj)) (ha : (kvs.lookup .args).getD null = arr xs)
    (hxs : ∀ x ∈ xs, NoCrash (buildInputValue env km x)) :
    NoCrash (buildField env km (obj kvs)) := by
  simp only [buildField, index, dget, hn, ht, ha]
  repeat' split
  all_goals first | rfl | exact hT.elim ‹_› | exact (buildInputValues_arr env km hxs).elim ‹_› |
    exact (optStrOf_noCrash _).elim ‹_› | exact (nameOf_noCrash _).elim ‹_›

theorem buildEnumValue_obj {kvs : List (Key × Json)} {nj : Json} (hn : kvs.lookup .name = some nj) :
    NoCrash (buildEnumValue (obj kvs)) := by
  simp only [buildEnumValue, index, dget, hn]
  repeat' split
  all_goals first | rfl | exact (optStrOf_noCrash _).elim ‹_› | exact (nameOf_noCrash _).elim ‹_›

/-- Only an enum's `enumValues` are iterated outside a thunk. -/
theorem buildTypeDef_obj {kvs : List (Key × Json)} (name : List Nat) (kind : Kind)
    (he : kind = .enum → ∃ xs, (kvs.lookup .enumValues).getD null = arr xs ∧ ∀ x ∈ xs, NoCrash (buildEnumValue x)) :
    NoCrash (buildTypeDef env km name kind (obj kvs)) := by
  cases kind with
  | enum =>
    obtain ⟨xs, hxs, hev⟩ := he rfl
    simp only [buildTypeDef, dget, hxs, items]
    repeat' split
    all_goals first | rfl | exact (optStrOf_noCrash _).elim ‹_› | exact (mapMOut_noCrash _ _ hev).elim ‹_›
  | _ =>
    simp only [buildTypeDef, dget]
    repeat' split
    all_goals first | rfl | exact (optStrOf_noCrash _).elim ‹_› | exact (wrapThunk_noCrash _).elim ‹_› |
      exact (checkNames_noCrash _ _).elim ‹_›

theorem buildLocation_noCrash (j : Json) : NoCrash (buildLocation env j) := by
  unfold buildLocation; repeat' split
  all_goals rfl

theorem buildDirective_obj {kvs : List (Key × Json)} {nj : Json} {xs ls : List Json}
    (hn : kvs.lookup .name = some nj) (ha : (kvs.lookup .args).getD null = arr xs)
    (hl : (kvs.lookup .locations).getD null = arr ls)
    (hxs : ∀ x ∈ xs, NoCrash (buildInputValue env km x)) :
    NoCrash (buildDirective env km (obj kvs)) := by
  simp only [buildDirective, index, dget, hn, ha, hl, items]
  repeat' split
  all_goals first | rfl | exact (mapMOut_noCrash _ _ hxs).elim ‹_› | exact (nameOf_noCrash _).elim ‹_› |
    exact (mapMOut_noCrash _ _ fun j _ => buildLocation_noCrash env j).elim ‹_› |
    exact (assertName_noCrash _).elim ‹_› | exact (checkNames_noCrash _ _).elim ‹_› |
    exact (optStrOf_noCrash _).elim ‹_›

theorem buildDirectives_arr {xs : List Json} (h : ∀ x ∈ xs, NoCrash (buildDirective env km x)) :
    NoCrash (buildDirectives env km (arr xs)) := by
  simp only [buildDirectives, items]
  split
  · exact mapMOut_noCrash _ _ h
  · rfl

/-- The eager part of `build_type` either fails with one of its own errors or returns the entry unchanged. -/
theorem eagerEntry_obj {kvs : List (Key × Json)} {n : List Nat} {k : Kind}
    (hn : kvs.lookup .name = some (str n)) (hk : kvs.lookup .kind = some (str k.name))
    (he : k = .enum → ∃ xs, kvs.lookup .enumValues = some (arr xs) ∧ NoCrash (mapMOut (index .name) xs)) :
    eagerEntry env (obj kvs) = .ok ⟨n, k, obj kvs⟩ ∨ ∃ e, eagerEntry env (obj kvs) = .err e := by
  cases k with
  | enum =>
    obtain ⟨xs, hxs, hev⟩ := he rfl
    simp only [eagerEntry, index, Json.get?, hn, hk, kindOfName_name, nameOf, hxs, items]
    repeat' split
    all_goals first | exact .inl rfl | exact .inr ⟨_, rfl⟩ | exact hev.elim ‹_› | exact (assertName_noCrash _).elim ‹_›
  | _ =>
    simp only [eagerEntry, index, Json.get?, hn, hk, kindOfName_name, nameOf]
    repeat' split
    all_goals first | exact .inl rfl | exact .inr ⟨_, rfl⟩ | exact (assertName_noCrash _).elim ‹_›

/-- An optional part of an introspection object holds no key the builders read, so the lookups below do not
depend on the options. -/
theorem lookup_ite_nil {k : Key} {c : Prop} [Decidable c] {kvs : List (Key × Json)} (h : kvs.lookup k = none) :
    (if c then kvs else []).lookup k = none := by split <;> simp [h]

theorem lookup_descPart {k : Key} (o : Options) (d : Option (List Nat)) (h : k ≠ .description) :
    (descPart o d).lookup k = none := by
  unfold descPart; split <;> simp [List.lookup, h]

theorem ivJson_obj (o : Options) (iv : InputValue V) : ∃ kvs, ivJson printV o iv = obj kvs ∧
    kvs.lookup .name = some (str iv.name) ∧ kvs.lookup .type = some (refJson o.typeDepth iv.type) ∧
    (kvs.lookup .defaultValue).getD null = ofOptStr (iv.default.map printV) := by
  refine ⟨_, rfl, ?_⟩
  simp [List.lookup_append, lookup_descPart, List.lookup]

theorem fieldJson_obj (o : Options) (f : Field V) : ∃ kvs, fieldJson printV o f = obj kvs ∧
    kvs.lookup .name = some (str f.name) ∧ kvs.lookup .type = some (refJson o.typeDepth f.type) ∧
    (kvs.lookup .args).getD null = ivsJson printV o f.args := by
  refine ⟨_, rfl, ?_⟩
  simp [List.lookup_append, lookup_descPart, List.lookup]

theorem enumValueJson_obj (o : Options) (e : EnumValue) :
    ∃ kvs, enumValueJson o e = obj kvs ∧ kvs.lookup .name = some (str e.name) :=
  ⟨_, rfl, by simp [List.lookup]⟩

theorem typeJson_obj (types : List (TypeDef V)) (o : Options) (t : TypeDef V) :
    ∃ kvs, typeJson printV types o t = obj kvs ∧ kvs.lookup .name = some (str t.name) ∧
      kvs.lookup .kind = some (str t.kind.name) ∧
      kvs.lookup .enumValues = some (if t.kind = .enum then arr (t.enumValues.map (enumValueJson o)) else null) := by
  refine ⟨_, rfl, ?_⟩
  simp [List.lookup_append, lookup_descPart, lookup_ite_nil, List.lookup]

theorem schemaJson_obj (s : Schema V) (o : Options) : ∃ kvs, schemaJson printV s o = obj kvs ∧
    kvs.lookup .types = some (arr (s.types.map (typeJson printV s.types o))) ∧
    (kvs.lookup .queryType).getD null = rootJson s.query ∧
    (kvs.lookup .mutationType).getD null = rootJson s.mutation ∧
    (kvs.lookup .subscriptionType).getD null = rootJson s.subscription ∧
    (kvs.lookup .directives).getD null = arr ((visibleDirectives o s.directives).map (directiveJson printV o)) := by
  refine ⟨_, rfl, ?_⟩
  simp [List.lookup_append, lookup_ite_nil, List.lookup]

theorem directiveJson_obj (o : Options) (d : Directive V) : ∃ kvs, directiveJson printV o d = obj kvs ∧
    kvs.lookup .name = some (str d.name) ∧ (kvs.lookup .args).getD null = ivsJson printV o d.args ∧
    (kvs.lookup .locations).getD null = arr (d.locations.map str) := by
  refine ⟨_, rfl, ?_⟩
  simp [List.lookup_append, lookup_descPart, lookup_ite_nil, List.lookup]

theorem buildInputValue_noCrash (hp : ∀ x, NoCrash (env.parseV x)) (o : Options) (hlim : o.typeDepth < env.limit)
    (iv : InputValue V) : NoCrash (buildInputValue env km (ivJson printV o iv)) := by
  obtain ⟨kvs, hj, hn, ht, hd⟩ := ivJson_obj printV o iv
  rw [hj]
  exact buildInputValue_obj env km hn ht (getType_refJson_noCrash km _ _ _ hlim)
    (hd ▸ parseDefault_noCrash env hp _)

theorem buildInputValue_noCrash_mem (hp : ∀ x, NoCrash (env.parseV x)) (o : Options) (hlim : o.typeDepth < env.limit)
    (ivs : List (InputValue V)) : ∀ x ∈ ivs.map (ivJson printV o), NoCrash (buildInputValue env km x) :=
  List.forall_mem_map.2 fun iv _ => buildInputValue_noCrash env km printV hp o hlim iv

theorem buildField_noCrash (hp : ∀ x, NoCrash (env.parseV x)) (o : Options) (hlim : o.typeDepth < env.limit)
    (f : Field V) : NoCrash (buildField env km (fieldJson printV o f)) := by
  obtain ⟨kvs, hj, hn, ht, ha⟩ := fieldJson_obj printV o f
  rw [hj]
  exact buildField_obj env km hn ht (getType_refJson_noCrash km _ _ _ hlim) ha
    (buildInputValue_noCrash_mem env km printV hp o hlim _)

theorem buildTypeDef_noCrash (o : Options) (types : List (TypeDef V)) (t : TypeDef V) (name : List Nat) :
    NoCrash (buildTypeDef env km name t.kind (typeJson printV types o t)) := by
  obtain ⟨kvs, hj, _, _, he⟩ := typeJson_obj printV types o t
  rw [hj]
  refine buildTypeDef_obj env km name t.kind fun hk =>
    ⟨_, by rw [he, if_pos hk]; rfl, List.forall_mem_map.2 fun e _ => ?_⟩
  obtain ⟨kvs, hj, hn⟩ := enumValueJson_obj o e
  rw [hj]
  exact buildEnumValue_obj hn

theorem eagerEntry_typeJson_shape (o : Options) (types : List (TypeDef V)) (t : TypeDef V) :
    eagerEntry env (typeJson printV types o t) = .ok ⟨t.name, t.kind, typeJson printV types o t⟩ ∨
      ∃ e, eagerEntry env (typeJson printV types o t) = .err e := by
  obtain ⟨kvs, hj, hn, hk, he⟩ := typeJson_obj printV types o t
  rw [hj]
  refine eagerEntry_obj env hn hk fun hk =>
    ⟨_, by rw [he, if_pos hk], mapMOut_noCrash _ _ (List.forall_mem_map.2 fun e _ => ?_)⟩
  obtain ⟨kvs, hj, hn⟩ := enumValueJson_obj o e
  simp only [hj, index, hn, noCrash_ok]

theorem buildRoot_noCrash (r : Option (List Nat × Kind)) (hpos : 0 < env.limit) :
    NoCrash (buildRoot env km (rootJson r)) := by
  cases r with
  | none => rfl
  | some nk =>
    obtain ⟨fuel, hfuel⟩ : ∃ f, env.limit = f + 1 := ⟨env.limit - 1, by omega⟩
    have hT : NoCrash (getType km env.limit (rootJson (some nk))) := by
      simp [hfuel, rootJson, getType, Json.get?, List.lookup, kindName_ne_list, kindName_ne_nonNull,
        getNamedType_noCrash]
    simp only [buildRoot, rootJson]
    repeat' split
    all_goals first | rfl | exact (getTypeOfKind_noCrash km hT).elim ‹_›

theorem buildDirective_noCrash (hp : ∀ x, NoCrash (env.parseV x)) (o : Options) (hlim : o.typeDepth < env.limit)
    (x : Directive V) : NoCrash (buildDirective env km (directiveJson printV o x)) := by
  obtain ⟨kvs, hj, hn, ha, hl⟩ := directiveJson_obj printV o x
  rw [hj]
  exact buildDirective_obj env km hn ha hl (buildInputValue_noCrash_mem env km printV hp o hlim _)

theorem finishEntry_noCrash (o : Options) (types : List (TypeDef V)) (t : TypeDef V) :
    NoCrash (finishEntry env km ⟨t.name, t.kind, typeJson printV types o t⟩) := by
  unfold finishEntry
  split
  · rfl
  · exact buildTypeDef_noCrash env km printV o types t t.name

/-- `build_client_schema` does not crash on the result of the standard introspection query, whatever the
schema and the options, if `parse_const_value` does not and the reference depth is below the recursion limit. -/
theorem buildClient_noCrash (hp : ∀ x, NoCrash (env.parseV x)) (o : Options) (hlim : o.typeDepth < env.limit)
    (s : Schema V) : NoCrash (buildClient env (introspect printV s o)) := by
  have hpos : 0 < env.limit := by omega
  obtain ⟨kvs, hj, ht, hq, hm, hs, hd⟩ := schemaJson_obj printV s o
  have hE : NoCrash (mapMOut (eagerEntry env) (s.types.map (typeJson printV s.types o))) :=
    mapMOut_noCrash _ _ (List.forall_mem_map.2 fun t _ => by
      rcases eagerEntry_typeJson_shape env printV o s.types t with h | ⟨e, h⟩ <;> rw [h] <;> rfl)
  have hF : ∀ es, mapMOut (eagerEntry env) (s.types.map (typeJson printV s.types o)) = .ok es →
      ∀ km, NoCrash (mapMOut (finishEntry env km) (dictOfList Entry.name es)) := by
    intro es hes km
    refine mapMOut_noCrash _ _ fun e he => ?_
    obtain ⟨j, hj, hje⟩ := mapMOut_ok_mem _ _ _ hes e (dictOfList_subset _ _ he)
    obtain ⟨t, _, rfl⟩ := List.mem_map.mp hj
    rcases eagerEntry_typeJson_shape env printV o s.types t with h | ⟨e', h⟩ <;> rw [h] at hje <;> cases hje
    exact finishEntry_noCrash env km printV o s.types t
  have hD : ∀ km, NoCrash (buildDirectives env km (arr ((visibleDirectives o s.directives).map (directiveJson printV o)))) :=
    fun km => buildDirectives_arr env km
      (List.forall_mem_map.2 fun d _ => buildDirective_noCrash env km printV hp o hlim d)
  simp only [buildClient, introspect, hj, Json.get?, List.lookup, key_beq, decide_true, index, dget, ht, hq, hm, hs, hd,
    items]
  repeat' split
  all_goals first | rfl | exact hE.elim ‹_› | exact (hF _ ‹_› _).elim ‹_› | exact (hD _).elim ‹_› |
    exact (buildRoot_noCrash env _ _ hpos).elim ‹_› | exact (optStrOf_noCrash _).elim ‹_›

end
end Gql.Types
