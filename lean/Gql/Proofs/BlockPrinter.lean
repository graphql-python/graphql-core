import Gql.Proofs.BlockScanValue
import Gql.Proofs.BlockDedent
/-!
Facts about the printer side (`print_block_string`): a value that ends "open" forces the
trailing line feed; `linesFrom` against `splitLF` and `joinLines`; the lines of the escaped text
are the escaped lines of the value.
-/
namespace Gql.Text

theorem endsWith_single (v : List Nat) (c : Nat) : endsWith v [c] = true ↔ v.getLast? = some c := by
  unfold endsWith
  rw [List.isSuffixOf_iff_suffix]
  constructor
  · rintro ⟨t, rfl⟩; simp
  · intro h
    obtain ⟨ys, rfl⟩ := List.getLast?_eq_some_iff.mp h
    exact ⟨ys, rfl⟩

/-- An "open" end forces the trailing line feed. -/
theorem endsOpen_forces (v : List Nat) : endsOpen v = true →
    v.getLast? = some 92 ∨ (v.getLast? = some 34 ∧ ¬ ([92, 34, 34, 34] <:+ escapeTQ v)) := by
  induction v using tq_induction with
  | nil => intro ho; simp [endsOpen] at ho
  | qqq r ih =>
    intro ho
    have ho' : endsOpen r = true := by rw [endsOpen] at ho; exact ho
    have hr : r ≠ [] := by intro h; subst h; simp [endsOpen] at ho'
    have hlast : (34 :: 34 :: 34 :: r).getLast? = r.getLast? := by
      obtain ⟨x, xs, rfl⟩ := List.exists_cons_of_ne_nil hr
      simp [List.getLast?_cons_cons]
    have hsuf : [92, 34, 34, 34] <:+ escapeTQ (34 :: 34 :: 34 :: r) ↔ [92, 34, 34, 34] <:+ escapeTQ r := by
      rw [escapeTQ_qqq]
      simp [List.suffix_cons_iff, escapeTQ_ne_nil hr]
    rw [hlast, hsuf]
    exact ih ho'
  | cons c r ht ih =>
    intro ho
    by_cases hr : r = []
    · subst hr
      rw [endsOpen_single] at ho
      simp at ho
      rcases ho with h | h <;> subst h
      · right; simp [List.suffix_cons_iff]
      · left; rfl
    · have hlast : (c :: r).getLast? = r.getLast? := by
        obtain ⟨x, xs, rfl⟩ := List.exists_cons_of_ne_nil hr
        simp [List.getLast?_cons_cons]
      have hsuf : [92, 34, 34, 34] <:+ escapeTQ (c :: r) ↔ [92, 34, 34, 34] <:+ escapeTQ r := by
        rw [escapeTQ_cons_nt ht, List.suffix_cons_iff]
        constructor
        · rintro (h | h)
          · have := escapeTQ_ne_qqq r
            simp at h
            exact absurd h.2.symm this
          · exact h
        · exact Or.inr
      rw [hlast, hsuf]
      exact ih (by rw [endsOpen_cons_nt ht hr] at ho; exact ho)

theorem splitLF_ne_nil (v : List Nat) : splitLF v ≠ [] := by
  induction v with
  | nil => simp [splitLF]
  | cons c r ih =>
    by_cases hc : c = 10
    · simp [splitLF, hc]
    · simp only [splitLF, hc, ↓reduceIte]
      split <;> simp

theorem splitLF_cons_ne {c : Nat} (r : List Nat) (hc : c ≠ 10) :
    ∃ l ls, splitLF r = l :: ls ∧ splitLF (c :: r) = (c :: l) :: ls := by
  obtain ⟨l, ls, h⟩ := List.exists_cons_of_ne_nil (splitLF_ne_nil r)
  exact ⟨l, ls, h, by simp [splitLF, hc, h]⟩

theorem splitLF_lf (r : List Nat) : splitLF (10 :: r) = [] :: splitLF r := by simp [splitLF]

theorem reSplitNL_plain {c : Nat} (r : List Nat) (h10 : c ≠ 10) (h13 : c ≠ 13) :
    reSplitNL (c :: r) = match reSplitNL r with
      | l :: ls => (c :: l) :: ls
      | [] => [[c]] := by
  rw [reSplitNL] <;> first | (cases reSplitNL r <;> rfl) | (intros; simp_all)

theorem reSplitNL_lf (r : List Nat) : reSplitNL (10 :: r) = [] :: reSplitNL r := by
  rw [reSplitNL]

theorem linesFrom_eq (v : List Nat) : ∀ cur, linesFrom cur v =
    match splitLF v with
    | l :: ls => (cur ++ l) :: ls
    | [] => [cur] := by
  induction v with
  | nil => intro cur; simp [linesFrom, splitLF]
  | cons c r ih =>
    intro cur
    by_cases hc : c = 10
    · subst hc
      have := ih []
      obtain ⟨l, ls, h⟩ := List.exists_cons_of_ne_nil (splitLF_ne_nil r)
      simp [linesFrom, splitLF_lf, this, h]
    · obtain ⟨l, ls, h, h'⟩ := splitLF_cons_ne r hc
      simp [linesFrom, hc, ih, h, h']

theorem linesFrom_nil (v : List Nat) : linesFrom [] v = splitLF v := by
  rw [linesFrom_eq]
  obtain ⟨l, ls, h⟩ := List.exists_cons_of_ne_nil (splitLF_ne_nil v)
  simp [h]

theorem linesFrom_ne_nil (cur v : List Nat) : linesFrom cur v ≠ [] := by
  rw [linesFrom_eq]; split <;> simp

theorem linesFrom_append_lf (x y : List Nat) : ∀ cur,
    linesFrom cur (x ++ 10 :: y) = linesFrom cur x ++ linesFrom [] y := by
  induction x with
  | nil => intro cur; simp [linesFrom]
  | cons c r ih =>
    intro cur
    by_cases hc : c = 10
    · subst hc; simp [linesFrom, ih]
    · simp [linesFrom, hc, ih]

theorem joinLines_cons (l : List Nat) (rest : List (List Nat)) (h : rest ≠ []) :
    joinLines (l :: rest) = l ++ [10] ++ joinLines rest := by
  obtain ⟨x, xs, rfl⟩ := List.exists_cons_of_ne_nil h
  simp [joinLines]

theorem joinLines_linesFrom (v : List Nat) : ∀ cur, joinLines (linesFrom cur v) = cur ++ v := by
  induction v with
  | nil => intro cur; simp [linesFrom, joinLines]
  | cons c r ih =>
    intro cur
    by_cases hc : c = 10
    · subst hc
      simp only [linesFrom, ↓reduceIte]
      rw [joinLines_cons _ _ (linesFrom_ne_nil [] r), ih]
      simp
    · simp [linesFrom, hc, ih]

theorem splitLF_head_prefix {r l : List Nat} {ls : List (List Nat)} (h : splitLF r = l :: ls) : l <+: r := by
  induction r generalizing l ls with
  | nil => simp [splitLF] at h; simp [← h.1]
  | cons c r ih =>
    by_cases hc : c = 10
    · subst hc
      rw [splitLF_lf] at h
      rw [← (List.cons.inj h).1]
      exact List.nil_prefix
    · obtain ⟨l1, ls1, h1, h1'⟩ := splitLF_cons_ne r hc
      rw [h1'] at h
      rw [← (List.cons.inj h).1]
      exact List.cons_prefix_cons.mpr ⟨rfl, ih h1⟩

theorem splitLF_head_qq {r l' : List Nat} {ls : List (List Nat)}
    (h : splitLF r = (34 :: 34 :: l') :: ls) : ∃ r', r = 34 :: 34 :: r' := by
  obtain ⟨t, rfl⟩ := splitLF_head_prefix h
  exact ⟨l' ++ t, rfl⟩

theorem reSplitNL_escapeTQ (v : List Nat) :
    (∀ c ∈ v, c ≠ 13) → reSplitNL (escapeTQ v) = (splitLF v).map escapeTQ := by
  induction v using tq_induction with
  | nil => intro _; simp [reSplitNL, splitLF]
  | qqq r ih =>
    intro h13
    obtain ⟨l, ls, hl⟩ := List.exists_cons_of_ne_nil (splitLF_ne_nil r)
    rw [escapeTQ_qqq, reSplitNL_plain _ (by decide) (by decide), reSplitNL_plain _ (by decide) (by decide),
      reSplitNL_plain _ (by decide) (by decide), reSplitNL_plain _ (by decide) (by decide),
      ih (fun d hd => h13 d (by simp [hd])), hl]
    simp [splitLF, hl, escapeTQ_qqq]
  | cons c r ht ih =>
    intro h13
    have ihr := ih (fun d hd => h13 d (by simp [hd]))
    rw [escapeTQ_cons_nt ht]
    by_cases hc : c = 10
    · subst hc
      rw [reSplitNL_lf, splitLF_lf, ihr]
      simp
    · obtain ⟨l, ls, hl, hl'⟩ := splitLF_cons_ne r hc
      rw [reSplitNL_plain _ hc (h13 c (by simp)), ihr, hl, hl']
      simp only [List.map_cons]
      -- the head line is a prefix of `r`, so `c :: l` does not begin with `"""` either
      rw [escapeTQ_cons_nt fun ⟨l', hc34, hl34⟩ =>
        (splitLF_head_qq (hl34 ▸ hl)).elim fun r' hr' => ht ⟨r', hc34, hr'⟩]

theorem emptyOrIndented_escapeTQ (l : List Nat) : emptyOrIndented (escapeTQ l) = emptyOrIndented l := by
  cases l with
  | nil => simp [emptyOrIndented]
  | cons c r =>
    by_cases ht : ∃ r', c = 34 ∧ r = 34 :: 34 :: r'
    · obtain ⟨r', hc, hr⟩ := ht; subst hc hr
      simp [escapeTQ_qqq, emptyOrIndented, isBlankCh]
    · simp [escapeTQ_cons_nt ht, emptyOrIndented]

end Gql.Text
