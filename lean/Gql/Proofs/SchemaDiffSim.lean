import Gql.Proofs.SchemaDiffRearranged
/-!
C17/C19: `find_schema_changes` reports nothing between a well-formed schema and the same schema
with every list in it rearranged (`changes_rearrange`, over a family `σ` of permuting functions);
the schema against itself is the case where `σ` changes nothing, the sorted schema the case
`σ = sortByName`.
-/
namespace Gql.Types
open Gql Gql.Generated

theorem wfArgs_nodup {s : Schema} {as : List Arg} (h : wfArgs s as = true) : (as.map Arg.name).Nodup := by
  simp only [wfArgs, Bool.and_eq_true] at h
  exact (nodupNames_iff _).mp h.1

theorem fieldArgChanges_rearranged (t f : Str) (old new : List Arg) (h : Rearranged Arg.name id old new) :
    fieldArgChanges t f old new = [] := by
  unfold fieldArgChanges
  rw [h.removed, h.added, h.persisted_nil _ fun a _ => argPairChanges_self _ _ a]
  rfl

theorem fieldPairChanges_perm (s : Schema) (t : Str) (f : Field) (as : List Arg) (hwf : wfField s f = true)
    (h : as.Perm f.args) : fieldPairChanges t f { f with args := as } = [] := by
  simp only [wfField, Bool.and_eq_true] at hwf
  unfold fieldPairChanges
  rw [fieldArgChanges_rearranged t f.name f.args as (.of_perm h (wfArgs_nodup hwf.2))]
  simp [safeOutputChange_refl]

/-- `new` holds the fields of `old` in any order, the arguments of each rearranged by `σ`. -/
theorem fieldChanges_rearranged (s : Schema) (t : Str) (σ : List Arg → List Arg) (old new : List Field)
    (hσ : ∀ as, (σ as).Perm as) (h : Rearranged Field.name (fun f => { f with args := σ f.args }) old new)
    (hwf : ∀ f ∈ old, wfField s f = true) : fieldChanges t old new = [] := by
  unfold fieldChanges
  rw [h.removed, h.added]
  exact h.persisted_nil _ fun f hf => fieldPairChanges_perm s t f _ (hwf f hf) (hσ _)

theorem interfaceChanges_perm (t : Str) (old new : List Str) (h : new.Perm old) : interfaceChanges t old new = [] := by
  simp [interfaceChanges, removedBy_id_perm old new h, addedBy_id_perm old new h]

theorem unionChanges_perm (t : Str) (old new : List Str) (h : new.Perm old) : unionChanges t old new = [] := by
  simp [unionChanges, removedBy_id_perm old new h, addedBy_id_perm old new h]

theorem enumChanges_rearranged (t : Str) (old new : List EnumVal) (h : Rearranged EnumVal.name id old new) :
    enumChanges t old new = [] := by
  unfold enumChanges
  rw [h.removed, h.added, h.persisted_nil _ fun v _ => by simp]
  rfl

theorem inputChanges_rearranged (t : Str) (old new : List Arg) (h : Rearranged Arg.name id old new) :
    inputChanges t old new = [] := by
  unfold inputChanges
  rw [h.removed, h.added, h.persisted_nil _ fun a _ => by simp [safeInputChange_refl]]
  rfl

theorem filter_not_contains_perm (a b : List Str) (h : b.Perm a) : a.filter (fun l => !b.contains l) = [] := by
  rw [List.filter_eq_nil_iff]
  intro x hx
  have : x ∈ b := h.mem_iff.mpr hx
  simp [this]

theorem directivePairChanges_perm (s : Schema) (d : Directive) (ls : List Str) (as : List Arg)
    (hwf : wfDirective s d = true) (hl : ls.Perm d.locations) (ha : as.Perm d.args) :
    directivePairChanges d { d with locations := ls, args := as } = [] := by
  simp only [wfDirective, Bool.and_eq_true] at hwf
  have r : Rearranged Arg.name id d.args as := .of_perm ha (wfArgs_nodup hwf.1.1.2)
  unfold directivePairChanges
  rw [r.removed, r.added, r.persisted_nil _ fun a _ => argPairChanges_self _ _ a,
    filter_not_contains_perm d.locations ls hl, filter_not_contains_perm ls d.locations hl.symm]
  cases d.repeatable <;> simp

/-- The specified scalar names are pairwise distinct (re-checked against the generated table). -/
theorem specifiedScalarNames_nodup : SchemaConsts.specifiedScalarNames.Nodup := by decide

theorem diffTypes_names_nodup (s : Schema) (h : WFSchema s = true) : ((diffTypes s).map TypeDef.name).Nodup := by
  simp only [WFSchema, Bool.and_eq_true] at h
  obtain ⟨⟨⟨⟨⟨⟨⟨hnd, htypes⟩, _⟩, _⟩, _⟩, _⟩, _⟩, _⟩ := h
  unfold diffTypes
  rw [List.map_append, List.map_map]
  have hmap : (TypeDef.name ∘ fun n => TypeDef.scalar n none none) = id := by funext n; rfl
  rw [hmap, List.map_id]
  rw [List.nodup_append]
  refine ⟨(nodupNames_iff _).mp hnd, List.Sublist.nodup List.filter_sublist specifiedScalarNames_nodup, ?_⟩
  · intro a ha b hb hab
    subst hab
    obtain ⟨t, ht, rfl⟩ := List.mem_map.mp ha
    have hres := wfType_not_reserved s t (List.all_eq_true.mp htypes t ht)
    have hmem : t.name ∈ SchemaConsts.specifiedScalarNames := (List.mem_filter.mp hb).1
    have : isReservedType t.name = true := by
      simp [isReservedType, reservedTypeNames, hmem]
    rw [this] at hres; exact Bool.noConfusion hres

variable (σ : ∀ {α : Type}, (α → Str) → List α → List α)

/-- Every list of a type definition rearranged by `σ` (`σ key l` stands for a permutation of `l`):
`sortType` is `rearrangeType sortByName`. -/
def rearrangeType : TypeDef → TypeDef
  | .scalar n d u => .scalar n d u
  | .object n d is fs => .object n d (σ id is) (σ Field.name (fs.map fun f => { f with args := σ Arg.name f.args }))
  | .interface n d is fs => .interface n d (σ id is) (σ Field.name (fs.map fun f => { f with args := σ Arg.name f.args }))
  | .union n d ms => .union n d (σ id ms)
  | .enum n d vs => .enum n d (σ EnumVal.name vs)
  | .input n d o fs => .input n d o (σ Arg.name fs)

/-- `sortSchema` is `rearrangeSchema sortByName`, and `rearrangeSchema fun _ l => l` changes nothing. -/
def rearrangeSchema (s : Schema) : Schema :=
  { s with
    types := σ TypeDef.name (s.types.map (rearrangeType σ))
    directives := σ Directive.name
      (s.directives.map fun d => { d with locations := σ id d.locations, args := σ Arg.name d.args }) }

theorem rearrangeType_id : rearrangeType (fun _ l => l) = id := by funext t; cases t <;> simp [rearrangeType]

section
variable (hσ : ∀ {α : Type} (key : α → Str) (l : List α), (σ key l).Perm l)
include hσ

/-- The lookups by name find the right partner because the names of the old parts are distinct. -/
theorem typePairChanges_rearrange (s : Schema) (t : TypeDef) (hwf : wfType s t = true) :
    typePairChanges t (rearrangeType σ t) = [] := by
  cases t with
  | scalar n d u => simp [typePairChanges, rearrangeType, TypeDef.desc, TypeDef.kind]
  | object n d is fs | interface n d is fs =>
    simp only [wfType, Bool.and_eq_true, List.all_eq_true] at hwf
    simp [typePairChanges, rearrangeType, TypeDef.desc, interfaceChanges_perm n is _ (hσ _ _),
      fieldChanges_rearranged s n (σ Arg.name) fs _ (hσ _) ⟨hσ _ _, fun _ => rfl, (nodupNames_iff _).mp hwf.1.2⟩ hwf.2]
  | union n d ms => simp [typePairChanges, rearrangeType, TypeDef.desc, unionChanges_perm n ms _ (hσ _ _)]
  | enum n d vs =>
    simp only [wfType, Bool.and_eq_true] at hwf
    simp [typePairChanges, rearrangeType, TypeDef.desc,
      enumChanges_rearranged n vs _ (.of_perm (hσ _ _) ((nodupNames_iff _).mp hwf.1.2))]
  | input n d o fs =>
    simp only [wfType, Bool.and_eq_true] at hwf
    simp [typePairChanges, rearrangeType, TypeDef.desc, inputChanges_rearranged n fs _ (.of_perm (hσ _ _) (wfArgs_nodup hwf.2))]

theorem mem_argRefs_rearrange (as : List Arg) (n : Str) : n ∈ argRefs (σ Arg.name as) ↔ n ∈ argRefs as :=
  ((hσ Arg.name as).map _).mem_iff

/-- what a list refers to does not depend on its order, nor on changes inside the entries that
keep what each entry refers to -/
theorem mem_flatMap_rearrange {α β : Type} (key : α → Str) (g : α → α) (F : α → List β) (xs : List α) (n : β)
    (h : ∀ x ∈ xs, (n ∈ F (g x) ↔ n ∈ F x)) : n ∈ (σ key (xs.map g)).flatMap F ↔ n ∈ xs.flatMap F := by
  simp only [List.mem_flatMap, (hσ key _).mem_iff, List.mem_map]
  constructor
  · rintro ⟨_, ⟨x, hx, rfl⟩, hn⟩; exact ⟨x, hx, (h x hx).mp hn⟩
  · rintro ⟨x, hx, hn⟩; exact ⟨g x, ⟨x, hx, rfl⟩, (h x hx).mpr hn⟩

theorem mem_typeRefNames_rearrange (t : TypeDef) (n : Str) :
    n ∈ typeRefNames (rearrangeType σ t) ↔ n ∈ typeRefNames t := by
  cases t with
  | scalar | union | enum => exact Iff.rfl
  | input n' d o fs => exact mem_argRefs_rearrange σ hσ fs n
  | object n' d is fs | interface n' d is fs =>
    exact mem_flatMap_rearrange σ hσ Field.name _ _ fs n fun f _ => by
      simp only [List.mem_cons, mem_argRefs_rearrange σ hσ]

theorem mem_referencedNames_rearrange (s : Schema) (n : Str) :
    n ∈ referencedNames (rearrangeSchema σ s) ↔ n ∈ referencedNames s := by
  simp only [referencedNames, rearrangeSchema, List.mem_append]
  exact or_congr (mem_flatMap_rearrange σ hσ _ _ _ _ n fun t _ => mem_typeRefNames_rearrange σ hσ t n)
    (mem_flatMap_rearrange σ hσ _ _ _ _ n fun d _ => mem_argRefs_rearrange σ hσ d.args n)

theorem diffTypes_rearrange (s : Schema) :
    (diffTypes (rearrangeSchema σ s)).Perm ((diffTypes s).map (rearrangeType σ)) := by
  unfold diffTypes
  simp only [List.contains_eq_mem, mem_referencedNames_rearrange σ hσ s]
  rw [List.map_append, List.map_map]
  exact (hσ _ _).append (.refl _)

theorem changes_rearrange (s : Schema) (hwf : WFSchema s = true) : changes s (rearrangeSchema σ s) = [] := by
  have rT : Rearranged TypeDef.name (rearrangeType σ) (diffTypes s) (diffTypes (rearrangeSchema σ s)) :=
    ⟨diffTypes_rearrange σ hσ s, fun t => by cases t <;> rfl, diffTypes_names_nodup s hwf⟩
  simp only [WFSchema, Bool.and_eq_true, List.all_eq_true] at hwf
  obtain ⟨⟨⟨⟨⟨⟨⟨_, htypes⟩, hdn⟩, hdirs⟩, _⟩, _⟩, _⟩, _⟩ := hwf
  have rD : Rearranged Directive.name _ s.directives (rearrangeSchema σ s).directives :=
    ⟨hσ _ _, fun _ => rfl, (nodupNames_iff _).mp hdn⟩
  unfold changes typeChanges directiveChanges
  rw [rT.removed, rT.added, rD.removed, rD.added]
  refine List.append_eq_nil_iff.mpr ⟨rT.persisted_nil _ fun t ht => ?_,
    rD.persisted_nil _ fun d hd => directivePairChanges_perm s d _ _ (hdirs d hd) (hσ _ _) (hσ _ _)⟩
  rcases List.mem_append.mp ht with h1 | h2
  · exact typePairChanges_rearrange σ hσ s t (htypes t h1)
  · -- a specified scalar that `s` refers to is not one of its types, and has no parts
    obtain ⟨n, _, rfl⟩ := List.mem_map.mp h2
    rfl

end

theorem changes_refl (s : Schema) (h : WFSchema s = true) : changes s s = [] := by
  simpa only [rearrangeSchema, rearrangeType_id, List.map_id_fun, List.map_id_fun', id] using
    changes_rearrange (fun _ l => l) (fun _ _ => .refl _) s h

end Gql.Types
