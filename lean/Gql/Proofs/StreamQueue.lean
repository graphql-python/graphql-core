import Gql.Async.StreamQueue
/-!
Lemmas about the `StreamItemQueue.batches()` model: what is delivered is always a prefix, in
queue order, of the values the queue will ever hold before its first failure.
-/
namespace Gql.Async

/-- The values the queue delivers if nothing fails first: entries in order, pending futures
settled as scripted, up to the first rejected future / end / error entry. -/
def sqFinal (es : List SQEntry) : List Nat := sqValues (es.map resolveFut)

theorem sqFinal_item (v : Nat) (r : List SQEntry) : sqFinal (.item v :: r) = v :: sqFinal r := rfl
theorem sqFinal_done (v : Nat) (r : List SQEntry) : sqFinal (.doneFut v :: r) = v :: sqFinal r := rfl

theorem resolveFut_idem (e : SQEntry) : resolveFut (resolveFut e) = resolveFut e := by
  cases e <;> try rfl
  simp only [resolveFut.eq_1]
  split
  · rfl
  · split <;> rfl

theorem sqFinal_resolve (h : SQEntry) (r : List SQEntry) :
    sqFinal (resolveFut h :: r) = sqFinal (h :: r) := by
  simp [sqFinal, resolveFut_idem]

def heldList : Option SQEntry → List SQEntry
  | none => []
  | some h => [h]

/-- The held entry is nothing but the head of the queue. -/
theorem sqRun_held (n : Nat) (held : Option SQEntry) (es : List SQEntry) :
    sqRun n held es = sqRun n none (heldList held ++ es) := by
  induction n generalizing held es with
  | zero => rfl
  | succ n ih =>
    cases held with
    | none => rfl
    | some h =>
      simp only [sqRun]
      rw [show batchesStep (some h) es = batchesStep none (heldList (some h) ++ es) from rfl]
      -- only the `wait` arm looks at `held` again
      split <;> simp [heldList, ih (some _)]

/-- The inner collection loop splits the remaining values exactly. -/
theorem sqCollect_split (r : List SQEntry) (acc : List Nat) :
    acc ++ sqFinal r =
      (sqCollect r acc).1 ++ sqFinal (heldList (sqCollect r acc).2.1 ++ (sqCollect r acc).2.2.1) := by
  fun_induction sqCollect r acc <;> simp_all [sqFinal_item, sqFinal_done, heldList]

theorem sqSkip_out (l : List SQEntry) :
    sqSkip l = .park ∨ sqSkip l = .finish ∨ sqSkip l = .raise false := by
  fun_induction sqSkip l <;> simp_all

/-- Everything a run of `batches()` delivers is a prefix of the queue's values, in order. -/
theorem sqRun_prefix (n : Nat) (held : Option SQEntry) (es : List SQEntry) :
    sqDelivered (sqRun n held es) <+: sqFinal (heldList held ++ es) := by
  rw [sqRun_held]
  generalize heldList held ++ es = l
  induction n generalizing l with
  | zero => exact List.nil_prefix
  | succ n ih =>
    have hy (v r) : (sqCollect r [v]).1 ++
        sqDelivered (sqRun n (sqCollect r [v]).2.1 (sqCollect r [v]).2.2.1) <+: [v] ++ sqFinal r := by
      rw [sqRun_held, sqCollect_split]
      exact (List.prefix_append_right_inj _).mpr (ih _)
    cases l with
    | nil => simp [sqRun, batchesStep, sqDelivered]
    | cons e r =>
      cases e with
      | item v => simpa [sqRun, batchesStep, sqDelivered, sqFinal_item] using hy v r
      | doneFut v => simpa [sqRun, batchesStep, sqDelivered, sqFinal_done] using hy v r
      | pendingFut i =>
        simpa [sqRun, batchesStep, sqDelivered, sqFinal_resolve] using ih (resolveFut (.pendingFut i) :: r)
      | cancelledFut i =>
        rcases sqSkip_out r with h | h | h <;> simp [sqRun, batchesStep, h, sqDelivered]
      | failedFut i => simp [sqRun, batchesStep, sqDelivered]
      | endMark => simp [sqRun, batchesStep, sqDelivered]
      | errorMark => simp [sqRun, batchesStep, sqDelivered]

end Gql.Async
