import Gql.Proofs.RulesRun
/-!
C12-7 — `rule_iff_spec` for UniqueOperationNames: the run is the fold of `selStep` over the outer definitions, which
reports nothing iff the names of the named operations are pairwise distinct.
-/
namespace Gql.Validation.Rules
open Gql.Validation
variable {τ : Type}

/-- the `name` attribute of an operation definition that has one -/
def opSel (n : ATree) : Option (Option ATree) :=
  if n.kind == "operation_definition" then (n.kid "name").map some else none

theorem uon_step (doc n : ATree) (s : RS) (ti : TI τ) (hfind : doc.find n.info.id = some n) :
    (uniqueOperationNames (τ := τ) doc).step s .enter n.info ti =
      (Action.skip, selStep "UniqueOperationNamesRule" opSel s n) := by
  simp only [uniqueOperationNames, withNode, hfind, selStep, opSel]
  by_cases hop : (n.kind == "operation_definition") = true
  · rw [if_pos hop, if_pos (show (n.info.kind == "operation_definition") = true from hop)]
    cases n.kid "name" <;> rfl
  · rw [if_neg hop, if_neg (show ¬ (n.info.kind == "operation_definition") = true from hop)]

def opNames (ns : List ATree) : List String :=
  (ns.filter (fun n => n.kind == "operation_definition")).filterMap (fun n => (n.kid "name").map (·.value))

namespace Spec
/-- "The named operations of the document have pairwise distinct names" (spec §5.2.1.1); `outer doc` are the
operation / fragment definitions of the document. -/
def uniqueOperationNames (doc : ATree) : Prop := (opNames (outer doc)).Nodup
end Spec

theorem uniqueOperationNames_iff (tbl : TITable) (L : Lookups τ) (doc : ATree) (hu : doc.uniqueIds) :
    validate tbl L none [(uniqueOperationNames doc, RS.init)] doc.erase = [] ↔ Spec.uniqueOperationNames doc := by
  rw [validate_nil_iff_run tbl L _ (fun _ _ _ _ => rfl) (uniqueOperationNames_nb _) _ _ hu,
    (run_outer _ (selStep "UniqueOperationNamesRule" opSel) rfl).1 doc
      (fun n hn => ⟨rfl, fun _ s => uon_step doc n s _ (ATree.find_of_mem.1 doc hu n hn)⟩),
    foldStep_selStep, foldNames_nil_iff]
  have hn : namesOf ((outer doc).filterMap opSel) = opNames (outer doc) := by
    rw [namesOf, opNames, List.filterMap_filterMap, List.filterMap_filter]
    congr 1; funext n
    unfold opSel
    split
    · cases n.kid "name" <;> rfl
    · rfl
  rw [hn]
  refine ⟨fun h => h.2.1, fun h => ⟨?_, h, fun _ _ => rfl⟩⟩
  intro o ho
  obtain ⟨n, _, hsel⟩ := List.mem_filterMap.mp ho
  unfold opSel at hsel
  split at hsel
  · cases hnm : n.kid "name" <;> simp [hnm] at hsel
    rw [← hsel]; rfl
  · cases hsel

end Gql.Validation.Rules
