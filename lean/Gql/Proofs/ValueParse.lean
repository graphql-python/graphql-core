import Gql.Proofs.ValueLex
import Gql.Proofs.Parses
/-!
The parser model on the tokens of a printed value: `parse_value_literal` rebuilds the tree.
-/
namespace Gql.Syntax
open Gql Gql.Text

theorem dv_list (cfg : Cfg) (n : Nat) (c : Bool) (value : P Ast) :
    dispatchValue cfg n c value "list" = (do
      let vs ← parseAny cfg n .bracketL value .bracketR
      pure (mkNode "ListValueNode" [("values", .list vs)])) := by simp [dispatchValue]
theorem dv_object (cfg : Cfg) (n : Nat) (c : Bool) (value : P Ast) :
    dispatchValue cfg n c value "object" = (do
      let fs ← parseAny cfg n .braceL (parseObjectField cfg value) .braceR
      pure (mkNode "ObjectValueNode" [("fields", .list fs)])) := by simp [dispatchValue]
theorem dv_int (cfg : Cfg) (n : Nat) (c : Bool) (value : P Ast) :
    dispatchValue cfg n c value "int" = parseNumber cfg "IntValueNode" := by simp [dispatchValue]
theorem dv_float (cfg : Cfg) (n : Nat) (c : Bool) (value : P Ast) :
    dispatchValue cfg n c value "float" = parseNumber cfg "FloatValueNode" := by simp [dispatchValue]
theorem dv_string (cfg : Cfg) (n : Nat) (c : Bool) (value : P Ast) :
    dispatchValue cfg n c value "string_literal" = parseStringLiteral cfg := by simp [dispatchValue]
theorem dv_named (cfg : Cfg) (n : Nat) (c : Bool) (value : P Ast) :
    dispatchValue cfg n c value "named_values" = parseNamedValues cfg := by simp [dispatchValue]
theorem dv_var (cfg : Cfg) (n : Nat) (c : Bool) (value : P Ast) :
    dispatchValue cfg n c value "variable_value" = parseVariableValue cfg c := by simp [dispatchValue]

theorem kvs_head (v : Val) : ∃ k ks, v.kvs = k :: ks ∧ k.1 ≠ .bracketR ∧ k.1 ≠ .braceR := by
  cases v with
  | var n => exact ⟨_, _, rfl, by simp, by simp⟩
  | int s => exact ⟨_, _, rfl, by simp, by simp⟩
  | float s => exact ⟨_, _, rfl, by simp, by simp⟩
  | str s b => cases b <;> exact ⟨_, _, rfl, by simp, by simp⟩
  | bool b => exact ⟨_, _, rfl, by simp, by simp⟩
  | null => exact ⟨_, _, rfl, by simp, by simp⟩
  | enum n => exact ⟨_, _, rfl, by simp, by simp⟩
  | list vs => exact ⟨_, _, rfl, by simp, by simp⟩
  | obj fs => exact ⟨_, _, rfl, by simp, by simp⟩

theorem S_ne : S "false" ≠ S "true" ∧ S "null" ≠ S "true" ∧ S "null" ≠ S "false" := by decide

/-- One argument / object field `name: value`. -/
def argKvs (a : List Nat × Val) : List KV := (.name, some a.1) :: (.colon, none) :: a.2.kvs
def fieldAst (a : List Nat × Val) : Ast :=
  .node "ObjectFieldNode" [("name", Val.nameNode a.1), ("value", a.2.toAst)]

theorem kvsFields_eq (fs : List (List Nat × Val)) : Val.kvsFields fs = fs.flatMap argKvs :=
  kvs_eq_flatMap Val.kvsFields argKvs rfl (fun _ _ => rfl) fs

theorem toAstFields_eq (fs : List (List Nat × Val)) : Val.toAstFields fs = fs.map fieldAst := by
  induction fs with
  | nil => rfl
  | cons a r ih => obtain ⟨n, v⟩ := a; simp [Val.toAstFields, ih, fieldAst]

theorem kvsList_eq (vs : List Val) : Val.kvsList vs = vs.flatMap Val.kvs :=
  kvs_eq_flatMap Val.kvsList Val.kvs rfl (fun _ _ => rfl) vs

theorem toAstList_eq (vs : List Val) : Val.toAstList vs = vs.map Val.toAst := by
  induction vs with
  | nil => rfl
  | cons v r ih => simp [Val.toAstList, ih]

theorem wfPList_mem {c : Bool} {vs : List Val} (h : Val.wfPList c vs) : ∀ v ∈ vs, Val.wfP c v :=
  forall_mem_of_rec (Val.wfPList c) (Val.wfP c) (fun _ _ h => h) vs h

theorem wfPFields_mem {c : Bool} {fs : List (List Nat × Val)} (h : Val.wfPFields c fs) :
    ∀ a ∈ fs, validName a.1 = true ∧ Val.wfP c a.2 :=
  forall_mem_of_rec (Val.wfPFields c) _ (fun _ _ h => ⟨⟨h.1, h.2.1⟩, h.2.2⟩) fs h

section
variable (cfg : Cfg) (hm : cfg.maxTokens = none) (c : Bool)
include hm

omit hm in
/-- `parse_value_literal` dispatches on the kind of the first token. -/
theorem Parses.ofMethod {n N : Nat} {k : KV} {ks : List KV} {m : String} {a : Ast} {ok : KV → Prop}
    (hk : valueMethodOf k.1 = some m)
    (h : Parses N (dispatchValue cfg n c (valueLit n cfg c) m) (k :: ks) a ok) :
    Parses N (valueLit (n + 1) cfg c) (k :: ks) a ok := by
  rw [valueLit]
  exact Parses.cur fun t ⟨_, _, ht⟩ => by rw [(tok_of_kv ht).1, hk]; exact h

theorem Parses.take {n : Nat} {k : TokKind} {v : Option (List Nat)} (hk : k ≠ .eof) (f : Token → Ast) {a : Ast}
    (ok : KV → Prop) (hf : ∀ t : Token, t.kv = (k, v) → f t = a) :
    Parses n (do let t ← P.cur; advanceLexer cfg; Pure.pure (f t) : P Ast) [(k, v)] a ok :=
  Parses.cur fun t ⟨_, _, ht⟩ => Parses.adv cfg hm _ hk (Parses.result (hf t ht) (Parses.pure _ ok))

theorem Parses.namedValues {n : Nat} (nm : List Nat) (ok : KV → Prop) :
    Parses n (parseNamedValues cfg) [(.name, some nm)]
      (if nm = S "true" then .node "BooleanValueNode" [("value", .bool true)]
       else if nm = S "false" then .node "BooleanValueNode" [("value", .bool false)]
       else if nm = S "null" then .node "NullValueNode" []
       else .node "EnumValueNode" [("value", .str nm)]) ok := by
  rw [parseNamedValues]
  refine Parses.cur fun t ⟨_, _, ht⟩ => Parses.adv cfg hm _ nofun ?_
  have hv := (tok_of_kv ht).2
  simp only [valueIs_iff hv]
  repeat' split
  · exact Parses.result (mk_bool _) (Parses.pure _ ok)
  · exact Parses.result (mk_bool _) (Parses.pure _ ok)
  · exact Parses.result mk_null (Parses.pure _ ok)
  · exact Parses.result (by simp [mk_enum, tokValOrEmpty, hv]) (Parses.pure _ ok)

omit hm in
/-- The items of a list value, given the parser of one value with the same fuel. -/
theorem items_list {n : Nat} {vs : List Val} (h : Val.wfPList c vs)
    (hv : ∀ v, Val.wfP c v → Parses n (valueLit n cfg c) v.kvs v.toAst anyKV)
    (cv : Option (List Nat)) : Items (valueLit n cfg c) (.bracketR, cv) anyKV Val.toAst Val.kvs n vs :=
  ⟨trivial, fun x hx => hv x (wfPList_mem h x hx), fun x _ => by
    obtain ⟨k, ks, hk, h1, _⟩ := kvs_head x
    exact ⟨k, ks, hk, trivial, h1⟩⟩

theorem items_fields {n : Nat} {fs : List (List Nat × Val)} (h : Val.wfPFields c fs)
    (hv : ∀ v, Val.wfP c v → Parses n (valueLit n cfg c) v.kvs v.toAst anyKV)
    (cv : Option (List Nat)) :
    Items (parseObjectField cfg (valueLit n cfg c)) (.braceR, cv) anyKV fieldAst argKvs n fs :=
  ⟨trivial, fun a ha => by
    rw [parseObjectField]
    exact Parses.result (mk_field _ _) (Parses.name cfg hm a.1 (Parses.tok cfg hm .colon none (by decide)
      fun _ _ => Parses.map (hv a.2 (wfPFields_mem h a ha).2) _)),
    fun a _ => ⟨_, _, rfl, trivial, by simp⟩⟩

theorem parses_valueP : ∀ (n : Nat) (v : Val), Val.wfP c v → ∀ ok : KV → Prop,
    Parses n (valueLit n cfg c) v.kvs v.toAst ok := by
  intro n
  induction n with
  | zero => intro v _ ok hn; exact absurd hn (Nat.not_lt_zero _)
  | succ n ih =>
    intro v h ok
    cases v with
    | var nm =>
      have hc : c = false := h.1
      subst hc
      refine Parses.ofMethod cfg false (vm_cases .dollar) ?_
      rw [dv_var]
      exact Parses.tok cfg hm .dollar none (by decide) fun _ _ =>
        Parses.name cfg hm nm (Parses.result (mk_var _) (Parses.pure _ ok))
    | int s =>
      refine Parses.ofMethod cfg c (vm_cases .int) ?_
      rw [dv_int, parseNumber]
      exact Parses.take cfg hm (k := .int) (v := some s) (by decide) _ ok fun t ht => by
        simp [mk_int, tokValOrEmpty, (tok_of_kv ht).2, Val.toAst]
    | float s =>
      refine Parses.ofMethod cfg c (vm_cases .float) ?_
      rw [dv_float, parseNumber]
      exact Parses.take cfg hm (k := .float) (v := some s) (by decide) _ ok fun t ht => by
        simp [mk_float, tokValOrEmpty, (tok_of_kv ht).2, Val.toAst]
    | str s b =>
      have hb : valueMethodOf (if b then TokKind.blockString else .string) = some "string_literal" ∧
          (if b then TokKind.blockString else .string) ≠ .eof := by cases b <;> exact ⟨vm_cases _, by decide⟩
      refine Parses.ofMethod cfg c hb.1 ?_
      rw [dv_string, parseStringLiteral]
      exact Parses.take cfg hm (v := some s) hb.2 _ ok fun t ht => by
        cases b <;> simp [mk_str, tokValOrEmpty, (tok_of_kv ht).2, (tok_of_kv ht).1, Val.toAst]
    | bool b =>
      refine Parses.ofMethod cfg c (vm_cases .name) ?_
      rw [dv_named]
      exact Parses.result (by cases b <;> simp [Val.toAst, S_ne.1]) (Parses.namedValues cfg hm _ ok)
    | null =>
      refine Parses.ofMethod cfg c (vm_cases .name) ?_
      rw [dv_named]
      exact Parses.result (by simp [Val.toAst, S_ne.2.1, S_ne.2.2]) (Parses.namedValues cfg hm _ ok)
    | enum nm =>
      refine Parses.ofMethod cfg c (vm_cases .name) ?_
      rw [dv_named]
      exact Parses.result (by simp [Val.toAst, h.2.1, h.2.2.1, h.2.2.2]) (Parses.namedValues cfg hm _ ok)
    | list vs =>
      rw [show (Val.list vs).kvs = (.bracketL, none) :: (vs.flatMap Val.kvs ++ [(.bracketR, none)]) by
        simp [Val.kvs, kvsList_eq]]
      refine Parses.ofMethod cfg c (vm_cases .bracketL) ?_
      rw [dv_list, parseAny]
      exact Parses.result (by simp [mk_list, Val.toAst, toAstList_eq])
        (Parses.map (Parses.tokS cfg hm .bracketL none (by decide) fun _ _ =>
          Parses.untilCloseN cfg hm (by decide) vs (items_list cfg c h (fun x hx => ih x hx anyKV) none) ok []) _)
    | obj fs =>
      rw [show (Val.obj fs).kvs = (.braceL, none) :: (fs.flatMap argKvs ++ [(.braceR, none)]) by
        simp [Val.kvs, kvsFields_eq]]
      refine Parses.ofMethod cfg c (vm_cases .braceL) ?_
      rw [dv_object, parseAny]
      exact Parses.result (by simp [mk_obj, Val.toAst, toAstFields_eq])
        (Parses.map (Parses.tokS cfg hm .braceL none (by decide) fun _ _ =>
          Parses.untilCloseN cfg hm (by decide) fs (items_fields cfg hm c h (fun x hx => ih x hx anyKV) none) ok []) _)

omit hm in
theorem nonEof_snoc {toks : List Token} {t : Token} (h : NonEof toks) (ht : t.kind ≠ .eof) :
    NonEof (toks ++ [t]) := by
  intro x hx
  rcases List.mem_append.mp hx with hx | hx
  · exact h x hx
  · rw [List.eq_of_mem_singleton hx]; exact ht

theorem parseLP (vs : List Val) (h : Val.wfPList c vs) (n m : Nat) (toks : List Token) (tR : Token)
    (r : Stream) (cnt : Nat) (acc : List Ast) (hn : (Val.kvsList vs).length < n) (hmm : vs.length < m)
    (hkv : toks.map Token.kv = Val.kvsList vs) (hne : NonEof toks) (hRk : tR.kind = .bracketR)
    (hr : r.Ready) :
    ∃ c', untilClose cfg .bracketR (valueLit n cfg c) m acc (PSat cnt (feed toks (.cons tR r))) =
      .ok (acc ++ Val.toAstList vs, PSat c' r) := by
  have := Parses.untilClose cfg hm (by simp) vs
    (items_list cfg c h (fun v hv => parses_valueP cfg hm c n v hv anyKV) tR.value) anyKV m acc hmm
    (by simpa [← kvsList_eq] using hn) (toks ++ [tR]) r cnt
    (by simp [hkv, kvsList_eq, Token.kv, hRk]) (nonEof_snoc hne (by rw [hRk]; decide)) hr trivial
  simpa [feed_append, feed, toAstList_eq] using this

theorem parseFP (fs : List (List Nat × Val)) (h : Val.wfPFields c fs) (n m : Nat) (toks : List Token)
    (tR : Token) (r : Stream) (cnt : Nat) (acc : List Ast) (hn : (Val.kvsFields fs).length < n)
    (hmm : fs.length < m) (hkv : toks.map Token.kv = Val.kvsFields fs) (hne : NonEof toks)
    (hRk : tR.kind = .braceR) (hr : r.Ready) :
    ∃ c', untilClose cfg .braceR (parseObjectField cfg (valueLit n cfg c)) m acc
        (PSat cnt (feed toks (.cons tR r))) = .ok (acc ++ Val.toAstFields fs, PSat c' r) := by
  have := Parses.untilClose cfg hm (by simp) fs
    (items_fields cfg hm c h (fun v hv => parses_valueP cfg hm c n v hv anyKV) tR.value) anyKV m acc hmm
    (by simpa [← kvsFields_eq] using hn) (toks ++ [tR]) r cnt
    (by simp [hkv, kvsFields_eq, Token.kv, hRk]) (nonEof_snoc hne (by rw [hRk]; decide)) hr trivial
  simpa [feed_append, feed, toAstFields_eq] using this

theorem parseL (vs : List Val) (h : Val.wfList c vs) (n m : Nat) (toks : List Token) (tR : Token)
    (r : Stream) (cnt : Nat) (acc : List Ast) (hn : (Val.kvsList vs).length < n) (hmm : vs.length < m)
    (hkv : toks.map Token.kv = Val.kvsList vs) (hne : NonEof toks) (hRk : tR.kind = .bracketR)
    (hr : r.Ready) :
    ∃ c', untilClose cfg .bracketR (valueLit n cfg c) m acc (PSat cnt (feed toks (.cons tR r))) =
      .ok (acc ++ Val.toAstList vs, PSat c' r) :=
  parseLP cfg hm c vs (Val.wfPList_of_wf c vs h) n m toks tR r cnt acc hn hmm hkv hne hRk hr

theorem parseF (fs : List (List Nat × Val)) (h : Val.wfFields c fs) (n m : Nat) (toks : List Token)
    (tR : Token) (r : Stream) (cnt : Nat) (acc : List Ast) (hn : (Val.kvsFields fs).length < n)
    (hmm : fs.length < m) (hkv : toks.map Token.kv = Val.kvsFields fs) (hne : NonEof toks)
    (hRk : tR.kind = .braceR) (hr : r.Ready) :
    ∃ c', untilClose cfg .braceR (parseObjectField cfg (valueLit n cfg c)) m acc
        (PSat cnt (feed toks (.cons tR r))) = .ok (acc ++ Val.toAstFields fs, PSat c' r) :=
  parseFP cfg hm c fs (Val.wfPFields_of_wf c fs h) n m toks tR r cnt acc hn hmm hkv hne hRk hr

end

end Gql.Syntax
