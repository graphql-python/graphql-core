import Gql.Proofs.RulesRun
/-!
C12 — `rule_iff_spec` for UniqueFragmentNames (same shape as UniqueOperationNames; a fragment definition always has
a name, a missing one is the crash marker).
-/
namespace Gql.Validation.Rules
open Gql.Validation
variable {τ : Type}

def frSel (n : ATree) : Option (Option ATree) :=
  if n.kind == "fragment_definition" then some (n.kid "name") else none

theorem ufn_step (doc n : ATree) (s : RS) (ti : TI τ) (hfind : doc.find n.info.id = some n) :
    (uniqueFragmentNames (τ := τ) doc).step s .enter n.info ti =
      (Action.skip, selStep "UniqueFragmentNamesRule" frSel s n) := by
  simp only [uniqueFragmentNames, withNode, hfind, selStep, frSel]
  by_cases hfr : (n.kind == "fragment_definition") = true
  · rw [if_pos hfr, if_pos (show (n.info.kind == "fragment_definition") = true from hfr)]
    cases n.kid "name" <;> rfl
  · rw [if_neg hfr, if_neg (show ¬ (n.info.kind == "fragment_definition") = true from hfr)]

def frNames (ns : List ATree) : List String :=
  (ns.filter (fun n => n.kind == "fragment_definition")).filterMap (fun n => (n.kid "name").map (·.value))

namespace Spec
/-- "Every fragment definition has a name and these names are pairwise distinct" (spec §5.5.1.1). -/
def uniqueFragmentNames (doc : ATree) : Prop :=
  (∀ n ∈ outer doc, n.kind = "fragment_definition" → (n.kid "name").isSome = true) ∧ (frNames (outer doc)).Nodup
end Spec

theorem uniqueFragmentNames_iff (tbl : TITable) (L : Lookups τ) (doc : ATree) (hu : doc.uniqueIds) :
    validate tbl L none [(uniqueFragmentNames doc, RS.init)] doc.erase = [] ↔ Spec.uniqueFragmentNames doc := by
  rw [validate_nil_iff_run tbl L _ (fun _ _ _ _ => rfl) (uniqueFragmentNames_nb _) _ _ hu,
    (run_outer _ (selStep "UniqueFragmentNamesRule" frSel) rfl).1 doc
      (fun n hn => ⟨rfl, fun _ s => ufn_step doc n s _ (ATree.find_of_mem.1 doc hu n hn)⟩),
    foldStep_selStep, foldNames_nil_iff]
  have hn : namesOf ((outer doc).filterMap frSel) = frNames (outer doc) := by
    rw [namesOf, frNames, List.filterMap_filterMap, List.filterMap_filter]
    congr 1; funext n
    unfold frSel
    split <;> rfl
  have hs : (∀ o ∈ (outer doc).filterMap frSel, o.isSome = true) ↔
      ∀ n ∈ outer doc, n.kind = "fragment_definition" → (n.kid "name").isSome = true := by
    simp only [List.mem_filterMap, frSel, Option.ite_none_right_eq_some, Option.some.injEq, beq_iff_eq]
    exact ⟨fun h n hn hk => h _ ⟨n, hn, hk, rfl⟩, fun h o ⟨n, hn, hk, ho⟩ => ho ▸ h n hn hk⟩
  rw [hn, hs]
  exact ⟨fun h => ⟨h.1, h.2.1⟩, fun h => ⟨h.1, h.2, fun _ _ => rfl⟩⟩

end Gql.Validation.Rules
