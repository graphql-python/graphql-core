import Gql.Syntax.Parser
/-
Totality and fuel irrelevance of the parser model: the relation `Agree`, its closure under the
monadic structure, the parser's core utilities, its loops and the two small recursive knots (value
literals, type references).  The methods of the document grammar and the two theorems are in
`Gql/Proofs/ParserTotal.lean`.

`Agree c k p q` : from every state whose remaining input is smaller than `k` and whose stream holds no
                  lexer crash, `p` and `q` return the same outcome, and it is a value or a syntax error —
                  never `crash` (in particular never `OutOfFuel`); the state returned has not grown (and
                  still holds no crash), and if `c` it has become strictly smaller (`p` consumes).
`Good k p`, `GoodC k p` : the diagonal, without and with consumption.
For a fuel-indexed function `f` of the model the lemma is `Agree c (min n m) (f n) (f m)`: with `n = m`
it says that fuel above the input size is never exhausted, with `n ≠ m` that it does not matter.

As the first module about the parser model it also holds what the other two logics (`Parses`, `Wp`)
share with this one: `bind_eq`, `pure_eq'`, and the generated value-literal table read once
(`vm_cases`, `valueMethodOf_inv`).
-/
namespace Gql.Syntax
open Gql Gql.Text

/-- remaining input: `0` at `<EOF>`, else the current token and everything behind it -/
def size (s : PS) : Nat := if s.cur.kind = .eof then 0 else s.rest.length + 1

def PPost {α : Type} (R : Nat → Nat → Prop) (s : PS) : Out PErr (α × PS) → Prop
  | .ok (_, s') => s'.rest.NoCrash ∧ R (size s') (size s)
  | .err _ => True
  | .crash _ => False

@[simp] theorem PPost_ok {α} (R : Nat → Nat → Prop) (s s' : PS) (a : α) :
    PPost R s (.ok (a, s')) = (s'.rest.NoCrash ∧ R (size s') (size s)) := rfl
@[simp] theorem PPost_err {α} (R : Nat → Nat → Prop) (s : PS) (e : PErr) :
    PPost (α := α) R s (.err e) = True := rfl
@[simp] theorem PPost_crash {α} (R : Nat → Nat → Prop) (s : PS) (c : String) :
    PPost (α := α) R s (.crash c) = False := rfl

theorem PPost.imp {α} {R R' : Nat → Nat → Prop} {s s' : PS} {r : Out PErr (α × PS)} (h : PPost R s r)
    (hR : ∀ a, R a (size s) → R' a (size s')) : PPost R' s' r := by
  cases r with
  | ok x => obtain ⟨_, _⟩ := x; exact ⟨h.1, hR _ h.2⟩
  | err e => trivial
  | crash c => exact h

/-- the outcomes `r`, `r'` of two parsers from `s`: equal, no crash, the input shrunk by at least `c` -/
def AgreeAt {α : Type} (c : Bool) (s : PS) (r r' : Out PErr (α × PS)) : Prop :=
  r = r' ∧ PPost (fun a b => a + c.toNat ≤ b) s r

def Agree {α : Type} (c : Bool) (k : Nat) (p q : P α) : Prop :=
  ∀ s : PS, s.rest.NoCrash → size s < k → AgreeAt c s (p s) (q s)

abbrev Good {α : Type} (k : Nat) (p : P α) : Prop := Agree false k p p
abbrev GoodC {α : Type} (k : Nat) (p : P α) : Prop := Agree true k p p

theorem Agree.weak {α} {c : Bool} {k : Nat} {p q : P α} (h : Agree c k p q) : Agree false k p q :=
  fun s hs hn => ⟨(h s hs hn).1, (h s hs hn).2.imp fun _ h => Nat.le_of_add_right_le h⟩

theorem Agree.anti {α} {c : Bool} {k j : Nat} {p q : P α} (h : Agree c k p q) (hj : j ≤ k) :
    Agree c j p q :=
  fun s hs hn => h s hs (Nat.lt_of_lt_of_le hn hj)

theorem bind_eq {α β : Type} (p : P α) (f : α → P β) (s : PS) :
    (p >>= f) s = match p s with
      | .ok (a, s') => f a s'
      | .err e => .err e
      | .crash c => .crash c := rfl

theorem pure_eq' {α : Type} (a : α) (s : PS) : (pure a : P α) s = .ok (a, s) := rfl

theorem size_eof {s : PS} (h : s.cur.kind = .eof) : size s = 0 := by simp [size, h]
theorem size_ne {s : PS} (h : ¬ s.cur.kind = .eof) : size s = s.rest.length + 1 := by simp [size, h]

theorem size_le (s : PS) : size s ≤ s.rest.length + 1 := by
  unfold size
  split <;> omega

/-- the generic sequencing lemma: after the first part the continuations are compared below `j`, which
may be one less than the size bound if the first part consumes; the whole consumes if one part does -/
theorem AgreeAt.bind {α β} {c₁ c₂ c : Bool} {j : Nat} {s : PS} {p q : P α} {f g : α → P β}
    (hp : AgreeAt c₁ s (p s) (q s)) (hf : ∀ a, Agree c₂ j (f a) (g a))
    (hj : size s < j + c₁.toNat) (hc : c.toNat ≤ c₁.toNat + c₂.toNat) :
    AgreeAt c s ((p >>= f) s) ((q >>= g) s) := by
  obtain ⟨e, h⟩ := hp
  rw [bind_eq, bind_eq, ← e]
  cases hps : p s with
  | ok x =>
    obtain ⟨a, s'⟩ := x
    rw [hps] at h
    obtain ⟨h1, h2⟩ := h
    obtain ⟨e', h'⟩ := hf a s' h1 (by omega)
    exact ⟨e', h'.imp fun _ _ => by omega⟩
  | err e => exact ⟨rfl, trivial⟩
  | crash c => rw [hps] at h; exact h.elim

section
variable {α β : Type} {c c₁ c₂ : Bool} {k : Nat} {p q : P α} {f g : α → P β}

theorem Agree.bind (hp : Agree c₁ k p q) (hf : ∀ a, Agree c₂ k (f a) (g a)) :
    Agree false k (p >>= f) (q >>= g) :=
  fun s hs hn => (hp s hs hn).bind hf (Nat.lt_add_right _ hn) (Nat.zero_le _)

theorem Agree.bindL (hp : Agree true k p q) (hf : ∀ a, Agree c₂ k (f a) (g a)) :
    Agree true k (p >>= f) (q >>= g) :=
  fun s hs hn => (hp s hs hn).bind hf (Nat.lt_add_right _ hn) (Nat.le_add_right _ _)

theorem Agree.bindR (hp : Agree c₁ k p q) (hf : ∀ a, Agree true k (f a) (g a)) :
    Agree true k (p >>= f) (q >>= g) :=
  fun s hs hn => (hp s hs hn).bind hf (Nat.lt_add_right _ hn) (Nat.le_add_left _ _)

/-- after a consuming step the continuations only need to agree for one unit of fuel less -/
theorem Agree.step (hp : Agree true (k + 1) p q) (hf : ∀ a, Agree c₂ k (f a) (g a)) :
    Agree true (k + 1) (p >>= f) (q >>= g) :=
  fun s hs hn => (hp s hs hn).bind hf hn (Nat.le_add_right _ _)

theorem AgreeAt.dite {b : Prop} [Decidable b] {s : PS} {t t' e e' : P α}
    (ht : b → AgreeAt c s (t s) (t' s)) (he : ¬ b → AgreeAt c s (e s) (e' s)) :
    AgreeAt c s ((if b then t else e) s) ((if b then t' else e') s) := by
  split
  · exact ht ‹_›
  · exact he ‹_›

theorem Agree.dite {b : Prop} [Decidable b] {t t' e e' : P α} (ht : b → Agree c k t t')
    (he : ¬ b → Agree c k e e') : Agree c k (if b then t else e) (if b then t' else e') :=
  fun s hs hn => .dite (ht · s hs hn) (he · s hs hn)

theorem Agree.ite {b : Prop} [Decidable b] {t t' e e' : P α} (ht : Agree c k t t')
    (he : Agree c k e e') : Agree c k (if b then t else e) (if b then t' else e') :=
  .dite (fun _ => ht) (fun _ => he)

theorem Good.pure {a : α} : Good k (pure a : P α) := fun _ hs _ => ⟨rfl, hs, Nat.le_refl _⟩

theorem Agree.fail {e : PErr} : Agree c k (P.fail e : P α) (P.fail e) := fun _ _ _ => ⟨rfl, trivial⟩

theorem Agree.zero : Agree c 0 p q := fun _ _ hn => absurd hn (Nat.not_lt_zero _)

theorem Agree.zero_min {m : Nat} : Agree c (min 0 m) p q := by rw [Nat.zero_min]; exact .zero

end

variable {α : Type} {c : Bool} {k : Nat} {cfg : Cfg}

theorem cur_good : Good k P.cur := fun _ hs _ => ⟨rfl, hs, Nat.le_refl _⟩

theorem peek_good {tk : TokKind} : Good k (peek tk) := fun _ hs _ => ⟨rfl, hs, Nat.le_refl _⟩

theorem unexpected_good {a : Option Token} : Agree c k (unexpected a : P α) (unexpected a) :=
  fun _ _ _ => ⟨rfl, trivial⟩

theorem lookahead_good : Good k lookahead := by
  intro s hs _
  refine ⟨rfl, ?_⟩
  unfold lookahead
  split
  · exact ⟨hs, Nat.le_refl _⟩
  · split
    · exact ⟨hs, Nat.le_refl _⟩
    · exact ⟨hs, Nat.le_refl _⟩
    · trivial
    · next h => rw [h] at hs; exact hs

/-- What `advance_lexer` returns: at `<EOF>` the state as it is; else the head of the stream has become
the current token, `<EOF>` at its end.  It crashes only on a crash held in the stream. -/
theorem advanceLexer_cases (cfg : Cfg) (s : PS) :
    match advanceLexer cfg s with
    | .ok (_, s') => s.cur.kind = .eof ∧ s' = s ∨ ¬ s.cur.kind = .eof ∧ (s.rest = .cons s'.cur s'.rest ∨
        ∃ a l c, s.rest = .eof a l c ∧ s'.cur = eofToken a l c ∧ s'.rest = s.rest)
    | .err _ => True
    | .crash c => s.rest = .crash c := by
  unfold advanceLexer
  by_cases h : s.cur.kind = .eof
  · rw [if_pos h]; exact .inl ⟨h, rfl⟩
  rw [if_neg h]
  cases hr : s.rest with
  | cons t r =>
    dsimp only
    by_cases ht : t.kind = .eof
    · rw [if_pos ht]; exact .inr ⟨h, .inl rfl⟩
    rw [if_neg ht]
    cases cfg.maxTokens with
    | none => exact .inr ⟨h, .inl rfl⟩
    | some m =>
      dsimp only
      by_cases hm : ((s.count + 1 : Nat) : Int) > m
      · rw [if_pos hm]; trivial
      · rw [if_neg hm]; exact .inr ⟨h, .inl rfl⟩
  | eof a l c => exact .inr ⟨h, .inr ⟨a, l, c, rfl, rfl, rfl⟩⟩
  | lexErr e => trivial
  | crash x => rfl

/-- `advance_lexer` never grows the input, and strictly shrinks it unless at `<EOF>` -/
theorem advanceLexer_post (cfg : Cfg) {s : PS} (hs : s.rest.NoCrash)
    (hc : c = true → ¬ s.cur.kind = .eof) :
    PPost (fun a b => a + c.toNat ≤ b) s (advanceLexer cfg s) := by
  have hc1 := Bool.toNat_le c
  have h := advanceLexer_cases cfg s
  cases hr : advanceLexer cfg s with
  | err e => trivial
  | crash x => rw [hr] at h; rw [h] at hs; exact hs
  | ok x =>
    obtain ⟨_, s'⟩ := x
    rw [hr] at h
    rcases h with ⟨hk, rfl⟩ | ⟨hk, h | ⟨a, l, c', h, hcur, hrest⟩⟩
    · have : c = false := by cases c; rfl; exact absurd hk (hc rfl)
      subst this
      exact ⟨hs, Nat.le_refl _⟩
    · have := size_le s'
      rw [h] at hs
      exact ⟨hs, by simp only [size_ne hk, h, Stream.length]; omega⟩
    · exact ⟨hrest ▸ hs, by simp only [size_ne hk, size_eof (s := s') (by rw [hcur]; rfl), h, Stream.length]; omega⟩

theorem advanceLexer_good : Good k (advanceLexer cfg) :=
  fun _ hs _ => ⟨rfl, advanceLexer_post cfg hs (fun h => nomatch h)⟩

theorem advance_bind (cfg : Cfg) {f g : P α} (hf : Agree c k f g) {s : PS}
    (hs : s.rest.NoCrash) (hn : size s ≤ k) (hk : ¬ s.cur.kind = .eof) :
    AgreeAt true s ((advanceLexer cfg >>= fun _ => f) s) ((advanceLexer cfg >>= fun _ => g) s) :=
  AgreeAt.bind (c₁ := true) ⟨rfl, advanceLexer_post cfg hs fun _ => hk⟩ (fun _ => hf) (Nat.lt_succ_of_le hn)
    (Nat.le_add_right _ _)

theorem expectToken_good {tk : TokKind} : Good k (expectToken cfg tk) :=
  cur_good.bind fun _ => .ite (advanceLexer_good.bind fun _ => Good.pure) Agree.fail

theorem expectOptionalToken_good {tk : TokKind} : Good k (expectOptionalToken cfg tk) :=
  cur_good.bind fun _ => .ite (advanceLexer_good.bind fun _ => Good.pure) Good.pure

theorem expectOptionalKeyword_good {v : String} : Good k (expectOptionalKeyword cfg v) :=
  cur_good.bind fun _ => .ite (advanceLexer_good.bind fun _ => Good.pure) Good.pure

theorem expectToken_goodC {tk : TokKind} (hk : tk ≠ .eof := by decide) : GoodC k (expectToken cfg tk) := by
  intro s hs hn
  unfold expectToken
  rw [bind_eq]
  simp only [P.cur]
  split
  · next h => exact advance_bind cfg Good.pure hs (Nat.le_of_lt hn) (h ▸ hk)
  · exact ⟨rfl, trivial⟩

theorem expectKeyword_goodC {v : String} : GoodC k (expectKeyword cfg v) := by
  intro s hs hn
  unfold expectKeyword
  rw [bind_eq]
  simp only [P.cur]
  split
  · next h => exact ⟨rfl, advanceLexer_post cfg hs fun _ => by rw [h.1]; decide⟩
  · exact ⟨rfl, trivial⟩

variable {item item' : P Ast}

theorem untilClose_agree (cfg : Cfg) (close : TokKind) :
    ∀ (n m : Nat) (acc : List Ast), Agree true (min n m) item item' →
      Agree false (min n m) (untilClose cfg close item n acc) (untilClose cfg close item' m acc)
  | 0, _, _, _ => .zero_min
  | _ + 1, 0, _, _ => .zero
  | n + 1, m + 1, _, hi => by
    rw [Nat.succ_min_succ] at hi ⊢
    exact expectOptionalToken_good.bind fun _ => .ite Good.pure
      (hi.step fun _ => untilClose_agree cfg close n m _ (hi.anti (Nat.le_succ _))).weak

variable {n m : Nat} {o cl : TokKind} (hi : Agree true (min n m) item item')
include hi

theorem parseAny_agree (ho : o ≠ .eof := by decide) :
    Agree true (min n m + 1) (parseAny cfg n o item cl) (parseAny cfg m o item' cl) :=
  (expectToken_goodC ho).step fun _ => untilClose_agree cfg cl n m [] hi

theorem parseMany_agree_step (ho : o ≠ .eof := by decide) :
    Agree true (min n m + 1) (parseMany cfg n o item cl) (parseMany cfg m o item' cl) :=
  (expectToken_goodC ho).step fun _ => hi.bind fun _ => untilClose_agree cfg cl n m _ hi

theorem parseMany_agree (ho : o ≠ .eof := by decide) :
    Agree true (min n m) (parseMany cfg n o item cl) (parseMany cfg m o item' cl) :=
  (parseMany_agree_step hi ho).anti (Nat.le_succ _)

theorem parseOptionalMany_agree :
    Agree false (min n m) (parseOptionalMany cfg n o item cl) (parseOptionalMany cfg m o item' cl) :=
  expectOptionalToken_good.bind fun _ => .ite
    (hi.bind fun _ => (untilClose_agree cfg cl n m _ hi).bind fun _ => Good.pure) Good.pure

omit hi in
/-- a delimited list consumes because its first item does -/
theorem delimitedLoop_agree (cfg : Cfg) (d : TokKind) :
    ∀ (n m : Nat) (acc : List Ast), Agree true (min n m) item item' →
      Agree true (min n m) (delimitedLoop cfg d item n acc) (delimitedLoop cfg d item' m acc)
  | 0, _, _, _ => .zero_min
  | _ + 1, 0, _, _ => .zero
  | n + 1, m + 1, _, hi => by
    rw [Nat.succ_min_succ] at hi ⊢
    exact hi.step fun _ => expectOptionalToken_good.bind fun _ =>
      .ite (delimitedLoop_agree cfg d n m _ (hi.anti (Nat.le_succ _))).weak Good.pure

theorem parseDelimitedMany_agree {d : TokKind} :
    Agree true (min n m) (parseDelimitedMany cfg n d item) (parseDelimitedMany cfg m d item') :=
  expectOptionalToken_good.bindR fun _ => delimitedLoop_agree cfg d n m [] hi

omit hi

theorem parseName_goodC : GoodC k (parseName cfg) := .bindL expectToken_goodC fun _ => Good.pure

theorem parseNamedType_goodC : GoodC k (parseNamedType cfg) := parseName_goodC.bindL fun _ => Good.pure

theorem parseStringLiteral_good : Good k (parseStringLiteral cfg) :=
  cur_good.bind fun _ => advanceLexer_good.bind fun _ => Good.pure

theorem parseDescription_good : Good k (parseDescription cfg) :=
  (cur_good.bind fun _ => Good.pure).bind fun _ => .ite parseStringLiteral_good Good.pure

theorem parseVariable_goodC : GoodC k (parseVariable cfg) :=
  .bindL expectToken_goodC fun _ => parseName_goodC.bind fun _ => Good.pure

theorem parseVariableValue_goodC {isConst : Bool} : GoodC k (parseVariableValue cfg isConst) :=
  .ite (.bindL expectToken_goodC fun _ => cur_good.bind fun _ => .ite (Agree.fail (c := false)) unexpected_good)
    parseVariable_goodC

theorem parseObjectField_agree {v v' : P Ast} (hv : Agree c k v v') :
    Agree true k (parseObjectField cfg v) (parseObjectField cfg v') :=
  parseName_goodC.bindL fun _ => expectToken_good.bind fun _ => hv.bind fun _ => Good.pure

/-- checker for what the generated value-literal table says about a token kind: `<EOF>` dispatches
nowhere (so every dispatched method sits on a real token and consumes it) and every method is known -/
def valueMethodOk (k : TokKind) : Bool :=
  match valueMethodOf k with
  | some m => k != .eof && knownValueMethods.contains m
  | none => true

/-- The generated value-literal table, read once over the 23 token kinds. -/
theorem vm_cases (k : TokKind) : valueMethodOf k =
    match k with
    | .dollar => some "variable_value" | .int => some "int" | .float => some "float"
    | .string => some "string_literal" | .blockString => some "string_literal"
    | .name => some "named_values" | .bracketL => some "list" | .braceL => some "object"
    | _ => none := by
  cases k <;> decide

/-- The kinds that start a value, each with the method `parse_value_literal` dispatches to. -/
theorem valueMethodOf_inv {k : TokKind} {m : String} (h : valueMethodOf k = some m) :
    (k = .dollar ∧ m = "variable_value") ∨ (k = .int ∧ m = "int") ∨ (k = .float ∧ m = "float") ∨
    (k = .string ∧ m = "string_literal") ∨ (k = .blockString ∧ m = "string_literal") ∨
    (k = .name ∧ m = "named_values") ∨ (k = .bracketL ∧ m = "list") ∨ (k = .braceL ∧ m = "object") := by
  rw [vm_cases] at h
  cases k <;> cases h <;> decide

theorem valueMethodOf_spec {k : TokKind} {m : String} (h : valueMethodOf k = some m) :
    k ≠ .eof ∧ m ∈ knownValueMethods := by
  rcases valueMethodOf_inv h with ⟨rfl, rfl⟩ | ⟨rfl, rfl⟩ | ⟨rfl, rfl⟩ | ⟨rfl, rfl⟩ | ⟨rfl, rfl⟩ | ⟨rfl, rfl⟩ |
    ⟨rfl, rfl⟩ | ⟨rfl, rfl⟩ <;> decide

theorem valueMethodOk_all (k : TokKind) : valueMethodOk k = true := by
  unfold valueMethodOk
  cases h : valueMethodOf k with
  | none => rfl
  | some m => exact Bool.and_eq_true_iff.mpr ⟨bne_iff_ne.mpr (valueMethodOf_spec h).1,
      List.contains_iff_mem.mpr (valueMethodOf_spec h).2⟩

/-- shape `token = self._lexer.token; self.advance_lexer(); …` at a token that is not `<EOF>` -/
theorem curAdv_goodC (cfg : Cfg) {f : Token → P α} (hf : ∀ t, Good k (f t)) {s : PS}
    (hs : s.rest.NoCrash) (hn : size s ≤ k) (hk : ¬ s.cur.kind = .eof) :
    AgreeAt true s ((P.cur >>= fun t => advanceLexer cfg >>= fun _ => f t) s)
      ((P.cur >>= fun t => advanceLexer cfg >>= fun _ => f t) s) :=
  advance_bind cfg (hf s.cur) hs hn hk

/-- `dispatchValue` on a method the table can name, at a token that is not `<EOF>`: the list and object
methods consume their bracket, the scalar ones the current token -/
theorem dispatchValue_agree {n m : Nat} (cfg : Cfg) (isConst : Bool) {v v' : P Ast}
    (hv : Agree true (min n m) v v') (mth : String) (hm : mth ∈ knownValueMethods) {s : PS}
    (hs : s.rest.NoCrash) (hn : size s < min n m + 1) (hk : ¬ s.cur.kind = .eof) :
    AgreeAt true s (dispatchValue cfg n isConst v mth s) (dispatchValue cfg m isConst v' mth s) :=
  have scalar {f : Token → P Ast} (hf : ∀ t, Good (min n m) (f t)) :=
    curAdv_goodC cfg hf hs (Nat.le_of_lt_succ hn) hk
  .dite (fun _ => ((parseAny_agree hv).bindL fun _ => Good.pure) s hs hn) fun _ =>
  .dite (fun _ => ((parseAny_agree (parseObjectField_agree hv)).bindL fun _ => Good.pure) s hs hn)
    fun _ =>
  .dite (fun _ => scalar fun _ => Good.pure) fun _ =>
  .dite (fun _ => scalar fun _ => Good.pure) fun _ =>
  .dite (fun _ => scalar fun _ => Good.pure) fun _ =>
  .dite (fun _ => scalar fun _ => .ite Good.pure (.ite Good.pure (.ite Good.pure Good.pure))) fun _ =>
  .dite (fun _ => parseVariableValue_goodC s hs hn) fun _ =>
  absurd hm (by simp [knownValueMethods, *])

theorem valueLit_agree (cfg : Cfg) (isConst : Bool) :
    ∀ n m : Nat, Agree true (min n m) (valueLit n cfg isConst) (valueLit m cfg isConst)
  | 0, _ => .zero_min
  | _ + 1, 0 => .zero
  | n + 1, m + 1 => by
    rw [Nat.succ_min_succ]
    intro s hs hn
    unfold valueLit
    rw [bind_eq, bind_eq]
    simp only [P.cur]
    cases hm : valueMethodOf s.cur.kind with
    | some mth =>
      have hspec := valueMethodOf_spec hm
      exact dispatchValue_agree cfg isConst (valueLit_agree cfg isConst n m) mth hspec.2 hs hn hspec.1
    | none => exact unexpected_good s hs hn

/-- `expect_optional_token(kind)` followed by continuations: on the `True` branch a token has been
consumed, so the continuations are compared one unit lower -/
theorem expectOptional_bind_agree (cfg : Cfg) (tk : TokKind) (htk : tk ≠ .eof) {f g : Bool → P α}
    (ht : Agree c k (f true) (g true)) (hf : Agree true (k + 1) (f false) (g false)) :
    Agree true (k + 1) (expectOptionalToken cfg tk >>= f) (expectOptionalToken cfg tk >>= g) := by
  have key (f : Bool → P α) (s : PS) : (expectOptionalToken cfg tk >>= f) s =
      if s.cur.kind = tk then (advanceLexer cfg >>= fun _ => f true) s else f false s := by
    simp only [expectOptionalToken, bind_eq, P.cur]
    by_cases h : s.cur.kind = tk
    · simp only [if_pos h, bind_eq, pure_eq']
      cases advanceLexer cfg s <;> rfl
    · simp only [if_neg h, pure_eq']
  intro s hs hn
  rw [key, key]
  split
  · next h => exact advance_bind cfg ht hs (Nat.le_of_lt_succ hn) (h ▸ htk)
  · exact hf s hs hn

theorem typeRef_agree (cfg : Cfg) : ∀ n m : Nat, Agree true (min n m) (typeRef n cfg) (typeRef m cfg)
  | 0, _ => .zero_min
  | _ + 1, 0 => .zero
  | n + 1, m + 1 => by
    rw [Nat.succ_min_succ]
    unfold typeRef
    have rest {j : Nat} (ty : Ast) : Good j (expectOptionalToken cfg .bang >>= fun bang =>
        if bang = true then pure (mkNode "NonNullTypeNode" [("type", ty)]) else pure ty) :=
      expectOptionalToken_good.bind fun _ => .ite Good.pure Good.pure
    apply expectOptional_bind_agree cfg .bracketL (by decide)
    · simp only [↓reduceIte]
      exact ((typeRef_agree cfg n m).bind fun _ => expectToken_good.bind fun _ => Good.pure).bind rest
    · simp only [Bool.false_eq_true, ↓reduceIte]
      exact parseNamedType_goodC.bindL rest

end Gql.Syntax
