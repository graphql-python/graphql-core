import Gql.Proofs.GapReplace
import Gql.Proofs.C09Pairs
import Gql.Text.Strip
/-!
# `strip_ignored_characters`: the stripped text lexes to the same tokens; stripping is idempotent

The loop depends on the tokens through their signature only (`stripLoop_eq`: it is `stripS`, which puts
`sepOf` and `emit` of each token in a row). `emitted_token` says what the text emitted for one token lexes to
in front of what follows it; `strip_derivation` is the induction over the derivation of the source text and
carries three facts about the output for the tokens from some token on (`StripGoal`): after a non-punctuator
it cannot extend a token, it has a derivation with the same kinds and values, and stripping it emits it again.
-/
open Gql Gql.Text
namespace Gql.Text
open Gql.Spec.Lex Gql.Text.Pairs

/-- `is_punctuator_token_kind` on the specification's kinds. -/
def isPunctK : Kind → Bool
  | .bang | .dollar | .amp | .parenL | .parenR | .spread | .colon | .equals | .at
  | .bracketL | .bracketR | .braceL | .pipe | .braceR => true
  | _ => false

/-- The space `strip_ignored_characters` puts in front of a token of kind `k`; `w` is
`was_last_added_token_non_punctuator`. -/
def sepOf (w : Bool) (k : Kind) : List Nat := if w && (!isPunctK k || k = .spread) then [32] else []

/-- The text `strip_ignored_characters` emits for one token: a block string is printed again, minimised;
every other token is copied from the source. -/
def emit (body : List Nat) (t : SpecToken) : List Nat :=
  if t.kind = .blockString then printBlockString (match t.value with | some v => v | none => []) true
  else slice body t.start t.stop

/-- `strip_ignored_characters`' loop over the signature of the tokens, without accumulator. -/
def stripS (body : List Nat) : List SpecToken → Bool → List Nat
  | [], _ => []
  | t :: rest, w =>
    if t.kind = .eof then [] else sepOf w t.kind ++ (emit body t ++ stripS body rest (!isPunctK t.kind))

theorem kindOf_punct (k : TokKind) (h : kindOf k ≠ .other) : isPunctuatorKind k = isPunctK (kindOf k) := by
  cases k <;> simp [kindOf, isPunctuatorKind, isPunctK] at h ⊢

theorem kindOf_eq_eof (k : TokKind) : (kindOf k = .eof) ↔ (k = .eof) := by
  cases k <;> simp [kindOf]

theorem kindOf_eq_spread (k : TokKind) : (kindOf k = .spread) ↔ (k = .spread) := by
  cases k <;> simp [kindOf]

theorem kindOf_eq_block (k : TokKind) : (kindOf k = .blockString) ↔ (k = .blockString) := by
  cases k <;> simp [kindOf]

theorem stripLoop_eq (body : List Nat) (ts : List Token) (h : ∀ t ∈ sig ts, t.kind ≠ .other)
    (w : Bool) (acc : List Nat) : stripLoop body ts w acc = acc ++ stripS body (sig ts) w := by
  induction ts generalizing w acc with
  | nil => simp [stripLoop, stripS, sig]
  | cons t rest ih =>
    have ht : kindOf t.kind ≠ .other := h (toSpec t) (by simp [sig])
    simp only [stripLoop, sig, List.map_cons, stripS, sepOf, emit, toSpec, kindOf_eq_eof, kindOf_eq_spread, kindOf_eq_block,
      ← kindOf_punct _ ht]
    by_cases he : t.kind = .eof
    · simp [he]
    · rw [if_neg he, if_neg he, ih (fun t' h' => h t' (by simp [sig] at h' ⊢; exact .inr h'))]
      by_cases hb : t.kind = .blockString <;>
        cases w && (!isPunctuatorKind t.kind || decide (t.kind = TokKind.spread)) <;> simp [hb, sig] <;> rfl

theorem name?_kind {s : List Nat} {m : Match} (h : name? s = some m) : m.kind = .name := by
  cases s with
  | nil => simp [name?] at h
  | cons c r =>
    simp only [name?] at h
    split at h
    · simp at h; rw [← h]
    · simp at h

theorem number?_kind {s : List Nat} {m : Match} (h : number? s = some m) : m.kind = .int ∨ m.kind = .float := by
  obtain ⟨fl, _, hm⟩ := number?_some s m h
  rw [hm]; cases fl <;> simp

theorem string?_kind {s : List Nat} {m : Match} (h : string? s = some m) : m.kind = .string := by
  unfold string? at h
  split at h
  · simp at h
  · split at h
    · simp at h; rw [← h]
    · simp at h
  · simp at h

theorem blockString?_kind {s : List Nat} {m : Match} (h : blockString? s = some m) : m.kind = .blockString := by
  obtain ⟨_, _, _, _, _, rfl⟩ := blockString?_some h
  rfl

/-- How the kind of the longest-match token depends on its first code point `c`. The second clause is
`Inert (c :: _)`: nothing that starts with a one-character punctuator can extend a token. -/
theorem lexToken?_kind {s : List Nat} {m : Match} (h : lexToken? s = some m) : ∃ c r, s = c :: r ∧
    (isPunctK m.kind = true → ¬ NameStart c ∧ ¬ Digit c ∧ c ≠ 45 ∧ c ≠ 34) ∧
    (isPunctK m.kind = true → m.kind ≠ .spread → ¬ NameContinue c ∧ ¬ Digit c ∧ c ≠ 46 ∧ c ≠ 34) ∧
    (m.kind = .blockString → c = 34) ∧ m.kind ≠ .other ∧ m.kind ≠ .eof := by
  obtain ⟨c, r, rfl⟩ : ∃ c r, s = c :: r := by
    match s, h with
    | c :: r, _ => exact ⟨c, r, rfl⟩
  refine ⟨c, r, rfl, ?_⟩
  cases (lexToken?_iff c r m).1 h with
  | block hq _ h => simp [blockString?_kind h, isPunctK, hq]
  | string _ _ h => simp [string?_kind h, isPunctK]
  | punct _ hk =>
    exact punctKind_forall (P := fun c k =>
      (isPunctK (kindOf k) = true → ¬ NameStart c ∧ ¬ Digit c ∧ c ≠ 45 ∧ c ≠ 34) ∧
      (isPunctK (kindOf k) = true → kindOf k ≠ .spread → ¬ NameContinue c ∧ ¬ Digit c ∧ c ≠ 46 ∧ c ≠ 34) ∧
      (kindOf k = .blockString → c = 34) ∧ kindOf k ≠ .other ∧ kindOf k ≠ .eof) (by decide) hk
  | number _ _ _ h => rcases number?_kind h with hk' | hk' <;> simp [hk', isPunctK]
  | name _ _ _ _ h => simp [name?_kind h, isPunctK]
  | spread h46 _ => subst h46; simp [isPunctK, NameStart, Letter, Digit]

theorem compat_of_punct_head (c : Nat) (t' y : List Nat)
    (h : ¬ NameStart c ∧ ¬ Digit c ∧ c ≠ 45 ∧ c ≠ 34) : Compat (c :: t') y :=
  headAll_of_forall _ (fun d => ⟨fun hh => absurd hh h.1, fun hh => by
    rcases hh with hh | hh
    · exact absurd hh h.2.1
    · exact absurd hh h.2.2.1, fun hh => absurd hh h.2.2.2⟩)

theorem lexToken?_block_value {u : List Nat} {m : Match} (h : lexToken? u = some m)
    (hk : m.kind = .blockString) :
    ∃ v, m.value = some v ∧ BlockRepresentable v ∧ (∀ c ∈ v, c ∈ u ∨ c = 34 ∨ c = 10) ∧ Paired v := by
  obtain ⟨c, r, rfl, _, _, hc, _⟩ := lexToken?_kind h
  obtain rfl := hc hk
  rw [lexToken?_cons, if_pos rfl] at h
  split at h
  · exact blockString?_value h
  · have := string?_kind h; rw [hk] at this; cases this

/-- The minimised printed form of a representable value of scalar values and surrogate pairs
lexes, in front of any text, to one block string token with that value. -/
theorem lexToken?_printed_block (v rest : List Nat) (hs : Paired v)
    (hrep : BlockRepresentable v) :
    lexToken? (printBlockString v true ++ rest) =
      some ⟨.blockString, (printBlockString v true).length, some v⟩ := by
  unfold printBlockString
  rw [printed_raw]
  exact lexToken?_raw (pbsRaw_rawOf _ true hs hrep) rest

theorem stripS_cons (body : List Nat) (t : SpecToken) (rest : List SpecToken) (w : Bool) (h : t.kind ≠ .eof) :
    stripS body (t :: rest) w = sepOf w t.kind ++ (emit body t ++ stripS body rest (!isPunctK t.kind)) := by
  rw [stripS, if_neg h]

/-- The text emitted for one token, and what it lexes to in front of a compatible continuation. -/
theorem emitted_token (body : List Nat) (off : Nat) (m : Match)
    (hig : ignoredLen (body.drop off) = none) (hm : lexToken? (body.drop off) = some m) (hpos : 0 < m.len)
    (Y : List Nat)
    (hY : isPunctK m.kind = false → Inert Y) :
    let text := emit body ⟨m.kind, off, off + m.len, m.value⟩
    0 < text.length ∧ ignoredLen (text ++ Y) = none ∧
      lexToken? (text ++ Y) = some ⟨m.kind, text.length, m.value⟩ ∧
      (isPunctK m.kind = true → m.kind ≠ .spread → Inert (text ++ Y)) := by
  intro text
  obtain ⟨c, r, hu, hk⟩ := lexToken?_kind hm
  rw [hu] at hig hm
  by_cases hb : m.kind = .blockString
  · obtain ⟨v, hv, hrep, _, hsv⟩ := lexToken?_block_value hm hb
    have htext : text = printBlockString v true := by
      simp only [text, emit, if_pos hb, hv]
    rw [htext]
    obtain ⟨X, hX⟩ : ∃ X, printBlockString v true = 34 :: X := ⟨_, printed_raw _ v true⟩
    obtain rfl := hk.2.2.1 hb
    refine ⟨by rw [hX]; simp, ?_, ?_, fun hp => by rw [hb] at hp; cases hp⟩
    · rw [hX]; exact ignoredLen_none_head' hig
    · rw [lexToken?_printed_block v Y hsv hrep, hb, hv]
  · have htl : ((c :: r).take m.len).length = m.len := by
      rw [List.length_take, Nat.min_eq_left (lexToken?_le hig hm)]
    obtain ⟨m', hm1⟩ : ∃ m', m.len = m' + 1 := ⟨m.len - 1, by omega⟩
    have htext : text = c :: r.take m' := by
      simp only [text, emit, if_neg hb]
      rw [slice_eq_take_drop, hu, hm1]
      rfl
    have htk : (c :: r).take m.len = c :: r.take m' := by rw [hm1]; rfl
    obtain ⟨_, hst⟩ := lexToken?_retarget hig hm hpos
    have hcomp : Compat (c :: r.take m') Y := by
      by_cases hp : isPunctK m.kind = true
      · exact compat_of_punct_head c _ Y (hk.1 hp)
      · exact compat_of_inert _ _ (hY (by simpa using hp))
    rw [htext]
    refine ⟨Nat.succ_pos _, ignoredLen_none_head' hig, ?_, fun hp hs => hk.2.1 hp hs⟩
    rw [← htk, hst Y (htk ▸ hcomp), htl]

/-- What the stripped text of a derivation lexes to. -/
def StripGoal (body : List Nat) (ss : List SpecToken) : Prop :=
  Inert (stripS body ss true) ∧
  ∀ (w : Bool) (off' : Nat), ∃ ss', SpecTokensFrom off' (stripS body ss w) ss' ∧ kv ss' = kv ss ∧
    ∀ O : List Nat, O.drop off' = stripS body ss w → stripS O ss' w = stripS body ss w

theorem strip_derivation (body : List Nat)
    {off : Nat} {u : List Nat} {ss : List SpecToken} (D : SpecTokensFrom off u ss) :
    u = body.drop off → StripGoal body ss := by
  induction D with
  | eof off =>
    intro _
    refine ⟨by simp [stripS, Inert, HeadAll], fun w off' => ⟨[⟨.eof, off', off', none⟩], ?_, rfl, ?_⟩⟩
    · simp only [stripS, if_true]; exact .eof off'
    · intro O _; simp [stripS]
  | @ignored off u n ts hig _ ih =>
    intro hu
    exact ih (by rw [hu, List.drop_drop])
  | @token off u m ts hig hm hpos _ ih =>
    intro hu
    subst hu
    obtain ⟨_, _, _, _, _, _, _, hne⟩ := lexToken?_kind hm
    obtain ⟨hinert, hrest⟩ := ih (by rw [List.drop_drop])
    have hem := emitted_token body off m hig hm hpos (stripS body ts (!isPunctK m.kind))
      fun hp => by rw [hp]; exact hinert
    simp only [] at hem
    generalize htext : emit body ⟨m.kind, off, off + m.len, m.value⟩ = text at hem
    obtain ⟨htpos, hig', hm', hpunct⟩ := hem
    constructor
    · -- inertness of the output after a non-punctuator
      rw [stripS_cons _ _ _ _ hne, htext, sepOf]
      by_cases hsep : (true && (!isPunctK m.kind || m.kind = .spread)) = true
      · rw [if_pos hsep]
        exact inert_of_ignoredStart 32 _ (by unfold IgnoredStart; omega)
      · rw [if_neg hsep, List.nil_append]
        simp at hsep
        exact hpunct hsep.1 hsep.2
    · -- the separator, if any, is one Ignored item in front of the token
      intro w off'
      rw [stripS_cons _ _ _ _ hne, htext]
      generalize hsep : sepOf w m.kind = sep
      have hs : IgnoredRun (sep ++ (text ++ stripS body ts (!isPunctK m.kind))) sep.length := by
        rw [← hsep, sepOf]
        split
        · exact .step (n := 1) (k := 0) rfl (.zero _)
        · exact .zero _
      obtain ⟨ss', hd', hkv, hO⟩ := hrest (!isPunctK m.kind) (off' + sep.length + text.length)
      refine ⟨⟨m.kind, off' + sep.length, off' + sep.length + text.length, m.value⟩ :: ss', ?_, ?_, ?_⟩
      · rw [hs.tokens_iff, List.drop_left]
        exact .token hig' hm' htpos (by simp only [List.drop_left']; exact hd')
      · simp [kv] at hkv ⊢; exact hkv
      · intro O hOd
        have h1 : O.drop (off' + sep.length) = text ++ stripS body ts (!isPunctK m.kind) := by
          rw [← List.drop_drop, hOd, List.drop_left]
        have h2 : O.drop (off' + sep.length + text.length) = stripS body ts (!isPunctK m.kind) := by
          rw [← List.drop_drop, h1, List.drop_left]
        rw [stripS_cons _ _ _ _ hne, hsep, hO O h2]
        congr 2
        unfold emit at htext ⊢
        by_cases hbk : m.kind = .blockString
        · simp only [if_pos hbk] at htext ⊢; exact htext
        · simp only [if_neg hbk]; rw [slice_eq_take_drop, h1, List.take_left]

theorem specTokens_kind_ne_other {off : Nat} {u : List Nat} {ss : List SpecToken}
    (D : SpecTokensFrom off u ss) : ∀ t ∈ ss, t.kind ≠ .other := by
  induction D with
  | eof off => intro t ht; simp at ht; subst ht; simp
  | ignored _ _ ih => exact ih
  | @token off u m ts _ hm _ _ ih =>
    intro t ht
    rcases List.mem_cons.mp ht with h | h
    · subst h
      obtain ⟨_, _, _, _, _, _, hne, _⟩ := lexToken?_kind hm
      exact hne
    · exact ih t h

/-- Everything `strip_ignored_characters` guarantees about a text that lexes (verbatim surrogate
pairs in strings, block strings and comments included): the stripped text lexes to the same kinds
and values, and stripping it again returns it unchanged. -/
theorem strip_correct (s : List Nat) (ts : List Token)
    (h : lexAll s = .ok ts) :
    ∃ out ts', stripIgnoredCharacters s = .ok out ∧ lexAll out = .ok ts' ∧
      kv (sig ts') = kv (sig ts) ∧ stripIgnoredCharacters out = .ok out := by
  have hD := SpecTokens_of_lexAll s ts h
  have hko := specTokens_kind_ne_other hD
  obtain ⟨_, hgoal⟩ := strip_derivation s hD (by simp)
  obtain ⟨ss', hD', hkv, hO⟩ := hgoal false 0
  have hout : stripLoop s ts false [] = stripS s (sig ts) false := by
    rw [stripLoop_eq s ts hko]; simp
  obtain ⟨ts', hl', hsig'⟩ := lexAll_of_SpecTokens _ ss' hD'
  refine ⟨stripS s (sig ts) false, ts', ?_, hl', by rw [hsig']; exact hkv, ?_⟩
  · unfold stripIgnoredCharacters; rw [h]; simp only [Out.bind_ok, Out.pure_eq, hout]
  · unfold stripIgnoredCharacters
    rw [hl']
    simp only [Out.bind_ok, Out.pure_eq]
    rw [stripLoop_eq _ ts' (hsig' ▸ specTokens_kind_ne_other hD'), hsig', List.nil_append, hO _ (by simp)]
end Gql.Text
