import Gql.Proofs.LexerBasic
import Gql.Proofs.TypeParse
import Gql.Proofs.LexInvNumber
import Gql.Proofs.LexInvString
import Gql.Proofs.ValueDefs
/-!
C08, converse direction (`parse_wf`).  Every token the lexer returns carries a value of its class
(`ValOk`: NAME tokens valid names, INT / FLOAT tokens number texts, STRING / BLOCK_STRING tokens
strings of admissible code points); the parser's primitives and loops hand this on from state to
state (`VPS`).  The parser methods are followed by `Wp body p s Q`, partial correctness from a `VPS`
state `s` to a `VPS` state, with the rule `Wp.step` for `←`: a lemma `<method>_vinv` says what the
method returns, and the invariant is carried by the rules.  With it every tree `parse_type` returns
is the tree of a well-formed, parser-shaped `Ty`.
-/
namespace Gql.Text
open Gql

theorem nameContinueLen_take_all (r : List Nat) :
    (r.take (Spec.Lex.nameContinueLen r)).all isNameContinue = true := by
  induction r with
  | nil => rfl
  | cons c r ih =>
    by_cases hc : Spec.Lex.NameContinue c
    · simp only [Spec.Lex.nameContinueLen, if_pos hc, List.take_succ_cons, List.all_cons, ih, Bool.and_true]
      exact (isNameContinue_iff c).2 hc
    · simp [Spec.Lex.nameContinueLen, if_neg hc]

/-- A NAME token has a valid name as its value. -/
def NameOk (t : Token) : Prop := t.kind = .name → ∃ n, t.value = some n ∧ validName n = true

/-- Literal tokens carry a value of their class: number texts, strings of admissible code points,
block-representable block strings. -/
def LitOk (body : List Nat) (t : Token) : Prop :=
  (t.kind = .int → ∃ s, t.value = some s ∧ IsNum false s) ∧
  (t.kind = .float → ∃ s, t.value = some s ∧ IsNum true s) ∧
  (t.kind = .string → ∃ s, t.value = some s ∧ (∀ c ∈ s, ChOk body c) ∧ Pairs.Paired s) ∧
  (t.kind = .blockString → ∃ s, t.value = some s ∧ (∀ c ∈ s, ChOk body c) ∧ BlockRepresentable s ∧
    Pairs.Paired s)

/-- Every valued token the lexer returns carries a value of its class. -/
def ValOk (body : List Nat) (t : Token) : Prop := NameOk t ∧ LitOk body t

/-- `ValOk` of a token whose kind is known: the clause of that kind. -/
theorem ValOk.of_kind_eq {body : List Nat} {t : Token} {k : TokKind} (hk : t.kind = k)
    (h : match (generalizing := false) k with
      | .name => ∃ n, t.value = some n ∧ validName n = true
      | .int => ∃ s, t.value = some s ∧ IsNum false s
      | .float => ∃ s, t.value = some s ∧ IsNum true s
      | .string => ∃ s, t.value = some s ∧ (∀ c ∈ s, ChOk body c) ∧ Pairs.Paired s
      | .blockString => ∃ s, t.value = some s ∧ (∀ c ∈ s, ChOk body c) ∧ BlockRepresentable s ∧ Pairs.Paired s
      | _ => True) : ValOk body t := by
  refine ⟨fun e => ?_, fun e => ?_, fun e => ?_, fun e => ?_, fun e => ?_⟩ <;>
    (rw [hk] at e; subst e; exact h)

theorem ValOk.of_not_mem {body : List Nat} {t : Token}
    (h : t.kind ∉ [TokKind.name, .int, .float, .string, .blockString]) : ValOk body t :=
  ⟨fun e => absurd (by simp [e]) h, fun e => absurd (by simp [e]) h, fun e => absurd (by simp [e]) h,
    fun e => absurd (by simp [e]) h, fun e => absurd (by simp [e]) h⟩

theorem readName_valOk (body : List Nat) (st : LexState) (start : Nat) (h : start < body.length)
    (hs : isNameStart body[start] = true) : Post (ValOk body) (readName body st start) := by
  unfold readName
  rw [readNameLoop_eq, Out.bind_ok]
  refine .of_kind_eq rfl ⟨_, rfl, ?_⟩
  have e : start + 1 + Spec.Lex.nameContinueLen (body.drop (start + 1)) - start =
      Spec.Lex.nameContinueLen (body.drop (start + 1)) + 1 := by omega
  simp only [slice, List.drop_eq_getElem_cons h, e, List.take_succ_cons, validName, hs, Bool.true_and,
    nameContinueLen_take_all]

theorem tokenAt_valOk (body : List Nat) (st : LexState) (pos : Nat) (h : pos < body.length) :
    Post (fun r => ValOk body r.1) (tokenAt body st pos body[pos]) := by
  have hc0 : charAt body pos = some body[pos] := by simp [charAt, h]
  have hnum := readNumber_isNum body st pos h
  have hstr := readString_strOk body st pos h
  have hblk := readBlockString_strOk body st pos h
  have hname := readName_valOk body st pos h
  generalize body[pos] = c at hc0 hnum hstr hblk hname ⊢
  unfold tokenAt
  refine Post.ite (fun _ => ?_) (fun _ => ?_)
  · exact (readComment_post body st pos h).bind fun t ht => .of_kind_eq ht.2 trivial
  refine Post.ite (fun hq => ?_) (fun _ => ?_)
  · refine Post.ite (fun htr => ?_) (fun htr => ?_)
    · exact (hblk hq htr).mono fun r ⟨hk, sv, hsv, hok, hrep⟩ => .of_kind_eq hk ⟨sv, hsv, hok.2, hrep, hok.1⟩
    · exact (hstr hq htr).bind fun t ⟨hk, sv, hsv, hok⟩ => .of_kind_eq hk ⟨sv, hsv, hok.2, hok.1⟩
  cases hk : punctKind c with
  | some k =>
    simp only [post_pure]
    exact .of_not_mem (punctKind_kind hk).1
  | none =>
  simp only []
  refine Post.ite (fun _ => ?_) (fun _ => ?_)
  · refine hnum.bind fun t ht => ?_
    rcases ht.2.2 with hk | hk
    · exact .of_kind_eq hk (ht.1 hk)
    · exact .of_kind_eq hk (ht.2.1 hk)
  refine Post.ite (fun hns => ?_) (fun _ => ?_)
  · exact (hname hns).bind fun t ht => ht
  extract_lets dotErr
  refine Post.ite (fun hc => ?_) (fun _ => ?_)
  · simp only [post_pure]
    exact .of_kind_eq rfl trivial
  split
  · refine Post.ite (fun _ => ?_) (fun _ => ?_)
    · refine (show Post (fun _ => True) (dotDigitsLoop body (pos + 1)) from
        (digitsLoop_post body (pos + 1) (by omega)).mono (fun _ _ => trivial)).bind ?_
      intro _ _; simp
    · simp
  · repeat' split
    all_goals simp

/-- Whatever `read_next_token` returns — after the ignored code points, the token dispatched on the
first other one, or `<EOF>` — carries a value of its class. -/
theorem readNextToken_valOk (body : List Nat) (st : LexState) (pos : Nat) (t : Token) (st' : LexState)
    (h : readNextToken body st pos = .ok (t, st')) : ValOk body t := by
  obtain ⟨st1, p, _, ⟨hp, _, _, _, e⟩ | ⟨_, e⟩⟩ := readNextToken_skip_dispatch body _ st pos (Nat.le_refl _)
  · have := tokenAt_valOk body st1 p hp
    rwa [← e, h] at this
  · rw [h] at e
    cases e
    exact .of_kind_eq rfl trivial

end Gql.Text

namespace Gql.Syntax
open Gql Gql.Text

/-- Every token of the stream carries a value of its class. -/
def VStream (body : List Nat) : Stream → Prop
  | .cons t r => ValOk body t ∧ VStream body r
  | _ => True

theorem vStream_aux (body : List Nat) : ∀ (fuel : Nat) (st : LexState) (pos : Nat),
    VStream body (streamAux body fuel st pos) := by
  intro fuel
  induction fuel with
  | zero => intro st pos; simp [streamAux, VStream]
  | succ fuel ih =>
    intro st pos
    rw [streamAux]
    cases hr : readNextToken body st pos with
    | ok r =>
      obtain ⟨t, st'⟩ := r
      have hn : ValOk body t := readNextToken_valOk body st pos t st' hr
      simp only
      split
      · trivial
      · split
        · exact ih _ _
        · exact ⟨hn, ih _ _⟩
    | err e => trivial
    | crash c => trivial

/-- The parser state holds only tokens with values of their class. -/
def VPS (body : List Nat) (s : PS) : Prop := ValOk body s.cur ∧ VStream body s.rest

namespace VPS
variable {body : List Nat} {s : PS} (hg : VPS body s)
include hg

theorem name (hk : s.cur.kind = .name) : ∃ n, s.cur.value = some n ∧ validName n = true := hg.1.1 hk

theorem int (hk : s.cur.kind = .int) : ∃ sv, s.cur.value = some sv ∧ IsNum false sv := hg.1.2.1 hk

theorem float (hk : s.cur.kind = .float) : ∃ sv, s.cur.value = some sv ∧ IsNum true sv := hg.1.2.2.1 hk

theorem string (hk : s.cur.kind = .string) :
    ∃ sv, s.cur.value = some sv ∧ (∀ c ∈ sv, ChOk body c) ∧ Pairs.Paired sv := hg.1.2.2.2.1 hk

theorem block (hk : s.cur.kind = .blockString) :
    ∃ sv, s.cur.value = some sv ∧ (∀ c ∈ sv, ChOk body c) ∧ BlockRepresentable sv ∧ Pairs.Paired sv :=
  hg.1.2.2.2.2 hk

end VPS

/-- Partial correctness at one state under the invariant: if `p` returns from a `VPS` state `s`, the
state returned is a `VPS` state again and `Q` holds of the value and of that state.  The state is a
variable of the context, not bound in the triple, so `Q` may speak of the token `p` started from. -/
def Wp (body : List Nat) {α : Type} (p : P α) (s : PS) (Q : α → PS → Prop) : Prop :=
  VPS body s → ∀ a s', p s = .ok (a, s') → VPS body s' ∧ Q a s'

namespace Wp
variable {body : List Nat} {α β : Type} {p : P α} {f : α → P β} {s : PS} {Q Q' : α → PS → Prop}
  {R : β → PS → Prop}

theorem pure {a : α} (h : Q a s) : Wp body (Pure.pure a) s Q := fun hg _ _ e => by cases e; exact ⟨hg, h⟩

/-- Sequencing and consequence in one rule: what `p` guarantees is handed to the rest of the method. -/
theorem step (hp : Wp body p s Q) (hf : ∀ a s1, Q a s1 → Wp body (f a) s1 R) : Wp body (p >>= f) s R := by
  intro hg b s' e
  rw [bind_eq] at e
  cases h : p s with
  | ok r => rw [h] at e; exact hf r.1 r.2 (hp hg _ _ h).2 (hp hg _ _ h).1 b s' e
  | err x => rw [h] at e; cases e
  | crash x => rw [h] at e; cases e

theorem mono (hp : Wp body p s Q) (h : ∀ a s1, Q a s1 → Q' a s1) : Wp body p s Q' :=
  fun hg a s' e => ⟨(hp hg a s' e).1, h a s' (hp hg a s' e).2⟩

/-- What the invariant says of the state `p` starts from may be used. -/
theorem vps (h : VPS body s → Wp body p s Q) : Wp body p s Q := fun hg => h hg hg

theorem pureBind {a : α} (h : Wp body (f a) s R) : Wp body (Pure.pure a >>= f) s R := h

theorem cur {g : Token → P β} (h : Wp body (g s.cur) s R) : Wp body (P.cur >>= g) s R := h

theorem peek {g : Bool → P β} {k : TokKind} (h : Wp body (g (s.cur.kind == k)) s R) :
    Wp body (Syntax.peek k >>= g) s R := h

theorem fail {e : PErr} : Wp body (P.fail e : P α) s Q := fun _ _ _ h => nomatch h

theorem crash {c : String} : Wp body (P.crash c : P α) s Q := fun _ _ _ h => nomatch h

theorem unexpected {t : Option Token} : Wp body (Syntax.unexpected t : P α) s Q := fun _ _ _ h => nomatch h

theorem ite {c : Prop} [Decidable c] {t e : P α} (ht : c → Wp body t s Q) (he : ¬ c → Wp body e s Q) :
    Wp body (if c then t else e) s Q := by
  split
  · exact ht ‹_›
  · exact he ‹_›

end Wp

theorem vps_init (src : List Nat) : VPS src (initState (streamOf src)) :=
  ⟨.of_kind_eq rfl trivial, vStream_aux src _ _ _⟩

section
variable {body : List Nat} {cfg : Cfg} {s : PS}

theorem advanceLexer_vinv : Wp body (advanceLexer cfg) s fun _ _ => True := by
  intro hg _ s' h
  have hc := advanceLexer_cases cfg s
  rw [h] at hc
  refine ⟨?_, trivial⟩
  rcases hc with ⟨_, rfl⟩ | ⟨_, hr | ⟨a, l, c, _, hcur, hrest⟩⟩
  · exact hg
  · have := hg.2; rw [hr] at this; exact this
  · exact ⟨.of_kind_eq (by rw [hcur, eofToken]) trivial, hrest ▸ hg.2⟩

theorem expectOptionalToken_vinv (k : TokKind) : Wp body (expectOptionalToken cfg k) s fun _ _ => True := by
  rw [expectOptionalToken]
  exact .cur <| .ite (fun _ => advanceLexer_vinv.step fun _ _ _ => .pure trivial) fun _ => .pure trivial

theorem expectToken_vinv (k : TokKind) : Wp body (expectToken cfg k) s fun t _ => t = s.cur ∧ t.kind = k := by
  rw [expectToken]
  exact .cur <| .ite (fun hk => advanceLexer_vinv.step fun _ _ _ => .pure ⟨rfl, hk⟩) fun _ => .fail

/-- `parse_name`, with the token the name was read from. -/
theorem parseName_vinv : Wp body (parseName cfg) s fun a _ =>
    ∃ n, validName n = true ∧ s.cur.value = some n ∧ a = Val.nameNode n :=
  .vps fun hg => (expectToken_vinv .name).step fun _ _ ⟨e, hk⟩ => by
    subst e
    obtain ⟨n, hv, hn⟩ := hg.name hk
    exact .pure ⟨n, hn, hv, by simp [mkNode_name, tokVal, hv, Val.nameNode]⟩

end

/-- What an item parser returns: `R` of each item. -/
abbrev ItemWp (body : List Nat) (item : P Ast) (R : Ast → Prop) : Prop := ∀ s, Wp body item s fun a _ => R a

section
variable {body : List Nat} {cfg : Cfg} {item : P Ast} {R : Ast → Prop} (hitem : ItemWp body item R)
include hitem

theorem untilClose_vinv (close : TokKind) : ∀ (n : Nat) (acc : List Ast) (s : PS), (∀ x ∈ acc, R x) →
    Wp body (untilClose cfg close item n acc) s fun xs _ => (∀ x ∈ xs, R x) ∧ ∃ ys, xs = acc ++ ys
  | 0, _, _, _ => .crash
  | n + 1, acc, s, hacc => by
    rw [untilClose]
    refine (expectOptionalToken_vinv close).step fun closed s1 _ => ?_
    cases closed with
    | true => exact .pure ⟨hacc, [], by simp⟩
    | false =>
      refine (hitem s1).step fun x s2 hx => ?_
      exact (untilClose_vinv close n (acc ++ [x]) s2 (List.forall_mem_append.2 ⟨hacc, by simpa using hx⟩)).mono
        fun xs _ ⟨hall, ys, e⟩ => ⟨hall, x :: ys, by simp [e]⟩

theorem parseAny_vinv {s : PS} (n : Nat) (o c : TokKind) :
    Wp body (parseAny cfg n o item c) s fun xs _ => ∀ x ∈ xs, R x :=
  (expectToken_vinv o).step fun _ _ _ =>
    (untilClose_vinv hitem c n [] _ (fun _ h => nomatch h)).mono fun _ _ ⟨hall, _⟩ => hall

end

/-- A list of trees of well-formed things is the tree list of a well-formed list; `Ws` and `asts`,
the predicate and the trees of a list, are given by what they are on `[]` and on `b :: bs`. -/
theorem exists_list_of_forall {β : Type} {W : β → Prop} {ast : β → Ast} {Ws : List β → Prop}
    {asts : List β → List Ast} (hnil : Ws [] ∧ asts [] = [])
    (hcons : ∀ b bs, W b → Ws bs → Ws (b :: bs) ∧ asts (b :: bs) = ast b :: asts bs) :
    ∀ xs : List Ast, (∀ x ∈ xs, ∃ b, W b ∧ x = ast b) → ∃ bs, Ws bs ∧ xs = asts bs
  | [], _ => ⟨[], hnil.1, hnil.2.symm⟩
  | x :: r, h => by
    obtain ⟨b, hb, rfl⟩ := h x (by simp)
    obtain ⟨bs, hbs, rfl⟩ := exists_list_of_forall hnil hcons r fun y hy => h y (by simp [hy])
    exact ⟨b :: bs, (hcons b bs hb hbs).1, (hcons b bs hb hbs).2.symm⟩

/-- **`parse_wf` for types**: whatever `parse_type_reference` returns is the tree of a well-formed
parser-shaped `Ty`. -/
theorem typeRef_vinv {body : List Nat} {cfg : Cfg} : ∀ (n : Nat) (s : PS),
    Wp body (typeRef n cfg) s fun a _ => ∃ t : Ty, t.wf = true ∧ TyP.shaped t = true ∧ a = t.toAst
  | 0, _ => .crash
  | n + 1, s => by
    rw [typeRef]
    refine (expectOptionalToken_vinv .bracketL).step fun isList s1 _ => ?_
    -- the part before `!` is a list type or a named type, never itself non-null (`isCore`)
    have core : Wp body (if isList = true then do
          let inner ← typeRef n cfg
          let _ ← expectToken cfg .bracketR
          Pure.pure (mkNode "ListTypeNode" [("type", inner)])
        else parseNamedType cfg) s1 fun ty _ => ∃ t : Ty, t.wf = true ∧
          TyP.shaped t = true ∧ TyP.isCore t = true ∧ ty = t.toAst :=
      .ite (fun _ => (typeRef_vinv n s1).step fun _ _ ⟨t, hwf, hsh, e⟩ =>
          (expectToken_vinv .bracketR).step fun _ _ _ =>
            .pure ⟨.list t, hwf, hsh, rfl, by simp [e, TyP.mkNode_list, Ty.toAst]⟩)
        fun _ => parseName_vinv.step fun _ _ ⟨nm, hv, _, e⟩ =>
          .pure ⟨.named nm, hv, rfl, rfl, by simp [e, TyP.mkNode_named, Ty.toAst, Val.nameNode]⟩
    refine core.step fun _ _ ⟨t, hwf, hsh, hco, e⟩ => ?_
    refine (expectOptionalToken_vinv .bang).step fun bang _ _ => ?_
    cases bang with
    | true => exact .pure ⟨.nonNull t, hwf, by simp [TyP.shaped, hco, hsh], by simp [e, TyP.mkNode_nonNull, Ty.toAst]⟩
    | false => exact .pure ⟨t, hwf, hsh, e⟩

theorem entry_frame_inv (cfg : Cfg) (src : List Nat) (body : P Ast) (R : Ast → Prop)
    (hbody : ItemWp src body R) (s : PS) : Wp src (do let _ ← expectToken cfg .sof
                                                      let v ← body
                                                      let _ ← expectToken cfg .eof
                                                      pure v : P Ast) s fun a _ => R a :=
  (expectToken_vinv .sof).step fun _ s1 _ => (hbody s1).step fun _ _ hr =>
    (expectToken_vinv .eof).step fun _ _ _ => .pure hr

/-- **From the entry point to `parse`**: what an entry point guarantees from the initial state of a
source text, with whatever fuel, holds of the tree `parse` returns. -/
theorem parseSource_inv (cfg : Cfg) (e : Entry) (he : e ≠ .schemaCoordinate) (src : List Nat) (R : Ast → Prop)
    (h : ∀ fuel, Wp src (runEntry e cfg fuel) (initState (streamOf src)) fun a _ => R a) (d : Ast)
    (hd : parseSource e cfg src = .ok d) : R d := by
  unfold parseSource parseStream parseStreamWith at hd
  rw [if_neg he] at hd
  split at hd
  · cases hd; exact (h _ (vps_init src) _ _ ‹_›).2
  · cases hd
  · cases hd

/-- **`parse_wf` for the TYPE entry point**: every tree `parse_type` returns (any flags, any
`max_tokens`) is the tree of a well-formed, parser-shaped type. -/
theorem parseSource_type_wf (cfg : Cfg) (src : List Nat) (d : Ast) (h : parseSource .type cfg src = .ok d) :
    ∃ t : Ty, t.wf = true ∧ TyP.shaped t = true ∧ d = t.toAst :=
  parseSource_inv cfg .type (by decide) src _ (fun _ => entry_frame_inv cfg src _ _ (typeRef_vinv _) _) d h

end Gql.Syntax
