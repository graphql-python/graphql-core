import Gql.Proofs.ExecGroups
import Gql.Proofs.SpecCollect

/-!
C02/C13 — invariants of the grouped field set CollectFields builds, proved by one induction over
the collection (`CollectInv`); first instance: the response keys are distinct.
-/

namespace Gql.Exec.Refine
open Gql.Exec

def selDirs : Selection → List Directive
  | .field _ _ _ dirs _ => dirs
  | .inline _ dirs _ => dirs
  | .spread _ dirs => dirs

/-- What makes `I` an invariant of the groups CollectFields builds for the object type `rt` from
selection sets with the property `Φ`: `I` survives adding a field of such a set and merging the
groups of a fragment, and `Φ` passes to the rest of a set, into an inline fragment that applies
and to the definition of a spread fragment that applies.  `E` is what a directive that cannot be
coerced amounts to (`False`: it cannot happen in a set with `Φ`). -/
structure CollectInv (cx : Spec.Ctx) (rt : Name) (Φ : List Selection → Prop) (I : SG → Prop)
    (E : Prop) : Prop where
  nil : I []
  merge : ∀ {acc fg}, I acc → I fg → I (Spec.mergeGroups acc fg)
  field : ∀ {alias name args dirs sels rest acc}, Φ (.field alias name args dirs sels :: rest) →
    I acc → I (Spec.appendGroup acc (FieldNode.key ⟨alias, name, args, dirs, sels⟩)
      [⟨alias, name, args, dirs, sels⟩])
  tail : ∀ {sel rest}, Φ (sel :: rest) → Φ rest
  inline : ∀ {cond dirs sels rest}, Φ (.inline cond dirs sels :: rest) →
    (∀ c, cond = some c → Spec.doesFragmentTypeApply cx.schema rt c = true) → Φ sels
  spread : ∀ {name dirs rest fr}, Φ (.spread name dirs :: rest) → cx.doc.frag name = some fr →
    Spec.doesFragmentTypeApply cx.schema rt fr.cond = true → Φ fr.sels
  dirs : ∀ {sel rest}, Φ (sel :: rest) → Spec.included cx (selDirs sel) = none → E

def OutI (I : SG → Prop) (E : Prop) : Out ErrKind (SG × List Name) → Prop
  | .ok (gs, _) => I gs
  | .err _ => E
  | .crash _ => True

variable {cx : Spec.Ctx} {rt : Name} {Φ : List Selection → Prop} {I : SG → Prop} {E : Prop}
variable (h : CollectInv cx rt Φ I E)
variable (srecur : List Selection → List Name → Out ErrKind (SG × List Name))
variable (hrec : ∀ sels vis, Φ sels → OutI I E (srecur sels vis))

theorem OutI.bind {r : Spec.COut} {k : SG × List Name → Spec.COut} (hr : OutI I E r)
    (hk : ∀ p, I p.1 → OutI I E (k p)) : OutI I E (r.bind k) := by
  cases r with
  | ok p => exact hk p hr
  | err e => exact hr
  | crash c => exact hr

theorem OutI.guarded {inc : Option Bool} {acc : SG} {vis : List Name} {body : Spec.COut}
    (hE : inc = none → E) (hacc : I acc) (hb : OutI I E body) :
    OutI I E (Spec.guarded inc acc vis body) := by
  cases inc with
  | none => exact hE rfl
  | some b => cases b <;> assumption

include h in
theorem OutI.merging {acc : SG} {r : Spec.COut} (hacc : I acc) (hr : OutI I E r) :
    OutI I E (Spec.merging acc r) :=
  hr.bind fun _ hfg => h.merge hacc hfg

include h hrec in
mutual
theorem collectOne_inv : (sel : Selection) → ∀ (rest : List Selection) (acc : SG) (vis : List Name),
    Φ (sel :: rest) → I acc → OutI I E (Spec.collectOne cx rt srecur sel acc vis)
  | .field alias name args dirs sels, rest, acc, vis, hΦ, hacc => by
    rw [Spec.collectOne_field]
    exact .guarded (h.dirs hΦ) hacc (h.field hΦ hacc)
  | .spread name dirs, rest, acc, vis, hΦ, hacc => by
    obtain ⟨body, e, hb⟩ := Spec.collectOne_spread cx rt srecur name dirs acc vis
    rw [e]
    refine .guarded (h.dirs hΦ) hacc ?_
    rcases hb with ⟨_, _, rfl⟩ | ⟨fr, _, hf, happ, rfl⟩
    · exact hacc
    · exact .merging h hacc (hrec _ _ (h.spread hΦ hf happ))
  | .inline cond dirs sels, rest, acc, vis, hΦ, hacc => by
    obtain ⟨body, e, hb⟩ := Spec.collectOne_inline cx rt srecur cond dirs sels acc vis
    rw [e]
    refine .guarded (h.dirs hΦ) hacc ?_
    rcases hb with rfl | ⟨happ, rfl⟩
    · exact hacc
    · exact .merging h hacc (collectLoop_inv sels [] vis (h.inline hΦ happ) h.nil)

theorem collectLoop_inv : (sels : List Selection) → ∀ (acc : SG) (vis : List Name),
    Φ sels → I acc → OutI I E (Spec.collectLoop cx rt srecur sels acc vis)
  | [], acc, vis, _, hacc => by unfold Spec.collectLoop; exact hacc
  | sel :: rest, acc, vis, hΦ, hacc => by
    rw [Spec.collectLoop_cons]
    exact (collectOne_inv sel rest acc vis hΦ hacc).bind fun p hp =>
      collectLoop_inv rest p.1 p.2 (h.tail hΦ) hp
end

include h in
theorem collectFieldsFuel_inv : ∀ (n : Nat) (sels : List Selection) (vis : List Name), Φ sels →
    OutI I E (Spec.collectFieldsFuel cx rt n sels vis)
  | 0, _, _, _ => trivial
  | n + 1, sels, vis, hΦ => by
    unfold Spec.collectFieldsFuel
    exact collectLoop_inv h _ (fun s v hs => collectFieldsFuel_inv n s v hs) sels [] vis hΦ h.nil

include h in
theorem collectFields_inv {sels : List Selection} (hΦ : Φ sels) :
    match Spec.collectFields cx rt sels with
    | .ok gs => I gs
    | .err _ => E
    | .crash _ => True := by
  have h1 := collectFieldsFuel_inv h (Spec.fuelOf cx.doc) sels [] hΦ
  unfold Spec.collectFields
  revert h1
  cases Spec.collectFieldsFuel cx rt (Spec.fuelOf cx.doc) sels [] with
  | crash c => exact id
  | err e => exact id
  | ok r => exact id

theorem collectFields_nodup (scx : Spec.Ctx) (rt : Name) (sels : List Selection) (gs : SG)
    (h : Spec.collectFields scx rt sels = .ok gs) : (keys gs).Nodup := by
  have hi : CollectInv scx rt (fun _ => True) (fun gs => (keys gs).Nodup) True :=
    { nil := by simp [keys], merge := fun h _ => nodup_keys_mergeGroups _ _ h,
      field := fun _ h => nodup_keys_appendGroup _ _ _ h, tail := id,
      inline := fun _ _ => trivial, spread := fun _ _ _ => trivial, dirs := fun _ _ => trivial }
  simpa [h] using collectFields_inv hi (sels := sels) trivial

end Gql.Exec.Refine
