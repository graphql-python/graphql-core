import Gql.Proofs.LexerSuffix
/-!
# `read_number` against the number productions of the lexical grammar

`read_number` is read as a chain of stages in continuation form (`numStaged`); each stage is
compared with the list of candidates the grammar still allows from that point (`NumAgree`): the
lexer returns a token exactly when one candidate is left.
-/
open Gql Gql.Text
namespace Gql.Text
open Gql.Spec.Lex

/-! ### `read_number` in stages, direct style

Each stage returns the position it reached (`readNumberStaged`); the proofs use the continuation
form `numStaged` (LexerBasic), which is what `readNumber`'s join points unfold to. -/

/-- IntegerPart after the optional sign: returns the position after it. -/
def numIntPart (body : List Nat) (p : Nat) : LexOut Nat :=
  if charAt body p = some 48 then
    if isDigitOpt (charAt body (p + 1)) then .err ⟨.digitAfterZero, p + 1⟩ else pure (p + 1)
  else readDigits body p (charAt body p)

def numFracPart (body : List Nat) (p : Nat) : LexOut (Nat × Bool) :=
  if charAt body p = some 46 then do
    let q ← readDigits body (p + 1) (charAt body (p + 1))
    pure (q, true)
  else pure (p, false)

def numExpPart (body : List Nat) (p : Nat) : LexOut (Nat × Bool) :=
  if charAt body p = some 69 ∨ charAt body p = some 101 then do
    let p' := if charAt body (p + 1) = some 43 ∨ charAt body (p + 1) = some 45 then p + 2 else p + 1
    let q ← readDigits body p' (charAt body p')
    pure (q, true)
  else pure (p, false)

def readNumberStaged (body : List Nat) (st : LexState) (start : Nat) (first : Nat) : LexOut Token := do
  let p0 := if first = 45 then start + 1 else start
  let p1 ← numIntPart body p0
  let (p2, f1) ← numFracPart body p1
  let (p3, f2) ← numExpPart body p2
  numFinish body st start p3 (f1 || f2)

theorem digitsLen_cons (c : Nat) (r : List Nat) :
    digitsLen (c :: r) = if Digit c then digitsLen r + 1 else 0 := rfl

/-! The number parts of the grammar in the form in which `read_number` tests them: by the first code
points of the text. -/

theorem unsignedIntegerPart?_eq (s : List Nat) :
    unsignedIntegerPart? s = if s.head? = some 48 then some 1 else digits1? s := by
  cases s with
  | nil => rfl
  | cons c r =>
    simp only [unsignedIntegerPart?, List.head?_cons, Option.some.injEq, digits1?, digitsLen_cons]
    by_cases h : c = 48
    · rw [if_pos h, if_pos h]
    · rw [if_neg h, if_neg h]
      by_cases hd : Digit c
      · simp only [if_pos hd, if_pos (show NonZeroDigit c by unfold Digit at hd; unfold NonZeroDigit; omega)]
        rw [if_neg (by omega), Nat.add_comm]
      · simp only [if_neg hd, if_neg (show ¬ NonZeroDigit c by unfold Digit at hd; unfold NonZeroDigit; omega)]
        rfl

theorem fractionalPart?_eq (s : List Nat) :
    fractionalPart? s = if s.head? = some 46 then (digits1? (s.drop 1)).map (· + 1) else none := by
  cases s <;> simp [fractionalPart?]

theorem exponentPart?_eq (s : List Nat) :
    exponentPart? s =
      if s.head? = some 69 ∨ s.head? = some 101 then
        (digits1? (s.drop (if (s.drop 1).head? = some 43 ∨ (s.drop 1).head? = some 45 then 2 else 1))).map
          (· + (if (s.drop 1).head? = some 43 ∨ (s.drop 1).head? = some 45 then 2 else 1))
      else none := by
  match s with
  | [] => rfl
  | [e] => by_cases he : e = 69 ∨ e = 101 <;> simp [exponentPart?, he, digits1?, digitsLen]
  | e :: c :: r =>
    by_cases he : e = 69 ∨ e = 101 <;> by_cases hc : c = 43 ∨ c = 45 <;> simp [exponentPart?, he, hc]

theorem digitsLen_stop (s : List Nat) : ∀ c, (s.drop (digitsLen s)).head? = some c → ¬ Digit c := by
  induction s with
  | nil => intro c h; simp [digitsLen] at h
  | cons a r ih =>
    intro c h
    rw [digitsLen_cons] at h
    by_cases ha : Digit a
    · rw [if_pos ha] at h; simp at h; exact ih c (by simpa using h)
    · rw [if_neg ha] at h; simp at h; subst h; exact ha

def NoDigitAt (body : List Nat) (p : Nat) : Prop := ∀ c, charAt body p = some c → ¬ Digit c

theorem isDigitOpt_iff (o : Option Nat) : isDigitOpt o = true ↔ ∃ c, o = some c ∧ Digit c := by
  cases o with
  | none => simp [isDigitOpt]
  | some c => simp [isDigitOpt, isDigit_iff]

theorem readDigits_spec (body : List Nat) (p : Nat) :
    readDigits body p (charAt body p) =
      match digits1? (body.drop p) with
      | some n => .ok (p + n)
      | none => .err ⟨.expectedDigit, p⟩ := by
  rw [readDigits_eq, digEnd_eq]
  by_cases hp : p < body.length
  · rw [List.drop_eq_getElem_cons hp]
    have hc : charAt body p = some body[p] := by simp [charAt, hp]
    unfold digits1?
    rw [digitsLen_cons, hc]
    by_cases hd : Digit body[p]
    · rw [if_pos (show isDigitOpt (some body[p]) = true from (isDigit_iff _).mpr hd), if_pos hd, if_neg (by omega)]
      simp only []; congr 1; omega
    · rw [if_neg (show ¬ isDigitOpt (some body[p]) = true from fun h => hd ((isDigit_iff _).mp h)), if_neg hd,
        if_pos rfl]
  · have hc : charAt body p = none := by simp [charAt]; omega
    rw [hc, List.drop_eq_nil_of_le (as := body) (i := p) (by omega)]
    rfl

theorem digits1?_some {s : List Nat} {n : Nat} (h : digits1? s = some n) :
    n = digitsLen s ∧ 0 < n := by
  unfold digits1? at h
  split at h
  · simp at h
  · simp at h; omega

theorem noDigitAt_after (body : List Nat) (p n : Nat) (h : digits1? (body.drop p) = some n) :
    NoDigitAt body (p + n) := by
  obtain ⟨hn, _⟩ := digits1?_some h
  intro c hc
  rw [charAt_eq_head] at hc
  have := digitsLen_stop (body.drop p) c
  rw [List.drop_drop] at this
  rw [hn] at hc
  exact this hc

/-- Agreement of a number-reading continuation with a list of candidates of the grammar:
a token exactly when there is exactly one candidate, with that candidate's kind and length. -/
def NumAgree (body : List Nat) (st : LexState) (start : Nat) (r : LexOut Token)
    (cands : List (Bool × Nat)) : Prop :=
  match r with
  | .ok t => ∃ fl n, cands = [(fl, n)] ∧ 0 < n ∧
      t = mkToken st (if fl then .float else .int) start (start + n) (some (slice body start (start + n)))
  | .err _ => cands = []
  | .crash _ => False

theorem numberLookaheadOk_iff (body : List Nat) (p : Nat) (hnd : NoDigitAt body p) :
    numberLookaheadOk (body.drop p) = true ↔
      ¬ (charAt body p = some 46 ∨ isNameStartOpt (charAt body p) = true) := by
  rw [charAt_eq_head] at *
  unfold NoDigitAt at hnd
  rw [charAt_eq_head] at hnd
  cases hs : body.drop p with
  | nil => simp [numberLookaheadOk, isNameStartOpt]
  | cons c r =>
    rw [hs] at hnd
    have := hnd c rfl
    simp [numberLookaheadOk, isNameStartOpt, isNameStart_iff, this]

theorem numFinish_agree (body : List Nat) (st : LexState) (start n : Nat) (f : Bool) (hn : 0 < n)
    (hnd : NoDigitAt body (start + n)) :
    NumAgree body st start (numFinish body st start (start + n) f)
      (if numberLookaheadOk (body.drop (start + n)) then [(f, n)] else []) := by
  unfold numFinish
  by_cases hl : charAt body (start + n) = some 46 ∨ isNameStartOpt (charAt body (start + n)) = true
  · rw [if_pos hl, if_neg (by rw [numberLookaheadOk_iff _ _ hnd]; exact fun h => h hl)]
    rfl
  · rw [if_neg hl, if_pos ((numberLookaheadOk_iff _ _ hnd).mpr hl)]
    exact ⟨f, n, rfl, hn, rfl⟩

theorem NumAgree.bind_digits (body : List Nat) (st : LexState) (start p : Nat)
    (k : Nat → LexOut Token) (cands : List (Bool × Nat))
    (hnone : digits1? (body.drop p) = none → cands = [])
    (hsome : ∀ d, digits1? (body.drop p) = some d → 0 < d → NoDigitAt body (p + d) →
      NumAgree body st start (k (p + d)) cands) :
    NumAgree body st start (readDigits body p (charAt body p) >>= k) cands := by
  rw [readDigits_spec]
  cases hd : digits1? (body.drop p) with
  | none => simp only [Out.bind_err]; exact hnone hd
  | some d => simp only [Out.bind_ok]; exact hsome d hd (digits1?_some hd).2 (noDigitAt_after body p d hd)

theorem numTailExp_agree (body : List Nat) (st : LexState) (start n : Nat) (f : Bool) (hn : 0 < n)
    (hnd : NoDigitAt body (start + n)) :
    NumAgree body st start (numTailExp body st start (start + n) f)
      (expCandidates (body.drop (start + n)) n f) := by
  unfold numTailExp expCandidates
  rw [exponentPart?_eq]
  simp only [List.drop_drop, ← charAt_eq_head]
  by_cases he : charAt body (start + n) = some 69 ∨ charAt body (start + n) = some 101
  · rw [if_pos he, if_pos he]
    -- the exponent indicator is a NameStart: the production without exponent is out
    have hlook : numberLookaheadOk (body.drop (start + n)) = false := by
      rcases he with he | he <;> rw [drop_of_charAt he] <;> rfl
    -- `k`: the indicator with or without a sign
    generalize hk : (if charAt body (start + n + 1) = some 43 ∨ charAt body (start + n + 1) = some 45
      then 2 else 1) = k
    have hp' : (if charAt body (start + n + 1) = some 43 ∨ charAt body (start + n + 1) = some 45
        then start + n + 2 else start + n + 1) = start + n + k := by rw [← hk]; split <;> rfl
    simp only [hlook, hp', Bool.false_eq_true, if_false, List.nil_append]
    apply NumAgree.bind_digits
    · intro hd; rw [hd]; rfl
    · intro d hd _ hnd'
      have e : start + n + k + d = start + (n + (d + k)) := by omega
      rw [hd, e]
      simp only [Option.map_some, Nat.add_assoc]
      exact numFinish_agree body st start (n + (d + k)) true (by omega) (e ▸ hnd')
  · rw [if_neg he, if_neg he, List.append_nil]
    exact numFinish_agree body st start n f hn hnd

theorem numTailFrac_agree (body : List Nat) (st : LexState) (start n : Nat) (hn : 0 < n)
    (hnd : NoDigitAt body (start + n)) :
    NumAgree body st start (numTailFrac body st start (start + n))
      (expCandidates ((body.drop start).drop n) n false ++
        match fractionalPart? ((body.drop start).drop n) with
        | some f => expCandidates ((body.drop start).drop (n + f)) (n + f) true
        | none => []) := by
  unfold numTailFrac
  rw [fractionalPart?_eq]
  simp only [List.drop_drop, ← charAt_eq_head]
  by_cases hdot : charAt body (start + n) = some 46
  · rw [if_pos hdot, if_pos hdot]
    -- after the IntegerPart a `.` rules out both productions without a FractionalPart
    have h0 : expCandidates (body.drop (start + n)) n false = [] := by
      rw [drop_of_charAt hdot]; rfl
    rw [h0, List.nil_append]
    apply NumAgree.bind_digits
    · intro hd; rw [hd]; rfl
    · intro d hd _ hnd'
      have e : start + n + 1 + d = start + (n + (d + 1)) := by omega
      rw [hd, e]
      exact numTailExp_agree body st start (n + (d + 1)) true (by omega) (e ▸ hnd')
  · rw [if_neg hdot, if_neg hdot, List.append_nil]
    exact numTailExp_agree body st start n false hn hnd

/-- `sign` is the length of the NegativeSign, `hs` what `integerPart?` does with it. -/
theorem numStaged_agree (body : List Nat) (st : LexState) (start sign : Nat)
    (hs : integerPart? (body.drop start) = (unsignedIntegerPart? (body.drop (start + sign))).map (· + sign)) :
    NumAgree body st start (numStaged body st start (start + sign)) (numberCandidates (body.drop start)) := by
  unfold numStaged numberCandidates
  rw [hs, unsignedIntegerPart?_eq, ← charAt_eq_head]
  by_cases hz : charAt body (start + sign) = some 48
  · rw [if_pos hz, if_pos hz]
    have e : start + sign + 1 = start + (1 + sign) := by omega
    by_cases hd : isDigitOpt (charAt body (start + sign + 1)) = true
    · rw [if_pos hd]
      -- `0` followed by a digit: no production matches
      obtain ⟨c, hc1, hdc⟩ := (isDigitOpt_iff _).mp hd
      have hD := hdc
      unfold Digit at hD
      show expCandidates _ _ _ ++ _ = []
      rw [List.drop_drop, ← e, drop_of_charAt hc1]
      simp [expCandidates, numberLookaheadOk, exponentPart?, fractionalPart?, hdc,
        show ¬ (c = 69 ∨ c = 101) by omega, show c ≠ 46 by omega]
    · rw [if_neg hd, e]
      exact numTailFrac_agree body st start (1 + sign) (by omega)
        (e ▸ fun c hc hdc => hd ((isDigitOpt_iff _).mpr ⟨c, hc, hdc⟩))
  · rw [if_neg hz, if_neg hz]
    apply NumAgree.bind_digits
    · intro hd; rw [hd]; rfl
    · intro d hd hd0 hnd
      have e : start + sign + d = start + (d + sign) := by omega
      rw [hd, e]
      exact numTailFrac_agree body st start (d + sign) (by omega) (e ▸ hnd)

theorem readNumber_agree (body : List Nat) (st : LexState) (start : Nat) (h : start < body.length) :
    NumAgree body st start (readNumber body st start body[start])
      (numberCandidates (body.drop start)) := by
  rw [readNumber_eq_staged body st start _ (by simp [charAt, h])]
  have hdrop := List.drop_eq_getElem_cons h
  split
  · rename_i h45
    exact numStaged_agree body st start 1 (by rw [hdrop, h45]; rfl)
  · rename_i h45
    exact numStaged_agree body st start 0 (by rw [Nat.add_zero, hdrop]; simp [integerPart?, h45])

/-- Agreement of a token-reading result at `pos` with a match of the lexical grammar. -/
def TokAgree (pos : Nat) (r : LexOut (Token × LexState)) (m : Option Match) : Prop :=
  match r with
  | .ok (t, _) => ∃ mm, m = some mm ∧ toSpec t = ⟨mm.kind, pos, pos + mm.len, mm.value⟩ ∧
      0 < mm.len ∧ t.kind ≠ .eof ∧ t.kind ≠ .comment
  | .err _ => m = none
  | .crash _ => False

theorem longest_single (c : Bool × Nat) : longest [c] = some c := rfl

/-- IntValue / FloatValue: `read_number` returns exactly the longest number production. -/
theorem readNumber_tokAgree (body : List Nat) (st : LexState) (start : Nat) (h : start < body.length) :
    TokAgree start ((readNumber body st start body[start]) >>= fun t => pure (t, st))
      (number? (body.drop start)) := by
  have := readNumber_agree body st start h
  unfold number?
  cases hr : readNumber body st start body[start] with
  | ok t =>
    rw [hr] at this
    obtain ⟨fl, n, hc, hn, rfl⟩ := this
    rw [hc, longest_single]
    simp only [Out.bind_ok, Out.pure_eq]
    refine ⟨_, rfl, ?_, hn, ?_, ?_⟩
    · cases fl <;> simp [toSpec, mkToken, kindOf, slice]
    all_goals cases fl <;> simp [mkToken]
  | err e =>
    rw [hr] at this
    have hc : numberCandidates (body.drop start) = [] := this
    rw [hc]; rfl
  | crash c => rw [hr] at this; exact this.elim
end Gql.Text
