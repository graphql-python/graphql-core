import Gql.Proofs.BlockRoundtrip
/-!
`is_printable_as_block_string(v)` implies that `v` is block-representable: whatever the schema
printer decides to print as a block string can be denoted by a block string literal (and so, by
`block_roundtrip`, reads back unchanged).
-/
namespace Gql.Text

def blankL (l : List Nat) : Bool := l.all isBlankCh

theorem blankL_iff (l : List Nat) : blankL l = true ↔ Blank l := by
  rw [← isBlank_iff]
  simp only [blankL, Gql.Spec.Lex.isBlank, List.all_eq_true, isBlankCh, decide_eq_true_iff, Bool.or_eq_true]
  exact forall₂_congr fun c _ => by unfold Gql.Spec.Lex.WhiteSpace; omega

/-- What the loop state says about the lines read so far (`done`, then the current line `cur`). -/
structure PInv (st : PrintableSt) (done : List (List Nat)) (cur : List Nat) : Prop where
  e : st.isEmptyLine = blankL cur
  i : st.hasIndent = startsBlank cur
  ci : st.hasCommonIndent = (done ++ [cur]).all emptyOrIndented
  s : st.seenNonEmptyLine = !done.isEmpty
  hd : ∀ l, done.head? = some l → blankL l = false

theorem blankL_snoc (cur : List Nat) (c : Nat) : blankL (cur ++ [c]) = (blankL cur && isBlankCh c) := by
  simp [blankL, List.all_append]

/-- The state after a character other than LF. -/
theorem PInv.push {st : PrintableSt} {done : List (List Nat)} {cur : List Nat} (inv : PInv st done cur)
    (c : Nat) :
    PInv (if isBlankCh c then { st with hasIndent := st.hasIndent || st.isEmptyLine }
      else { st with hasCommonIndent := st.hasCommonIndent && st.hasIndent, isEmptyLine := false })
      done (cur ++ [c]) := by
  obtain ⟨e, i, ci, s, hd⟩ := inv
  rw [List.all_append, List.all_cons, List.all_nil, Bool.and_true] at ci
  cases hb : isBlankCh c <;> refine ⟨?_, ?_, ?_, s, hd⟩ <;>
    simp only [Bool.false_eq_true, ↓reduceIte, blankL_snoc, hb, List.all_append, List.all_cons, List.all_nil,
      Bool.and_true, Bool.and_false, e, i, ci]
  -- a character that is not blank: the line is not blank, and it is indented iff it was so far
  · cases cur <;> simp [startsBlank, hb]
  · cases cur <;> simp [startsBlank, emptyOrIndented, hb]
  -- a blank character: it indents the line iff the line was blank so far
  · cases cur with
    | nil => simp [startsBlank, hb, blankL]
    | cons a r => cases ha : isBlankCh a <;> simp [startsBlank, blankL, ha]
  · cases cur <;> simp [emptyOrIndented, hb]

theorem loop_inv : ∀ (r : List Nat) (st st' : PrintableSt) (done : List (List Nat)) (cur : List Nat),
    printableLoop r st = some st' → PInv st done cur →
    ∃ done' cur', done ++ linesFrom cur r = done' ++ [cur'] ∧ PInv st' done' cur' ∧ (∀ c ∈ r, c ≠ 13) := by
  intro r
  induction r with
  | nil =>
    intro st st' done cur h inv
    simp [printableLoop] at h
    subst h
    exact ⟨done, cur, by simp [linesFrom], inv, by simp⟩
  | cons c r ih =>
    intro st st' done cur h inv
    have hcons : ∀ {d}, d ≠ 13 → (∀ x ∈ r, x ≠ 13) → ∀ x ∈ d :: r, x ≠ 13 :=
      fun hd h13 x hx => (List.mem_cons.mp hx).elim (fun e => e ▸ hd) (h13 x)
    rw [printableLoop] at h
    by_cases h10 : c = 10
    · subst h10
      simp only [↓reduceIte] at h
      split at h
      · cases h
      · rename_i hacc
        obtain ⟨done', cur', hl, hinv, h13⟩ := ih _ st' (done ++ [cur]) [] h
          ⟨rfl, rfl, by simp [inv.ci, List.all_append, emptyOrIndented], by simp, by
            intro l hl
            cases done with
            | nil =>
              simp only [List.nil_append, List.head?_cons, Option.some.injEq] at hl
              subst hl
              have hs := inv.s
              simp only [List.isEmpty_nil, Bool.not_true] at hs
              simpa [hs, inv.e] using hacc
            | cons d ds => exact inv.hd l (by simpa using hl)⟩
        exact ⟨done', cur', by simpa [linesFrom, List.append_assoc] using hl, hinv, hcons (by decide) h13⟩
    · simp only [h10, ↓reduceIte] at h
      by_cases hb : c = 32 ∨ c = 9
      · have hbc : isBlankCh c = true := by rcases hb with h' | h' <;> subst h' <;> decide
        simp only [hb, ↓reduceIte] at h
        have hp := inv.push c
        rw [hbc, if_pos rfl] at hp
        obtain ⟨done', cur', hl, hinv, h13⟩ := ih _ st' done (cur ++ [c]) h hp
        exact ⟨done', cur', by simpa [linesFrom, h10] using hl, hinv, hcons (by rcases hb with h' | h' <;> omega) h13⟩
      · have hbc : isBlankCh c = false := by
          simp only [not_or] at hb
          simp [isBlankCh, hb.1, hb.2]
        simp only [hb, ↓reduceIte] at h
        by_cases h15 : c ≤ 15
        · simp [h15] at h
        · simp only [h15, ↓reduceIte] at h
          have hp := inv.push c
          rw [hbc, if_neg Bool.false_ne_true] at hp
          obtain ⟨done', cur', hl, hinv, h13⟩ := ih _ st' done (cur ++ [c]) h hp
          exact ⟨done', cur', by simpa [linesFrom, h10] using hl, hinv, hcons (by omega) h13⟩

/-- `is_printable_as_block_string(v)` ⟹ `BlockRepresentable v`. -/
theorem printable_representable (v : List Nat) (h : isPrintableAsBlockString v = true) :
    BlockRepresentable v := by
  cases v with
  | nil => rfl
  | cons a r =>
    unfold isPrintableAsBlockString at h
    simp only at h
    cases hl : printableLoop (a :: r) {} with
    | none => simp [hl] at h
    | some st' =>
      simp only [hl] at h
      have hinv0 : PInv {} [] [] := by
        constructor <;> simp [blankL, startsBlank, emptyOrIndented]
      obtain ⟨done', cur', hlines, hinv, h13⟩ := loop_inv (a :: r) {} st' [] [] hl hinv0
      simp only [List.nil_append] at hlines
      rw [linesFrom_nil] at hlines
      have he : st'.isEmptyLine = false := by
        cases hx : st'.isEmptyLine with
        | false => rfl
        | true => simp [hx] at h
      have hcs : (st'.hasCommonIndent && st'.seenNonEmptyLine) = false := by
        cases hx : (st'.hasCommonIndent && st'.seenNonEmptyLine) with
        | false => rfl
        | true => simp [he, hx] at h
      have hcurNB : blankL cur' = false := by rw [← hinv.e]; exact he
      have hnb : ∀ {l : List Nat}, blankL l = false → ¬ Blank l :=
        fun hb h => by rw [(blankL_iff _).mpr h] at hb; cases hb
      refine (blockRepresentable_iff _).mpr (.inr ⟨h13, ?_⟩)
      rw [hlines]
      cases hd : done' with
      | nil => exact ⟨cur', cur', rfl, rfl, hnb hcurNB, hnb hcurNB, Or.inl rfl⟩
      | cons d ds =>
        -- a line was finished, so the loop has found a line that is not indented
        have hs : st'.seenNonEmptyLine = true := by rw [hinv.s, hd]; rfl
        have hci : (done' ++ [cur']).all emptyOrIndented = false := by
          rw [← hinv.ci]; simpa [hs] using hcs
        obtain ⟨l, hlmem, hlv⟩ := List.all_eq_false.mp hci
        rw [hd] at hlmem
        exact ⟨d, cur', rfl, List.getLast?_concat, hnb (hinv.hd d (by simp [hd])), hnb hcurNB,
          Or.inr ⟨l, hlmem, (emptyOrIndented_false_iff l).mp (by simpa using hlv)⟩⟩

end Gql.Text
