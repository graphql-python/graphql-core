import Gql.Proofs.SchemaDcDfs
import Gql.Proofs.SchemaDfs
/-!
Lemmas for C20: neither circular-reference validator exhausts its recursion budget; the
specification's InputObjectDefaultValueHasCycle is a path search of the same graph
(`specHit_iff`), so (for well-formed names) the default-value validator
reports nothing exactly when it is false for every input object type (`dcThread_iff`).
-/
namespace Gql.Types
open Gql

theorem cycleErrs_oof (s : RawSchema) (t : NamedType) (st : VState) (h : st.outOfFuel = false) :
    (cycleErrs s t st).2.outOfFuel = false := by
  unfold cycleErrs
  cases t.defn <;> simp only [h]
  exact runDC_terminates s _ _ (runNN_terminates s _ _ h)

theorem validateTypesLoop_oof (s : RawSchema)
    (dflt : RawSchema → InputValue → Str → Out Unit (List Err)) :
    ∀ (ts : List NamedType) (st : VState) (r : List Err × VState), st.outOfFuel = false →
      validateTypesLoop s dflt ts st = .ok r → r.2.outOfFuel = false
  | [], st, r, h, hr => by
    simp only [validateTypesLoop, Out.ok.injEq] at hr; subst hr; exact h
  | t :: ts, st, (es, st'), h, hr => by
    obtain ⟨e, es', _, hrest, _⟩ := (validateTypesLoop_cons_ok s dflt t ts st st' es).mp hr
    exact validateTypesLoop_oof s dflt ts _ (es', st') (cycleErrs_oof s t st h) hrest

theorem validateSchemaOutOfFuel_false (s : RawSchema) : validateSchemaOutOfFuel s = false := by
  obtain ⟨ds, ts, st, _, h2, h3⟩ := validateSchemaWith_eq s validateDefault (validateDefault_isOk s)
  unfold validateSchemaOutOfFuel
  rw [h3]
  exact validateTypesLoop_oof s validateDefault s.types _ (ts, st) rfl h2

/-- InputFieldDefaultValueHasCycle's "otherwise" branch, on a reached field -/
def specHit (s : RawSchema) (b : Nat) (visited : List Str) (x : DNode) : Bool :=
  Spec.fieldDefaultHasCycle s b visited x.f x.m x.c

theorem specHit_succ (s : RawSchema) (b : Nat) (visited : List Str) (x : DNode) :
    specHit s (b + 1) visited x =
      (x.f.default.isSome && (visited.contains x.c || (succD s x).any (specHit s b (x.c :: visited)))) := by
  show Spec.fieldDefaultHasCycle s (b + 1) visited x.f x.m x.c = _
  rw [Spec.fieldDefaultHasCycle]
  cases hd : x.f.default with
  | none => rfl
  | some v =>
    simp only
    rw [valueHasCycle_eq]
    simp only [anyNode, succD, hd]
    rfl

/-- The search with the fields of `visited` on its path succeeds exactly when `x` reaches a field
with a default that is on the path or reaches itself (`y`); a field that comes round to the one
the search is at (`x`) is such a `y` for the caller. -/
theorem specHit_iff (s : RawSchema) (hwf : NamesWF s) : ∀ (b : Nat) (visited : List Str) (x : DNode),
    NodeOK s x → Unmarked.count (coordUniverse s) visited < b →
    (specHit s b visited x = true ↔
      ∃ y, RStar (EdgeD s) x y ∧ Live y ∧ (y.c ∈ visited ∨ RPlus (EdgeD s) y y))
  | 0, _, _, _, h => by omega
  | b + 1, visited, x, hok, hb => by
    rw [specHit_succ]
    simp only [Bool.and_eq_true, Bool.or_eq_true, List.any_eq_true, List.contains_eq_mem, decide_eq_true_eq]
    by_cases hc : x.c ∈ visited
    · exact ⟨fun h => ⟨x, .refl x, h.1, Or.inl hc⟩,
        fun ⟨y, hr, hl, _⟩ => ⟨Graph.rstar_live (G := dcGraph s) hr hl, Or.inl hc⟩⟩
    · have hlt := Unmarked.count_cons_lt (node_mem_universe hok) hc
      have ih := fun w (hw : EdgeD s x w) =>
        specHit_iff s hwf b (x.c :: visited) w (succD_ok hw) (by omega)
      constructor
      · rintro ⟨hl, hcon | ⟨w, hw, hhit⟩⟩
        · exact absurd hcon hc
        · obtain ⟨y, hr, hly, hy | hy⟩ := (ih w hw).mp hhit
          · rcases List.mem_cons.mp hy with hyc | hyv
            · obtain rfl := node_inj hwf (Graph.rstar_ok (G := dcGraph s) hr (succD_ok hw)) hok hyc
              exact ⟨y, .refl y, hl, Or.inr ⟨w, hw, hr⟩⟩
            · exact ⟨y, .step hw hr, hly, Or.inl hyv⟩
          · exact ⟨y, .step hw hr, hly, Or.inr hy⟩
      · rintro ⟨y, hr, hly, hy⟩
        refine ⟨Graph.rstar_live (G := dcGraph s) hr hly, Or.inr ?_⟩
        cases hr with
        | refl =>
          obtain ⟨w, e, hr'⟩ := hy.resolve_left hc
          exact ⟨w, e, (ih w e).mpr ⟨x, hr', hly, Or.inl List.mem_cons_self⟩⟩
        | step e hr' => exact ⟨_, e, (ih _ e).mpr ⟨y, hr', hly, hy.imp_left (List.mem_cons_of_mem _)⟩⟩

/-- InputObjectDefaultValueHasCycle(inputObject) is true exactly when one of the object's fields
(of input object type, its own default applying) reaches a field that reaches itself. -/
theorem defaultValueHasCycle_iff (s : RawSchema) (hwf : NamesWF s) (tn : Str) :
    Spec.defaultValueHasCycle s tn = true ↔ ∃ x ∈ needObject s tn [], ReachesCycle s x := by
  unfold Spec.defaultValueHasCycle
  rw [objectHasCycle_eq s _ tn [] [] (fun k => by simp [lookupLast, SRel])]
  have hB : Unmarked.count (coordUniverse s) [] < Spec.inputFieldCount s + 1 := dcUnvisited_lt_fuel s []
  simp only [anyNode, List.any_eq_true]
  refine exists_congr fun x => and_congr_right fun hx =>
    (specHit_iff s hwf _ [] x (startNodes_ok s tn x hx) hB).trans ?_
  exact exists_congr fun y => and_congr_right fun _ =>
    ⟨fun h => h.2.resolve_left (by simp), fun h => ⟨edge_live h.choose_spec.1, Or.inr h⟩⟩

/-- The default-value-cycle family. -/
theorem dcThread_iff (s : RawSchema) (hwf : NamesWF s) :
    dcThread s s.types [] = [] ↔
      ∀ t ∈ s.types, ∀ fs o, t.defn = .input fs o → Spec.defaultValueHasCycle s t.name = false := by
  have hspec := dcThread_spec s hwf s.types []
  constructor
  · intro hnil t ht fs o hdef
    refine Bool.eq_false_iff.mpr fun hv => ?_
    obtain ⟨x, hx, hcyc⟩ := (defaultValueHasCycle_iff s hwf t.name).mp hv
    exact hspec.2 hnil (fun n _ hn => by simp at hn) t ht fs o hdef x hx hcyc
  · refine fun hall => List.eq_nil_iff_forall_not_mem.mpr fun e he => ?_
    -- the field named by the error is a start field of its own type
    obtain ⟨_, ⟨f, m, c⟩, ⟨tn, fields, o, hl, hf, hm, hi, hc⟩, _, _, hcyc⟩ := hspec.1 e he
    obtain rfl : m = f.type.namedType := hm
    obtain rfl : c = dot tn f.name := hc
    obtain ⟨t, ht, rfl, hd⟩ := lookup_mem hl
    have hstart : ⟨f, f.type.namedType, dot t.name f.name⟩ ∈ needObject s t.name [] := by
      unfold needObject
      rw [hl]
      exact List.mem_flatMap.mpr ⟨f, hf, by simp [show s.isInputObject _ = true from hi, lookupLast]⟩
    exact Bool.false_ne_true ((hall t ht fields o hd).symm.trans
      ((defaultValueHasCycle_iff s hwf _).mpr ⟨_, hstart, _, .refl _, hcyc⟩))

end Gql.Types
