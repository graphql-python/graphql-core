import Gql.Proofs.SpecKeys

/-!
C02/C13 — the specification executor read as terms of a small algebra of results (`R.pure`,
`R.fail`, `absorb`, `R.mapOut`, `R.andThen`, a logged call), and its induction principle over that
algebra (`Walk`): a family of predicates on results that is closed under the ways the executor
builds a result holds of every run.  A predicate is carried over the executor by proving the
rules for it, none of which mentions an executor function.
-/

namespace Gql.Exec.Spec
variable {α β γ : Type}

def R.mapOut (f : α → β) (r : R α) : R β := { out := r.out.map f, errs := r.errs, log := r.log }

/-- `r`, then — unless `r` hands a null upwards — `rs`: the step of both sibling loops -/
def R.andThen (r : R α) (f : α → β → γ) (rs : R β) : R γ :=
  match r.out with
  | none => { out := none, errs := r.errs, log := r.log }
  | some v => { out := rs.out.map (f v), errs := r.errs ++ rs.errs, log := r.log ++ rs.log }

def consKey (k : Name) (v : Option Json) (kvs : List (Name × Json)) : List (Name × Json) :=
  match v with
  | some j => (k, j) :: kvs
  | none => kvs

theorem executeGroups_cons (cx : Ctx) (ot : Name) (child : Child) (pos : List PSeg) (k : Name)
    (fs : List FieldNode) (rest : Groups) :
    executeGroups cx ot child pos ((k, fs) :: rest) =
      (executeField cx ot child (pos ++ [.key k]) fs).andThen (consKey k)
        (executeGroups cx ot child pos rest) := by
  simp only [executeGroups, R.andThen]
  cases (executeField cx ot child (pos ++ [.key k]) fs).out with
  | none => rfl
  | some v => cases v <;> rfl

theorem completeItems_cons (cx : Ctx) (t : TypeRef) (fields : List FieldNode) (pos : List PSeg)
    (i : Nat) (x : RVal) (xs : List RVal) :
    completeItems cx t fields pos i (x :: xs) =
      (absorb t (completeValue cx t fields (pos ++ [.idx i]) x)).andThen List.cons
        (completeItems cx t fields pos (i + 1) xs) := by
  simp only [completeItems, R.andThen]
  cases (absorb t (completeValue cx t fields (pos ++ [.idx i]) x)).out <;> rfl

theorem coerceResult_cases (cx : Ctx) (pos : List PSeg) (n : Name) (l : PyLeaf) :
    coerceResult cx pos n l = R.fail pos .leaf ∨ ∃ j, coerceResult cx pos n l = R.pure j := by
  unfold coerceResult
  split
  · exact .inl rfl
  · exact .inr ⟨_, rfl⟩
  · exact .inl rfl

end Gql.Exec.Spec

namespace Gql.Exec.Refine
open Gql.Exec Gql.Exec.Spec

theorem resolve_ok {s : Schema} {n : Name} {tn : TN} {rt : Name}
    (h : Spec.resolveAbstractType s n tn = .ok rt) : s.kind rt = .object ∧ s.isSubType n rt = true := by
  cases tn with
  | missing => simp [Spec.resolveAbstractType] at h
  | bad => simp [Spec.resolveAbstractType] at h
  | name m =>
    simp only [Spec.resolveAbstractType] at h
    cases hl : s.lookup m with
    | none => simp [hl] at h
    | some d =>
      cases d with
      | object nm is fs =>
        simp only [hl] at h
        split at h
        · cases h
          rename_i hsub
          exact ⟨by simp [Schema.kind, hl], hsub⟩
        · cases h
      | _ => simp [hl] at h

theorem resolve_error {s : Schema} {n : Name} {tn : TN} {k : ErrKind}
    (h : Spec.resolveAbstractType s n tn = .error k) : k ≠ .argCoercion ∧ k ≠ .directiveCoercion := by
  cases tn with
  | name m =>
    simp only [Spec.resolveAbstractType] at h
    split at h
    · cases h; simp
    · split at h <;> cases h <;> simp
    · cases h; simp
  | _ => cases h <;> simp

/-- The three ways CompleteValue ends for a result that is not a list: a field error (never of a
kind that is the request's fault), output coercion of a leaf, or execution of the merged
sub-selections on an object type of the position's composite type. -/
theorem completeNamed_cases (cx : Spec.Ctx) (t : TypeRef) (fields : List FieldNode)
    (pos : List PSeg) (leaf? : Option PyLeaf) (tn : TN) (child : Spec.Child) :
    (∃ k, k ≠ .argCoercion ∧ k ≠ .directiveCoercion ∧
      Spec.completeNamed cx t fields pos leaf? tn child = Spec.R.fail pos k) ∨
    (∃ n l, Spec.completeNamed cx t fields pos leaf? tn child = Spec.coerceResult cx pos n l) ∨
    (∃ n nn rt, t = .named n nn ∧ cx.schema.kind n ≠ .leaf ∧ cx.schema.kind rt = .object ∧
      (rt = n ∨ cx.schema.isSubType n rt = true) ∧
      Spec.completeNamed cx t fields pos leaf? tn child =
        Spec.executeSelectionSet cx rt (Spec.mergeSelectionSets fields) pos child) := by
  unfold Spec.completeNamed
  cases t with
  | list t' nn => exact .inl ⟨_, by simp, by simp, rfl⟩
  | named n nn =>
    simp only
    cases hk : cx.schema.kind n with
    | leaf =>
      cases leaf? with
      | none => exact .inl ⟨_, by simp, by simp, rfl⟩
      | some l => exact .inr (.inl ⟨n, l, rfl⟩)
    | object => exact .inr (.inr ⟨n, nn, n, rfl, by simp [hk], hk, .inl rfl, rfl⟩)
    | abstract =>
      simp only
      cases hres : Spec.resolveAbstractType cx.schema n tn with
      | ok rt =>
        exact .inr (.inr ⟨n, nn, rt, rfl, by simp [hk], (resolve_ok hres).1, .inr (resolve_ok hres).2, rfl⟩)
      | error k => exact .inl ⟨k, (resolve_error hres).1, (resolve_error hres).2, rfl⟩
    | input => exact .inl ⟨_, by simp, by simp, rfl⟩
    | unknown => exact .inl ⟨_, by simp, by simp, rfl⟩

/-- The induction principle of the executor over the algebra.  Motives: `Φ` for a completed value
(type, fields, data), `ΦF` for an executed field (object type, resolver of the object value, the
fields of the group), `ΦG` for the groups, `ΦI` for the list items from index `i` on, each at a
response position.  One rule per way a result is built; `obj` and `call` carry the equations of
their branch, and a field error of a kind that is the request's fault (`fail`, `failF`) comes
with its cause: CollectFields or CoerceArgumentValues failed. -/
structure Walk (cx : Spec.Ctx)
    (Φ : TypeRef → List FieldNode → RVal → List PSeg → R Json → Prop)
    (ΦF : Name → (Name → ArgMap → RVal) → List FieldNode → List PSeg → R (Option Json) → Prop)
    (ΦG : Name → (Name → ArgMap → RVal) → Groups → List PSeg → R (List (Name × Json)) → Prop)
    (ΦI : TypeRef → List FieldNode → List RVal → List PSeg → Nat → R (List Json) → Prop) :
    Prop where
  pure : ∀ t fs d pos j, Φ t fs d pos (R.pure j)
  fail : ∀ {t fs d pos k}, (¬(k ≠ .argCoercion ∧ k ≠ .directiveCoercion) → ∃ n nn rt,
      t = .named n nn ∧ cx.schema.kind n ≠ .leaf ∧ cx.schema.kind rt = .object ∧
      (rt = n ∨ cx.schema.isSubType n rt = true) ∧
      collectFields cx rt (mergeSelectionSets fs) = .err k) → Φ t fs d pos (R.fail pos k)
  own : ∀ t fs tag p pos, Φ t fs (.raise tag (some p)) pos
    { out := none, errs := [{ path := some p, kind := .raised tag }], log := [] }
  obj : ∀ {n nn rt fs d pos gs r}, cx.schema.kind n ≠ .leaf → cx.schema.kind rt = .object →
    (rt = n ∨ cx.schema.isSubType n rt = true) →
    collectFields cx rt (mergeSelectionSets fs) = .ok gs → ΦG rt d.child gs pos r →
    Φ (.named n nn) fs d pos (r.mapOut Json.obj)
  list : ∀ {t nn fs xs pos r}, ΦI t fs xs pos 0 r → Φ (.list t nn) fs (.list xs) pos (r.mapOut Json.list)
  pureF : ∀ ot dc fs pos v, ΦF ot dc fs pos (R.pure v)
  failF : ∀ {ot dc fs pos k} t, (¬(k ≠ .argCoercion ∧ k ≠ .directiveCoercion) → ∃ f rest fd,
      fs = f :: rest ∧ (f.name == "__typename") = false ∧ cx.schema.getField ot f.name = some fd ∧
      coerceArgumentValues cx f.args fd.args [] = none) →
    ΦF ot dc fs pos ((absorb t (R.fail pos k)).mapOut some)
  call : ∀ {ot dc f rest pos fd a r}, (f.name == "__typename") = false →
    cx.schema.getField ot f.name = some fd → coerceArgumentValues cx f.args fd.args [] = some a →
    Φ fd.type (f :: rest) (dc f.name a) pos r →
    ΦF ot dc (f :: rest) pos ((absorb fd.type { r with log := ⟨pos, ot, f.name, a⟩ :: r.log }).mapOut some)
  nilG : ∀ ot dc pos, ΦG ot dc [] pos (R.pure [])
  consG : ∀ {ot dc k fs rest pos r rs}, k ∉ keys rest → ΦF ot dc fs (pos ++ [.key k]) r →
    ΦG ot dc rest pos rs → ΦG ot dc ((k, fs) :: rest) pos (r.andThen (consKey k) rs)
  nilI : ∀ t fs pos i, ΦI t fs [] pos i (R.pure [])
  consI : ∀ {t fs x xs pos i r rs}, Φ t fs x (pos ++ [.idx i]) r → ΦI t fs xs pos (i + 1) rs →
    ΦI t fs (x :: xs) pos i ((absorb t r).andThen List.cons rs)

namespace Walk
variable {cx Φ ΦF ΦG ΦI} (w : Walk cx Φ ΦF ΦG ΦI)
include w

theorem data {t : TypeRef} {fs : List FieldNode} {d : RVal} {pos : List PSeg} {k : ErrKind}
    (hk : k ≠ .argCoercion ∧ k ≠ .directiveCoercion) : Φ t fs d pos (R.fail pos k) :=
  w.fail fun h => absurd hk h

theorem null (t : TypeRef) (fs : List FieldNode) (pos : List PSeg) :
    Φ t fs .null pos (completeNull t pos) := by
  unfold Spec.completeNull
  split
  · exact w.data ⟨nofun, nofun⟩
  · exact w.pure ..

section
variable {child : Child} {dc : Name → ArgMap → RVal}
  (hch : ∀ name args t fields pos, Φ t fields (dc name args) pos (child name args t fields pos))
include hch

theorem field (ot : Name) (pos : List PSeg) (fields : List FieldNode) :
    ΦF ot dc fields pos (executeField cx ot child pos fields) := by
  unfold Spec.executeField
  cases fields with
  | nil => exact w.pureF ..
  | cons f rest =>
    simp only
    cases hty : f.name == "__typename" with
    | true =>
      simp only [↓reduceIte]
      rcases coerceResult_cases cx pos "String" (.str (ot.toList.map Char.toNat)) with h | ⟨j, h⟩ <;>
        rw [h]
      · exact w.failF _ fun h => absurd ⟨nofun, nofun⟩ h
      · exact w.pureF ..
    | false =>
      simp only [Bool.false_eq_true, ↓reduceIte]
      cases hf : cx.schema.getField ot f.name with
      | none => exact w.pureF ..
      | some fd =>
        simp only
        cases hc : coerceArgumentValues cx f.args fd.args [] with
        | none => exact w.failF _ fun _ => ⟨f, rest, fd, rfl, hty, hf, hc⟩
        | some a => exact w.call hty hf hc (hch ..)

theorem groups (ot : Name) (pos : List PSeg) : ∀ groups : Groups, (keys groups).Nodup →
    ΦG ot dc groups pos (executeGroups cx ot child pos groups)
  | [], _ => w.nilG ..
  | (k, fs) :: rest, hnd => by
    rw [executeGroups_cons]
    have hnd := List.nodup_cons.1 hnd
    exact w.consG hnd.1 (w.field hch ..) (groups ot pos rest hnd.2)

end

theorem named {child : Child} {d : RVal}
    (hch : ∀ name args t fields pos, Φ t fields (d.child name args) pos (child name args t fields pos))
    (t : TypeRef) (fields : List FieldNode) (pos : List PSeg) (leaf? : Option PyLeaf) (tn : TN) :
    Φ t fields d pos (completeNamed cx t fields pos leaf? tn child) := by
  rcases completeNamed_cases cx t fields pos leaf? tn child with
    ⟨k, h1, h2, h⟩ | ⟨n, l, h⟩ | ⟨n, nn, rt, rfl, hk, hobj, hsub, h⟩ <;> rw [h]
  · exact w.data ⟨h1, h2⟩
  · rcases coerceResult_cases cx pos n l with h | ⟨j, h⟩ <;> rw [h]
    · exact w.data ⟨nofun, nofun⟩
    · exact w.pure ..
  · unfold executeSelectionSet
    cases hc : collectFields cx rt (mergeSelectionSets fields) with
    | crash c => exact w.data ⟨nofun, nofun⟩
    | err k => exact w.fail fun _ => ⟨n, nn, rt, rfl, hk, hobj, hsub, hc⟩
    | ok gs => exact w.obj hk hobj hsub hc (w.groups hch rt pos gs (collectFields_nodup cx _ _ _ hc))

mutual
theorem value : (d : RVal) → ∀ (t : TypeRef) (fields : List FieldNode) (pos : List PSeg),
    Φ t fields d pos (completeValue cx t fields pos d)
  | .raise tag none, t, fields, pos => by unfold Spec.completeValue; exact w.data ⟨nofun, nofun⟩
  | .raise tag (some p), t, fields, pos => by unfold Spec.completeValue; exact w.own ..
  | .null, t, fields, pos => by unfold Spec.completeValue; exact w.null ..
  | .leaf l, t, fields, pos => by
    unfold Spec.completeValue
    exact w.named (d := .leaf l) (fun _ _ t fs pos => w.null t fs pos) ..
  | .obj tn f, t, fields, pos => by
    unfold Spec.completeValue
    exact w.named (d := .obj tn f) (fun name args t' fs' pos' => value (f name args) t' fs' pos') ..
  | .list xs, t, fields, pos => by
    unfold Spec.completeValue
    cases t with
    | named n nn => exact w.named (d := .list xs) (fun _ _ t fs pos => w.null t fs pos) ..
    | list t' nn => exact w.list (items xs t' fields pos 0)

theorem items : (xs : List RVal) → ∀ (t : TypeRef) (fields : List FieldNode) (pos : List PSeg)
    (i : Nat), ΦI t fields xs pos i (completeItems cx t fields pos i xs)
  | [], t, fields, pos, i => by unfold Spec.completeItems; exact w.nilI ..
  | x :: xs, t, fields, pos, i => by
    rw [completeItems_cons]
    exact w.consI (value x t fields (pos ++ [.idx i])) (items xs t fields pos (i + 1))
end

/-- the request level: the groups of the operation over the root value -/
theorem request (root : RVal) (ot : Name) (groups : Groups) (hnd : (keys groups).Nodup) :
    ΦG ot root.child groups [] (executeGroups cx ot (childOf cx root) [] groups) :=
  w.groups (fun _ _ _ _ _ => w.value ..) ot [] groups hnd

end Walk
end Gql.Exec.Refine
