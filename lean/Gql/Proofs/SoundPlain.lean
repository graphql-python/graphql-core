import Gql.Proofs.SoundRequest

/-!
C13 — plain selection sets (fields only, distinct response keys): field merging is trivial for
them, and the statement about a single field node over conforming data is the general chain
without variables and fragments.
-/

namespace Gql.Exec.Valid
open Gql.Exec Gql.Exec.Refine

theorem plainSels_eq_all (sels : List Selection) : plainSels sels = sels.all plainSel := by
  induction sels with
  | nil => rfl
  | cons a t ih => simp [plainSels, ih]

theorem distinctSelsAux_eq_all (sels : List Selection) :
    distinctSelsAux sels = sels.all distinctSel := by
  induction sels with
  | nil => rfl
  | cons a t ih => simp [distinctSelsAux, ih]

theorem plain_step (cx : Spec.Ctx) {rt : Name} {sels : List Selection} {gs : Spec.Groups} {k : Name}
    {fs : List FieldNode} (hp : plainSels sels = true) (hd : distinctSels sels = true)
    (hcol : Spec.collectFields cx rt sels = .ok gs) (hmem : (k, fs) ∈ gs) :
    (∃ f, fs = [f]) ∧ plainSels (Spec.mergeSelectionSets fs) = true ∧
      distinctSels (Spec.mergeSelectionSets fs) = true := by
  simp only [distinctSels, Bool.and_eq_true] at hd
  rw [collectFields_plain cx rt sels hp ((nodupNames_iff _).1 hd.1)] at hcol
  cases hcol
  simp only [groupsOf, List.mem_map, Prod.mk.injEq] at hmem
  obtain ⟨sel, hsel, _, rfl⟩ := hmem
  have h1 := List.all_eq_true.1 (plainSels_eq_all _ ▸ hp) _ hsel
  have h2 := List.all_eq_true.1 (distinctSelsAux_eq_all _ ▸ hd.2) _ hsel
  cases sel with
  | inline c d ss => simp [plainSel] at h1
  | spread n d => simp [plainSel] at h1
  | field a n args dirs ss =>
    simp only [plainSel, Bool.and_eq_true] at h1
    simp only [Spec.mergeSelectionSets, nodeOfSel, List.flatMap_cons, List.flatMap_nil, List.append_nil]
    exact ⟨⟨_, rfl⟩, h1.2, by simpa [distinctSel, distinctSels] using h2⟩

/-- plain selection sets with distinct keys, on any object type, satisfy what the chain needs -/
theorem plainInv (g : GCtx) :
    MergeInv g (fun _ sels => plainSels sels = true ∧ distinctSels sels = true) where
  uniform := by
    intro rt sels gs hp hcol p hm f hf f' hf'
    obtain ⟨⟨f0, h⟩, _⟩ := plain_step g.cx hp.1 hp.2 hcol (k := p.1) (fs := p.2) hm
    rw [h, List.mem_singleton] at hf hf'
    rw [hf, hf']
  step := fun hp hcol hm _ _ _ => (plain_step _ hp.1 hp.2 hcol hm).2

mutual
theorem spreadsInSel_plain : (sel : Selection) → plainSel sel = true → spreadsInSel sel = []
  | .field _ _ _ _ sels, h => by
    simp only [plainSel, Bool.and_eq_true] at h
    simpa [spreadsInSel] using spreadsIn_plain sels h.2
  | .inline .., h => by simp [plainSel] at h
  | .spread .., h => by simp [plainSel] at h
theorem spreadsIn_plain : (sels : List Selection) → plainSels sels = true → spreadsIn sels = []
  | [], _ => by simp [spreadsIn]
  | sel :: rest, h => by
    simp only [plainSels, Bool.and_eq_true] at h
    simp [spreadsIn, spreadsInSel_plain sel h.1, spreadsIn_plain rest h.2]
end

def ResItems (cx : Spec.Ctx) (t : TypeRef) (node : FieldNode) (items : List RVal)
    (r : Spec.R (List Json)) : Prop :=
  r.errs = [] ∧ ∃ js, r.out = some js ∧ shapeItems cx t [node] items js = true

variable (cx : Spec.Ctx)

/-- the general chain without variables and fragments: `NodeWT` gives what it asks of the one
field at a position -/
theorem items_sound (hyps : SoundHyps cx.ops cx.schema) : (items : List RVal) → ∀ (t : TypeRef)
    (node : FieldNode) (pos : List PSeg) (i : Nat), ConformsL cx.ops cx.schema t items →
    NodeWT cx.schema cx.doc t.baseName node →
    ResItems cx t node items (Spec.completeItems cx t [node] pos i items) := by
  intro items t node pos i hc hwt
  let g : GCtx := { cx := cx, env := [], reach := [] }
  unfold NodeWT at hwt
  refine MergeInv.items_sound g (fun vd hvd => by cases hvd) (fun t d v hv _ _ => hyps.opsSound t d v hv _)
    (fun n hn => by cases hn) hyps (plainInv g) items t [node] pos i hc
    ⟨⟨by simp, fun f hf => ?_⟩, fun rt' _ _ => ?_⟩
  · rw [List.mem_singleton] at hf
    subst hf
    by_cases hl : isLeaf cx.schema t.baseName = true
    · simpa [g, hl] using hwt
    · simp only [g, hl, Bool.false_eq_true, ↓reduceIte] at hwt ⊢
      exact ⟨hwt.2.2, excSels_nil _ _ _ _, by simp [spreadsIn_plain _ hwt.1]⟩
  · rw [mergeSelectionSets_single]
    by_cases hl : isLeaf cx.schema t.baseName = true
    · simp only [hl, ↓reduceIte] at hwt
      simp [hwt, plainSels, distinctSels, distinctSelsAux, nodupNames]
    · simp only [hl, Bool.false_eq_true, ↓reduceIte] at hwt
      exact ⟨hwt.1, hwt.2.1⟩

end Gql.Exec.Valid
