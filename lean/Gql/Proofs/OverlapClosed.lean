import Gql.Proofs.OverlapSound
/-! C14, named fragments, completeness: what a run that reports nothing leaves behind — pass
predicates relative to the final memo tables (`PPass`, `CovFF`, `CovFR`, monotone in the tables).
If the final tables are *closed* (every entry's comparison passed, relative to the tables) and
every selection set passed its own visit, then no two fields of an expanded selection set have an
unordered conflict (`no_uwconf`).  No acyclicity is needed: a conflict is a finite object (spread
paths, chain of sub-selections); the induction is on the length of the paths (`cover_out`) inside
the descent along the chain (`UWConf.descend`, with "the pair passed" for "the pair is looked at"). -/
namespace Gql.Exec
open Overlap

def keyOf (d : Doc) (n : String) : String := (mkSpread d n).key

/-- `compared_fields_and_fragment_pairs.has(fm, key, q)` -/
def CovFF (T : St) (i : Nat) (k : String) (q : Bool) : Prop := T.cfpHas i k q = true

/-- the comparison of two fragments is skipped: same key, or `compared_fragment_pairs.has` -/
def CovFR (T : St) (k1 k2 : String) (q : Bool) : Prop := k1 = k2 ∨ T.cmpHas k1 k2 q = true

/-- `find_conflict(excl, a, b)` finds nothing, given the memo tables `T` -/
inductive PPass (s : Schema) (d : Doc) (T : St) : Bool → Spec.FieldInst → Spec.FieldInst → Prop where
  | mk {excl : Bool} {a b : Spec.FieldInst} :
      Spec.direct s ⟨a, b, !excl⟩ = false →
      (a.node.hasSub = true → b.node.hasSub = true →
        (∀ c1 ∈ selsFlat s (subP s a) a.node.sub, ∀ c2 ∈ selsFlat s (subP s b) b.node.sub,
          c1.node.responseName = c2.node.responseName →
          PPass s d T (!Spec.deeper s ⟨a, b, !excl⟩) c1 c2)) →
      (a.node.hasSub = true → b.node.hasSub = true →
        (∀ n ∈ selsDirectSpreads b.node.sub,
          CovFF T a.node.subId (keyOf d n) (!Spec.deeper s ⟨a, b, !excl⟩)) ∧
        (∀ n ∈ selsDirectSpreads a.node.sub,
          CovFF T b.node.subId (keyOf d n) (!Spec.deeper s ⟨a, b, !excl⟩)) ∧
        (∀ n1 ∈ selsDirectSpreads a.node.sub, ∀ n2 ∈ selsDirectSpreads b.node.sub,
          CovFR T (keyOf d n1) (keyOf d n2) (!Spec.deeper s ⟨a, b, !excl⟩))) →
      PPass s d T excl a b

/-- the tables only grow: what was covered stays covered -/
def TLe (T T' : St) : Prop :=
  (∀ i k q, T.cfpHas i k q = true → T'.cfpHas i k q = true) ∧
    (∀ a b q, T.cmpHas a b q = true → T'.cmpHas a b q = true)

theorem TLe.refl (T : St) : TLe T T := ⟨fun _ _ _ h => h, fun _ _ _ h => h⟩

theorem TLe.trans {A B C : St} (h1 : TLe A B) (h2 : TLe B C) : TLe A C :=
  ⟨fun i k q h => h2.1 i k q (h1.1 i k q h), fun a b q h => h2.2 a b q (h1.2 a b q h)⟩

theorem CovFF.mono {T T' : St} (h : TLe T T') {i : Nat} {k : String} {q : Bool}
    (hc : CovFF T i k q) : CovFF T' i k q := h.1 i k q hc

theorem CovFR.mono {T T' : St} (h : TLe T T') {k1 k2 : String} {q : Bool}
    (hc : CovFR T k1 k2 q) : CovFR T' k1 k2 q := by
  rcases hc with hc | hc
  · exact Or.inl hc
  · exact Or.inr (h.2 _ _ _ hc)

theorem flagHas_weaken {o : Option Bool} {q q' : Bool} (hq : q = true → q' = true)
    (h : flagHas o q = true) : flagHas o q' = true := by
  obtain ⟨r, hr, himp⟩ := (flagHas_iff _ _).1 h
  exact (flagHas_iff _ _).2 ⟨r, hr, fun h => hq (himp h)⟩

theorem CovFF.weaken {T : St} {i : Nat} {k : String} {q q' : Bool} (hq : q = true → q' = true)
    (hc : CovFF T i k q) : CovFF T i k q' := flagHas_weaken hq hc

theorem CovFR.weaken {T : St} {k1 k2 : String} {q q' : Bool} (hq : q = true → q' = true)
    (hc : CovFR T k1 k2 q) : CovFR T k1 k2 q' := by
  rcases hc with hc | hc
  · exact Or.inl hc
  · exact Or.inr (flagHas_weaken hq hc)

theorem CovFR.symm {T : St} {k1 k2 : String} {q : Bool} (hc : CovFR T k1 k2 q) :
    CovFR T k2 k1 q := by
  rcases hc with hc | hc
  · exact Or.inl hc.symm
  · exact Or.inr (by rw [cmpHas_comm]; exact hc)

theorem PPass.mono {s : Schema} {d : Doc} {T T' : St} (hT : TLe T T') {excl : Bool}
    {a b : Spec.FieldInst} (h : PPass s d T excl a b) : PPass s d T' excl a b := by
  induction h with
  | mk hd _ hcov ih =>
    refine PPass.mk hd (fun h1 h2 c1 hc1 c2 hc2 hrn => ih h1 h2 c1 hc1 c2 hc2 hrn) ?_
    intro h1 h2
    obtain ⟨x1, x2, x3⟩ := hcov h1 h2
    exact ⟨fun n hn => (x1 n hn).mono hT, fun n hn => (x2 n hn).mono hT,
      fun n1 hn1 n2 hn2 => (x3 n1 hn1 n2 hn2).mono hT⟩

/-- a comparison made under "not mutually exclusive" also passes as "mutually exclusive" -/
theorem PPass.weaken {s : Schema} {d : Doc} {T : St} {excl : Bool} {a b : Spec.FieldInst}
    (h : PPass s d T excl a b) : ∀ {excl' : Bool}, (excl = true → excl' = true) →
      PPass s d T excl' a b := by
  induction h with
  | @mk excl a b hd _ hcov ih =>
    intro excl' he
    have hfull : (!excl') = true → (!excl) = true := by
      cases excl
      · exact fun _ => rfl
      · rw [he rfl]; exact id
    have hdeep : (!Spec.deeper s ⟨a, b, !excl⟩) = true → (!Spec.deeper s ⟨a, b, !excl'⟩) = true := by
      cases hd : Spec.deeper s ⟨a, b, !excl'⟩
      · exact fun _ => rfl
      · rw [Spec.deeper_mono hfull hd]; exact id
    refine PPass.mk ?_ (fun h1 h2 c1 hc1 c2 hc2 hrn => ih h1 h2 c1 hc1 c2 hc2 hrn hdeep) ?_
    · cases hx : Spec.direct s ⟨a, b, !excl'⟩ with
      | false => rfl
      | true =>
        have := Spec.direct_covers (s := ⟨a, b, !excl'⟩) (t := ⟨a, b, !excl⟩) ⟨rfl, rfl, hfull⟩ hx
        rw [hd] at this; cases this
    · intro h1 h2
      obtain ⟨x1, x2, x3⟩ := hcov h1 h2
      exact ⟨fun n hn => (x1 n hn).weaken hdeep, fun n hn => (x2 n hn).weaken hdeep,
        fun n1 hn1 n2 hn2 => (x3 n1 hn1 n2 hn2).weaken hdeep⟩

theorem PPass.instEq {s : Schema} {d : Doc} {T : St} {excl : Bool} {a b : Spec.FieldInst}
    (h : PPass s d T excl a b) {a' b' : Spec.FieldInst} (ha : InstEq s a a') (hb : InstEq s b b') :
    PPass s d T excl a' b' := by
  obtain ⟨pa', na'⟩ := a'
  obtain ⟨pb', nb'⟩ := b'
  cases (ha.1 : a.node = na')
  cases (hb.1 : b.node = nb')
  cases h with
  | mk hd hsub hcov =>
    rw [direct_instEq ha hb] at hd
    rw [deeper_instEq ha hb] at hsub hcov
    rw [ha.subP, hb.subP] at hsub
    exact PPass.mk hd hsub hcov

def PairsPass (s : Schema) (d : Doc) (T : St) (q : Bool) (t1 t2 : TSet) : Prop :=
  ∀ c1 ∈ selsFlat s t1.1 t1.2.sels, ∀ c2 ∈ selsFlat s t2.1 t2.2.sels,
    c1.node.responseName = c2.node.responseName → PPass s d T q c1 c2

/-- the body of `collect_conflicts_between_fields_and_fragment(fields of t, fragment nm, r)` passed -/
def FFok (s : Schema) (d : Doc) (T : St) (t : TSet) (nm : String) (r : Bool) : Prop :=
  ∀ tf, fragSet s d nm = some tf →
    t.2.id = tf.2.id ∨
      (PairsPass s d T r t tf ∧
        ∀ n' ∈ selsDirectSpreads tf.2.sels, CovFF T t.2.id (keyOf d n') r)

/-- the body of `collect_conflicts_between_fragments(n1, n2, r)` passed -/
def FRok (s : Schema) (d : Doc) (T : St) (n1 n2 : String) (r : Bool) : Prop :=
  ∀ t1 t2, fragSet s d n1 = some t1 → fragSet s d n2 = some t2 →
    PairsPass s d T r t1 t2 ∧
      (∀ n2' ∈ selsDirectSpreads t2.2.sels, CovFR T (keyOf d n1) (keyOf d n2') r) ∧
      (∀ n1' ∈ selsDirectSpreads t1.2.sels, CovFR T (keyOf d n1') (keyOf d n2) r)

def Closed (s : Schema) (d : Doc) (T : St) : Prop :=
  (∀ t ∈ d.typedSets s, ∀ nm ∈ d.spreadNames, ∀ r,
    assocGet T.cfp (t.2.id, keyOf d nm) = some r → FFok s d T t nm r) ∧
  (∀ n1 ∈ d.spreadNames, ∀ n2 ∈ d.spreadNames, ∀ r, keyOf d n1 ≠ keyOf d n2 →
    assocGet T.cmp (pairKey (keyOf d n1) (keyOf d n2)) = some r →
      FRok s d T n1 n2 r ∨ FRok s d T n2 n1 r)

inductive FReachN (d : Doc) : Nat → String → String → Prop where
  | refl (n : String) : FReachN d 0 n n
  | step {k : Nat} {n m j : String} : Edge d n m → FReachN d k m j → FReachN d (k + 1) n j

theorem FReach.toN {d : Doc} {n m : String} (h : FReach d n m) : ∃ k, FReachN d k n m := by
  induction h with
  | refl n => exact ⟨0, FReachN.refl n⟩
  | step he _ ih => obtain ⟨k, hk⟩ := ih; exact ⟨k + 1, FReachN.step he hk⟩

def FragFieldsN (s : Schema) (d : Doc) (k : Nat) (nm : String) (c : Spec.FieldInst) : Prop :=
  ∃ m, FReachN d k nm m ∧ FieldsOfFrag s d m c

/-- member of an expanded set with its cost: 0 for own fields, path length + 1 through a spread -/
def InEN (s : Schema) (d : Doc) (t : TSet) (k : Nat) (c : Spec.FieldInst) : Prop :=
  (k = 0 ∧ c ∈ selsFlat s t.1 t.2.sels) ∨
    ∃ n ∈ selsDirectSpreads t.2.sels, ∃ j, k = j + 1 ∧ FragFieldsN s d j n c

theorem InE.toN {s : Schema} {d : Doc} {t : TSet} {c : Spec.FieldInst}
    (h : InE s d t.1 t.2.sels c) : ∃ k, InEN s d t k c := by
  rcases h with h | ⟨n, hn, m, hr, hf⟩
  · exact ⟨0, Or.inl ⟨rfl, h⟩⟩
  · obtain ⟨j, hj⟩ := hr.toN
    exact ⟨j + 1, Or.inr ⟨n, hn, j, rfl, m, hj, hf⟩⟩

/-- the pair passed in one of the two orders, or it is one and the same field -/
abbrev Out (s : Schema) (d : Doc) (T : St) (q : Bool) : Spec.FieldInst → Spec.FieldInst → Prop :=
  UpToOrder (PPass s d T q)

theorem Out.weaken {s : Schema} {d : Doc} {T : St} {q q' : Bool} {c1 c2 : Spec.FieldInst}
    (h : Out s d T q c1 c2) (hq : q = true → q' = true) : Out s d T q' c1 c2 := by
  rcases h with h | h | h
  · exact Or.inl (h.weaken hq)
  · exact Or.inr (Or.inl (h.weaken hq))
  · exact Or.inr (Or.inr h)

/-- what two typed sets owe each other for their expanded sets to pass: own fields against own
fields, own fields against the other's spreads, spreads against spreads. At `false t t`: what
`find_conflicts_within_selection_set(t)` establishes. -/
def SetsCov (s : Schema) (d : Doc) (T : St) (q : Bool) (t1 t2 : TSet) : Prop :=
  (∀ c1 ∈ selsFlat s t1.1 t1.2.sels, ∀ c2 ∈ selsFlat s t2.1 t2.2.sels,
    c1.node.responseName = c2.node.responseName → Out s d T q c1 c2) ∧
  (∀ n ∈ selsDirectSpreads t2.2.sels, CovFF T t1.2.id (keyOf d n) q) ∧
  (∀ n ∈ selsDirectSpreads t1.2.sels, CovFF T t2.2.id (keyOf d n) q) ∧
  (∀ n1 ∈ selsDirectSpreads t1.2.sels, ∀ n2 ∈ selsDirectSpreads t2.2.sels,
    CovFR T (keyOf d n1) (keyOf d n2) q)

/-- a member of the closure of fragment `nn`, as a member of the expanded set of its definition -/
theorem fragFields_inEN {s : Schema} {d : Doc} {L : Nat} {nn : String} {c : Spec.FieldInst}
    (h : FragFieldsN s d L nn c) : ∃ tf, fragSet s d nn = some tf ∧ InEN s d tf L c := by
  obtain ⟨m, hreach, hf⟩ := h
  cases hreach with
  | refl _ =>
    obtain ⟨tf, hfs, hc⟩ := hf
    exact ⟨tf, hfs, Or.inl ⟨rfl, hc⟩⟩
  | step he hrest =>
    obtain ⟨fr, hfr, hn'⟩ := he
    exact ⟨_, fragSet_some hfr, Or.inr ⟨_, hn', _, rfl, m, hrest, hf⟩⟩

section
variable {s : Schema} {d : Doc} {T : St} (hC : Closed s d T)
  (hW : ∀ t ∈ d.typedSets s, SetsCov s d T false t t) (hU : TypedIdsUnique s d) (hK : KeysInj d)
  (hA : ∀ a, DocInst s d a → a.node.argsOK)

include hC hW hU hK in
/-- Induction on the length `M` of the two spread paths: members of the expanded sets of two typed
sets that owe each other nothing (`SetsCov`); own fields of a typed set against the closure of a
fragment the comparison with which is covered; the closures of two fragments whose comparison is
covered. A covered comparison has a recorded entry, whose body passed: own fields against own
fields, and coverage one spread further down; one and the same typed set or fragment on both sides
is the first case for a set that passed its own visit. -/
theorem cover_out : ∀ M : Nat,
    (∀ (t1 t2 : TSet) (q : Bool) (k1 k2 : Nat) (c1 c2 : Spec.FieldInst), t1 ∈ d.typedSets s →
      t2 ∈ d.typedSets s → k1 + k2 = M → SetsCov s d T q t1 t2 → InEN s d t1 k1 c1 →
      InEN s d t2 k2 c2 → c1.node.responseName = c2.node.responseName → Out s d T q c1 c2) ∧
    (∀ (t : TSet) (nm : String) (q : Bool) (c1 c2 : Spec.FieldInst), t ∈ d.typedSets s →
      nm ∈ d.spreadNames → CovFF T t.2.id (keyOf d nm) q → c1 ∈ selsFlat s t.1 t.2.sels →
      FragFieldsN s d M nm c2 → c1.node.responseName = c2.node.responseName →
      Out s d T q c1 c2) ∧
    (∀ (n1 n2 : String) (q : Bool) (L1 L2 : Nat) (c1 c2 : Spec.FieldInst), n1 ∈ d.spreadNames →
      n2 ∈ d.spreadNames → L1 + L2 = M → CovFR T (keyOf d n1) (keyOf d n2) q →
      FragFieldsN s d L1 n1 c1 → FragFieldsN s d L2 n2 c2 →
      c1.node.responseName = c2.node.responseName → Out s d T q c1 c2) := by
  intro M
  induction M using Nat.strongRecOn with
  | _ M ih =>
    have A : ∀ (t1 t2 : TSet) (q : Bool) (k1 k2 : Nat) (c1 c2 : Spec.FieldInst),
        t1 ∈ d.typedSets s → t2 ∈ d.typedSets s → k1 + k2 = M → SetsCov s d T q t1 t2 →
        InEN s d t1 k1 c1 → InEN s d t2 k2 c2 → c1.node.responseName = c2.node.responseName →
        Out s d T q c1 c2 := by
      intro t1 t2 q k1 k2 c1 c2 ht1 ht2 hM ⟨hoo, hf2, hf1, hrr⟩ h1 h2 hrn
      rcases h1 with ⟨_, o1⟩ | ⟨n1, hn1, j1, e1, f1⟩ <;>
        rcases h2 with ⟨_, o2⟩ | ⟨n2, hn2, j2, e2, f2⟩
      · exact hoo c1 o1 c2 o2 hrn
      · exact (ih j2 (by omega)).2.1 t1 n2 q c1 c2 ht1 (Doc.typedSets_spreads ht2 hn2) (hf2 n2 hn2)
          o1 f2 hrn
      · exact ((ih j1 (by omega)).2.1 t2 n1 q c2 c1 ht2 (Doc.typedSets_spreads ht1 hn1)
          (hf1 n1 hn1) o2 f1 hrn.symm).symm
      · exact (ih (j1 + j2) (by omega)).2.2 n1 n2 q j1 j2 c1 c2 (Doc.typedSets_spreads ht1 hn1)
          (Doc.typedSets_spreads ht2 hn2) rfl (hrr n1 hn1 n2 hn2) f1 f2 hrn
    refine ⟨A, ?_, ?_⟩
    · intro t nm q c1 c2 ht hnm hcov hc1 hf hrn
      obtain ⟨r, hr, himp⟩ := (flagHas_iff _ _).1 hcov
      obtain ⟨tf, hfs, i2⟩ := fragFields_inEN hf
      rcases hC.1 t ht nm hnm r hr tf hfs with hid | ⟨hp, hnest⟩
      · cases hU t ht tf (fragSet_typed hfs) hid
        exact (A t t false 0 M c1 c2 ht ht (Nat.zero_add M) (hW t ht)
          (Or.inl ⟨rfl, hc1⟩) i2 hrn).weaken (fun h => by cases h)
      · rcases i2 with ⟨_, o2⟩ | ⟨n', hn', j, e, f⟩
        · exact Or.inl ((hp c1 hc1 c2 o2 hrn).weaken himp)
        · exact ((ih j (by omega)).2.1 t n' r c1 c2 ht
            (Doc.typedSets_spreads (fragSet_typed hfs) hn') (hnest n' hn') hc1 f hrn).weaken himp
    -- one orientation of a recorded fragment/fragment comparison
    have FRstep : ∀ (n1 n2 : String) (r : Bool) (L1 L2 : Nat) (c1 c2 : Spec.FieldInst),
        n1 ∈ d.spreadNames → n2 ∈ d.spreadNames → L1 + L2 = M → FRok s d T n1 n2 r →
        FragFieldsN s d L1 n1 c1 → FragFieldsN s d L2 n2 c2 →
        c1.node.responseName = c2.node.responseName → Out s d T r c1 c2 := by
      intro n1 n2 r L1 L2 c1 c2 hm1 hm2 hM hok f1 f2 hrn
      obtain ⟨t1, hfs1, i1⟩ := fragFields_inEN f1
      obtain ⟨t2, hfs2, i2⟩ := fragFields_inEN f2
      obtain ⟨hpp, hc2, hc1⟩ := hok t1 t2 hfs1 hfs2
      rcases i2 with ⟨_, o2⟩ | ⟨n2', hn2', j2, e2, g2⟩
      · rcases i1 with ⟨_, o1⟩ | ⟨n1', hn1', j1, e1, g1⟩
        · exact Or.inl (hpp c1 o1 c2 o2 hrn)
        · exact (ih (j1 + L2) (by omega)).2.2 n1' n2 r j1 L2 c1 c2
            (Doc.typedSets_spreads (fragSet_typed hfs1) hn1') hm2 rfl (hc1 _ hn1') g1 f2 hrn
      · exact (ih (L1 + j2) (by omega)).2.2 n1 n2' r L1 j2 c1 c2 hm1
          (Doc.typedSets_spreads (fragSet_typed hfs2) hn2') rfl (hc2 _ hn2') f1 g2 hrn
    intro n1 n2 q L1 L2 c1 c2 hm1 hm2 hM hcov f1 f2 hrn
    by_cases hk : keyOf d n1 = keyOf d n2
    · -- both inside one fragment's closure
      cases hK n1 hm1 n2 hm2 hk
      obtain ⟨tf, hfs, i1⟩ := fragFields_inEN f1
      obtain ⟨tf', hfs', i2⟩ := fragFields_inEN f2
      cases hfs.symm.trans hfs'
      exact (A tf tf false L1 L2 c1 c2 (fragSet_typed hfs) (fragSet_typed hfs) hM
        (hW tf (fragSet_typed hfs)) i1 i2 hrn).weaken (fun h => by cases h)
    · obtain ⟨r, hr, himp⟩ := (flagHas_iff _ _).1 (hcov.resolve_left hk)
      rcases hC.2 n1 hm1 n2 hm2 r hk hr with hok | hok
      · exact (FRstep n1 n2 r L1 L2 c1 c2 hm1 hm2 hM hok f1 f2 hrn).weaken himp
      · exact Out.weaken (FRstep n2 n1 r L2 L1 c2 c1 hm2 hm1 (by omega) hok f2 f1 hrn.symm).symm himp

include hC hW hU hK hA in
/-- the descent, with "the pair passed" as "the pair is looked at" -/
theorem no_uwconf : ¬ UWConf s d := by
  have cov := fun M => (cover_out hC hW hU hK M).1
  refine UWConf.descend hA (G := fun full a b => PPass s d T (!full) a b) ?_ ?_ ?_
  · intro full a b hp hd
    cases hp with
    | mk hd' _ _ => rw [Bool.not_not, hd] at hd'; cases hd'
  · intro t c1 c2 ht h1 h2 hrn
    obtain ⟨k1, i1⟩ := h1.toN
    obtain ⟨k2, i2⟩ := h2.toN
    exact cov (k1 + k2) t t false k1 k2 c1 c2 ht ht rfl (hW t ht) i1 i2 hrn
  · intro full a b c1 c2 ha hb hp h1 h2 hrn
    have hsa := subSels_mem h1
    have hsb := subSels_mem h2
    rw [subSels_eq hsa] at h1
    rw [subSels_eq hsb] at h2
    obtain ⟨k1, i1⟩ := InE.toN (t := (subP s a, a.node.subSet)) h1
    obtain ⟨k2, i2⟩ := InE.toN (t := (subP s b, b.node.subSet)) h2
    cases hp with
    | mk _ hsub hcov =>
      rw [Bool.not_not] at hsub hcov
      exact cov (k1 + k2) _ _ _ k1 k2 c1 c2 (ha.sub hsa) (hb.sub hsb) rfl
        ⟨fun c1 o1 c2 o2 hrn => Or.inl (hsub hsa hsb c1 o1 c2 o2 hrn), hcov hsa hsb⟩ i1 i2 hrn

end

end Gql.Exec
