import Gql.Validation.Rules
/-!
C12 — what `get_fragment` returns, and the measure of the two fuel arguments that count fragment names
(`get_recursively_referenced_fragments`: RulesReach; `detect_cycle_recursive`: RulesCycles): a list `L` that contains
every name of a *defined* fragment that has not been collected yet (`Cover`).  Each push on the worklist / each
recursive call goes with a newly collected name of a defined fragment, which can be struck from `L`.
-/
namespace Gql.Validation.Rules

/-- `L` lists every name `n` with `get_fragment(n)` not `None` that is not yet in `seen`. -/
def Cover (doc : ATree) (L : List String) (seen : List String) : Prop :=
  ∀ n, (getFragment doc n).isSome = true → n ∉ seen → n ∈ L

theorem Cover.mono {doc : ATree} {L seen seen' : List String} (h : Cover doc L seen)
    (hs : ∀ n, n ∈ seen → n ∈ seen') : Cover doc L seen' :=
  fun n hd hn => h n hd (fun hm => hn (hs n hm))

theorem Cover.remove {doc : ATree} {L seen : List String} (m : String) (h : Cover doc L seen) :
    Cover doc (L.filter (fun x => x != m)) (seen ++ [m]) := by
  intro n hd hn
  simp only [List.mem_append, List.mem_singleton, not_or] at hn
  exact List.mem_filter.mpr ⟨h n hd hn.1, by simpa using hn.2⟩

theorem Cover.strike {doc : ATree} {L seen : List String} {m : String} (h : Cover doc L seen)
    (hd : (getFragment doc m).isSome = true) (hm : m ∉ seen) :
    ∃ L', Cover doc L' (seen ++ [m]) ∧ L'.length < L.length :=
  ⟨_, h.remove m, List.length_filter_lt_length_iff_exists.mpr ⟨m, h m hd hm, by simp⟩⟩

theorem getFragment_name {doc : ATree} {n : String} {f : ATree} (h : getFragment doc n = some f) :
    f.nameValue = some n := by
  simpa using List.find?_some h

theorem getFragment_isSome (doc : ATree) (name : String) :
    (getFragment doc name).isSome = true ↔ ∃ f ∈ fragDefs doc, f.nameValue = some name := by
  unfold getFragment
  rw [List.find?_isSome]
  simp

theorem getFragment_kind {doc : ATree} {n : String} {f : ATree} (h : getFragment doc n = some f) :
    f.kind = "fragment_definition" := by
  have hm : f ∈ fragDefs doc := by
    have := List.mem_of_find?_eq_some (by unfold getFragment at h; exact h)
    exact List.mem_reverse.mp this
  have := (List.mem_filter.mp hm).2
  simpa using this

/-- the names of the fragment definitions of the document (with repetitions) -/
def fragNames (doc : ATree) : List String := (fragDefs doc).filterMap (fun f => f.nameValue)

theorem fragNames_length_le (doc : ATree) : (fragNames doc).length ≤ (fragDefs doc).length :=
  List.length_filterMap_le _ _

theorem cover_fragNames (doc : ATree) (seen : List String) : Cover doc (fragNames doc) seen := by
  intro n hd _
  obtain ⟨f, hf⟩ := Option.isSome_iff_exists.mp hd
  exact List.mem_filterMap.mpr ⟨f, List.mem_reverse.mp (List.mem_of_find?_eq_some hf), getFragment_name hf⟩

end Gql.Validation.Rules
