import Gql.Exec.Overlap
/-! Lemmas for C14: how the rule's functions unfold, in the model's own terms. -/
namespace Gql.Exec
open Overlap

theorem forEach_cons {α : Type} (x : α) (xs : List α) (f : α → St → Res) (σ : St) :
    forEach (x :: xs) f σ = andThen (f x σ) (forEach xs f) := rfl

theorem andThen_assoc (r : Res) (k k' : St → Res) :
    andThen (andThen r k) k' = andThen r (fun σ => andThen (k σ) k') := by
  unfold andThen
  rcases r with _ | ⟨σ1, c1⟩
  · rfl
  · dsimp only
    rcases k σ1 with _ | ⟨σ2, c2⟩
    · rfl
    · dsimp only
      rcases k' σ2 with _ | ⟨σ3, c3⟩
      · rfl
      · simp only [List.append_assoc]

theorem andThen_pure (r : Res) : andThen r (fun σ => some (σ, [])) = r := by
  rcases r with _ | ⟨σ, c⟩
  · rfl
  · simp only [andThen, List.append_nil]

theorem andThen_some {r : Res} {k : St → Res} {σ' : St} {cs : List Conflict}
    (h : andThen r k = some (σ', cs)) :
    ∃ σ1 c1 c2, r = some (σ1, c1) ∧ k σ1 = some (σ', c2) ∧ cs = c1 ++ c2 := by
  rcases r with _ | ⟨σ1, c1⟩
  · cases h
  · simp only [andThen] at h
    rcases hk : k σ1 with _ | ⟨σ2, c2⟩
    · simp [hk] at h
    · simp only [hk, Option.some.injEq, Prod.mk.injEq] at h
      obtain ⟨rfl, rfl⟩ := h
      exact ⟨σ1, c1, c2, rfl, hk, rfl⟩

theorem forEach_append {α : Type} (as bs : List α) (f : α → St → Res) :
    forEach (as ++ bs) f = fun σ => andThen (forEach as f σ) (forEach bs f) := by
  funext σ
  induction as generalizing σ with
  | nil =>
    simp only [List.nil_append, forEach, andThen]
    rcases forEach bs f σ with _ | ⟨σ2, c2⟩ <;> rfl
  | cons a as ih =>
    simp only [List.cons_append, forEach_cons, andThen_assoc]
    exact congrArg _ (funext ih)

theorem forEach_map {α β : Type} (g : α → β) (f : β → St → Res) (xs : List α) :
    forEach (xs.map g) f = forEach xs (fun x => f (g x)) := by
  funext σ
  induction xs generalizing σ with
  | nil => rfl
  | cons x xs ih => rw [List.map_cons, forEach_cons, forEach_cons, funext ih]

theorem forEach_flatMap {α β : Type} (xs : List α) (g : α → List β) (f : β → St → Res) :
    forEach (xs.flatMap g) f = forEach xs (fun x => forEach (g x) f) := by
  funext σ
  induction xs generalizing σ with
  | nil => rfl
  | cons x xs ih => rw [List.flatMap_cons, forEach_append, forEach_cons, funext ih]

/-- the rule's "known to be mutually exclusive": the inherited flag, or two different object
parent types -/
def exclOf (s : Schema) (excl : Bool) (e1 e2 : FieldEntry) : Bool :=
  excl || (e1.parent != e2.parent && s.isObject e1.parent && s.isObject e2.parent)

/-- one of the four tests `find_conflict` makes on the pair itself fires -/
def testsFire (env : Env) (excl : Bool) (e1 e2 : FieldEntry) : Bool :=
  defsConflict e1.defTy e2.defTy || (!sameStreams env.le e1.node.stream e2.node.stream ||
    (!exclOf env.s excl e1 e2 &&
      (e1.node.name != e2.node.name || !sameArguments env.le e1.node.args e2.node.args)))

/-- what `find_conflict` returns when none of them fires: the comparison of the two sub-selections
(if both fields have one), made under `excl'`, wrapped into one sub-field conflict -/
def subResult (env : Env) (n : Nat) (excl' : Bool) (rn : String) (e1 e2 : FieldEntry) (σ : St) :
    Res :=
  if (e1.node.hasSub && e2.node.hasSub) = true then
    match findConflictsBetweenSubSelectionSets env n excl' (e1.defTy.map Ty.named)
        e1.node.subSet (e2.defTy.map Ty.named) e2.node.subSet σ with
    | none => none
    | some (σ', cs) => some (σ', subfieldConflicts cs rn e1.node.id e2.node.id)
  else some (σ, [])

/-- One call of `find_conflict`: if one of its tests on the pair fires, a single conflict is
returned and the state is unchanged; otherwise the result is that of the sub-selection comparison. -/
theorem findConflict_succ (env : Env) (n : Nat) (excl : Bool) (rn : String) (e1 e2 : FieldEntry)
    (σ : St) :
    (testsFire env excl e1 e2 = true ∧
      ∃ c, findConflict env (n + 1) excl rn e1 e2 σ = some (σ, [c])) ∨
    (testsFire env excl e1 e2 = false ∧
      findConflict env (n + 1) excl rn e1 e2 σ =
        subResult env n (exclOf env.s excl e1 e2) rn e1 e2 σ) := by
  simp only [findConflict, testsFire, subResult, exclOf]
  generalize (excl || (e1.parent != e2.parent && env.s.isObject e1.parent &&
    env.s.isObject e2.parent)) = E
  generalize defsConflict e1.defTy e2.defTy = tc
  generalize sameArguments env.le e1.node.args e2.node.args = sa
  generalize sameStreams env.le e1.node.stream e2.node.stream = ss
  generalize (e1.node.name != e2.node.name) = nne
  generalize (if (e1.node.hasSub && e2.node.hasSub) = true then _ else _ : Res) = R
  cases hv : (tc || (!ss || (!E && (nne || !sa))))
  · refine Or.inr ⟨rfl, ?_⟩
    simp only [Bool.or_eq_false_iff, Bool.not_eq_false', Bool.and_eq_false_iff] at hv
    obtain ⟨rfl, rfl, hE⟩ := hv
    rcases hE with rfl | hE
    · simp
    · obtain ⟨rfl, rfl⟩ := hE
      simp
  · -- the first test that fires returns a conflict
    refine Or.inl ⟨rfl, ?_⟩
    by_cases c0 : (!E && nne) = true
    · exact ⟨_, if_pos c0⟩
    by_cases c1 : (!E && !sa) = true
    · exact ⟨_, (if_neg c0).trans (if_pos c1)⟩
    by_cases c2 : (!ss) = true
    · exact ⟨_, (if_neg c0).trans ((if_neg c1).trans (if_pos c2))⟩
    by_cases c3 : tc = true
    · exact ⟨_, (if_neg c0).trans ((if_neg c1).trans ((if_neg c2).trans (if_pos c3)))⟩
    -- none fires: every disjunct of `hv` is false
    rw [Bool.not_eq_true] at c0 c1 c2 c3
    rw [Bool.and_or_distrib_left, c0, c1, c2, c3] at hv
    cases hv

end Gql.Exec
