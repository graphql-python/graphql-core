import Gql.Proofs.SoundExample
import Gql.Proofs.SoundRequest

/-!
C13 — `soundness_full` / `blame_full` as stated (with `validOp` only, which does not contain
Field Selection Merging) are false: a concrete request.
-/

namespace Gql.Exec.Valid.FullWitness
open Gql Gql.Exec Gql.Exec.Valid Gql.Exec.Valid.Example

/-- `type Query { a: A b: B }  type A { q: String }  type B { q(r: Int!): String }` -/
def fS : Schema :=
  { query := "Query", mutation := none,
    types := [
      .object "Query" [] [⟨"a", [], .named "A" false⟩, ⟨"b", [], .named "B" false⟩],
      .object "A" [] [⟨"q", [], .named "String" false⟩],
      .object "B" [] [⟨"q", [⟨"r", .named "Int" true, none⟩], .named "String" false⟩]] }

/-- `{ x: b { __typename } x: a { q } }` -/
def fOp : Operation :=
  { kind := .query, name := none, vars := [],
    sels := [.field (some "x") "b" [] [] [.field none "__typename" [] [] []],
             .field (some "x") "a" [] [] [.field none "q" [] [] []]] }

def fDoc : Doc := { ops := [fOp], frags := [] }

/-- `a` and `b` resolve to objects all of whose fields are `null` -/
def fRoot : RVal := .obj .missing (fun _ _ => .obj .missing (fun _ _ => .null))

theorem fHyps : SoundHyps exOps fS :=
  exOps_hyps fS rfl fun i o _ _ h => by simp [noSub_of_objects fS (by decide)] at h

theorem fConf : Conforms exOps fS (.named "Query" true) fRoot :=
  conforms_obj "Query" (by decide) rfl <| by
    simp only [List.forall_mem_cons, List.not_mem_nil, false_imp_iff, implies_true, and_true]
    exact ⟨fun _ => conforms_obj "A" (by decide) rfl (by simp [Conforms, TypeRef.nonNull]),
      fun _ => conforms_obj "B" (by decide) rfl (by simp [Conforms, TypeRef.nonNull])⟩

theorem fVarsOk : VarsOk fOp.vars [] := by intro vd hvd; simp [fOp] at hvd
theorem fVarsTyped : VarsTyped fS fOp.vars [] := by intro vd hvd; simp [fOp] at hvd
theorem fOpsV : OpsSoundV exOps fS fOp.vars [] := exOps_soundV _ _ _

theorem fValid : validOp fS fDoc fOp = true := by decide
theorem fExc : mayHitNullViaDefault fS fDoc fOp [] = false := by decide

/-- the merged sub-selections `{ __typename q }` are executed on `B`, where `q` requires `r` -/
theorem fErrors : ((Spec.executeRequest exOps fS fDoc none [] fRoot).errors.map (·.kind)) = [.argCoercion] := by
  decide

end Gql.Exec.Valid.FullWitness
