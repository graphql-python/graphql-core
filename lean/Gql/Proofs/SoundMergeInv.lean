import Gql.Proofs.SoundTyped

/-!
C13 — soundness, general chain: the merge hypotheses (`MergeOk`, `MergeOkT`) as instances of one
notion (`MergeInv`), the positions (`ValueWT`) and groups (`GroupsWT`) execution reaches, what
CollectFields yields on them, execution of such groups over conforming data, and completion of a
conforming value (induction on the data graph).
-/

namespace Gql.Exec.Valid
open Gql.Exec Gql.Exec.Refine

/-- the selection sets that execution of `op` can hand to CollectFields: the operation's own, and
the merged sub-selections of any collected group, on any object type -/
inductive ReachSel (cx : Spec.Ctx) (op : Operation) : Name → List Selection → Prop
  | root {rt : Name} : Spec.rootType cx.schema op.kind = some rt → ReachSel cx op rt op.sels
  | step {rt : Name} {sels : List Selection} {groups : Spec.Groups} {k : Name}
      {fs : List FieldNode} {rt' : Name} :
      ReachSel cx op rt sels → Spec.collectFields cx rt sels = .ok groups → (k, fs) ∈ groups →
      cx.schema.kind rt' = .object → ReachSel cx op rt' (Spec.mergeSelectionSets fs)

/-- all fields of a response key select the same field -/
def Uniform (gs : Spec.Groups) : Prop := ∀ p ∈ gs, ∀ f ∈ p.2, ∀ f' ∈ p.2, f.name = f'.name

/-- Field merging as execution needs it: whenever CollectFields runs on a selection set the
operation can reach, the fields grouped under one response key are the same field.  This is what
FieldsInSetCanMerge guarantees (two fields with the same response key whose parent types are the
same or not both object types must have the same name, recursively through merged sub-selections;
fields under different *object* parent types never meet in one runtime group). -/
def MergeOk (cx : Spec.Ctx) (op : Operation) : Prop :=
  ∀ rt sels, ReachSel cx op rt sels → ∀ gs, Spec.collectFields cx rt sels = .ok gs → Uniform gs

/-- the selection sets execution of `op` hands to CollectFields, with the object types it can
hand them over for: the operation's own on the root type, and the merged sub-selections of a
collected group on an object type that is (a possible type of) the return type of the group's
field.  (`ReachSel` allows *every* object type in the second clause.) -/
inductive ReachSelT (cx : Spec.Ctx) (op : Operation) : Name → List Selection → Prop
  | root {rt : Name} : Spec.rootType cx.schema op.kind = some rt → ReachSelT cx op rt op.sels
  | step {rt : Name} {sels : List Selection} {groups : Spec.Groups} {k : Name}
      {f0 : FieldNode} {rest : List FieldNode} {fd : FieldDef} {rt' : Name} :
      ReachSelT cx op rt sels → Spec.collectFields cx rt sels = .ok groups →
      (k, f0 :: rest) ∈ groups → cx.schema.getField rt f0.name = some fd →
      cx.schema.kind rt' = .object → Sub cx.schema rt' fd.type.baseName →
      ReachSelT cx op rt' (Spec.mergeSelectionSets (f0 :: rest))

/-- Field merging as execution needs it (`MergeOk` restricted to the object types a field's
sub-selections can really be executed on). -/
def MergeOkT (cx : Spec.Ctx) (op : Operation) : Prop :=
  ∀ rt sels, ReachSelT cx op rt sels → ∀ gs, Spec.collectFields cx rt sels = .ok gs → Uniform gs

theorem ReachSelT.toReachSel {cx : Spec.Ctx} {op : Operation} {rt : Name} {sels : List Selection}
    (h : ReachSelT cx op rt sels) : ReachSel cx op rt sels := by
  induction h with
  | root h => exact ReachSel.root h
  | step _ hcol hmem _ hk _ ih => exact ReachSel.step ih hcol hmem hk

theorem MergeOk.toT {cx : Spec.Ctx} {op : Operation} (h : MergeOk cx op) : MergeOkT cx op :=
  fun rt sels hr gs hcol => h rt sels hr.toReachSel gs hcol

/-- What the soundness and blame chains need of a set `P` of pairs (object type, selection set)
that contains every pair CollectFields is run on: the groups collected for a member are uniform,
and the merged sub-selections of a collected group are members again, on every object type of the
type of the group's field. -/
structure MergeInv (g : GCtx) (P : Name → List Selection → Prop) : Prop where
  uniform : ∀ {rt sels gs}, P rt sels → Spec.collectFields g.cx rt sels = .ok gs → Uniform gs
  step : ∀ {rt sels gs k f0 rest fd rt'}, P rt sels → Spec.collectFields g.cx rt sels = .ok gs →
    (k, f0 :: rest) ∈ gs → g.cx.schema.getField rt f0.name = some fd →
    g.cx.schema.kind rt' = .object → Sub g.cx.schema rt' fd.type.baseName →
    P rt' (Spec.mergeSelectionSets (f0 :: rest))

theorem MergeOkT.inv {g : GCtx} {op : Operation} (h : MergeOkT g.cx op) :
    MergeInv g (ReachSelT g.cx op) :=
  ⟨fun hr hc => h _ _ hr _ hc, fun hr hc hm hf hk hs => .step hr hc hm hf hk hs⟩

theorem MergeOk.inv {g : GCtx} {op : Operation} (h : MergeOk g.cx op) :
    MergeInv g (ReachSel g.cx op) :=
  ⟨fun hr hc => h _ _ hr _ hc, fun hr hc hm _ hk _ => .step hr hc hm hk⟩

/-- the merged sub-selections of `fields` are in `P` on every object type of the named type `n` -/
def ReachP (g : GCtx) (P : Name → List Selection → Prop) (n : Name) (fields : List FieldNode) :
    Prop :=
  ∀ rt', g.cx.schema.kind rt' = .object → Sub g.cx.schema rt' n →
    P rt' (Spec.mergeSelectionSets fields)

/-- `ReachP g (ReachSelT g.cx op)`, spelled out -/
def ReachAt (g : GCtx) (op : Operation) (n : Name) (fields : List FieldNode) : Prop :=
  ∀ rt', g.cx.schema.kind rt' = .object → Sub g.cx.schema rt' n →
    ReachSelT g.cx op rt' (Spec.mergeSelectionSets fields)

def FieldsWT (g : GCtx) (t : TypeRef) (fields : List FieldNode) : Prop :=
  fields ≠ [] ∧ ∀ f ∈ fields,
    if isLeaf g.cx.schema t.baseName = true then f.sels = [] else SelsOk g t.baseName f.sels

/-- a position execution reaches: the fields are well-typed for its type, and their merged
sub-selections are in `P` on every object type of it -/
structure ValueWT (g : GCtx) (P : Name → List Selection → Prop) (t : TypeRef)
    (fields : List FieldNode) : Prop where
  wt : FieldsWT g t fields
  reach : ReachP g P t.baseName fields

/-- a group CollectFields yields for the object type `rt` on a member of `P`: unless its field is
`__typename`, the field is defined on `rt`, its arguments coerce, and the group is a position
execution reaches, at the field's type -/
def GroupWT (g : GCtx) (P : Name → List Selection → Prop) (rt : Name) : List FieldNode → Prop
  | [] => False
  | f0 :: frest => f0.name ≠ "__typename" → ∃ fd a, g.cx.schema.getField rt f0.name = some fd ∧
      Spec.coerceArgumentValues g.cx f0.args fd.args [] = some a ∧ ValueWT g P fd.type (f0 :: frest)

def GroupsWT (g : GCtx) (P : Name → List Selection → Prop) (rt : Name) (gs : Spec.Groups) : Prop :=
  ∀ p ∈ gs, GroupWT g P rt p.2

def ResG (cx : Spec.Ctx) (t : TypeRef) (fields : List FieldNode) (d : RVal) (r : Spec.R Json) : Prop :=
  r.errs = [] ∧ ∃ j, r.out = some j ∧ shapeOk cx t fields d j = true

variable (g : GCtx) (op : Operation) (hvok : VarsOk g.env g.cx.vars) (hval : ValuesOk g)
variable (hfr : FragsOk g) (hyps : SoundHyps g.cx.ops g.cx.schema)
variable {P : Name → List Selection → Prop} (hP : MergeInv g P)

include hvok hval hfr hyps hP in
/-- CollectFields on a member of `P` succeeds, with groups as above: the fields of a group are
well-typed on `rt` (`collectFields_typed`) and select one field (`MergeInv.uniform`), and their
merged sub-selections are members again (`MergeInv.step`) -/
theorem collect_member {rt S : Name} {sels : List Selection} (hp : P rt sels)
    (hrt : g.cx.schema.kind rt = .object) (hok : SelsOk g S sels) (hsub : Sub g.cx.schema rt S) :
    ∃ gs, Spec.collectFields g.cx rt sels = .ok gs ∧ GroupsWT g P rt gs := by
  obtain ⟨gs, hcol, hall⟩ := collectFields_typed g hvok hval hfr hyps rt hrt sels S hok hsub
  refine ⟨gs, hcol, fun ⟨k, fs⟩ hmem => ?_⟩
  obtain ⟨hne, hon⟩ := hall _ hmem
  cases fs with
  | nil => exact hne rfl
  | cons f0 frest =>
    intro hty
    obtain ⟨fd, hgf, hargs, hexc, _⟩ := hon f0 (List.mem_cons_self ..) hty
    obtain ⟨a, ha⟩ := arguments_coerce g.cx g.env hvok hval fd.args f0.args hargs hexc
      (fun x hx d hd' => hyps.defaultsOk rt f0.name fd hgf x hx d hd')
    refine ⟨fd, a, hgf, ha, ⟨by simp, fun f' hf' => ?_⟩,
      fun _ hk hs => hP.step hp hcol hmem hgf hk hs⟩
    have hn : f'.name = f0.name := hP.uniform hp hcol _ hmem f' hf' f0 (List.mem_cons_self ..)
    obtain ⟨fd', hgf', _, _, hsub'⟩ := hon f' hf' (hn ▸ hty)
    rw [hn, hgf] at hgf'
    cases hgf'
    exact hsub'

include hvok hval hfr hyps hP in
theorem collect_fields {n : Name} {nn : Bool} {fields : List FieldNode} {rt : Name}
    (hwt : ValueWT g P (.named n nn) fields) (hnl : isLeaf g.cx.schema n = false)
    (hrt : g.cx.schema.kind rt = .object) (hsub : Sub g.cx.schema rt n) :
    ∃ gs, Spec.collectFields g.cx rt (Spec.mergeSelectionSets fields) = .ok gs ∧ GroupsWT g P rt gs :=
  collect_member g hvok hval hfr hyps hP (hwt.reach rt hrt hsub) hrt
    (selsOk_merge fun f' hf' => by
      simpa [TypeRef.baseName, hnl] using hwt.wt.2 f' hf') hsub

def ResGroups (cx : Spec.Ctx) (rt : Name) (f : Name → ArgMap → RVal) (groups : Spec.Groups)
    (r : Spec.R (List (Name × Json))) : Prop :=
  r.errs = [] ∧ ∃ kvs, r.out = some kvs ∧
    shapeGroups cx rt (fun name args t fields j => shapeOk cx t fields (f name args) j) groups kvs = true

include hyps in
/-- executing such groups on an object node whose fields conform, given the statement for the
values its resolver returns -/
theorem groups_sound (rt : Name) (fs : List FieldDef) (f : Name → ArgMap → RVal)
    (hfs : g.cx.schema.objectFields rt = some fs)
    (hconf : ∀ fd ∈ fs, ∀ args, Conforms g.cx.ops g.cx.schema fd.type (f fd.name args))
    (hchild : ∀ (name : Name) (args : ArgMap) (t : TypeRef) (fields : List FieldNode) (pos : List PSeg),
      Conforms g.cx.ops g.cx.schema t (f name args) → ValueWT g P t fields →
      ResG g.cx t fields (f name args) (Spec.completeValue g.cx t fields pos (f name args))) :
    ∀ (groups : Spec.Groups) (pos : List PSeg), GroupsWT g P rt groups →
      ResGroups g.cx rt f groups (Spec.executeGroups g.cx rt
        (fun name args t fields pos => Spec.completeValue g.cx t fields pos (f name args)) pos groups)
  | [], pos, _ => by simp [ResGroups, Spec.executeGroups, Spec.R.pure, shapeGroups]
  | (k, fields) :: rest, pos, hgs => by
    obtain ⟨ih1, kvs', ih2, ih3⟩ := groups_sound rt fs f hfs hconf hchild rest pos
      fun p hp => hgs p (.tail _ hp)
    cases fields with
    | nil => exact (hgs _ (List.mem_cons_self ..)).elim
    | cons f0 frest =>
      simp only [ResGroups, Spec.executeGroups, shapeGroups]
      by_cases hty : f0.name = "__typename"
      · -- the meta field
        have hstr := hyps.stringId (rt.toList.map Char.toNat)
        simp only [Spec.executeField, hty, beq_self_eq_true, ↓reduceIte, Spec.coerceResult, hstr,
          Spec.absorb, Spec.R.pure, Option.map_some, List.nil_append, ih1, ih2, true_and]
        simp [cpsOfName, ih3]
      · obtain ⟨fd, a, hgf, ha, hwt⟩ := hgs _ (List.mem_cons_self ..) hty
        obtain ⟨hmem, hname⟩ := getField_mem hgf hfs
        obtain ⟨hce, j, hco, hcs⟩ := hchild f0.name a fd.type (f0 :: frest) (pos ++ [PSeg.key k])
          (hname ▸ hconf fd hmem a) hwt
        have hty' : ¬ (f0.name == "__typename") = true := by simpa using hty
        simp only [Spec.executeField, hty', Bool.false_eq_true, ↓reduceIte, hgf, ha, Spec.absorb,
          hco, hce, Option.map_some, List.nil_append, ih1, ih2, true_and]
        simp [ih3, hcs]

theorem sub_of_runtime {s : Schema} {n : Name} {tn : TN} {rt : Name}
    (h : runtimeType s n tn = some rt) : Sub s rt n ∧ s.kind rt = .object := by
  rcases runtimeType_kind h with ⟨hk, rfl⟩ | ⟨_, hres⟩
  · exact ⟨Or.inl rfl, hk⟩
  · obtain ⟨ho, hsub⟩ := resolve_ok hres
    exact ⟨Or.inr hsub, ho⟩

def ResItemsG (cx : Spec.Ctx) (t : TypeRef) (fields : List FieldNode) (items : List RVal)
    (r : Spec.R (List Json)) : Prop :=
  r.errs = [] ∧ ∃ js, r.out = some js ∧ shapeItems cx t fields items js = true

include hvok hval hfr hyps hP in
mutual
theorem MergeInv.complete_sound : (d : RVal) → ∀ (t : TypeRef) (fields : List FieldNode) (pos : List PSeg),
    Conforms g.cx.ops g.cx.schema t d → ValueWT g P t fields →
    ResG g.cx t fields d (Spec.completeValue g.cx t fields pos d)
  | .raise tag p, t, fields, pos, hc, _ => by simp [Conforms] at hc
  | .null, t, fields, pos, hc, _ => by
    simp only [Conforms] at hc
    unfold Spec.completeValue Spec.completeNull
    simp only [hc, Bool.false_eq_true, ↓reduceIte]
    exact ⟨rfl, .null, rfl, by simp [shapeOk, hc]⟩
  | .leaf l, t, fields, pos, hc, _ => by
    cases t with
    | list t' nn => simp [Conforms] at hc
    | named n nn =>
      simp only [Conforms] at hc
      obtain ⟨hk, j, hj, hnn⟩ := hc
      unfold Spec.completeValue Spec.completeNamed
      simp only [hk, Spec.coerceResult, hj]
      have hshape := hyps.serializeShape n l j hj hnn
      cases j with
      | null => exact absurd rfl hnn
      | _ => exact ⟨rfl, _, rfl, by simp [shapeOk, hk, hshape]⟩
  | .obj tn f, t, fields, pos, hc, hwt => by
    cases t with
    | list t' nn => simp [Conforms] at hc
    | named n nn =>
      simp only [Conforms] at hc
      obtain ⟨rt, fs, hrt, hfs, hc⟩ := hc
      obtain ⟨hsub, hobj⟩ := sub_of_runtime hrt
      have hnl : isLeaf g.cx.schema n = false := by
        rcases runtimeType_kind hrt with ⟨hk, _⟩ | ⟨hk, _⟩ <;> simp [isLeaf, hk]
      obtain ⟨gs, hcol, hgs⟩ := collect_fields g hvok hval hfr hyps hP hwt hnl hobj hsub
      obtain ⟨g1, kvs, g2, g3⟩ := groups_sound g hyps rt fs f hfs hc
        (fun name args t' fields' pos' => MergeInv.complete_sound (f name args) t' fields' pos')
        gs pos hgs
      have hshape : shapeOk g.cx (.named n nn) fields (.obj tn f) (Json.obj kvs) = true := by
        unfold shapeOk
        simp only [hrt, hcol, g3]
      -- on either way to the runtime type the value is the selection set executed on it
      unfold Spec.completeValue Spec.completeNamed
      rcases runtimeType_kind hrt with ⟨hk, rfl⟩ | ⟨hk, hres⟩
      · simp only [hk, Spec.executeSelectionSet, hcol, g1, g2]
        exact ⟨rfl, _, rfl, hshape⟩
      · simp only [hk, hres, Spec.executeSelectionSet, hcol, g1, g2]
        exact ⟨rfl, _, rfl, hshape⟩
  | .list items, t, fields, pos, hc, hwt => by
    cases t with
    | named n nn => simp [Conforms] at hc
    | list t' nn =>
      simp only [Conforms] at hc
      obtain ⟨h1, js, h2, h3⟩ := MergeInv.items_sound items t' fields pos 0 hc ⟨hwt.wt, hwt.reach⟩
      unfold Spec.completeValue
      simp only [h1, h2, Option.map_some]
      exact ⟨rfl, _, rfl, by simp [shapeOk, h3]⟩

theorem MergeInv.items_sound : (items : List RVal) → ∀ (t : TypeRef) (fields : List FieldNode)
    (pos : List PSeg) (i : Nat), ConformsL g.cx.ops g.cx.schema t items → ValueWT g P t fields →
    ResItemsG g.cx t fields items (Spec.completeItems g.cx t fields pos i items)
  | [], t, fields, pos, i, _, _ => by
    unfold Spec.completeItems
    exact ⟨rfl, [], rfl, by simp [shapeItems]⟩
  | x :: xs, t, fields, pos, i, hc, hwt => by
    simp only [ConformsL] at hc
    obtain ⟨h1, j, h2, h3⟩ := MergeInv.complete_sound x t fields (pos ++ [.idx i]) hc.1 hwt
    obtain ⟨g1, js, g2, g3⟩ := MergeInv.items_sound xs t fields pos (i + 1) hc.2 hwt
    unfold Spec.completeItems
    simp only [Spec.absorb, h2, h1, g1, g2, Option.map_some, List.append_nil]
    exact ⟨rfl, _, rfl, by simp [shapeItems, h3, g3]⟩
end

section
variable (hmerge : MergeOkT g.cx op)

include hvok hval hfr hyps hmerge in
theorem items_sound_T : (items : List RVal) → ∀ (t : TypeRef) (fields : List FieldNode)
    (pos : List PSeg) (i : Nat), ConformsL g.cx.ops g.cx.schema t items → FieldsWT g t fields →
    ReachAt g op t.baseName fields →
    ResItemsG g.cx t fields items (Spec.completeItems g.cx t fields pos i items) :=
  fun items t fields pos i hc hwt hr =>
    MergeInv.items_sound g hvok hval hfr hyps hmerge.inv items t fields pos i hc ⟨hwt, hr⟩
end

section
variable (hmerge : MergeOk g.cx op)

include hvok hval hfr hyps hmerge in
theorem items_sound_gen : (items : List RVal) → ∀ (t : TypeRef) (fields : List FieldNode)
    (pos : List PSeg) (i : Nat), ConformsL g.cx.ops g.cx.schema t items → FieldsWT g t fields →
    (∀ rt', g.cx.schema.kind rt' = .object → ReachSel g.cx op rt' (Spec.mergeSelectionSets fields)) →
    ResItemsG g.cx t fields items (Spec.completeItems g.cx t fields pos i items) :=
  fun items t fields pos i hc hwt hr =>
    MergeInv.items_sound g hvok hval hfr hyps hmerge.inv items t fields pos i hc ⟨hwt, fun rt' hk _ => hr rt' hk⟩
end

end Gql.Exec.Valid
