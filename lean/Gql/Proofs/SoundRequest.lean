import Gql.Proofs.SoundMergeInv

/-!
C13 — soundness, general chain: from the executable rules (`validOp`, `mayHitNullViaDefault`) to
the invariants of the proof, and the request level (`MergeInv.soundness`).
-/

namespace Gql.Exec.Valid
open Gql.Exec Gql.Exec.Refine

def gctxOf (ops : Ops) (s : Schema) (doc : Doc) (op : Operation) (vars : Vars) : GCtx :=
  { cx := { ops := ops, schema := s, doc := doc, vars := vars }, env := op.vars,
    reach := reachable doc op.sels }

theorem rootTypeOf_object {s : Schema} {k : OpKind} {rt : Name} (h : rootTypeOf s k = some rt) :
    s.kind rt = .object :=
  Spec.rootType_object h

/-- what `validOp` alone gives: the operation's selection set and the fragments it reaches are
valid (no statement about the run-time exception) -/
theorem invariantsV_of_valid (ops : Ops) (s : Schema) (doc : Doc) (op : Operation) (vars : Vars)
    (rt : Name) (hroot : rootTypeOf s op.kind = some rt) (hvalid : validOp s doc op = true) :
    SelsV (gctxOf ops s doc op vars) rt op.sels ∧ FragsV (gctxOf ops s doc op vars) := by
  unfold validOp at hvalid
  simp only [hroot, Bool.and_eq_true, List.all_eq_true] at hvalid
  obtain ⟨⟨⟨⟨⟨_, hvs⟩, hfrags⟩, hsp⟩, hclosed⟩, _⟩ := hvalid
  refine ⟨⟨hvs, ?_⟩, ?_⟩
  · intro n hn
    have := hsp n hn
    simpa [gctxOf] using this
  · intro n hn fr hf
    have hn' : n ∈ reachable doc op.sels := hn
    have hf' : doc.frag n = some fr := hf
    have h1 := hfrags n hn'
    simp only [hf'] at h1
    refine ⟨h1, ?_⟩
    intro m hm
    unfold reachClosed at hclosed
    simp only [List.all_eq_true, List.mem_flatMap, forall_exists_index, and_imp] at hclosed
    have := hclosed m n hn' (by simp only [hf']; exact hm)
    simpa [gctxOf] using this

theorem invariants_of_valid (ops : Ops) (s : Schema) (doc : Doc) (op : Operation) (vars : Vars)
    (rt : Name) (hroot : rootTypeOf s op.kind = some rt)
    (hvalid : validOp s doc op = true) (hexc : mayHitNullViaDefault s doc op vars = false) :
    SelsOk (gctxOf ops s doc op vars) rt op.sels ∧ FragsOk (gctxOf ops s doc op vars) := by
  obtain ⟨hv, hfv⟩ := invariantsV_of_valid ops s doc op vars rt hroot hvalid
  unfold mayHitNullViaDefault at hexc
  simp only [hroot, Bool.or_eq_false_iff] at hexc
  refine ⟨⟨hv.1, hexc.1, hv.2⟩, fun n hn fr hf => ⟨(hfv n hn fr hf).1, ?_, (hfv n hn fr hf).2⟩⟩
  have h2 := List.any_eq_false.1 hexc.2 n hn
  have hf' : doc.frag n = some fr := hf
  exact (by simpa [hf'] using h2 : excSels s op.vars vars fr.cond fr.sels = false)

/-- the general request-level statement (variables, fragments, directives, merged keys), for any
`P` that holds of the operation's selection set on its root type -/
theorem MergeInv.soundness (ops : Ops) (s : Schema) (doc : Doc) (hyps : SoundHyps ops s)
    (op : Operation) (opName : Option Name) (vars : Vars) (root : RVal) (rt : Name)
    (hsel : Spec.getOperation doc.ops opName = some op)
    (hvalid : validOp s doc op = true)
    (hvok : VarsOk op.vars vars) (htyped : VarsTyped s op.vars vars)
    (hops : OpsSoundV ops s op.vars vars)
    (hexc : mayHitNullViaDefault s doc op vars = false)
    {P : Name → List Selection → Prop} (hP : MergeInv (gctxOf ops s doc op vars) P)
    (hp : P rt op.sels)
    (hroot : Spec.rootType s op.kind = some rt)
    (hconf : Conforms ops s (.named rt true) root) :
    (Spec.executeRequest ops s doc opName vars root).errors = [] ∧
    shapeResponse ops s doc op vars root (Spec.executeRequest ops s doc opName vars root).data = true := by
  have hk : s.kind rt = .object := rootTypeOf_object hroot
  obtain ⟨hsels, hfr⟩ := invariants_of_valid ops s doc op vars rt hroot hvalid hexc
  let g := gctxOf ops s doc op vars
  have hval : ValuesOk g := hops htyped
  cases root with
  | null => simp [Conforms, TypeRef.nonNull] at hconf
  | raise tag p => simp [Conforms] at hconf
  | leaf l => simp [Conforms, hk] at hconf
  | list items => simp [Conforms] at hconf
  | obj tn f =>
    simp only [Conforms] at hconf
    obtain ⟨rt', fs, hrt', hfs, hc⟩ := hconf
    obtain rfl : rt = rt' := by simpa [runtimeType, hk] using hrt'
    obtain ⟨gs, hcol, hgs⟩ := collect_member g hvok hval hfr hyps hP
      hp hk hsels (Or.inl rfl)
    obtain ⟨g1, kvs, g2, g3⟩ := groups_sound g hyps rt fs f hfs hc
      (fun name args t fields pos =>
        MergeInv.complete_sound g hvok hval hfr hyps hP (f name args) t fields pos)
      gs [] hgs
    simp only [g, gctxOf] at hcol g1 g2 g3
    have hchild : Spec.childOf ({ ops := ops, schema := s, doc := doc, vars := vars } : Spec.Ctx) (.obj tn f) =
        (fun name args t fields pos => Spec.completeValue
          ({ ops := ops, schema := s, doc := doc, vars := vars } : Spec.Ctx) t fields pos (f name args)) := rfl
    unfold Spec.executeRequest shapeResponse
    simp only [hsel, hroot, hcol, hchild, g1, g2, true_and]
    simpa [RVal.child] using g3

end Gql.Exec.Valid
