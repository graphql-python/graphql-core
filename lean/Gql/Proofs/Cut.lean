import Gql.Async.Cut
import Gql.Proofs.Assemble
import Gql.Proofs.Order
/-!
`assemble_eq_reference`: folding the pieces of a well-formed cut into its initial data, in the
canonical parent-before-child order, gives exactly the reference — and therefore no `apply` on the
way overwrites a key or misses its target.
-/
namespace Gql.Async

theorem lookup_mid {k : List Nat} {pre post : List (List Nat × J)} {v : J}
    (h : k ∉ pre.map Prod.fst) : lookup k (pre ++ (k, v) :: post) = some v := by
  simp [lookup_append, lookup_eq_none_iff.mpr h, lookup]

theorem setKey_mid {k : List Nat} {pre post : List (List Nat × J)} {v w : J}
    (h : k ∉ pre.map Prod.fst) : setKey k w (pre ++ (k, v) :: post) = pre ++ (k, w) :: post := by
  induction pre with
  | nil => simp [setKey]
  | cons x rest ih =>
    obtain ⟨k', v'⟩ := x
    simp only [List.map_cons, List.mem_cons, not_or] at h
    simp [setKey, Ne.symm h.1, ih h.2]

/-- merging keys that are distinct and not in the object appends them -/
theorem mergeInto_fresh {pre add : List (List Nat × J)} (h : ((pre ++ add).map Prod.fst).Nodup) :
    mergeInto add (.obj pre) = .ok (.obj (pre ++ add)) := by
  rw [List.map_append, List.nodup_append] at h
  exact mergeInto_eq_ok.mpr ⟨_, rfl, rfl, fun kv hkv => lookup_eq_none_iff.mpr fun hin =>
    h.2.2 _ hin _ (List.mem_map_of_mem hkv) rfl, keysNodup_iff.mpr h.2.1⟩

theorem foldPieces_cons {j r : J} {e : Piece} {rest : List Piece} :
    foldPieces j (e :: rest) = .ok r ↔ ∃ j1, e.apply j = .ok j1 ∧ foldPieces j1 rest = .ok r := by
  simp only [foldPieces]
  cases e.apply j <;> simp

theorem foldPieces_append (j : J) (a b : List Piece) :
    foldPieces j (a ++ b) =
      match foldPieces j a with
      | .ok j' => foldPieces j' b
      | .error f => .error f := by
  induction a generalizing j with
  | nil => rfl
  | cons e rest ih =>
    simp only [List.cons_append, foldPieces]
    cases e.apply j with
    | ok j' => exact ih j'
    | error f => rfl

theorem foldPieces_append_ok {j j1 j2 : J} {a b : List Piece}
    (h1 : foldPieces j a = .ok j1) (h2 : foldPieces j1 b = .ok j2) :
    foldPieces j (a ++ b) = .ok j2 := by
  rw [foldPieces_append, h1]; exact h2

/-- locality: the pieces of the child along `seg` only rewrite that child -/
theorem fold_under (seg : Seg) :
    ∀ (ps : List Piece) (j c c' : J), childAt seg j = some c → foldPieces c ps = .ok c' →
      foldPieces j (ps.map (Piece.under [seg])) = .ok (setChild seg c' j)
  | [], j, c, c', hl, h => by
    cases h
    simp [foldPieces, setChild_self hl]
  | e :: rest, j, c, c', hl, h => by
    obtain ⟨c1, he, h⟩ := foldPieces_cons.mp h
    have hstep : (e.under [seg]).apply j = .ok (setChild seg c1 j) := by
      cases e <;> exact updateAt_cons_intro hl he
    refine foldPieces_cons.mpr ⟨_, hstep, ?_⟩
    rw [fold_under seg rest _ c1 c' (childAt_setChild hl) h, setChild_setChild]

theorem keys_refFields : ∀ fs : List (List Nat × Cut), (refFields fs).map Prod.fst = fs.map Prod.fst
  | [] => rfl
  | (k, c) :: rest => by simp [refFields, keys_refFields rest]

theorem keys_initFields : ∀ fs : List (List Nat × Cut), (initFields fs).map Prod.fst = fs.map Prod.fst
  | [] => rfl
  | (k, c) :: rest => by simp [initFields, keys_initFields rest]

theorem keys_refGroups : ∀ gs : List (List (List Nat × Cut)),
    (refGroups gs).map Prod.fst = (gs.map (fun g => g.map Prod.fst)).flatten
  | [] => rfl
  | g :: rest => by simp [refGroups, keys_refFields, keys_refGroups rest]

theorem length_refItems : ∀ cs : List Cut, (refItems cs).length = lenItems cs
  | [] => rfl
  | c :: rest => by simp [refItems, lenItems, length_refItems rest]

theorem length_initItems : ∀ cs : List Cut, (initItems cs).length = lenItems cs
  | [] => rfl
  | c :: rest => by simp [initItems, lenItems, length_initItems rest]

mutual
theorem cut_reassembles : ∀ c : Cut, c.wf = true → foldPieces c.initial c.pieces = .ok c.ref
  | .leaf j, _ => rfl
  | .obj now later, h => by
    simp only [Cut.wf, Bool.and_eq_true, decide_eq_true_eq] at h
    obtain ⟨⟨hnd, hwn⟩, hwl⟩ := h
    have h1 := fields_reassemble now [] hwn (by simpa using hnd.sublist (List.Sublist.map _ (List.sublist_append_left _ _)))
    have h2 := groups_reassemble later (refFields now) hwl hnd
    simp only [List.nil_append] at h1
    simp only [Cut.initial, Cut.pieces, Cut.ref]
    exact foldPieces_append_ok h1 h2
  | .arr now later, h => by
    simp only [Cut.wf, Bool.and_eq_true] at h
    have h1 := items_reassemble now [] h.1
    have h2 := batches_reassemble later (refItems now) h.2
    simp only [List.nil_append, List.length_nil] at h1
    simp only [Cut.initial, Cut.pieces, Cut.ref]
    rw [length_refItems] at h2
    exact foldPieces_append_ok h1 h2
theorem fields_reassemble : ∀ (fs : List (List Nat × Cut)) (pre : List (List Nat × J)),
    wfCutFields fs = true → ((pre ++ refFields fs).map Prod.fst).Nodup →
    foldPieces (.obj (pre ++ initFields fs)) (fieldPieces fs) = .ok (.obj (pre ++ refFields fs))
  | [], pre, _, _ => by simp [initFields, refFields, fieldPieces, foldPieces]
  | (k, c) :: rest, pre, h, hnd => by
    simp only [wfCutFields, Bool.and_eq_true] at h
    have hk : k ∉ pre.map Prod.fst := by
      simp only [refFields, List.map_append, List.map_cons] at hnd
      have := (List.nodup_append.mp hnd).2.2
      intro hin
      exact this k hin k (by simp) rfl
    have hc := cut_reassembles c h.1
    have hstep := fold_under (.key k) c.pieces (.obj (pre ++ (k, c.initial) :: initFields rest))
      c.initial c.ref (lookup_mid hk) hc
    rw [setChild, setKey_mid hk] at hstep
    have hnd' : (((pre ++ [(k, c.ref)]) ++ refFields rest).map Prod.fst).Nodup := by
      simpa [refFields, List.append_assoc] using hnd
    have hrest := fields_reassemble rest (pre ++ [(k, c.ref)]) h.2 hnd'
    simp only [List.append_assoc, List.singleton_append] at hrest
    simp only [initFields, refFields, fieldPieces]
    exact foldPieces_append_ok hstep hrest
theorem groups_reassemble : ∀ (gs : List (List (List Nat × Cut))) (pre : List (List Nat × J)),
    wfCutGroups gs = true → ((pre ++ refGroups gs).map Prod.fst).Nodup →
    foldPieces (.obj pre) (groupPieces gs) = .ok (.obj (pre ++ refGroups gs))
  | [], pre, _, _ => by simp [refGroups, groupPieces, foldPieces]
  | g :: rest, pre, h, hnd => by
    simp only [wfCutGroups, Bool.and_eq_true] at h
    have hnd' : (((pre ++ refFields g) ++ refGroups rest).map Prod.fst).Nodup := by
      simpa [refGroups] using hnd
    have hpg : ((pre ++ refFields g).map Prod.fst).Nodup :=
      hnd'.sublist (List.Sublist.map _ (List.sublist_append_left _ _))
    -- the defer piece of this group merges fresh keys into the object
    have hmerge : (Piece.merge [] (initFields g)).apply (.obj pre) = .ok (.obj (pre ++ initFields g)) :=
      mergeInto_fresh (by simpa [keys_initFields, keys_refFields] using hpg)
    have hfields := fields_reassemble g pre h.1 hpg
    have hrest := groups_reassemble rest (pre ++ refFields g) h.2 hnd'
    simp only [groupPieces, foldPieces, hmerge, refGroups]
    rw [← List.append_assoc]
    exact foldPieces_append_ok hfields hrest
theorem items_reassemble : ∀ (cs : List Cut) (pre : List J), wfCutItems cs = true →
    foldPieces (.arr (pre ++ initItems cs)) (itemPieces pre.length cs) = .ok (.arr (pre ++ refItems cs))
  | [], pre, _ => by simp [initItems, refItems, itemPieces, foldPieces]
  | c :: rest, pre, h => by
    simp only [wfCutItems, Bool.and_eq_true] at h
    have hc := cut_reassembles c h.1
    have hl : (pre ++ c.initial :: initItems rest)[pre.length]? = some c.initial := by simp
    have hstep := fold_under (.idx pre.length) c.pieces (.arr _) c.initial c.ref hl hc
    rw [setChild, List.set_append_right _ _ (Nat.le_refl _), Nat.sub_self, List.set_cons_zero] at hstep
    have hrest := items_reassemble rest (pre ++ [c.ref]) h.2
    simp only [List.append_assoc, List.singleton_append, List.length_append, List.length_cons,
      List.length_nil, Nat.zero_add] at hrest
    simp only [initItems, refItems, itemPieces]
    exact foldPieces_append_ok hstep hrest
theorem batches_reassemble : ∀ (bs : List (List Cut)) (pre : List J), wfCutBatches bs = true →
    foldPieces (.arr pre) (batchPieces pre.length bs) = .ok (.arr (pre ++ refBatches bs))
  | [], pre, _ => by simp [refBatches, batchPieces, foldPieces]
  | b :: rest, pre, h => by
    simp only [wfCutBatches, Bool.and_eq_true] at h
    have happ : (Piece.append [] (initItems b)).apply (.arr pre) = .ok (.arr (pre ++ initItems b)) := by
      simp [Piece.apply, updateAt, appendInto]
    have hitems := items_reassemble b pre h.1
    have hrest := batches_reassemble rest (pre ++ refItems b) h.2
    simp only [List.length_append, length_refItems] at hrest
    simp only [batchPieces, foldPieces, happ, refBatches]
    rw [← List.append_assoc]
    exact foldPieces_append_ok hitems hrest
end

def Piece.act : Piece → Option (Path × Act)
  | .merge t d => some (t, .merge d)
  | .append t items => some (t, .append items)

theorem foldPieces_runD : ∀ {ps : List Piece} {j r : J}, foldPieces j ps = .ok r →
    runD Piece.act j ps = some r
  | [], j, r, h => by cases h; rfl
  | e :: rest, j, r, h => by
    obtain ⟨j1, he, h⟩ := foldPieces_cons.mp h
    have hs : stepD Piece.act j e = some j1 := by
      cases e with
      | merge t d => exact stepD_of (a := .merge d) rfl he
      | append t items => exact stepD_of (a := .append items) rfl he
    exact runD_cons.mpr ⟨j1, hs, foldPieces_runD h⟩

theorem cut_reassembles_any_order (c : Cut) (hwf : c.wf = true) (ps : List Piece) (b : J)
    (hperm : c.pieces.Perm ps)
    (hstreams : ∀ p, streamsOf Piece.act p c.pieces = streamsOf Piece.act p ps)
    (hb : foldPieces c.initial ps = .ok b) : SameValue c.ref b :=
  runD_perm ps c.pieces c.initial c.ref b hperm hstreams
    (foldPieces_runD (cut_reassembles c hwf)) (foldPieces_runD hb)

theorem wfCutFields_of : ∀ fs : List (List Nat × Cut), (∀ kc ∈ fs, kc.2.wf = true) →
    wfCutFields fs = true
  | [], _ => rfl
  | (k, c) :: rest, h => by
    simp [wfCutFields, h (k, c) (by simp), wfCutFields_of rest (fun kc hkc => h kc (by simp [hkc]))]

theorem wfCutGroups_of : ∀ gs : List (List (List Nat × Cut)), (∀ g ∈ gs, ∀ kc ∈ g, kc.2.wf = true) →
    wfCutGroups gs = true
  | [], _ => rfl
  | g :: rest, h => by
    simp [wfCutGroups, wfCutFields_of g (h g (by simp)),
      wfCutGroups_of rest (fun g' hg' => h g' (by simp [hg']))]

theorem wfCutItems_of : ∀ cs : List Cut, (∀ c ∈ cs, c.wf = true) → wfCutItems cs = true
  | [], _ => rfl
  | c :: rest, h => by
    simp [wfCutItems, h c (by simp), wfCutItems_of rest (fun c' hc' => h c' (by simp [hc']))]

end Gql.Async
