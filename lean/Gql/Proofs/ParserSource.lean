import Gql.Proofs.LexerBasic
import Gql.Proofs.ParserTotal
/-
From source text to the parser theorems: the lazily lexed stream of any string holds no lexer crash
(`lex_no_crash`, `lex_progress` of `Gql/Proofs/LexerBasic.lean`; the schema-coordinate lexer is
treated here), its fuel is sufficient, and therefore every parse entry point on every string returns
a node or a syntax error.
-/
namespace Gql.Syntax
open Gql Gql.Text

/-- Post-condition of `SchemaCoordinateLexer.read_next_token` at `pos ≤ |body|`: no crash; a non-EOF
token starts at `pos`, is non-empty and inside the text. -/
theorem coordReadNextToken_post (body : List Nat) (pos : Nat) :
    Text.Post (fun t => (t.kind ≠ .eof → pos < t.stop ∧ t.stop ≤ body.length))
      (coordReadNextToken body pos) := by
  unfold coordReadNextToken
  split
  · next h =>
    rw [Text.index_ok body pos h]
    simp only [Out.bind_ok]
    split
    · simp [mkToken]; omega
    · split
      · exact (Text.readName_post body {} pos h).mono (fun t ht _ => by
          obtain ⟨⟨h1, h2, h3, _⟩, _⟩ := ht; omega)
      · unfold printCodePointAt
        have : ¬ pos ≥ body.length := by omega
        simp only [this, ↓reduceIte, Text.index_ok body pos h, Out.bind_ok]
        trivial
  · simp [mkToken]

theorem streamAux_noCrash (body : List Nat) :
    ∀ (fuel : Nat) (st : LexState) (pos : Nat), pos ≤ body.length → body.length - pos + 1 ≤ fuel →
      (streamAux body fuel st pos).NoCrash := by
  intro fuel
  induction fuel with
  | zero => intro st pos _ hf; omega
  | succ fuel ih =>
    intro st pos hp hf
    unfold streamAux
    cases h : readNextToken body st pos with
    | ok r =>
      obtain ⟨t, st'⟩ := r
      have hprog := Text.lex_progress body st st' pos t hp h
      simp only []
      split
      · trivial
      · next hk =>
        have := hprog.2.1 hk
        split
        · exact ih _ _ this.2 (by omega)
        · exact ih _ _ this.2 (by omega)
    | err e => trivial
    | crash c =>
      have := Text.lex_no_crash body st pos
      rw [h] at this
      simp [Out.isCrash] at this

theorem streamOf_noCrash (body : List Nat) : (streamOf body).NoCrash :=
  streamAux_noCrash body _ {} 0 (by omega) (by omega)

theorem coordStreamAux_noCrash (body : List Nat) :
    ∀ (fuel : Nat) (pos : Nat), body.length - pos + 1 ≤ fuel → (coordStreamAux body fuel pos).NoCrash := by
  intro fuel
  induction fuel with
  | zero => intro pos hf; omega
  | succ fuel ih =>
    intro pos hf
    unfold coordStreamAux
    have hpost := coordReadNextToken_post body pos
    cases h : coordReadNextToken body pos with
    | ok t =>
      rw [h] at hpost
      simp only []
      split
      · trivial
      · next hk =>
        have := hpost hk
        exact ih _ (by omega)
    | err e => trivial
    | crash c => rw [h] at hpost; exact hpost.elim

theorem coordStreamOf_noCrash (body : List Nat) : (coordStreamOf body).NoCrash :=
  coordStreamAux_noCrash body _ 0 (by omega)

/-- every entry point on every source text: a node or a syntax error, never a crash -/
theorem parseSource_total (e : Entry) (cfg : Cfg) (body : List Nat) :
    ¬ (parseSource e cfg body).isCrash = true := by
  unfold parseSource parseStream parseFuel
  split
  · exact parseStreamWith_total e cfg _ _ (coordStreamOf_noCrash body) (by omega)
  · exact parseStreamWith_total e cfg _ _ (streamOf_noCrash body) (by omega)

end Gql.Syntax
