import Gql.Proofs.SchemaIff
/-!
Lemmas for C20: the default-value family.  At an input type, in a schema whose input
object fields all have input types, `validate_input_literal` reports nothing exactly when the
literal coerces to the type per the specification's input coercion rules.
-/
namespace Gql.Types
open Gql

def WellTypedInputs (s : RawSchema) : Prop :=
  ∀ t ∈ s.types, ∀ fs o, t.defn = .input fs o → ∀ f ∈ fs, s.isInputType f.type = true

theorem wellTyped_lookup {s : RawSchema} (hw : WellTypedInputs s) {n : Str} {fs : List InputValue}
    {o : Bool} (h : s.lookup n = some (.input fs o)) : ∀ f ∈ fs, s.isInputType f.type = true := by
  obtain ⟨t, ht, _, hd⟩ := lookup_mem h
  exact hw t ht fs o hd

theorem expected_null (l : Bool) : ∀ t : TRef,
    (peel true l t = .nullAtNonNull ∧ Spec.expected true l t = none) ∨
    (peel true l t = .done ∧ (Spec.expected true l t).isSome = true)
  | .named _ | .list _ => .inr ⟨rfl, rfl⟩
  | .nonNull _ => .inl ⟨rfl, rfl⟩

theorem scalarAccepts_eq (k : ScalarKind) (v : Lit) :
    scalarAccepts k v.shape = Spec.scalarCoerces k v := by
  cases k <;> cases v <;> try rfl
  -- `Int` at an integer literal: the two ways of writing the 32-bit range
  rename_i i
  simp only [scalarAccepts, Spec.scalarCoerces, Lit.shape, Bool.decide_and]
  congr 1
  exact decide_eq_decide.mpr (by omega)

/-- what the last branches of the literal validator accept at a named type, for a literal that is
not an object at an input object type -/
def leafOk (s : RawSchema) (n : Str) (sh : Shape) : Bool :=
  match s.lookup n with
  | some (.scalar k) => scalarAccepts k sh
  | some (.enum vs) => (match sh with | .enum e => vs.contains e | _ => false)
  | _ => false

theorem vLeaf_nil (s : RawSchema) (n : Str) (sh : Shape) : vLeaf s n sh = .ok [] ↔ leafOk s n sh = true := by
  unfold vLeaf leafOk
  cases s.lookup n with
  | none => simp
  | some d =>
    cases d with
    | scalar k => cases scalarAccepts k sh <;> simp
    | enum vs => cases sh <;> simp
    | input _ _ | object _ _ | interface _ _ | union _ => simp

theorem coercible_leaf {s : RawSchema} {n : Str} {v : Lit} {t : TRef} (hl : LeafAt s n v)
    (he : Spec.expected false (Spec.litIsList v) t = some (.named n)) :
    Spec.coercible s v t = leafOk s n v.shape := by
  cases v with
  | null => exact hl.elim
  | _ =>
    simp only [Spec.litIsList] at he
    simp only [Spec.coercible, he, Spec.leafCoercible, leafOk]
    -- the two sides test `s.lookup n` differently
    cases hlk : s.lookup n with
    | none => rfl
    | some d =>
      cases d with
      | scalar k => exact (scalarAccepts_eq k _).symm
      -- `false` on both sides, except for an object literal, which is then no leaf
      | input _ _ => first | rfl | exact absurd ⟨_, _, hlk⟩ hl
      | _ => rfl

theorem vLit_nil_leaf {s : RawSchema} {n : Str} {v : Lit} {t : TRef} (hl : LeafAt s n v)
    (hp : peel false (Spec.litIsList v) t = .named n)
    (he : Spec.expected false (Spec.litIsList v) t = some (.named n)) :
    vLit s true v t = .ok [] ↔ Spec.coercible s v t = true := by
  rw [vLit_leaf hl hp, coercible_leaf hl he, vLeaf_nil]

/-- the validator of an entry's value and the specification's answer for it go together -/
def EntryRel (s : RawSchema) : Option (TRef → Out Unit (List VErr)) → Option (TRef → Bool) → Prop
  | none, none => True
  | some g, some ok => ∀ t, s.isInputType t = true → (g t = .ok [] ↔ ok t = true)
  | _, _ => False

theorem vObject_nil_iff (s : RawSchema) (fields : List InputValue) (oneOf : Bool)
    (entries : List (Str × Bool)) (subs : List (Str × (TRef → Out Unit (List VErr)))) :
    vObject s true fields oneOf entries subs = .ok [] ↔
      (∀ fd ∈ fields, vObjField s true subs fd = .ok []) ∧ vObjUnknown fields entries = [] ∧
        vObjOneOf fields oneOf entries = [] := by
  unfold vObject
  rw [← outFlatMap_eq_ok_nil]
  cases outFlatMap (vObjField s true subs) fields <;> simp

theorem vObjField_nil (s : RawSchema) (subs : List (Str × (TRef → Out Unit (List VErr))))
    (oks : List (Str × (TRef → Bool))) (fd : InputValue) (hi : s.isInputType fd.type = true)
    (hrel : EntryRel s (lookupLast subs fd.name) (Spec.entryOf oks fd.name)) :
    vObjField s true subs fd = .ok [] ↔
      (match Spec.entryOf oks fd.name with
       | some ok => ok fd.type
       | none => fd.default.isSome || fd.legacyDefault || !fd.type.isNonNull) = true := by
  unfold vObjField
  generalize lookupLast subs fd.name = og at hrel ⊢
  generalize Spec.entryOf oks fd.name = ook at hrel ⊢
  rcases og with _ | g <;> rcases ook with _ | ok
  · rw [Out.ok.injEq, ite_singleton_nil, isRequired_eq, Spec.required]
    cases fd.type.isNonNull <;> cases fd.default.isSome || fd.legacyDefault <;> simp
  · exact hrel.elim
  · exact hrel.elim
  · simp [hi, mapOk_eq_ok_nil, hrel fd.type hi]

theorem vObjUnknown_nil (fields : List InputValue) (fs : List (Str × Lit)) :
    vObjUnknown fields (fs.map (fun e => (e.1, e.2.isNull))) = [] ↔
      fs.all (fun e => fields.any (fun fd => fd.name = e.1)) = true := by
  unfold vObjUnknown
  rw [List.flatMap_eq_nil_iff, List.all_eq_true, List.forall_mem_map]
  refine forall_congr' fun e => imp_congr_right fun _ => ?_
  simp

theorem isNull_eq (v : Lit) : v.isNull = Spec.litIsNull v := by cases v <;> rfl

theorem vObjOneOf_nil (fields : List InputValue) (oneOf : Bool) (fs : List (Str × Lit))
    (hall : fs.all (fun e => fields.any (fun fd => fd.name = e.1)) = true) :
    vObjOneOf fields oneOf (fs.map (fun e => (e.1, e.2.isNull))) = [] ↔
      (!oneOf || Spec.oneNonNullEntry fs) = true := by
  unfold vObjOneOf
  -- every entry is known, so the filter keeps all of them
  rw [List.filter_eq_self.mpr (List.forall_mem_map.mpr fun e he => by
    simpa using List.all_eq_true.mp hall e he)]
  cases oneOf
  · simp
  · rcases fs with _ | ⟨e, _ | ⟨e2, rest⟩⟩
    · simp [Spec.oneNonNullEntry]
    · simp only [List.map_cons, List.map_nil, ↓reduceIte, Bool.not_true, Bool.false_or, isNull_eq,
        Spec.oneNonNullEntry]
      cases Spec.litIsNull e.2 <;> simp
    · simp [Spec.oneNonNullEntry]

theorem vObject_nil (s : RawSchema) (fields : List InputValue) (oneOf : Bool)
    (fs : List (Str × Lit)) (subs : List (Str × (TRef → Out Unit (List VErr))))
    (oks : List (Str × (TRef → Bool)))
    (hfields : ∀ fd ∈ fields, s.isInputType fd.type = true)
    (hrel : ∀ k, EntryRel s (lookupLast subs k) (Spec.entryOf oks k)) :
    vObject s true fields oneOf (fs.map (fun e => (e.1, e.2.isNull))) subs = .ok [] ↔
      Spec.objectCoerces fields oneOf fs oks = true := by
  unfold Spec.objectCoerces
  rw [vObject_nil_iff, vObjUnknown_nil]
  simp only [Bool.and_eq_true, List.all_eq_true (l := fields), and_assoc]
  rw [and_left_comm]
  exact and_congr_right fun h2 => and_congr
    (forall_congr' fun fd => imp_congr_right fun hfd =>
      vObjField_nil s subs oks fd (hfields fd hfd) (hrel fd.name))
    (vObjOneOf_nil fields oneOf fs h2)

theorem vLits_cons_nil (s : RawSchema) (g : Bool) (x : Lit) (xs : List Lit) (t : TRef) (i : Nat) :
    vLits s g (x :: xs) t i = .ok [] ↔ vLit s g x t = .ok [] ∧ vLits s g xs t (i + 1) = .ok [] := by
  rw [vLits]
  cases vLit s g x t with
  | ok e => cases vLits s g xs t (i + 1) <;> simp
  | _ => simp

section
variable (s : RawSchema) (hw : WellTypedInputs s)
include hw

mutual
theorem vLit_nil : ∀ (v : Lit) (t : TRef), s.isInputType t = true →
    (vLit s true v t = .ok [] ↔ Spec.coercible s v t = true)
  | .null, t, _ => by
    unfold vLit Spec.coercible
    rcases expected_null false t with ⟨hp, he⟩ | ⟨hp, he⟩ <;> simp [hp, he]
  | .list xs, t, h => by
    rcases expected_eq_peel true t with ⟨t', hp, he, _⟩ | ⟨n, hp, he⟩
    · unfold vLit Spec.coercible
      simp only [hp, he]
      exact vLits_nil xs t' 0 (peel_inputOk h hp)
    · exact vLit_nil_leaf trivial hp he
  | .obj fs, t, h => by
    obtain ⟨n, hp, he⟩ := expected_named t
    by_cases hl : ∃ fields oneOf, s.lookup n = some (.input fields oneOf)
    · obtain ⟨fields, oneOf, hl⟩ := hl
      unfold vLit Spec.coercible
      simp only [hp, he, hl]
      exact vObject_nil s fields oneOf fs _ _ (wellTyped_lookup hw hl) (vEntries_rel fs)
    · exact vLit_nil_leaf hl hp he
  | .enum _, t, _ | .int _, t, _ | .float, t, _ | .str, t, _ | .bool, t, _ => by
    obtain ⟨n, hp, he⟩ := expected_named t
    exact vLit_nil_leaf trivial hp he
theorem vLits_nil : ∀ (xs : List Lit) (t : TRef) (i : Nat), s.isInputType t = true →
    (vLits s true xs t i = .ok [] ↔ Spec.allCoercible s xs t = true)
  | [], _, _, _ => by unfold vLits Spec.allCoercible; simp
  | x :: xs, t, i, h => by
    rw [vLits_cons_nil, vLit_nil x t h, vLits_nil xs t (i + 1) h, Spec.allCoercible, Bool.and_eq_true]
theorem vEntries_rel : ∀ (fs : List (Str × Lit)) (k : Str),
    EntryRel s (lookupLast (vEntries s true fs) k) (Spec.entryOf (Spec.entryCoercible s fs) k)
  | [], k => by unfold vEntries Spec.entryCoercible; simp [lookupLast, Spec.entryOf, EntryRel]
  | e :: rest, k => by
    have ih := vEntries_rel rest k
    rw [entryOf_eq_lookupLast] at ih ⊢
    unfold vEntries Spec.entryCoercible
    exact lookupLast_rel (EntryRel s) (fun g ok => ∀ t, s.isInputType t = true → (g t = .ok [] ↔ ok t = true))
      trivial (fun _ _ h => h) (fun _ => id) (fun _ => id) e.1 k _ _ _ _ ih fun t ht => vLit_nil e.2 t ht
end
end

theorem defaultsAgree (s : RawSchema) (hw : WellTypedInputs s) : DefaultsAgree s validateDefault := by
  intro a c hi
  unfold validateDefault Spec.defaultOk
  cases a.default with
  | none => simp
  | some v =>
    simp only [hi, Bool.not_true, Bool.false_eq_true, ↓reduceIte]
    rw [mapOk_eq_ok_nil]
    simp only [List.map_eq_nil_iff, exists_eq_right]
    exact vLit_nil s hw v a.type hi

end Gql.Types
