import Gql.Proofs.AnnounceRun
/-!
P6 at the model level: every batch of stream items the scheduler handles becomes exactly one
`streamValues` event and exactly one incremental stream entry, item for item and in handling
order; under `EnvOk` (E3) the items of each stream carry consecutive source indices from 0.
-/
namespace Gql.Async
open Gql.Spec.Protocol

/-- The source indices of the items the events deliver for stream `s`, in order. -/
def svIdx (s : Nat) : List WQEvent → List (Option Nat)
  | [] => []
  | .streamValues s' vals _ _ :: r => (if s' = s then vals.map (·.idx) else []) ++ svIdx s r
  | _ :: r => svIdx s r

/-- A known index is the position. -/
def InOrder (l : List (Option Nat)) : Prop := ∀ (j i : Nat), l[j]? = some (some i) → i = j

theorem svIdx_append (s : Nat) (a b : List WQEvent) : svIdx s (a ++ b) = svIdx s a ++ svIdx s b := by
  induction a with
  | nil => rfl
  | cons e a ih => cases e <;> simp [svIdx, ih]

theorem svIdx_eq_nil (s : Nat) {evs : List WQEvent} (h : ∀ e ∈ evs, svIdx s [e] = []) : svIdx s evs = [] := by
  induction evs with
  | nil => rfl
  | cons e evs ih =>
    rw [← List.singleton_append, svIdx_append, h e List.mem_cons_self,
      ih fun x hx => h x (List.mem_cons_of_mem _ hx)]; rfl

theorem items_values (σ : Static) (items : List IResult) (acc : WQ × List IVal × List Nat × List Nat) :
    (items.foldl (itemStep σ) acc).2.1 = acc.2.1 ++ items.map (·.value) := by
  induction items generalizing acc with
  | nil => simp
  | cons it items ih => simp [ih, itemStep]

theorem handle_svIdx (σ : Static) (q : WQ) (ev : GraphEvent) (s : Nat) :
    svIdx s (handleGraphEvent σ q ev).2 =
      match ev with
      | .streamItems s' items _ => if s' = s then items.map (·.value.idx) else []
      | _ => [] := by
  cases ev with
  | taskSuccess t r =>
    exact svIdx_eq_nil s fun e he => by
      rcases taskSuccess_evs σ q t r e he with ⟨_, _, rfl⟩ | ⟨_, _, _, rfl⟩ <;> rfl
  | taskFailure t => exact svIdx_eq_nil s fun e he => by obtain ⟨_, rfl⟩ := taskFailure_evs σ q t e he; rfl
  | streamItems s' items st =>
    simp only [handleGraphEvent, streamItems]
    have hv := items_values σ items (q, [], [], [])
    simp only [List.nil_append] at hv
    split <;> simp [svIdx, hv, List.map_map, Function.comp_def]
  | streamSuccess s' => simp only [handleGraphEvent]; split <;> rfl
  | streamFailure s' => rfl
  | stop => rfl

/-- The run invariant: per stream, delivered indices are positions, and the environment's
counter is the number of delivered items. -/
def OrderInv (e : EnvSt) (_q : WQ) (E : List WQEvent) : Prop :=
  ∀ s, InOrder (svIdx s E) ∧ (svIdx s E).length = (alookup e.streamNext s).getD 0

theorem inOrder_append (a b : List (Option Nat)) (ha : InOrder a)
    (hb : ∀ (j i : Nat), b[j]? = some (some i) → i = a.length + j) : InOrder (a ++ b) := by
  intro j i h
  by_cases hj : j < a.length
  · rw [List.getElem?_append_left hj] at h; exact ha j i h
  · have hj' : a.length ≤ j := Nat.le_of_not_lt hj
    rw [List.getElem?_append_right hj'] at h
    have := hb _ i h
    omega

theorem orderInv_run (σ : Static) : RunInv σ OrderInv where
  handle := by
    intro e q ev e' E h _ hok s
    rw [svIdx_append, handle_svIdx σ q ev s]
    cases ev with
    | streamItems s' items st =>
      obtain ⟨_, e1, n1, hi, rfl⟩ := eventOk_streamItems hok
      obtain ⟨⟨_, _, _, rfl⟩, a, c⟩ := itemsOk_eq hi
      simp only
      by_cases hs : s' = s
      · subst hs
        simp only [if_true]
        refine ⟨inOrder_append _ _ (h s').1 (fun j i hj => by rw [(h s').2]; exact c j i hj), ?_⟩
        rw [List.length_append, (h s').2, alookup_aset_self]; simp [a]
      · simp only [hs, if_false, List.append_nil]
        rw [alookup_aset_ne _ _ _ _ hs]
        exact h s
    | taskSuccess t r => rw [(eventOk_taskSuccess hok).2, intro_eq]; simpa using h s
    | taskFailure t => rw [eventOk_taskFailure hok]; simpa using h s
    | streamSuccess s' => rw [eventOk_streamSuccess hok]; simpa using h s
    | streamFailure s' => rw [eventOk_streamFailure hok]; simpa using h s
    | stop => rw [eventOk_stop hok]; simpa using h s
  chan := fun _ _ _ _ h => h
  defer := fun _ _ _ _ h => h
  term := by
    intro e q E h _ _ s
    rw [svIdx_append]
    simpa [svIdx] using h s

/-- The item lists of the stream entries of a list of incremental entries, in order. -/
def incrStreams : List Incr → List (List (Option Nat × J))
  | [] => []
  | .stream _ items :: r => items :: incrStreams r
  | .defer _ _ _ :: r => incrStreams r

def payloadStreams (ps : List Payload) : List (List (Option Nat × J)) :=
  ps.flatMap (fun p => incrStreams p.incremental)

/-- The item lists of the `streamValues` events, in order. -/
def svAll : List WQEvent → List (List (Option Nat × J))
  | [] => []
  | .streamValues _ vals _ _ :: r => vals.map (fun v => (v.idx, v.item)) :: svAll r
  | _ :: r => svAll r

theorem incrStreams_append (a b : List Incr) : incrStreams (a ++ b) = incrStreams a ++ incrStreams b := by
  induction a with
  | nil => rfl
  | cons x a ih => cases x <;> simp [incrStreams, ih]

theorem svAll_append (a b : List WQEvent) : svAll (a ++ b) = svAll a ++ svAll b := by
  induction a with
  | nil => rfl
  | cons x a ih => cases x <;> simp [svAll, ih]

theorem incrStreams_evIncr (π : PubStatic) (p : Pub) (i : Nat) (e : WQEvent) :
    incrStreams (evIncr π p i e) = svAll [e] := by
  cases e with
  | groupValues g vals => induction vals <;> simp_all [evIncr, incrStreams, svAll]
  | _ => rfl

theorem handleEvent_streams (π : PubStatic) (p : Pub) (c : PCtx) (e : WQEvent) :
    incrStreams (handleEvent π p c e).2.incremental = incrStreams c.incremental ++ svAll [e] := by
  cases hn : evNode e with
  | none => rw [evNode_none hn]; simp [handleEvent_term, svAll]
  | some n => rw [handleEvent_node π p c hn]; simp only [incrStreams_append, incrStreams_evIncr]

theorem handleEvents_streams (π : PubStatic) (evs : List WQEvent) (p : Pub) (c : PCtx) :
    incrStreams (handleEvents π p c evs).2.incremental = incrStreams c.incremental ++ svAll evs := by
  induction evs generalizing p c with
  | nil => simp [handleEvents, svAll]
  | cons e evs ih =>
    rw [handleEvents_cons, ih, handleEvent_streams, List.append_assoc, ← svAll_append]; rfl

theorem handleBatch_streams (π : PubStatic) (p : Pub) (evs : List WQEvent) :
    incrStreams (handleBatch π p evs).2.incremental = svAll evs :=
  (handleEvents_streams π evs p {}).trans (by simp [incrStreams])

theorem publish_streams (π : PubStatic) (bs : List (List WQEvent)) (p : Pub) :
    payloadStreams (publish π p bs).2 = svAll bs.flatten := by
  induction bs generalizing p with
  | nil => rfl
  | cons b bs ih =>
    simp only [publish, payloadStreams, List.flatMap_cons, List.flatten_cons, svAll_append, handleBatch_streams]
    exact congrArg _ (ih _)

end Gql.Async
