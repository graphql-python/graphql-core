import Gql.Proofs.OverlapComplete
import Gql.Proofs.OverlapTerm
/-! C14: the rule reports a conflict iff the specification rejects — all documents. -/
namespace Gql.Exec
open Overlap

theorem Doc.IdsNodup.unique {d : Doc} (h : d.IdsNodup) : d.IdsUnique :=
  fun a ha b hb e => eq_of_nodup_map (fun (x : SelSet) => x.id) (l := d.allSets) h ha hb e

/-- GraphQL names contain no parenthesis, so `Name()` (defined fragment) and `Name` (undefined)
never collide. -/
theorem keysInj_of_names {d : Doc} (h : ∀ n ∈ d.spreadNames, '(' ∉ n.toList) : KeysInj d := by
  -- the name is the key up to its first parenthesis
  have name : ∀ n ∈ d.spreadNames,
      (mkSpread d n).key.toList.takeWhile (· != '(') = n.toList := by
    intro n hn
    have hp : ∀ c ∈ n.toList, (c != '(') = true := fun c hc =>
      bne_iff_ne.2 fun e => h n hn (e ▸ hc)
    have hs : ("()" : String).toList = ['(', ')'] := by decide
    simp only [mkSpread]
    split
    · rw [String.toList_append, List.takeWhile_append_of_pos hp, hs]; simp
    · simpa using List.takeWhile_append_of_pos (l₂ := []) hp
  intro n1 h1 n2 h2 e
  exact String.toList_inj.1 (by rw [← name n1 h1, e, name n2 h2])

/-- **The rule accepts exactly what the specification accepts** (any linear sort-key order, the
proved recursion bound). -/
theorem overlap_iff_le (le : String → String → Bool) (hle : LinOrd le) (s : Schema) (d : Doc)
    (hI : d.IdsNodup) (hA : d.argsWF = true) (hT : d.NoTypename) (hR : RootsObject s d)
    (hL : LeafNoSub s d) (hK : KeysInj d) :
    ∃ cs, implConflictsFuel le (fuelBound d) s d = some cs ∧
      (cs ≠ [] ↔ Spec.SpecConflict s d) := by
  have hU := hI.typed s
  have hA' : ∀ a, DocInst s d a → a.node.argsOK := fun a ha => Doc.argsWF_inst hA ha
  have hT' : ∀ a, DocInst s d a → a.node.name ≠ "__typename" := fun a ha => hT.inst ha
  have hsome := implConflictsFuel_isSome le s d hI.unique (fuelBound d) (Nat.le_refl _)
  cases hr : implConflictsFuel le (fuelBound d) s d with
  | none => rw [hr] at hsome; cases hsome
  | some cs =>
    refine ⟨cs, rfl, ?_, ?_⟩
    · intro hne
      exact uw_specConflict hA' hL
        (implConflictsFuel_sound le hle s d hU hA' hT' hR _ cs hr hne)
    · intro hsc hnil
      subst hnil
      exact implConflictsFuel_complete le hle s d hU hA' hT' hR hK _ hr (specConflict_uw hsc)

theorem leafNoSub_of_scalarLeafs_gen {s : Schema} {d : Doc} (hs : ScalarLeafs s d) :
    LeafNoSub s d := by
  intro st0 h0 st hr hl
  obtain ⟨⟨ta, hta, hma⟩, ⟨tb, htb, hmb⟩⟩ := (DocState.init h0).reach hr
  have xa := hs ta hta _ hma
  have xb := hs tb htb _ hmb
  simp only [Spec.leafStop, Spec.typesOf] at hl
  cases h1 : Spec.fieldType s st.a.parent st.a.node.name with
  | none => simp [h1] at hl
  | some ty1 =>
    cases h2 : Spec.fieldType s st.b.parent st.b.node.name with
    | none => simp [h1, h2] at hl
    | some ty2 =>
      simp only [h1, h2, Bool.or_eq_true] at hl
      simp only [h1, Bool.and_eq_false_iff] at xa
      simp only [h2, Bool.and_eq_false_iff] at xb
      rcases hl with hl | hl
      · rcases xa with xa | xa
        · simp [xa]
        · rw [hl] at xa; cases xa
      · rcases xb with xb | xb
        · simp [xb]
        · rw [hl] at xb; cases xb

end Gql.Exec
