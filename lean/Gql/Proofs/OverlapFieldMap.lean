import Gql.Proofs.OverlapPEq
import Gql.Proofs.OverlapExpand
/-! C14, implementation side: the cache of field maps (`CacheNF`, `getFields_nf`,
`getReferenced_nf`), the entries of a field map as fields of the document (`entries_rel`, `Known`),
and the pairs the rule compares as the specification's pairs. -/
namespace Gql.Exec
open Overlap

theorem subfieldConflicts_ne_nil (cs : List Conflict) (rn : String) (i j : Nat) :
    subfieldConflicts cs rn i j ≠ [] ↔ cs ≠ [] := by
  cases cs <;> simp [subfieldConflicts]

abbrev TSet := Option String × SelSet

section
variable (env : Env)

def TypedIdsUnique (s : Schema) (d : Doc) : Prop :=
  ∀ x ∈ d.typedSets s, ∀ y ∈ d.typedSets s, x.2.id = y.2.id → x = y

/-- every cache entry was collected from the typed set with that identity, for a parent that
is the set's parent after normalisation -/
def CacheNF (σ : St) : Prop :=
  ∀ i c, assocGet σ.cache i = some c →
    ∃ t ∈ env.d.typedSets env.s, t.2.id = i ∧ ∃ q, PEq env.s t.1 q ∧ c = computeFields env.s env.d q t.2

/-- the field map of typed set `t`, collected for the parent variant `q'` -/
def fmOf (t : Option String × SelSet) (q' : Option String) : FieldMap :=
  ⟨t.2.id, grp [] ((selsFlat env.s q' t.2.sels).map (toEntry env.s))⟩

/-- reading (and filling) the cache for a typed set: the field map is that of the set for some
parent variant, the spreads are its direct spreads, the memo tables are untouched -/
theorem getFields_nf (hU : TypedIdsUnique env.s env.d) {σ : St} (hσ : CacheNF env σ)
    {t : Option String × SelSet} (ht : t ∈ env.d.typedSets env.s) {q : Option String}
    (hq : PEq env.s t.1 q) :
    ∃ σ' q', getFields env.s env.d σ q t.2 =
        (σ', fmOf env t q', spreadsOf env.d (selsDirectSpreads t.2.sels)) ∧
      CacheNF env σ' ∧ PEq env.s t.1 q' ∧ σ'.cfp = σ.cfp ∧ σ'.cmp = σ.cmp := by
  obtain ⟨g, ⟨q', hq', e⟩, l1, l2⟩ := getFields_inv hU hσ ht q rfl ⟨q, hq, rfl⟩
  exact ⟨_, q', Prod.ext rfl (e.trans (computeFields_gen env.s env.d q' t.2)), g, hq', l1, l2⟩

theorem getReferenced_nf (hU : TypedIdsUnique env.s env.d) {σ : St} (hσ : CacheNF env σ)
    {n : String} {fr : FragDef} (hfr : env.d.getFragment n = some fr) :
    (env.s.typeFromAst fr.typeCond, fr.ss) ∈ env.d.typedSets env.s ∧
    ∃ σ' q', getReferenced env.s env.d σ fr =
        (σ', fmOf env (env.s.typeFromAst fr.typeCond, fr.ss) q',
          spreadsOf env.d (selsDirectSpreads fr.ss.sels)) ∧
      CacheNF env σ' ∧ PEq env.s (env.s.typeFromAst fr.typeCond) q' ∧
        σ'.cfp = σ.cfp ∧ σ'.cmp = σ.cmp := by
  have ht : (env.s.typeFromAst fr.typeCond, fr.ss) ∈ env.d.typedSets env.s :=
    fragSet_typed (fragSet_some hfr)
  rw [getReferenced_eq]
  exact ⟨ht, getFields_nf env hU hσ ht (PEq.refl _ _)⟩

/-- a field-map entry of a document field (up to parent normalisation) -/
def Known (e : FieldEntry) : Prop :=
  (∃ a, DocInst env.s env.d a ∧ InstEq env.s e.inst a) ∧
    e.defTy = env.s.fieldDef e.parent e.node.name

/-- what the comparison of such an entry needs: well-formed arguments, the looked-up type is the
specification's (no `__typename`), and the sub-selection is a typed set of the document -/
theorem known_facts (hA : ∀ a, DocInst env.s env.d a → a.node.argsOK)
    (hT : ∀ a, DocInst env.s env.d a → a.node.name ≠ "__typename") {e : FieldEntry}
    (k : Known env e) :
    e.node.argsOK ∧ e.defTy = Spec.fieldType env.s e.parent e.node.name ∧
      PEq env.s (subP env.s e.inst) (e.defTy.map Ty.named) ∧
      (e.node.hasSub = true → (subP env.s e.inst, e.node.subSet) ∈ env.d.typedSets env.s) := by
  obtain ⟨⟨a, hda, hea⟩, hdef⟩ := k
  have en : e.node = a.node := hea.1
  have hd : e.defTy = Spec.fieldType env.s e.parent e.node.name := by
    rw [hdef, fieldType_of_ne (by rw [en]; exact hT a hda)]
  refine ⟨by rw [en]; exact hA a hda, hd, by rw [hd]; exact PEq.refl _ _, fun hs => ?_⟩
  have := hda.sub (by rw [← en]; exact hs)
  rw [← hea.subP, ← en] at this
  exact this

/-- the entries of the field map collected for the parent variant `q'` of a typed set are its
fields, in order -/
theorem entries_rel {t : Option String × SelSet} {q' : Option String} (hq : PEq env.s t.1 q') :
    Rel2 (fun e c => InstEq env.s e.inst c) ((selsFlat env.s q' t.2.sels).map (toEntry env.s))
      (selsFlat env.s t.1 t.2.sels) :=
  (selsFlat_peq env.s t.2.sels t.1 q' hq).map_flip fun _ _ i => i.symm

theorem entry_known {t : Option String × SelSet} (ht : t ∈ env.d.typedSets env.s)
    {q' : Option String} (hq : PEq env.s t.1 q') {e : FieldEntry}
    (he : e ∈ (selsFlat env.s q' t.2.sels).map (toEntry env.s)) :
    Known env e ∧ ∃ c ∈ selsFlat env.s t.1 t.2.sels, InstEq env.s e.inst c := by
  obtain ⟨c, hc, i⟩ := (entries_rel env hq).mem_left he
  obtain ⟨c', _, rfl⟩ := List.mem_map.1 he
  exact ⟨⟨⟨c, ⟨t, ht, hc⟩, i⟩, rfl⟩, c, hc, i⟩

theorem rn_of_instEq {s : Schema} {rn : String} {e1 e2 : FieldEntry} {c1 c2 : Spec.FieldInst}
    (i1 : InstEq s e1.inst c1) (i2 : InstEq s e2.inst c2) (n1 : rnE e1 = rn) (n2 : rnE e2 = rn) :
    c1.node.responseName = c2.node.responseName := by
  have e1' : c1.node = e1.node := i1.1.symm
  have e2' : c2.node = e2.node := i2.1.symm
  rw [e1', e2']
  exact n1.trans n2.symm

theorem between_known {t1 t2 : Option String × SelSet} (h1 : t1 ∈ env.d.typedSets env.s)
    (h2 : t2 ∈ env.d.typedSets env.s) {q1' q2' : Option String} (hq1 : PEq env.s t1.1 q1')
    (hq2 : PEq env.s t2.1 q2') {u : String × FieldEntry × FieldEntry}
    (hu : u ∈ betweenPairs (fmOf env t1 q1') (fmOf env t2 q2')) :
    Known env u.2.1 ∧ Known env u.2.2 ∧
      ∃ c1 ∈ selsFlat env.s t1.1 t1.2.sels, ∃ c2 ∈ selsFlat env.s t2.1 t2.2.sels,
        InstEq env.s u.2.1.inst c1 ∧ InstEq env.s u.2.2.inst c2 ∧
          c1.node.responseName = c2.node.responseName := by
  obtain ⟨m1, m2, n1, n2⟩ := mem_betweenPairs_grp.1 hu
  obtain ⟨k1, c1, hc1, i1⟩ := entry_known env h1 hq1 m1
  obtain ⟨k2, c2, hc2, i2⟩ := entry_known env h2 hq2 m2
  exact ⟨k1, k2, c1, hc1, c2, hc2, i1, i2, rn_of_instEq i1 i2 n1 n2⟩

theorem within_known {t : Option String × SelSet} (ht : t ∈ env.d.typedSets env.s)
    {q' : Option String} (hq : PEq env.s t.1 q') {u : String × FieldEntry × FieldEntry}
    (hu : u ∈ withinPairs (fmOf env t q')) :
    Known env u.2.1 ∧ Known env u.2.2 ∧
      ∃ pr ∈ Spec.pairsOf (selsFlat env.s t.1 t.2.sels),
        InstEq env.s u.2.1.inst pr.1 ∧ InstEq env.s u.2.2.inst pr.2 ∧
          pr.1.node.responseName = pr.2.node.responseName := by
  obtain ⟨hp, n1, n2⟩ := mem_withinPairs_grp.1 hu
  have hm := Spec.pairsOf_mem hp
  obtain ⟨pr, hpr, i1, i2⟩ := (entries_rel env hq).pairs_left hp
  exact ⟨(entry_known env ht hq hm.1).1, (entry_known env ht hq hm.2).1, pr, hpr, i1, i2,
    rn_of_instEq i1 i2 n1 n2⟩

theorem between_of_flat {t1 t2 : Option String × SelSet} {q1' q2' : Option String}
    (hq1 : PEq env.s t1.1 q1') (hq2 : PEq env.s t2.1 q2') {c1 c2 : Spec.FieldInst}
    (hc1 : c1 ∈ selsFlat env.s t1.1 t1.2.sels) (hc2 : c2 ∈ selsFlat env.s t2.1 t2.2.sels)
    (hrn : c1.node.responseName = c2.node.responseName) :
    ∃ u ∈ betweenPairs (fmOf env t1 q1') (fmOf env t2 q2'),
      InstEq env.s u.2.1.inst c1 ∧ InstEq env.s u.2.2.inst c2 := by
  obtain ⟨e1, he1, i1⟩ := (entries_rel env hq1).mem_right hc1
  obtain ⟨e2, he2, i2⟩ := (entries_rel env hq2).mem_right hc2
  exact ⟨(c1.node.responseName, e1, e2),
    mem_betweenPairs_grp.2 ⟨he1, he2, congrArg FieldNode.responseName i1.1,
      (congrArg FieldNode.responseName i2.1).trans hrn.symm⟩, i1, i2⟩

theorem within_of_pair {t : Option String × SelSet} {q' : Option String}
    (hq : PEq env.s t.1 q') {pr : Spec.FieldInst × Spec.FieldInst}
    (hpr : pr ∈ Spec.pairsOf (selsFlat env.s t.1 t.2.sels))
    (hrn : pr.1.node.responseName = pr.2.node.responseName) :
    ∃ u ∈ withinPairs (fmOf env t q'),
      InstEq env.s u.2.1.inst pr.1 ∧ InstEq env.s u.2.2.inst pr.2 := by
  obtain ⟨p', hp', i1, i2⟩ := (entries_rel env hq).pairs_right hpr
  exact ⟨(pr.1.node.responseName, p'.1, p'.2),
    mem_withinPairs_grp.2 ⟨hp', congrArg FieldNode.responseName i1.1,
      (congrArg FieldNode.responseName i2.1).trans hrn.symm⟩, i1, i2⟩

end

end Gql.Exec
