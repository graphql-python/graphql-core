import Gql.Proofs.Coerce
/-!
Literal round trip at leaf types (C15): the literal a scalar's / enum's `value_to_literal`
produces is read back by its `coerce_input_literal` as the coerced value.
-/
namespace Gql.Values
open Gql Gql.Generated.ScalarConsts

/-- CPython facts the round trip depends on (hypotheses, spot-checked by the round-trip oracle
of `checks/c15.py` on every generated case). -/
structure RoundTripLaws (c : PyConv) : Prop where
  /-- `int(str(z)) == z` -/
  int_str : ∀ z s, c.strOfInt z = some s → c.intOfStr s = some z
  /-- `float(repr(f)) == f` for finite `f` -/
  float_str : ∀ f, f.isFinite = true → c.floatOfStr (c.strOfFloat f) = some f
  /-- `float(str(z)) == float(z)` -/
  float_int_str : ∀ z s, c.strOfInt z = some s → c.floatOfStr s = c.floatOfInt z
  /-- an int that converts to float is short enough for `str()` -/
  str_of_floatable : ∀ z f, c.floatOfInt z = some f → ∃ s, c.strOfInt z = some s
  /-- `float(z)` exists for 32-bit `z` -/
  float_of_int32 : ∀ z : Int, -(2 ^ 31) ≤ z → z ≤ 2 ^ 31 - 1 → ∃ f, c.floatOfInt z = some f

def Lit.isScalarKind : Lit → Bool
  | .int _ | .float _ | .str _ | .bool _ | .enum _ => true
  | _ => false

theorem Lit.scalarKind_shape {l : Lit} (h : l.isScalarKind = true) :
    l.asVar = none ∧ l.isNull = false ∧ l.asList = none ∧ l.asObj = none := by
  cases l <;> simp_all [Lit.isScalarKind, Lit.asVar, Lit.isNull, Lit.asList, Lit.asObj]

section
variable (c : PyConv)

theorem defaultLit_num_kind {v : PyVal} {l : Lit} (h : defaultLit c v = .ok l) :
    (∃ z, v = .int z) ∨ (∃ f, v = .float f ∧ f.isFinite = true) → (∃ s, l = .int s) ∨ (∃ s, l = .float s) := by
  rintro (⟨z, rfl⟩ | ⟨f, rfl, hf⟩)
  · simp only [defaultLit] at h
    split at h
    · simp at h
    · simp only [Out.ok.injEq] at h; subst h; split <;> simp
  · simp only [defaultLit, hf, Bool.not_true, Bool.false_eq_true, ↓reduceIte, Out.ok.injEq] at h
    subst h; split <;> simp

theorem scalar_valueToLiteral_kind (s : Scalar) (v : PyVal) (l : Lit)
    (h : s.valueToLiteral c v = .ok (some l)) : l.isScalarKind = true := by
  cases s <;> simp only [Scalar.valueToLiteral] at h
  · cases v <;> simp only [intValueToLiteral] at h
    all_goals try (simp at h; done)
    all_goals repeat' split at h
    all_goals try (simp at h; done)
    all_goals first
      | (simp at h; done)
      | (simp only [Out.ok.injEq, Option.some.injEq] at h; subst h; rfl)
  · unfold floatValueToLiteral at h
    split at h
    all_goals try (simp at h; done)
    all_goals (simp only [Out.ok.injEq, Option.some.injEq] at h; subst h; rfl)
  · unfold stringValueToLiteral at h
    split at h
    all_goals try (simp at h; done)
    all_goals (simp only [Out.ok.injEq, Option.some.injEq] at h; subst h; rfl)
  · unfold booleanValueToLiteral at h
    split at h
    all_goals try (simp at h; done)
    all_goals (simp only [Out.ok.injEq, Option.some.injEq] at h; subst h; rfl)
  · cases v <;> simp only [idValueToLiteral] at h
    all_goals try (simp at h; done)
    all_goals repeat' split at h
    all_goals first
      | (simp at h; done)
      | (simp only [Out.ok.injEq, Option.some.injEq] at h; subst h; rfl)
      | (simp only [Out.ok.injEq, Option.some.injEq] at h; subst h; split <;> rfl)

theorem leafToLiteral_kind (leaf : Leaf) (v : PyVal) (l : Lit) (h : leafToLiteral c leaf v = some l) :
    l.isScalarKind = true := by
  cases leaf with
  | scalar s =>
    simp only [leafToLiteral] at h
    split at h
    · rename_i r hr; subst h; exact scalar_valueToLiteral_kind c s v l hr
    · simp at h
  | enum e =>
    simp only [leafToLiteral] at h
    cases v <;> simp only [EnumType.valueToLiteral] at h
    all_goals try (simp at h; done)
    split at h
    · simp only [Option.some.injEq] at h; subst h; rfl
    · simp at h

theorem scalar_roundtrip (hL : RoundTripLaws c) (s : Scalar) (v r : PyVal)
    (h : s.coerceValue c v = .ok r) :
    ∃ l, s.valueToLiteral c v = .ok (some l) ∧ s.coerceLiteral c l = .ok r := by
  cases s <;> simp only [Scalar.coerceValue] at h <;> simp only [Scalar.valueToLiteral, Scalar.coerceLiteral]
  · have key : ∀ z : Int, inIntRange z = true → ∃ s, c.strOfInt z = some s ∧
        (∃ f, c.floatOfInt z = some f) ∧ parseIntLiteral c (.int s) = .ok (.int z) := by
      intro z hr
      obtain ⟨hlo, hhi⟩ := (inIntRange_iff z).1 hr
      obtain ⟨f, hf⟩ := hL.float_of_int32 z hlo hhi
      obtain ⟨s, hs⟩ := hL.str_of_floatable z f hf
      exact ⟨s, hs, ⟨f, hf⟩, by simp [parseIntLiteral, hL.int_str z s hs, hr]⟩
    cases v <;> simp only [coerceInt] at h
    case int z =>
      obtain ⟨rfl, hr⟩ := coerceIntFromInt_ok h
      obtain ⟨s, hs, ⟨f, hf⟩, hp⟩ := key z hr
      exact ⟨.int s, by simp [intValueToLiteral, hf, hr, hs], hp⟩
    case float f =>
      obtain ⟨rfl, hfin, hint, hr⟩ := coerceIntFromFloat_ok h
      obtain ⟨s, hs, _, hp⟩ := key _ hr
      exact ⟨.int s, by simp [intValueToLiteral, hfin, hint, hr, hs], hp⟩
    all_goals cases h
  · cases v <;> simp only [coerceFloat] at h
    case int z =>
      obtain ⟨f, hnum, rfl, hfin, _⟩ := coerceFloatFromInt_ok h
      obtain ⟨s, hs⟩ := hL.str_of_floatable z _ hnum
      have hfs := hL.float_int_str z s hs
      rw [hnum] at hfs
      by_cases hi : isIntegerString s = true
      · exact ⟨.int s, by simp [floatValueToLiteral, defaultLit, hs, hi], by simp [parseFloatLiteral, hfs, hfin]⟩
      · exact ⟨.float s, by simp [floatValueToLiteral, defaultLit, hs, hi], by simp [parseFloatLiteral, hfs, hfin]⟩
    case float f =>
      obtain ⟨rfl, hfin⟩ := coerceFloatFromFloat_ok h
      have hfs := hL.float_str f hfin
      by_cases hi : isIntegerString (c.strOfFloat f) = true
      · exact ⟨.int (c.strOfFloat f), by simp [floatValueToLiteral, defaultLit, hfin, hi],
          by simp [parseFloatLiteral, hfs, hfin]⟩
      · exact ⟨.float (c.strOfFloat f), by simp [floatValueToLiteral, defaultLit, hfin, hi],
          by simp [parseFloatLiteral, hfs, hfin]⟩
    all_goals cases h
  · cases v <;> simp only [coerceString] at h <;> cases h
    exact ⟨.str _, by simp [stringValueToLiteral, defaultLit], rfl⟩
  · cases v <;> simp only [coerceBoolean] at h <;> cases h
    exact ⟨.bool _, by simp [booleanValueToLiteral, defaultLit], rfl⟩
  · cases v <;> simp only [coerceID] at h
    case int z =>
      obtain ⟨s, hs, rfl⟩ := strOfIntPy_ok h
      exact ⟨.int s, by simp [idValueToLiteral, strOfIntPy, hs], rfl⟩
    case float f =>
      obtain ⟨hfin, hint, s, hs, rfl⟩ := coerceIdFromFloat_ok h
      exact ⟨.int s, by simp [idValueToLiteral, coerceIdFromFloat, strOfIntPy, hfin, hint, hs], rfl⟩
    case str s =>
      cases h
      by_cases hi : isIntegerString s = true
      · exact ⟨.int s, by simp [idValueToLiteral, hi], rfl⟩
      · exact ⟨.str s, by simp [idValueToLiteral, hi], rfl⟩
    all_goals cases h

theorem leaf_roundtrip (hL : RoundTripLaws c) (leaf : Leaf) (v : PyVal)
    (hu : leafValue c leaf v ≠ .undefined) :
    ∃ l, leafToLiteral c leaf v = some l ∧ leafLiteral c leaf l = leafValue c leaf v := by
  have h := leafValue_of_ne hu
  cases leaf with
  | scalar s =>
    obtain ⟨l, hl, hcl⟩ := scalar_roundtrip c hL s v _ h
    exact ⟨l, by simp [leafToLiteral, hl], by simp [leafLiteral, Leaf.coerceInputLiteral, hcl]⟩
  | enum e =>
    obtain ⟨s, rfl, hv⟩ := EnumType.coerceInputValue_ok h
    exact ⟨.enum s, by simp [leafToLiteral, EnumType.valueToLiteral, hv],
      by simp [leafLiteral, Leaf.coerceInputLiteral, EnumType.coerceInputLiteral, hv]⟩

end
end Gql.Values
