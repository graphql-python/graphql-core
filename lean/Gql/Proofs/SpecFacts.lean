import Gql.Proofs.SpecWalk

/-!
C02 — facts about the specification's algorithm: CoerceArgumentValues argument by argument, the
ways ExecuteRequest ends, and `Good` carried over the executor (`good_walk`): every logged
resolver call carries CoerceArgumentValues of its field definition, a propagating null always has
a recorded error.
-/

namespace Gql.Exec.Refine
open Gql.Exec

/-- the specification's verdict for one argument definition -/
def specHere (scx : Spec.Ctx) (args : List (Name × Value)) (a : ArgDef) : Option (Option PyVal) :=
  let argumentValue := lookupArg args a.name
  let hasValue : Bool :=
    match argumentValue with
    | none => false
    | some (.var x) => (scx.vars.lookup x).isSome
    | some _ => true
  if !hasValue && a.default.isSome then
    match a.default with
    | some d => (scx.ops.coerceLiteral scx.schema [] a.type d).map some
    | none => none
  else
    match argumentValue with
    | none => if a.type.nonNull then none else some none
    | some v =>
      if !hasValue then (if a.type.nonNull then none else some none)
      else (scx.ops.coerceLiteral scx.schema scx.vars a.type v).map some

/-- CoerceArgumentValues' `hasValue`, looking through a variable -/
def hasValue (vars : Vars) : Option Value → Bool
  | none => false
  | some (.var x) => (vars.lookup x).isSome
  | some _ => true

/-- no value (argument absent, or a variable without runtime value): the default, else no entry —
a field error if the type is Non-Null -/
theorem specHere_absent {scx : Spec.Ctx} {args : List (Name × Value)} {a : ArgDef}
    (h : hasValue scx.vars (lookupArg args a.name) = false) :
    specHere scx args a = match a.default with
      | some d => (scx.ops.coerceLiteral scx.schema [] a.type d).map some
      | none => if a.type.nonNull then none else some none := by
  unfold specHere
  cases hl : lookupArg args a.name with
  | none => cases a.default <;> simp
  | some v =>
    rw [hl] at h
    cases v <;> simp only [hasValue, Bool.true_eq_false] at h
    cases a.default <;> simp [h]

theorem specHere_present {scx : Spec.Ctx} {args : List (Name × Value)} {a : ArgDef} {v : Value}
    (hl : lookupArg args a.name = some v) (h : hasValue scx.vars (some v) = true) :
    specHere scx args a = (scx.ops.coerceLiteral scx.schema scx.vars a.type v).map some := by
  unfold specHere
  simp only [hl]
  cases v with
  | var x =>
    simp only [hasValue] at h
    simp only [h, Bool.not_true, Bool.false_and, Bool.false_eq_true, ↓reduceIte]
  | _ => simp

theorem hasValue_false {vars : Vars} {v : Value} (h : hasValue vars (some v) = false) :
    ∃ x, v = .var x ∧ vars.lookup x = none := by
  cases v with
  | var x =>
    refine ⟨x, rfl, ?_⟩
    cases hx : vars.lookup x with
    | none => rfl
    | some w => simp [hasValue, hx] at h
  | _ => simp [hasValue] at h

theorem specHere_ne_some_none {scx : Spec.Ctx} {args : List (Name × Value)} {a : ArgDef}
    (hd : a.default = none) (hn : a.type.nonNull = true) : specHere scx args a ≠ some none := by
  cases hv : hasValue scx.vars (lookupArg args a.name) with
  | false => rw [specHere_absent hv, hd]; simp [hn]
  | true =>
    cases hl : lookupArg args a.name with
    | none => rw [hl] at hv; cases hv
    | some v =>
      rw [specHere_present hl (hl ▸ hv)]
      cases scx.ops.coerceLiteral scx.schema scx.vars a.type v <;> simp

theorem spec_coerce_cons (scx : Spec.Ctx) (args : List (Name × Value)) (a : ArgDef)
    (rest : List ArgDef) (acc : ArgMap) :
    Spec.coerceArgumentValues scx args (a :: rest) acc =
      match specHere scx args a with
      | some (some v) => Spec.coerceArgumentValues scx args rest (acc.set a.name v)
      | some none => Spec.coerceArgumentValues scx args rest acc
      | none => none := rfl

theorem Spec.rootType_object {s : Schema} {k : OpKind} {rt : Name}
    (h : Spec.rootType s k = some rt) : s.kind rt = .object := by
  unfold Spec.rootType at h
  cases k <;> simp only at h
  · split at h
    · simp_all
    · cases h
  · cases hm : s.mutation with
    | none => simp [hm] at h
    | some n =>
      simp only [hm] at h
      split at h
      · simp_all
      · cases h

/-- ExecuteRequest ends with a request error (`data` is `null`, one error without path, no
resolver call), or it executes the groups collected for the operation on its root type. -/
theorem executeRequest_cases (ops : Ops) (s : Schema) (doc : Doc) (opName : Option Name)
    (vars : Vars) (root : RVal) :
    (∃ k, Spec.executeRequest ops s doc opName vars root =
      { data := .null, errors := [⟨none, k⟩], log := [] }) ∨
    ∃ op rt groups, Spec.getOperation doc.ops opName = some op ∧ Spec.rootType s op.kind = some rt ∧
      Spec.collectFields { ops := ops, schema := s, doc := doc, vars := vars } rt op.sels = .ok groups ∧
      Spec.executeRequest ops s doc opName vars root =
        { data := match (Spec.executeGroups { ops := ops, schema := s, doc := doc, vars := vars } rt
              (Spec.childOf { ops := ops, schema := s, doc := doc, vars := vars } root) [] groups).out with
            | some kvs => .obj kvs
            | none => .null,
          errors := (Spec.executeGroups { ops := ops, schema := s, doc := doc, vars := vars } rt
              (Spec.childOf { ops := ops, schema := s, doc := doc, vars := vars } root) [] groups).errs,
          log := (Spec.executeGroups { ops := ops, schema := s, doc := doc, vars := vars } rt
              (Spec.childOf { ops := ops, schema := s, doc := doc, vars := vars } root) [] groups).log } := by
  unfold Spec.executeRequest
  cases hop : Spec.getOperation doc.ops opName with
  | none => exact .inl ⟨_, rfl⟩
  | some op =>
    simp only
    cases hrt : Spec.rootType s op.kind with
    | none => exact .inl ⟨_, rfl⟩
    | some rt =>
      simp only
      cases hc : Spec.collectFields { ops := ops, schema := s, doc := doc, vars := vars } rt op.sels with
      | crash c => exact .inl ⟨_, rfl⟩
      | err k => exact .inl ⟨_, rfl⟩
      | ok groups => exact .inr ⟨op, rt, groups, rfl, hrt, hc, rfl⟩

/-- a walk at the request level: a request error, or the groups of the operation over the root -/
theorem Walk.executeRequest {ops : Ops} {s : Schema} {doc : Doc} {vars : Vars} {Φ ΦF ΦG ΦI}
    (w : Walk { ops := ops, schema := s, doc := doc, vars := vars } Φ ΦF ΦG ΦI)
    (opName : Option Name) (root : RVal) :
    (∃ k, Spec.executeRequest ops s doc opName vars root =
      { data := .null, errors := [⟨none, k⟩], log := [] }) ∨
    ∃ rt groups r, ΦG rt root.child groups [] r ∧ Spec.executeRequest ops s doc opName vars root =
      { data := match r.out with
          | some kvs => .obj kvs
          | none => .null,
        errors := r.errs, log := r.log } := by
  rcases executeRequest_cases ops s doc opName vars root with h | ⟨op, rt, groups, _, _, hc, h⟩
  · exact .inl h
  · exact .inr ⟨rt, groups, _, w.request root rt groups (collectFields_nodup _ _ _ _ hc), h⟩

/-- the call is an invocation of a field of its parent type with exactly the coerced arguments
CoerceArgumentValues prescribes for some field node of that name -/
def CallOk (scx : Spec.Ctx) (c : Call) : Prop :=
  ∃ (fdef : FieldDef) (node : FieldNode), scx.schema.getField c.parent c.field = some fdef ∧
    node.name = c.field ∧ Spec.coerceArgumentValues scx node.args fdef.args [] = some c.args

structure Good (scx : Spec.Ctx) (pos : List PSeg) {α : Type} (r : Spec.R α) : Prop where
  calls : ∀ c ∈ r.log, CallOk scx c
  nonempty : r.out = none → r.errs ≠ []

theorem Good.pure {scx : Spec.Ctx} {pos : List PSeg} {α : Type} (a : α) :
    Good scx pos (Spec.R.pure a) :=
  ⟨by simp [Spec.R.pure], by simp [Spec.R.pure]⟩

theorem Good.fail {scx : Spec.Ctx} {pos : List PSeg} {α : Type} (k : ErrKind) :
    Good scx pos (Spec.R.fail pos k : Spec.R α) :=
  ⟨by simp [Spec.R.fail], by simp [Spec.R.fail]⟩

theorem Good.absorb {scx : Spec.Ctx} {pos : List PSeg} {r : Spec.R Json} (t : TypeRef)
    (h : Good scx pos r) : Good scx pos (Spec.absorb t r) := by
  unfold Spec.absorb
  cases hr : r.out with
  | some j => simpa [hr] using h
  | none =>
    simp only
    split
    · exact h
    · exact ⟨h.calls, by simp⟩

theorem Good.mapOut {scx : Spec.Ctx} {pos : List PSeg} {α β : Type} {r : Spec.R α} (f : α → β)
    (h : Good scx pos r) : Good scx pos (r.mapOut f) :=
  ⟨h.calls, by simpa [Spec.R.mapOut] using h.nonempty⟩

theorem Good.andThen {scx : Spec.Ctx} {pos pos' : List PSeg} {α β γ : Type} {r : Spec.R α}
    {rs : Spec.R β} (f : α → β → γ) (h1 : Good scx pos' r) (h2 : Good scx pos rs) :
    Good scx pos (r.andThen f rs) := by
  unfold Spec.R.andThen
  cases hout : r.out with
  | none => exact ⟨h1.calls, fun _ => h1.nonempty hout⟩
  | some v =>
    refine ⟨fun c hc => (List.mem_append.1 hc).elim (h1.calls c) (h2.calls c), fun hn => ?_⟩
    have := h2.nonempty (by simpa using hn)
    simp [this]

theorem good_walk (scx : Spec.Ctx) :
    Walk scx (fun _ _ _ pos r => Good scx pos r) (fun _ _ _ pos r => Good scx pos r)
      (fun _ _ _ pos r => Good scx pos r) (fun _ _ _ pos _ r => Good scx pos r) where
  pure _ _ _ _ _ := .pure _
  fail _ := .fail _
  own _ _ _ _ _ := ⟨by simp, by simp⟩
  obj _ _ _ _ h := h.mapOut _
  list h := h.mapOut _
  pureF _ _ _ _ _ := .pure _
  failF t _ := ((Good.fail _).absorb t).mapOut _
  call := fun {ot _ f _ pos fd a r} _ hf hc h =>
    have h' : Good scx pos { r with log := ⟨pos, ot, f.name, a⟩ :: r.log } :=
      ⟨fun c hm => (List.mem_cons.1 hm).elim (fun e => e ▸ ⟨fd, f, hf, rfl, hc⟩) (h.calls c), h.nonempty⟩
    (h'.absorb _).mapOut _
  nilG _ _ _ := .pure _
  consG _ h1 h2 := h1.andThen _ h2
  nilI _ _ _ _ := .pure _
  consI h1 h2 := (h1.absorb _).andThen _ h2

theorem completeItems_good (scx : Spec.Ctx) : (items : List RVal) → ∀ (t : TypeRef)
    (fields : List FieldNode) (pos : List PSeg) (i : Nat),
    Good scx pos (Spec.completeItems scx t fields pos i items) :=
  (good_walk scx).items

end Gql.Exec.Refine
