import Gql.Proofs.Visitor
import Gql.Proofs.Util.Assoc
/-!
How the edits `visit` accumulates per level relate to the documented effect per position:
applying the list of `(index, edit)` pairs with the running offset (`applyArr`) / the list of
`(attribute, edit)` pairs (`applyNode`) gives exactly the tuple / attribute list of the contract.
-/
namespace Gql.Syntax
open Gql Gql.Syntax.Spec

/-- the entries `visit` appends to the edits of a level for one visited position with key `ky`,
against the documented effect on that position -/
inductive SlotEdits (ky : Key) : Slot → Edits → Prop
  | keep : SlotEdits ky .keep []
  | gone1 : SlotEdits ky .gone [(ky, .rm)]
  | gone2 (r : Node) : SlotEdits ky .gone [(ky, .val (.node r)), (ky, .rm)]
  | put1 (x : Node) : SlotEdits ky (.put x) [(ky, .val (.node x))]
  | put2 (r x : Node) : SlotEdits ky (.put x) [(ky, .val (.node r)), (ky, .val (.node x))]

theorem SlotEdits.nil_iff {ky : Key} {slot : Slot} {es : Edits} (h : SlotEdits ky slot es) :
    es = [] ↔ slot = .keep := by
  cases h <;> simp

inductive ArrEdits : Nat → List Node → Edits → List Node × Bool → Prop
  | nil (j : Nat) : ArrEdits j [] [] ([], false)
  | cons (j : Nat) (c : Node) (suf : List Node) (slot : Slot) (es1 es2 : Edits) (rest : List Node × Bool) :
      SlotEdits (.idx j) slot es1 → ArrEdits (j + 1) suf es2 rest →
      ArrEdits j (c :: suf) (es1 ++ es2) (slotOut slot c rest)

/-- the contract's "changed" flag of a tuple is set exactly when its level has collected edits -/
theorem ArrEdits.changed {j : Nat} {suf : List Node} {es : Edits} {out : List Node × Bool}
    (h : ArrEdits j suf es out) : out.2 = !es.isEmpty := by
  induction h with
  | nil j => rfl
  | cons j c suf slot es1 es2 rest hs _ ih =>
    cases hs with
    | keep => exact ih
    | _ => rfl

/-- `applyArr` at the item behind `done`, `off` removals so far -/
theorem applyArr_at (done suf : List Node) (c : Node) (e : EVal) (rest : Edits) (off : Nat) :
    applyArr ((.idx (off + done.length), e) :: rest) (done ++ c :: suf) off =
      match e with
      | .rm => applyArr rest (done ++ suf) (off + 1)
      | .val (.node x) => applyArr rest (done ++ x :: suf) off
      | .val (.arr _) => .crash "TupleInTuple" := by
  have h1 : ¬ off + done.length < off := Nat.not_lt.mpr (Nat.le_add_right _ _)
  have h2 : off + done.length - off = done.length := Nat.add_sub_cancel_left _ _
  have h3 : done.length < (done ++ c :: suf).length := by
    rw [List.length_append, List.length_cons]; exact Nat.lt_add_of_pos_right (Nat.succ_pos _)
  rcases e with _ | ⟨x | _⟩ <;>
    simp only [applyArr, h1, reduceIte, h2, h3, List.eraseIdx_append_of_length_le, Nat.le_refl, Nat.sub_self,
      List.eraseIdx_cons_zero, List.set_append_right, List.set_cons_zero]

/-- `applyArr` on the accumulated edits of a tuple level produces the documented tuple -/
theorem ArrEdits.apply {j : Nat} {suf : List Node} {es : Edits} {out : List Node × Bool}
    (h : ArrEdits j suf es out) :
    ∀ (done : List Node) (off : Nat), off + done.length = j →
      applyArr es (done ++ suf) off = .ok (done ++ out.1) := by
  induction h with
  | nil j => intro done off _; simp [applyArr]
  | cons j c suf slot es1 es2 rest hs _ ih =>
    intro done off hoff
    subst hoff
    cases hs with
    | keep => simpa [slotOut] using ih (done ++ [c]) off (by simp; omega)
    | gone1 => exact (applyArr_at ..).trans (ih done (off + 1) (by omega))
    | gone2 r => exact (applyArr_at ..).trans ((applyArr_at ..).trans (ih done (off + 1) (by omega)))
    | put1 x =>
      refine (applyArr_at ..).trans ?_
      simpa [slotOut] using ih (done ++ [x]) off (by simp; omega)
    | put2 r x =>
      refine (applyArr_at ..).trans ((applyArr_at ..).trans ?_)
      simpa [slotOut] using ih (done ++ [x]) off (by simp; omega)

/-- what the loop finds when it leaves the level of the tuple `cs` with the accumulated edits `es` -/
theorem ArrEdits.leave {cs : List Node} {es : Edits} {out : List Node × Bool} (h : ArrEdits 0 cs es out) :
    (if es.isEmpty then .ok (some (.arr cs)) else applyEdits true (some (.arr cs)) es) = .ok (some (.arr out.1)) := by
  have happ : applyArr es cs 0 = .ok out.1 := h.apply [] 0 rfl
  cases es with
  | nil => cases happ; rfl
  | cons a b => simp only [List.isEmpty_cons, Bool.false_eq_true, reduceIte, applyEdits, happ]; rfl

theorem setAttr_keys (fs : List (String × Child)) (k : String) (c : Child) :
    (setAttr fs k c).map Prod.fst = fs.map Prod.fst := by
  induction fs with
  | nil => rfl
  | cons hd tl ih =>
    obtain ⟨k', c'⟩ := hd
    simp only [setAttr]
    split <;> simp [ih]

theorem setAttr_setAttr (fs : List (String × Child)) (k : String) (a b : Child) :
    setAttr (setAttr fs k a) k b = setAttr fs k b := by
  induction fs with
  | nil => rfl
  | cons hd tl ih =>
    obtain ⟨k', c'⟩ := hd
    simp only [setAttr]
    split
    · next h => simp [setAttr, h]
    · next h => simp [setAttr, h, ih]

theorem setField_eq_setAttr (c : Child) (k : String) : ∀ (fs : List (String × Child)),
    k ∈ fs.map Prod.fst → setField fs k c = .ok (setAttr fs k c) := by
  intro fs
  induction fs with
  | nil => intro h; simp at h
  | cons hd tl ih =>
    intro h
    obtain ⟨k', c'⟩ := hd
    simp only [setField, setAttr]
    split
    · rfl
    · next hk =>
      have : k ∈ tl.map Prod.fst := by
        simp only [List.map_cons, List.mem_cons] at h
        rcases h with h | h
        · exact absurd h.symm hk
        · exact h
      show (setField tl k c >>= fun r' => Out.ok ((k', c') :: r')) = _
      rw [ih this]; rfl

theorem applyNode_cons_name (k : String) (e : EVal) (rest : Edits) (fs : List (String × Child))
    (h : k ∈ fs.map Prod.fst) :
    applyNode ((.name k, e) :: rest) fs = applyNode rest (setAttr fs k e.toChild) := by
  show (setField fs k e.toChild >>= fun fs' => applyNode rest fs') = _
  rw [setField_eq_setAttr _ _ fs h]; rfl

theorem withFields_cons (fs : List (String × Child)) (k : String) (c : Child) (sp : List (String × Child)) :
    withFields fs ((k, c) :: sp) = withFields (setAttr fs k c) sp := rfl

theorem attr_mem (m : Node) (k : String) (h : m.attr k ≠ .absent) : k ∈ m.fields.map Prod.fst := by
  unfold Node.attr at h
  cases hl : m.fields.lookup k with
  | none => simp [hl] at h
  | some c => exact List.mem_map_of_mem (f := Prod.fst) (List.mem_of_lookup hl)

def slotChild : Slot → Child
  | .keep => .absent
  | .gone => .absent
  | .put c' => .one c'

/-- edits accumulated on a node level (machine) against the attribute replacements of the contract -/
inductive FieldEdits (keys : List String) : List String → Edits → List (String × Child) → Prop
  | nil : FieldEdits keys [] [] []
  | same (k : String) (ks : List String) (es : Edits) (sp : List (String × Child)) :
      FieldEdits keys ks es sp → FieldEdits keys (k :: ks) es sp
  | single (k : String) (ks : List String) (slot : Slot) (es1 es : Edits) (sp : List (String × Child)) :
      k ∈ keys → SlotEdits (.name k) slot es1 → slot ≠ .keep → FieldEdits keys ks es sp →
      FieldEdits keys (k :: ks) (es1 ++ es) ((k, slotChild slot) :: sp)
  | arr (k : String) (ks : List String) (cs' : List Node) (es : Edits) (sp : List (String × Child)) :
      k ∈ keys → FieldEdits keys ks es sp →
      FieldEdits keys (k :: ks) ((.name k, .val (.arr cs')) :: es) ((k, .many cs') :: sp)

theorem FieldEdits.isEmpty_eq {keys ks : List String} {es : Edits} {sp : List (String × Child)}
    (h : FieldEdits keys ks es sp) : es.isEmpty = sp.isEmpty := by
  induction h with
  | nil => rfl
  | same k ks es sp _ ih => exact ih
  | single k ks slot es1 es sp _ hs hne _ _ =>
    cases hs with
    | keep => exact absurd rfl hne
    | _ => rfl
  | arr k ks cs' es sp _ _ _ => rfl

/-- the entries of one changed position of a node level set its attribute to what the contract documents -/
theorem SlotEdits.applyNode {k : String} {slot : Slot} {es1 : Edits} (hs : SlotEdits (.name k) slot es1)
    (hne : slot ≠ .keep) (rest : Edits) (fs : List (String × Child)) (hmem : k ∈ fs.map Prod.fst) :
    applyNode (es1 ++ rest) fs = applyNode rest (setAttr fs k (slotChild slot)) := by
  have hmem' : ∀ c, k ∈ (setAttr fs k c).map Prod.fst := fun c => by rw [setAttr_keys]; exact hmem
  cases hs with
  | keep => exact absurd rfl hne
  | gone1 | put1 _ => exact applyNode_cons_name k _ _ fs hmem
  | gone2 _ | put2 _ _ =>
    exact (applyNode_cons_name k _ _ fs hmem).trans
      ((applyNode_cons_name k _ _ _ (hmem' _)).trans (by rw [setAttr_setAttr]; rfl))

theorem FieldEdits.apply {keys ks : List String} {es : Edits} {sp : List (String × Child)}
    (h : FieldEdits keys ks es sp) :
    ∀ (fs : List (String × Child)), fs.map Prod.fst = keys → applyNode es fs = .ok (withFields fs sp) := by
  induction h with
  | nil => intro fs _; rfl
  | same k ks es sp _ ih => exact ih
  | single k ks slot es1 es sp hk hs hne _ ih =>
    intro fs hfs
    rw [hs.applyNode hne es fs (hfs ▸ hk), withFields_cons]
    exact ih _ (by rw [setAttr_keys, hfs])
  | arr k ks cs' es sp hk _ ih =>
    intro fs hfs
    rw [applyNode_cons_name k _ _ fs (hfs ▸ hk), withFields_cons]
    exact ih _ (by rw [setAttr_keys, hfs])

/-- rebuilding a node from the accumulated edits gives the documented copy -/
theorem FieldEdits.rebuild {m : Node} {ks : List String} {es : Edits} {sp : List (String × Child)}
    (h : FieldEdits (m.fields.map Prod.fst) ks es sp) :
    rebuild m es = .ok (Node.mk m.kind 0 m.payload (withFields m.fields sp)) := by
  show (applyNode es m.fields >>= fun fs => Out.ok (Node.mk m.kind 0 m.payload fs)) = _
  rw [h.apply m.fields rfl]; rfl

/-- what the loop hands to `leave` for `m` with the accumulated edits `es`: `m` itself when nothing
below changed, else the documented copy -/
theorem FieldEdits.leaveNode {m : Node} {ks : List String} {es : Edits} {sp : List (String × Child)}
    (h : FieldEdits (m.fields.map Prod.fst) ks es sp) :
    (if es.isEmpty then .ok (some (.node m)) else applyEdits false (some (.node m)) es) =
      .ok (some (.node (if sp.isEmpty then m else Node.mk m.kind 0 m.payload (withFields m.fields sp)))) := by
  rw [h.isEmpty_eq]
  cases sp.isEmpty with
  | true => rfl
  | false =>
    simp only [Bool.false_eq_true, reduceIte, applyEdits]
    show (Gql.Syntax.rebuild m es >>= fun m' => Out.ok (some (Val.node m'))) = _
    rw [h.rebuild]
    rfl

/-- the edits one position collects — from `enter`, if it answered the replacement `m` (`replaced`),
then from `leave` answering `a` for the node `m'` (rebuilt: `e`) — against the effect `specLeave` documents -/
theorem SlotEdits.of_leave (ky : Key) (m m' : Node) (replaced e : Bool) (a : Action) (ha : a ≠ .brk) :
    SlotEdits ky
      (match a with
        | .remove => .gone
        | .replace q => .put q
        | _ => if e then .put m' else if replaced then .put m else .keep)
      ((if replaced then [(ky, .val (.node m))] else []) ++ leaveEdit ky m' e a) := by
  cases a with
  | brk => exact absurd rfl ha
  | _ => cases replaced <;> cases e <;> constructor

end Gql.Syntax
