import Gql.Proofs.OverlapSym
import Gql.Proofs.OverlapExpand
import Gql.Proofs.OverlapPairSet
/-! C14, named fragments, specification side: `SpecConflict` holds iff two fields of one expanded
selection set have an *unordered* conflict `UConf` (membership in expanded sets instead of list
positions; the visited-set order of the specification's expansion disappears). From the
specification to `UWConf` every step of `Reach` is a step of the conflict (`mem_succs`,
`reach_uconf`); back, and for the completeness of the rule, one descent along an unordered conflict
(`UConfN.descend`) serves both: its next pair may be in the other order, or be two members of one
sub-selection. -/
namespace Gql.Exec
open Overlap

/-- unordered conflict of two field instances, with the length of the chain -/
inductive UConfN (s : Schema) (d : Doc) : Nat → Bool → Spec.FieldInst → Spec.FieldInst → Prop where
  | here {n : Nat} {full : Bool} {a b : Spec.FieldInst} :
      Spec.direct s ⟨a, b, full⟩ = true → UConfN s d n full a b
  | sub {n : Nat} {full : Bool} {a b c1 c2 : Spec.FieldInst} :
      MIn s d a b c1 → MIn s d a b c2 → c1.node.responseName = c2.node.responseName →
      UConfN s d n (Spec.deeper s ⟨a, b, full⟩) c1 c2 → UConfN s d (n + 1) full a b

def UConf (s : Schema) (d : Doc) (full : Bool) (a b : Spec.FieldInst) : Prop :=
  ∃ n, UConfN s d n full a b

/-- two fields of one expanded selection set of the document have an unordered conflict -/
def UWConf (s : Schema) (d : Doc) : Prop :=
  ∃ t ∈ d.typedSets s, ∃ c1 c2, InE s d t.1 t.2.sels c1 ∧ InE s d t.1 t.2.sels c2 ∧
    c1.node.responseName = c2.node.responseName ∧ UConf s d true c1 c2

theorem MIn.comm {s : Schema} {d : Doc} {a b c : Spec.FieldInst} (h : MIn s d a b c) :
    MIn s d b a c := Or.symm h

theorem InE.docInst {s : Schema} {d : Doc} {t : Option String × SelSet}
    (ht : t ∈ d.typedSets s) {c : Spec.FieldInst} (h : InE s d t.1 t.2.sels c) : DocInst s d c := by
  rcases h with h | ⟨_, _, m, _, tf, htf, hc⟩
  · exact ⟨t, ht, h⟩
  · exact ⟨tf, fragSet_typed htf, hc⟩

theorem subSels_mem {s : Schema} {d : Doc} {a c : Spec.FieldInst}
    (h : InE s d (subP s a) (subSels a) c) : a.node.hasSub = true := by
  cases hs : a.node.hasSub with
  | true => rfl
  | false =>
    simp only [subSels, hs, Bool.false_eq_true, if_false] at h
    rcases h with h | ⟨n, hn, _⟩
    · simp [selsFlat] at h
    · simp [selsDirectSpreads] at hn

theorem subSels_eq {a : Spec.FieldInst} (h : a.node.hasSub = true) : subSels a = a.node.sub := by
  simp [subSels, h]

theorem InE.sub_docInst {s : Schema} {d : Doc} {a c : Spec.FieldInst} (ha : DocInst s d a)
    (h : InE s d (subP s a) (subSels a) c) : DocInst s d c := by
  have hs := subSels_mem h
  rw [subSels_eq hs] at h
  exact InE.docInst (t := (subP s a, a.node.subSet)) (ha.sub hs) h

theorem MIn.docInst {s : Schema} {d : Doc} {a b c : Spec.FieldInst} (ha : DocInst s d a)
    (hb : DocInst s d b) (h : MIn s d a b c) : DocInst s d c := by
  rcases h with h | h
  · exact InE.sub_docInst ha h
  · exact InE.sub_docInst hb h

section sym
variable {s : Schema} {d : Doc} (hA : ∀ a, DocInst s d a → a.node.argsOK)
include hA

theorem UConfN.swap_pair : ∀ {n : Nat} {full : Bool} {a b : Spec.FieldInst}, DocInst s d a →
    DocInst s d b → UConfN s d n full a b → UConfN s d n full b a := by
  intro n full a b ha hb h
  cases h with
  | here hd => exact UConfN.here (by rw [← direct_comm s (hA a ha) (hA b hb)]; exact hd)
  | sub h1 h2 hrn hc =>
    refine UConfN.sub h1.comm h2.comm hrn ?_
    rw [← deeper_comm]
    exact hc

end sym

theorem mem_initStates_gen {s : Schema} {d : Doc} {st0 : Spec.State} :
    st0 ∈ Spec.initStates s d ↔
      ∃ t ∈ d.typedSets s,
        ∃ pr ∈ Spec.sameNamePairs (Spec.expandWith s d t.1 t.2.sels []).1,
          st0 = ⟨pr.1, pr.2, true⟩ := by
  simp only [Spec.initStates, ← Doc.typedSets_spec, List.mem_flatMap, List.mem_map]
  constructor
  · rintro ⟨ps, ⟨t, ht, rfl⟩, pr, hpr, rfl⟩
    exact ⟨t, ht, pr, hpr, rfl⟩
  · rintro ⟨t, ht, pr, hpr, rfl⟩
    exact ⟨_, ⟨t, ht, rfl⟩, pr, hpr, rfl⟩

theorem mem_succs {s : Schema} {d : Doc} {x y : Spec.State} (h : y ∈ Spec.succs s d x) :
    MIn s d x.a x.b y.a ∧ MIn s d x.a x.b y.b ∧
      y.a.node.responseName = y.b.node.responseName ∧ y.full = Spec.deeper s x := by
  simp only [Spec.succs] at h
  split at h
  · cases h
  · obtain ⟨pr, hpr, rfl⟩ := List.mem_map.1 h
    obtain ⟨hp, hrn⟩ := Spec.mem_sameNamePairs.1 hpr
    have hm := Spec.pairsOf_mem hp
    exact ⟨(merged_mem s d _ _ _).1 hm.1, (merged_mem s d _ _ _).1 hm.2, hrn, rfl⟩

theorem reach_uconf {s : Schema} {d : Doc} {st0 st : Spec.State} (hr : Spec.Reach s d st0 st) :
    Spec.direct s st = true → UConf s d st0.full st0.a st0.b := by
  induction hr with
  | refl st => exact fun hd => ⟨0, UConfN.here hd⟩
  | @step a b c hstep _ ih =>
    intro hd
    obtain ⟨n, hn⟩ := ih hd
    obtain ⟨h1, h2, hrn, hf⟩ := mem_succs hstep
    exact ⟨n + 1, UConfN.sub h1 h2 hrn (hf ▸ hn)⟩

/-- both fields of the state are fields of the document -/
def DocState (s : Schema) (d : Doc) (x : Spec.State) : Prop := DocInst s d x.a ∧ DocInst s d x.b

theorem DocState.succs {s : Schema} {d : Doc} {x : Spec.State} (hx : DocState s d x) :
    ∀ y ∈ Spec.succs s d x, DocState s d y := fun _ hy =>
  ⟨(mem_succs hy).1.docInst hx.1 hx.2, (mem_succs hy).2.1.docInst hx.1 hx.2⟩

theorem DocState.init {s : Schema} {d : Doc} {x : Spec.State} (h : x ∈ Spec.initStates s d) :
    DocState s d x := by
  obtain ⟨t, ht, pr, hpr, rfl⟩ := mem_initStates_gen.1 h
  have hm := Spec.pairsOf_mem (Spec.mem_sameNamePairs.1 hpr).1
  exact ⟨InE.docInst ht ((expand_mem s d _ _ _).1 hm.1),
    InE.docInst ht ((expand_mem s d _ _ _).1 hm.2)⟩

theorem DocState.reach {s : Schema} {d : Doc} {x y : Spec.State} (hx : DocState s d x)
    (hr : Spec.Reach s d x y) : DocState s d y := by
  induction hr with
  | refl _ => exact hx
  | step hs _ ih => exact ih (hx.succs _ hs)

theorem specConflict_uw {s : Schema} {d : Doc} (h : Spec.SpecConflict s d) : UWConf s d := by
  obtain ⟨st0, h0, st, hr, hd⟩ := h
  obtain ⟨t, ht, pr, hpr, rfl⟩ := mem_initStates_gen.1 h0
  obtain ⟨hp, hrn⟩ := Spec.mem_sameNamePairs.1 hpr
  have hm := Spec.pairsOf_mem hp
  exact ⟨t, ht, pr.1, pr.2, (expand_mem s d _ _ _).1 hm.1, (expand_mem s d _ _ _).1 hm.2, hrn,
    reach_uconf hr hd⟩

theorem mem_pairs_or {α : Type} {l : List α} {x y : α} (hx : x ∈ l) (hy : y ∈ l) :
    (x, y) ∈ Spec.pairsOf l ∨ (y, x) ∈ Spec.pairsOf l ∨ x = y := by
  induction l with
  | nil => cases hx
  | cons h t ih =>
    simp only [Spec.pairsOf, List.mem_append, List.mem_map]
    rcases List.mem_cons.1 hx with rfl | hx' <;> rcases List.mem_cons.1 hy with rfl | hy'
    · exact Or.inr (Or.inr rfl)
    · exact Or.inl (Or.inl ⟨y, hy', rfl⟩)
    · exact Or.inr (Or.inl (Or.inl ⟨x, hx', rfl⟩))
    · rcases ih hx' hy' with h1 | h1 | h1
      · exact Or.inl (Or.inr h1)
      · exact Or.inr (Or.inl (Or.inr h1))
      · exact Or.inr (Or.inr h1)

/-- `G` holds of the pair in one of the two orders, or it is one and the same field -/
def UpToOrder (G : Spec.FieldInst → Spec.FieldInst → Prop) (c1 c2 : Spec.FieldInst) : Prop :=
  G c1 c2 ∨ G c2 c1 ∨ c1 = c2

theorem UpToOrder.symm {G : Spec.FieldInst → Spec.FieldInst → Prop} {c1 c2 : Spec.FieldInst}
    (h : UpToOrder G c1 c2) : UpToOrder G c2 c1 := by
  rcases h with h | h | h
  · exact Or.inr (Or.inl h)
  · exact Or.inl h
  · exact Or.inr (Or.inr h.symm)

theorem upToOrder_of_mem {G : Spec.FieldInst → Spec.FieldInst → Prop} {l : List Spec.FieldInst}
    {c1 c2 : Spec.FieldInst} (h1 : c1 ∈ l) (h2 : c2 ∈ l)
    (hrn : c1.node.responseName = c2.node.responseName)
    (hG : ∀ p ∈ Spec.sameNamePairs l, G p.1 p.2) : UpToOrder G c1 c2 := by
  rcases mem_pairs_or h1 h2 with hp | hp | he
  · exact Or.inl (hG (c1, c2) (Spec.mem_sameNamePairs.2 ⟨hp, hrn⟩))
  · exact Or.inr (Or.inl (hG (c2, c1) (Spec.mem_sameNamePairs.2 ⟨hp, hrn.symm⟩)))
  · exact Or.inr (Or.inr he)

section descend
variable {s : Schema} {d : Doc} (hA : ∀ a, DocInst s d a → a.node.argsOK)
  {G : Bool → Spec.FieldInst → Spec.FieldInst → Prop} {X : Prop}
  (here : ∀ {full a b}, G full a b → Spec.direct s ⟨a, b, full⟩ = true → X)
  (within : ∀ {t : Option String × SelSet} {c1 c2}, t ∈ d.typedSets s →
    InE s d t.1 t.2.sels c1 → InE s d t.1 t.2.sels c2 →
    c1.node.responseName = c2.node.responseName → UpToOrder (G true) c1 c2)
  (across : ∀ {full a b c1 c2}, DocInst s d a → DocInst s d b → G full a b →
    InE s d (subP s a) (subSels a) c1 → InE s d (subP s b) (subSels b) c2 →
    c1.node.responseName = c2.node.responseName →
    UpToOrder (G (Spec.deeper s ⟨a, b, full⟩)) c1 c2)
include hA here within across

/-- Descent along an unordered conflict. `G full a b` says that the pair `a`, `b` is looked at in
this order under `full`. If a direct conflict of a pair that is looked at gives `X` (`here`), any
two fields of one response name in an expanded typed set are looked at under `true`, up to order
(`within`), and so are, under the pair's `deeper`, a member of each of the two sub-selections of a
pair that is looked at (`across`), then an unordered conflict of a pair that is looked at up to
order gives `X`. The pair may be looked at under a wider `full'` than the conflict's: its next pair
may be two members of one sub-selection, looked at under `true`. -/
theorem UConfN.descend {n : Nat} {full : Bool} {a b : Spec.FieldInst}
    (hu : UConfN s d n full a b) : ∀ {full' : Bool}, (full = true → full' = true) →
      DocInst s d a → DocInst s d b → UpToOrder (G full') a b → X := by
  have inside : ∀ {x c1 c2 : Spec.FieldInst}, DocInst s d x → InE s d (subP s x) (subSels x) c1 →
      InE s d (subP s x) (subSels x) c2 → c1.node.responseName = c2.node.responseName →
      UpToOrder (G true) c1 c2 := by
    intro x c1 c2 hx e1 e2 hrn
    have hs := subSels_mem e1
    rw [subSels_eq hs] at e1 e2
    exact within (t := (subP s x, x.node.subSet)) (hx.sub hs) e1 e2 hrn
  have next : ∀ {full : Bool} {a b c1 c2 : Spec.FieldInst}, DocInst s d a → DocInst s d b →
      G full a b → MIn s d a b c1 → MIn s d a b c2 →
      c1.node.responseName = c2.node.responseName →
      UpToOrder (G (Spec.deeper s ⟨a, b, full⟩)) c1 c2 ∨ UpToOrder (G true) c1 c2 := by
    intro full a b c1 c2 ha hb g h1 h2 hrn
    rcases h1 with e1 | e1 <;> rcases h2 with e2 | e2
    · exact Or.inr (inside ha e1 e2 hrn)
    · exact Or.inl (across ha hb g e1 e2 hrn)
    · exact Or.inl (across ha hb g e2 e1 hrn.symm).symm
    · exact Or.inr (inside hb e1 e2 hrn)
  induction hu with
  | @here _ full a b hd =>
    intro full' hf ha hb hg
    have hd' := Spec.direct_covers (s := ⟨a, b, full⟩) (t := ⟨a, b, full'⟩) ⟨rfl, rfl, hf⟩ hd
    rcases hg with g | g | rfl
    · exact here g hd'
    · exact here g (by rw [← direct_comm s (hA a ha) (hA b hb)]; exact hd')
    · rw [direct_self s (hA a ha)] at hd'; cases hd'
  | @sub _ full a b c1 c2 h1 h2 hrn _ ih =>
    intro full' hf ha hb hg
    have nx : UpToOrder (G (Spec.deeper s ⟨a, b, full'⟩)) c1 c2 ∨ UpToOrder (G true) c1 c2 := by
      rcases hg with g | g | rfl
      · exact next ha hb g h1 h2 hrn
      · rw [deeper_comm]; exact next hb ha g h1.comm h2.comm hrn
      · exact Or.inr (inside ha (h1.elim id id) (h2.elim id id) hrn)
    rcases nx with g | g
    · exact ih (Spec.deeper_mono hf) (h1.docInst ha hb) (h2.docInst ha hb) g
    · exact ih (fun _ => rfl) (h1.docInst ha hb) (h2.docInst ha hb) g

theorem UWConf.descend (h : UWConf s d) : X := by
  obtain ⟨t, ht, c1, c2, h1, h2, hrn, n, hu⟩ := h
  exact hu.descend hA here within across id (InE.docInst ht h1) (InE.docInst ht h2)
    (within ht h1 h2 hrn)

end descend

/-- the specification looks at every pair the descent passes: two fields of an expanded typed set
are an initial state, members of the merged sub-selections of a pair a successor -/
theorem uw_specConflict {s : Schema} {d : Doc} (hA : ∀ a, DocInst s d a → a.node.argsOK)
    (hL : LeafNoSub s d) (h : UWConf s d) : Spec.SpecConflict s d := by
  refine UWConf.descend hA
    (G := fun full a b => ∃ st0 ∈ Spec.initStates s d, Spec.Reach s d st0 ⟨a, b, full⟩)
    (fun ⟨st0, h0, hr⟩ hd => ⟨st0, h0, _, hr, hd⟩) ?_ ?_ h
  · intro t c1 c2 ht h1 h2 hrn
    exact upToOrder_of_mem ((expand_mem s d _ _ _).2 h1) ((expand_mem s d _ _ _).2 h2) hrn
      fun p hp => ⟨_, mem_initStates_gen.2 ⟨t, ht, p, hp, rfl⟩, Spec.Reach.refl _⟩
  · rintro full a b c1 c2 _ _ ⟨st0, h0, hr⟩ e1 e2 hrn
    -- both fields have sub-selections, so the specification does not stop at this pair
    have hcut : (!Spec.deeper s ⟨a, b, full⟩ && Spec.leafStop s ⟨a, b, full⟩) = false := by
      cases hcut : (!Spec.deeper s ⟨a, b, full⟩ && Spec.leafStop s ⟨a, b, full⟩) with
      | false => rfl
      | true =>
        have hns := hL st0 h0 _ hr (Bool.and_eq_true_iff.1 hcut).2
        rw [subSels_mem e1, subSels_mem e2] at hns
        cases hns
    refine upToOrder_of_mem ((merged_mem s d a b c1).2 (Or.inl e1))
      ((merged_mem s d a b c2).2 (Or.inr e2)) hrn fun p hp => ⟨st0, h0, hr.trans ?_⟩
    refine Spec.Reach.step ?_ (Spec.Reach.refl _)
    simp only [Spec.Step, Spec.succs, hcut, Bool.false_eq_true, if_false]
    exact List.mem_map_of_mem hp

theorem specConflict_iff_uw {s : Schema} {d : Doc} (hA : ∀ a, DocInst s d a → a.node.argsOK)
    (hL : LeafNoSub s d) : Spec.SpecConflict s d ↔ UWConf s d :=
  ⟨specConflict_uw, uw_specConflict hA hL⟩

end Gql.Exec
