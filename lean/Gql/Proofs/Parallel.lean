import Gql.Proofs.SpecKeep
/-!
C11-5: inside a `ParallelVisitor` of non-editing visitors every member ends in the state it
reaches alone (hence sees the same call sequence), whatever the other members skip or break.
-/
namespace Gql.Syntax
open Gql Gql.Syntax.Spec

variable {σ : Type}

theorem lookup_below (fs : List (String × Child)) (k : String) (ch : Child) (h : fs.lookup k = some ch) :
    (∀ x ∈ ch.serials, x ∈ serialsFields fs) ∧ (idsOKFields fs = true → ch.idsOK = true) := by
  induction fs with
  | nil => cases h
  | cons hd tl ih =>
    obtain ⟨k', c'⟩ := hd
    simp only [List.lookup] at h
    simp only [serialsFields, List.mem_append, idsOKFields, Bool.and_eq_true]
    split at h
    · cases h; exact ⟨fun x hx => .inl hx, fun hok => hok.1⟩
    · exact ⟨fun x hx => .inr ((ih h).1 x hx), fun hok => (ih h).2 hok.2⟩

theorem mem_below (cs : List Node) (c : Node) (h : c ∈ cs) :
    (∀ x ∈ c.serials, x ∈ serialsNodes cs) ∧ (idsOKNodes cs = true → c.idsOK = true) := by
  induction cs with
  | nil => cases h
  | cons hd tl ih =>
    simp only [serialsNodes, List.mem_append, idsOKNodes, Bool.and_eq_true]
    rcases List.mem_cons.mp h with h | h
    · subst h; exact ⟨fun x hx => .inl hx, fun hok => hok.1⟩
    · exact ⟨fun x hx => .inr ((ih h).1 x hx), fun hok => (ih h).2 hok.2⟩

theorem IsChild.below {m c : Node} (h : IsChild m c) :
    (∀ x ∈ c.serials, x ∈ serialsFields m.fields) ∧ (idsOKFields m.fields = true → c.idsOK = true) := by
  obtain ⟨k, ch, hl, hch⟩ := h.field
  have hc := lookup_below _ _ _ hl
  rcases hch with rfl | ⟨cs, rfl, hcs⟩ <;> simp only [Child.serials, Child.idsOK] at hc
  · exact hc
  · have hn := mem_below cs c hcs
    exact ⟨fun x hx => hc.1 x (hn.1 x hx), fun hok => hn.2 (hc.2 hok)⟩

def Fresh (x : Nat) (n : Node) : Prop := x ∉ n.serials

theorem IsChild.fresh {m c : Node} (h : IsChild m c) {x : Nat} (hx : Fresh x m) : Fresh x c := by
  obtain ⟨kd, sr, pl, fs⟩ := m
  exact fun hc => hx (List.mem_cons_of_mem _ (h.below.1 x hc))

theorem IsChild.ok {m c : Node} (h : IsChild m c) (hok : m.idsOK = true) : c.idsOK = true ∧ Fresh m.serial c := by
  obtain ⟨kd, sr, pl, fs⟩ := m
  simp only [Node.idsOK, Bool.and_eq_true, Bool.not_eq_true', List.contains_eq_mem, decide_eq_false_iff_not] at hok
  exact ⟨h.below.2 hok.2, fun hc => hok.1 (h.below.1 _ hc)⟩

abbrev PSt (σ : Type) := List (σ × Skipping)

def enterUpd (v : Visitor σ) (call : Call) : σ × Skipping → σ × Skipping
  | (s, .no) => ((v s call).2, match (v s call).1 with | .skip => .at call.node | .brk => .brk | _ => .no)
  | m => m

def leaveUpd (v : Visitor σ) (call : Call) : σ × Skipping → σ × Skipping
  | (s, .no) => ((v s call).2, match (v s call).1 with | .brk => .brk | _ => .no)
  | (s, .at n) => (s, if n.same call.node then .no else .at n)
  | m => m

theorem parallelEnter_cons (call : Call) (v0 : Visitor σ) (hv0 : NonEditing v0) (vs : List (Visitor σ))
    (m0 : σ × Skipping) (ms : List (σ × Skipping)) :
    parallelEnter call (v0 :: vs) (m0 :: ms) =
      ((parallelEnter call vs ms).1, enterUpd v0 call m0 :: (parallelEnter call vs ms).2) := by
  obtain ⟨s, sk⟩ := m0
  cases sk with
  | no =>
    have hne := hv0 s call
    simp only [parallelEnter, enterUpd]
    generalize v0 s call = p at hne ⊢
    obtain ⟨a, s'⟩ := p
    cases a with
    | remove => cases hne
    | replace r => cases hne
    | _ => rfl
  | _ => rfl

theorem parallelLeave_cons (call : Call) (v0 : Visitor σ) (hv0 : NonEditing v0) (vs : List (Visitor σ))
    (m0 : σ × Skipping) (ms : List (σ × Skipping)) :
    parallelLeave call (v0 :: vs) (m0 :: ms) =
      ((parallelLeave call vs ms).1, leaveUpd v0 call m0 :: (parallelLeave call vs ms).2) := by
  obtain ⟨s, sk⟩ := m0
  cases sk with
  | no =>
    have hne := hv0 s call
    simp only [parallelLeave, leaveUpd]
    generalize v0 s call = p at hne ⊢
    obtain ⟨a, s'⟩ := p
    cases a with
    | remove => cases hne
    | replace r => cases hne
    | _ => rfl
  | _ => rfl

/-- a pass over the members that calls each in turn and never stops early -/
theorem members_spec {f : List (Visitor σ) → PSt σ → Action × PSt σ} {upd : Visitor σ → σ × Skipping → σ × Skipping}
    (hnil : ∀ ms, f [] ms = (.idle, ms)) (hnil' : ∀ v vs, f (v :: vs) [] = (.idle, []))
    (hcons : ∀ v0, NonEditing v0 → ∀ vs m0 ms, f (v0 :: vs) (m0 :: ms) = ((f vs ms).1, upd v0 m0 :: (f vs ms).2)) :
    ∀ (vs : List (Visitor σ)), (∀ v ∈ vs, NonEditing v) → ∀ (ms : PSt σ),
      (f vs ms).1 = .idle ∧
      ∀ (i : Nat) (v : Visitor σ) (m : σ × Skipping), vs[i]? = some v → ms[i]? = some m →
        (f vs ms).2[i]? = some (upd v m)
  | [], _, ms => by rw [hnil]; exact ⟨rfl, fun _ _ _ hv => by cases hv⟩
  | v0 :: vs, _, [] => by rw [hnil']; exact ⟨rfl, fun _ _ _ _ hm => by cases hm⟩
  | v0 :: vs, hvs, m0 :: ms => by
    have ih := members_spec hnil hnil' hcons vs (fun v hv => hvs v (List.mem_cons_of_mem _ hv)) ms
    rw [hcons v0 (hvs v0 List.mem_cons_self)]
    refine ⟨ih.1, fun i v m hv hm => ?_⟩
    cases i with
    | zero => cases hv; cases hm; rfl
    | succ i => exact ih.2 i v m hv hm

theorem parEnter_spec (call : Call) (vs : List (Visitor σ)) (hvs : ∀ v ∈ vs, NonEditing v) (ms : PSt σ) :
    (parallelEnter call vs ms).1 = .idle ∧
      ∀ (i : Nat) (v : Visitor σ) (m : σ × Skipping), vs[i]? = some v → ms[i]? = some m →
        (parallelEnter call vs ms).2[i]? = some (enterUpd v call m) :=
  members_spec (fun _ => rfl) (fun _ _ => rfl) (parallelEnter_cons call) vs hvs ms

theorem parLeave_spec (call : Call) (vs : List (Visitor σ)) (hvs : ∀ v ∈ vs, NonEditing v) (ms : PSt σ) :
    (parallelLeave call vs ms).1 = .idle ∧
      ∀ (i : Nat) (v : Visitor σ) (m : σ × Skipping), vs[i]? = some v → ms[i]? = some m →
        (parallelLeave call vs ms).2[i]? = some (leaveUpd v call m) :=
  members_spec (fun _ => rfl) (fun _ _ => rfl) (parallelLeave_cons call) vs hvs ms

def AlwaysIdle {τ : Type} (V : Visitor τ) : Prop := ∀ s c, (V s c).1 = .idle

theorem AlwaysIdle.nonEditing {τ : Type} {V : Visitor τ} (h : AlwaysIdle V) : NonEditing V := by
  intro s c; rw [h s c]; rfl

theorem parallel_alwaysIdle (vs : List (Visitor σ)) (hvs : ∀ v ∈ vs, NonEditing v) :
    AlwaysIdle (parallel vs) := by
  intro ms call
  unfold parallel
  cases call.phase with
  | enter => exact (parEnter_spec call vs hvs ms).1
  | leave => exact (parLeave_spec call vs hvs ms).1

def Frozen (sk : Skipping) (n : Node) : Prop :=
  match sk with
  | .no => False
  | .brk => True
  | .at N => Fresh N.serial n

theorem enterUpd_frozen (v : Visitor σ) (call : Call) (s : σ) (sk : Skipping) (n : Node) (h : Frozen sk n) :
    enterUpd v call (s, sk) = (s, sk) := by
  cases sk with
  | no => exact h.elim
  | _ => rfl

theorem leaveUpd_frozen (v : Visitor σ) (call : Call) (s : σ) (sk : Skipping) (h : Frozen sk call.node) :
    leaveUpd v call (s, sk) = (s, sk) := by
  cases sk with
  | no => exact h.elim
  | brk => rfl
  | «at» N =>
    have : N.same call.node = false := by
      generalize call.node = c at h ⊢
      obtain ⟨kd, sr, pl, fs⟩ := c
      exact beq_false_of_ne fun hx => h (hx ▸ List.mem_cons_self)
    simp only [leaveUpd, this, Bool.false_eq_true, if_false]

def FrozenRec (i : Nat) (recV : Rec (PSt σ)) : Prop :=
  ∀ s sk, InvRec True (Frozen sk) (fun ms _ => ms[i]? = some (s, sk)) (fun _ _ => False) recV

theorem node_frozen {vk : String → List String} (vs : List (Visitor σ)) (hvs : ∀ v ∈ vs, NonEditing v)
    (i : Nat) (v : Visitor σ) (hv : vs[i]? = some v) (d : Nat) : FrozenRec i (specNode vk (parallel vs) d) := by
  intro s sk
  refine node_inv (parallel_alwaysIdle vs hvs).nonEditing (N := fun _ => Frozen sk) (fun _ _ => trivial)
    (fun _ m c h hm => ?_) (fun _ ms _ call hfz hms => ?_) d
  · cases sk with
    | no => exact hm
    | brk => trivial
    | «at» N => exact h.fresh hm
  · rw [parallel_alwaysIdle vs hvs ms call]
    show (parallel vs ms call).2[i]? = some (s, sk)
    unfold parallel
    cases call.phase with
    | enter => exact enterUpd_frozen v call s sk _ hfz ▸ (parEnter_spec call vs hvs ms).2 i v _ hv hms
    | leave => exact leaveUpd_frozen v call s sk hfz ▸ (parLeave_spec call vs hvs ms).2 i v _ hv hms

def After (i : Nat) (ms : PSt σ) {α : Type} (r : Res σ α) : Prop :=
  match r with
  | .brk w' => ms[i]? = some (w'.s, .brk)
  | .done w' _ => ms[i]? = some (w'.s, .no)

/-- where the lone traversal `x` stops, the parallel one `X` (which never breaks) ends with the member in that state -/
def Agree (i : Nat) {α β : Type} (X : Option (Res (PSt σ) α)) (x : Option (Res σ β)) : Prop :=
  ∀ r, x = some r → Post X True (fun _ => False) (fun W' _ => After i W'.s r)

theorem Agree.pure {i : Nat} {α β : Type} {W : W (PSt σ)} {w : Spec.W σ} (h : W.s[i]? = some (w.s, .no))
    (A : α) (a : β) : Agree i (some (.done W A)) (some (.done w a)) :=
  fun _ hr => by cases hr; exact h

/-- when the lone traversal breaks, the member stays broken through the rest of the parallel one -/
theorem Agree.bind {i : Nat} {α β α' β' : Type} {X : Option (Res (PSt σ) α)} {x : Option (Res σ β)}
    {F : W (PSt σ) → α → Option (Res (PSt σ) α')} {f : W σ → β → Option (Res σ β')} (h : Agree i X x)
    (hbrk : ∀ W a s, W.s[i]? = some (s, .brk) →
      Post (F W a) True (fun _ => False) (fun W' _ => W'.s[i]? = some (s, .brk)))
    (hdone : ∀ W a w b, W.s[i]? = some (w.s, .no) → Agree i (F W a) (f w b)) :
    Agree i (Res.bind X F) (Res.bind x f) := by
  intro r hr
  rcases x with _ | ⟨w1 | ⟨w1, b⟩⟩
  · cases hr
  · cases hr
    exact (h _ rfl).bind fun W a hW => hbrk W a w1.s hW
  · exact (h _ rfl).bind fun W a hW => hdone W a w1 b hW r hr

theorem Agree.map {i : Nat} {α β α' β' : Type} {X : Option (Res (PSt σ) α)} {x : Option (Res σ β)}
    (h : Agree i X x) {T : W (PSt σ) → α → W (PSt σ)} {G : W (PSt σ) → α → α'} {t : W σ → β → W σ}
    {g : W σ → β → β'} (hT : ∀ W a, (T W a).s = W.s := by intros; rfl) (ht : ∀ w b, (t w b).s = w.s := by intros; rfl) :
    Agree i (Res.bind X fun W a => some (.done (T W a) (G W a))) (Res.bind x fun w b => some (.done (t w b) (g w b))) :=
  h.bind (fun W a s hW => show (T W a).s[i]? = _ by rw [hT]; exact hW)
    fun W a w b hW => Agree.pure (by rw [hT, ht]; exact hW) _ _

def AgreeRec (i : Nat) (recV : Rec (PSt σ)) (recv : Rec σ) : Prop :=
  ∀ W w n key parent anc path, W.s[i]? = some (w.s, .no) → n.idsOK = true →
    Agree i (recV W n key parent anc path) (recv w n key parent anc path)

theorem items_agree {i : Nat} {recV : Rec (PSt σ)} {recv : Rec σ} (hA : AgreeRec i recV recv)
    (hF : FrozenRec i recV) (parent : Option Val) (anc : List Val) (path : List Key) :
    ∀ (suf : List Node) (W : W (PSt σ)) (w : Spec.W σ) (j : Nat),
      W.s[i]? = some (w.s, .no) → (∀ c ∈ suf, c.idsOK = true) →
      Agree i (specItems recV parent anc path W suf j) (specItems recv parent anc path w suf j)
  | [], _, _, _, hW, _ => Agree.pure hW _ _
  | c :: suf, W, w, j, hW, hok => by
    rw [specItems_cons, specItems_cons]
    exact (hA W w c _ _ _ _ hW (hok c List.mem_cons_self)).bind
      (fun W1 _ s h => (items_inv (hF s .brk) parent anc path suf W1 (j + 1) (fun _ _ => trivial) h).bind
        fun _ _ h2 => h2.1)
      (fun W1 _ w1 _ h1 =>
        (items_agree hA hF parent anc path suf W1 w1 (j + 1) h1
          (fun c hc => hok c (List.mem_cons_of_mem _ hc))).map)

theorem attr_agree {i : Nat} {recV : Rec (PSt σ)} {recv : Rec σ} (hA : AgreeRec i recV recv)
    (hF : FrozenRec i recV) (m : Node) (hm : m.idsOK = true) (anc : List Val) (path : List Key) (k : String)
    (W : W (PSt σ)) (w : Spec.W σ) (hW : W.s[i]? = some (w.s, .no)) :
    Agree i (specAttr recV m anc path W k) (specAttr recv m anc path w k) := by
  rw [specAttr, specAttr]
  cases hattr : m.attr k <;> dsimp only
  case absent => exact fun _ hr => by cases hr; exact hW
  case one c =>
    exact (hA W w c _ _ _ _ hW (IsChild.ok ⟨k, .inl hattr⟩ hm).1).map
  case many cs =>
    exact (items_agree hA hF _ _ _ cs { W with iters := W.iters + 1 } { w with iters := w.iters + 1 } 0 hW
      (fun c hc => (IsChild.ok ⟨k, .inr ⟨cs, hattr, hc⟩⟩ hm).1)).map

theorem keys_agree {i : Nat} {recV : Rec (PSt σ)} {recv : Rec σ} (hA : AgreeRec i recV recv)
    (hF : FrozenRec i recV) (m : Node) (hm : m.idsOK = true) (anc : List Val) (path : List Key) :
    ∀ (ks : List String) (W : W (PSt σ)) (w : Spec.W σ), W.s[i]? = some (w.s, .no) →
      Agree i (specKeys recV m anc path W ks) (specKeys recv m anc path w ks)
  | [], _, _, hW => Agree.pure hW _ _
  | k :: ks, W, w, hW => by
    rw [specKeys_cons, specKeys_cons]
    exact (attr_agree hA hF m hm anc path k W w hW).bind
      (fun W1 _ s h => (keys_inv (hF s .brk) m anc path (fun _ _ => trivial) ks W1 h).bind fun _ _ h2 => h2.1)
      (fun W1 _ w1 _ h1 => (keys_agree hA hF m hm anc path ks W1 w1 h1).map)

theorem walk_agree {i : Nat} {V : Visitor (PSt σ)} {v : Visitor σ} (hV : AlwaysIdle V)
    {recV : Rec (PSt σ)} {recv : Rec σ} (hA : AgreeRec i recV recv) (hF : FrozenRec i recV)
    {cE cL : Call} {n : Node} (hnE : cE.node = n) (hnL : cL.node = n) (hok : n.idsOK = true)
    (hE : ∀ (W : W (PSt σ)) m, W.s[i]? = some m → (afterCall V cE W).s[i]? = some (enterUpd v cE m))
    (hL : ∀ (W : W (PSt σ)) m, W.s[i]? = some m → (afterCall V cL W).s[i]? = some (leaveUpd v cL m))
    (W : W (PSt σ)) (w : Spec.W σ) (anc : List Val) (path : List Key) (ks : List String)
    (hW : W.s[i]? = some (w.s, .no)) :
    Agree i (walkNode V recV cE cL W n anc path ks) (walkNode v recv cE cL w n anc path ks) := by
  have hM := hE W _ hW
  rw [walkNode, walkNode]
  simp only [hV _ _, enterUpd, hnE] at hM ⊢
  generalize afterCall V cE W = W1 at hM ⊢
  -- a member that stops at `n` stays as it is below `n`; `leave` on `n` ends a skip
  have stopped : ∀ s1 sk sk', (∀ c, IsChild n c → Frozen sk c) → leaveUpd v cL (s1, sk) = (s1, sk') →
      W1.s[i]? = some (s1, sk) →
      Post (Res.bind (specKeys recV n anc path W1 ks) fun W2 _ => some (.done (afterCall V cL W2) Slot.keep))
        True (fun _ => False) (fun W' _ => W'.s[i]? = some (s1, sk')) :=
    fun s1 sk sk' hch hl h => (keys_inv (hF s1 sk) n anc path hch ks W1 h).bind fun W2 _ h2 => hl ▸ hL W2 _ h2.1
  generalize (v w.s cE).1 = a at hM ⊢
  cases a with
  | brk => exact fun r hr => by cases hr; exact stopped _ .brk .brk (fun _ _ => trivial) rfl hM
  | skip =>
    exact fun r hr => by
      cases hr
      exact stopped _ (.at n) .no (fun c hc => (hc.ok hok).2)
        (by simp only [leaveUpd, hnL, Node.same, beq_self_eq_true, if_true]) hM
  | _ =>
    refine (keys_agree hA hF n hok anc path ks W1 _ hM).bind (fun W2 _ s h => hL W2 _ h) fun W2 _ w2 _ h2 r hr => ?_
    have := hL W2 _ h2
    simp only [leaveUpd] at this
    generalize (v w2.s cL).1 = a2 at this hr
    cases a2 <;> (cases hr; exact this)

theorem node_agree {vk : String → List String} (vs : List (Visitor σ)) (hvs : ∀ v ∈ vs, NonEditing v)
    (i : Nat) (v : Visitor σ) (hv : vs[i]? = some v) :
    ∀ d, AgreeRec i (specNode vk (parallel vs) d) (specNode vk v d)
  | 0 => fun _ _ _ _ _ _ _ _ _ _ hr => by cases hr
  | d + 1 => fun W w n key parent anc path hW hok => by
    have hidle := parallel_alwaysIdle vs hvs
    rw [specNode_succ hidle.nonEditing, specNode_succ (hvs v (List.mem_of_getElem? hv))]
    refine walk_agree hidle (node_agree vs hvs i v hv d)
      (node_frozen vs hvs i v hv d) ?_ ?_ hok ?_ ?_ W w _ _ _ hW
    · rfl
    · rfl
    · exact fun W m h => (parEnter_spec _ vs hvs W.s).2 i v m hv h
    · exact fun W m h => (parLeave_spec _ vs hvs W.s).2 i v m hv h

/-- C11-5 on the contract: the member's state inside the parallel visitor is its state alone -/
theorem parallel_alone_spec {vk : String → List String} (vs : List (Visitor σ)) (hvs : ∀ v ∈ vs, NonEditing v)
    (ss : List σ) (i : Nat) (v : Visitor σ) (s : σ) (hv : vs[i]? = some v) (hs : ss[i]? = some s)
    (root : Node) (hok : root.idsOK = true) (d : Nat) (P : Outcome (PSt σ)) (a : Outcome σ)
    (hP : specVisit vk (parallel vs) d root (parallelInit ss) = some P)
    (ha : specVisit vk v d root s = some a) :
    (P.state[i]?).map Prod.fst = some a.state := by
  obtain ⟨R, hR, rfl⟩ := specVisit_out hP
  obtain ⟨r, hr, rfl⟩ := specVisit_out ha
  have hag := Post.ends hR (Q := fun W' => After i W'.s r) (node_agree (vk := vk) vs hvs i v hv d ⟨parallelInit ss, 0, false⟩
    ⟨s, 0, false⟩ root .none none [] [] (by simp [parallelInit, hs]) hok r hr) fun _ => False.elim
  cases r <;> (simp only [After] at hag; rw [hag]; rfl)

end Gql.Syntax
