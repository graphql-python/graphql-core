import Lean.Meta.Tactic.Simp.RegisterCommand
/-! The simp sets with which a field is read from an explicit list by rewriting, key by key (the keys compared by
`String.reduceEq`), where unfolding the lookup would decode both strings at every comparison. -/

/-- What the field getters of `leave` read from an explicit list of printed fields (lemmas tagged in
`Gql/Proofs/PrintFields.lean`). -/
register_simp_attr printed_fields

/-- What `mkNode` finds in an explicit list of keyword arguments (lemmas tagged in `Gql/Proofs/MkNode.lean`). -/
register_simp_attr given_fields
