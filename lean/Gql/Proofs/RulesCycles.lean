import Gql.Proofs.RulesSpreads
import Gql.Proofs.RulesFuel
/-!
C12 — `NoFragmentCyclesRule.detect_cycle_recursive` never exhausts its fuel (`detectCycle`, fuel = #fragment
definitions + 2): every recursive call strikes a name from a `Cover`.
-/
namespace Gql.Validation.Rules

/-- `fragment` is what `get_fragment` returns for its own name (true of every fragment the recursion reaches). -/
def NamedDefined (doc f : ATree) : Prop := ∀ fname, f.nameValue = some fname → (getFragment doc fname).isSome = true

theorem detectLoop_ok (doc : ATree) (recur : ATree → List String → List ATree → List (String × Nat) → CycleOut)
    (L : List String)
    (hrec : ∀ f v p ix, NamedDefined doc f → Cover doc L v →
      (recur f v p ix).ranOut = false ∧ ∀ n ∈ v, n ∈ (recur f v p ix).visited) :
    ∀ (sps : List ATree) (visited : List String) (path : List ATree) (index : List (String × Nat)),
      Cover doc L visited →
      (detectLoop doc recur sps visited path index).ranOut = false ∧
        ∀ n ∈ visited, n ∈ (detectLoop doc recur sps visited path index).visited := by
  intro sps
  induction sps with
  | nil => intro visited path index _; exact ⟨rfl, fun _ h => h⟩
  | cons sp rest ih =>
    intro visited path index hc
    rw [detectLoop]
    cases hn : sp.nameValue with
    | none => exact ⟨rfl, fun _ h => h⟩
    | some sname =>
      simp -zeta only
      extract_lets path1 r1 r2
      -- the outcome of this spread: nothing, a reported cycle, or a recursive call
      have h1 : r1.ranOut = false ∧ ∀ n ∈ visited, n ∈ r1.visited := by
        unfold r1
        split
        · split
          · next f hg =>
            refine hrec f visited path1 index (fun fname hf => ?_) hc
            rw [getFragment_name hg] at hf
            cases hf
            simp only [hg, Option.isSome_some]
          · exact ⟨rfl, fun _ h => h⟩
        · exact ⟨rfl, fun _ h => h⟩
      have h2 := ih r1.visited path index (hc.mono h1.2)
      exact ⟨by simp only [h1.1, h2.1, Bool.or_self, r2], fun n hn' => h2.2 n (h1.2 n hn')⟩

/-- `detect_cycle_recursive` does not exhaust its fuel: one unit per defined fragment name not visited yet, one for
the last call (which finds its fragment visited), one more if the fragment of the first call is not what
`get_fragment` returns for its name (a shadowed or nested definition). -/
theorem detectCycle_ok (doc : ATree) : ∀ (fuel : Nat) (fragment : ATree) (visited : List String) (path : List ATree)
    (index : List (String × Nat)) (L : List String), Cover doc L visited →
    ((NamedDefined doc fragment ∧ L.length + 1 ≤ fuel) ∨ L.length + 2 ≤ fuel) →
    (detectCycle doc fuel fragment visited path index).ranOut = false ∧
      ∀ n ∈ visited, n ∈ (detectCycle doc fuel fragment visited path index).visited := by
  intro fuel
  induction fuel with
  | zero =>
    intro fragment visited path index L _ hf
    exact (hf.elim (fun h => Nat.not_succ_le_zero _ h.2) (Nat.not_succ_le_zero _)).elim
  | succ k ih =>
    intro fragment visited path index L hc hf
    unfold detectCycle
    cases hn : fragment.nameValue with
    | none => exact ⟨rfl, fun _ h => h⟩
    | some fname =>
      simp only
      by_cases hv : visited.contains fname = true
      · rw [if_pos hv]; exact ⟨rfl, fun _ h => h⟩
      · rw [if_neg hv]
        have hnot : fname ∉ visited := by simpa only [List.contains_eq_mem, decide_eq_true_eq] using hv
        have hsub : ∀ x, x ∈ visited → x ∈ visited ++ [fname] := fun x hx => List.mem_append.mpr (Or.inl hx)
        cases hk : fragment.kid "selection_set" with
        | none => exact ⟨rfl, hsub⟩
        | some ss =>
          simp only
          by_cases he : (getSpreads ss).1.isEmpty = true
          · rw [if_pos he]
            exact ⟨spreads_fuel_enough ss, hsub⟩
          · rw [if_neg he]
            -- a list covering the names not in `visited ++ [fname]`, short enough for the recursive calls
            have hL : ∃ L', Cover doc L' (visited ++ [fname]) ∧ L'.length + 1 ≤ k := by
              by_cases hd : (getFragment doc fname).isSome = true
              · obtain ⟨L', c, l⟩ := hc.strike hd hnot
                exact ⟨L', c, Nat.lt_of_lt_of_le l (hf.elim (fun h => Nat.le_of_succ_le_succ h.2)
                  fun h => Nat.le_of_succ_le (Nat.le_of_succ_le_succ h))⟩
              · exact ⟨L, hc.mono hsub, Nat.le_of_succ_le_succ (hf.resolve_left fun h => hd (h.1 fname hn))⟩
            obtain ⟨L', hc', hk'⟩ := hL
            have := detectLoop_ok doc (detectCycle doc k) L'
              (fun f v p ix hnd hcv => ih f v p ix L' hcv (Or.inl ⟨hnd, hk'⟩))
              (getSpreads ss).1 (visited ++ [fname]) path ((fname, path.length) :: index) hc'
            exact ⟨by simp only [this.1, spreads_fuel_enough, Bool.or_false], fun n hn' => this.2 n (hsub n hn')⟩

theorem detectCycle_fuel_enough (doc fragment : ATree) (visited : List String) (path : List ATree)
    (index : List (String × Nat)) :
    (detectCycle doc (cycleFuel doc) fragment visited path index).ranOut = false :=
  (detectCycle_ok doc (cycleFuel doc) fragment visited path index (fragNames doc) (cover_fragNames doc visited)
    (Or.inr (by have := fragNames_length_le doc; unfold cycleFuel; omega))).1

end Gql.Validation.Rules
