import Gql.Proofs.ExecLex
/-!
`render_lex` for type-system definitions and whole documents (`lexes_gdoc`).  Between two definitions the printer
looks at the texts: a definition that starts with `{` gets the keyword `query` when the text before it does not end
with `}`.  So the module shows, beside the tokens, with which character a printed definition starts and ends
(`Ends`, `printGDef_facts`): it starts with `{` exactly when it is a shorthand query (`Exec.isShortG`) and ends with
`}` exactly when its last part is a block (`Exec.endsBlock`), which is how `Exec.gdefsKvs` decides on the trees.
For a type-system definition the tokens and the last character are read off one list of facts about its parts
(`Parts`, `tdefParts_ok`, `pcTDef_ends`).
-/
namespace Gql.Text
open Gql.Syntax

/-- The text ends with `}` exactly when `b`: what `leave_document` asks of the text before a definition. -/
def Ends (b : Bool) (x : List Nat) : Prop := x.getLast? = some 125 ↔ b = true

theorem Ends.nil : Ends false [] := by simp [Ends]

theorem Ends.of_nil {b : Bool} (h : Ends b []) : b = false := by cases b <;> simp [Ends] at h ⊢

theorem Ends.append {b : Bool} {x : List Nat} (a : List Nat) (hx : x ≠ []) (h : Ends b x) : Ends b (a ++ x) := by
  unfold Ends; rw [getLast?_append_of_ne hx]; exact h

theorem Ends.appendOpt {a x : List Nat} (ha : Ends false a) (hx : Ends false x) : Ends false (a ++ x) := by
  by_cases h0 : x = []
  · rw [h0, List.append_nil]; exact ha
  · exact hx.append a h0

theorem ends_name {n : List Nat} (h : validName n = true) : Ends false n := by
  have hne := validName_ne_nil h
  simpa [Ends, List.getLast?_eq_some_getLast hne] using name_not h 125 (by decide) _ (List.getLast_mem hne)

/-- `wrap s x e` with a closing text that does not end with `}`. -/
theorem ends_wrap (s x : List Nat) {e : List Nat} (he : Ends false e) (hne : e ≠ []) : Ends false (wrap s x e) := by
  by_cases hx : x = []
  · simp [wrap, hx, Ends]
  · rw [wrap_of_ne hx]; exact he.append _ hne

theorem ends_wrapOpt (s : List Nat) {x : List Nat} (hx : Ends false x) : Ends false (wrap s x) := by
  by_cases h0 : x = []
  · simp [wrap, h0, Ends]
  · rw [wrap_of_ne h0, List.append_nil]; exact hx.append s h0

theorem ends_argDefs (ts : List (List Nat)) : Ends false (argDefs ts) := by
  unfold argDefs
  split <;> exact ends_wrap _ _ (by simp [Ends]) (by simp)

theorem ends_joinWith (sep : List Nat) (ts : List (List Nat)) (hne : ∀ t ∈ ts, t ≠ []) (h : ∀ t ∈ ts, Ends false t) :
    Ends false (joinWith sep ts) := by
  induction ts with
  | nil => exact Ends.nil
  | cons a r ih =>
    cases r with
    | nil => simpa [joinWith] using h a (by simp)
    | cons b r' =>
      have hr : ∀ t ∈ b :: r', t ≠ [] := fun x hx => hne x (List.mem_cons_of_mem _ hx)
      have := (ih hr fun x hx => h x (List.mem_cons_of_mem _ hx)).append (a ++ sep) (joinWith_eq_nil hr (by simp))
      simpa [joinWith, List.append_assoc] using this

theorem ends_names {ns : List (List Nat)} (h : Exec.namesWf ns) : ∀ t ∈ ns, Ends false t :=
  fun t ht => ends_name (h t ht)

/-- the optional `implements A & B` / `= A | B` -/
theorem ends_delim (pre sep : List Nat) (ns : List (List Nat)) (h : Exec.namesWf ns) :
    Ends false (wrap pre (join ns sep)) := by
  rw [join_eq_joinWith _ _ (names_ne_nil ns h)]
  exact ends_wrapOpt _ (ends_joinWith _ _ (names_ne_nil ns h) (ends_names h))

theorem ends_printDir (w : Widths) (c : Bool) (d : Dir) (h : Exec.dirWfC c d) : Ends false (Exec.printDir w d) :=
  ((ends_name h.1).append [64] (validName_ne_nil h.1)).appendOpt (ends_wrap _ _ (by simp [Ends]) (by simp))

theorem ends_printDirs (w : Widths) (c : Bool) (ds : List Dir) (h : Exec.dirsWfC c ds) :
    Ends false (Exec.printDirs w ds) := by
  have hne : ∀ t ∈ ds.map (Exec.printDir w), t ≠ [] := fun t ht => by
    obtain ⟨d, _, rfl⟩ := List.mem_map.mp ht; simp [Exec.printDir]
  rw [Exec.printDirs, join_eq_joinWith _ _ hne]
  exact ends_joinWith _ _ hne fun t ht => by
    obtain ⟨d, hd, rfl⟩ := List.mem_map.mp ht
    exact ends_printDir w c d (Exec.dirsWfC_mem h d hd)

theorem descText_head (w : Widths) (d : Desc) (h : d ≠ none) : (Exec.descText w d).head? = some 34 := by
  match d, h with
  | some (s, true), _ => simp [Exec.descText, printBlockStringW]
  | some (s, false), _ => simp [Exec.descText, printString, printStringWith]

theorem descPre_kw_head (w : Widths) (desc : Desc) (kw rest : List Nat) (hkw : validName kw = true) :
    (wrap [] (Exec.descText w desc) [10] ++ (kw ++ rest)).head? ≠ some 123 := by
  by_cases hd : desc = none
  · subst hd
    obtain ⟨a, r, rfl⟩ := List.exists_cons_of_ne_nil (validName_ne_nil hkw)
    have := name_not hkw 123 (by decide) a (by simp)
    simp [Exec.descText, wrap, this]
  · have h34 := descText_head w desc hd
    cases hx : Exec.descText w desc with
    | nil => rw [hx] at h34; simp at h34
    | cons a r =>
      rw [hx] at h34
      simp at h34; subst h34
      simp [wrap]

theorem block_nil : block [] = [] := by simp [block, join, joinWith, indent, indentNL, wrap]

/-- Well-formedness as far as lexing goes: a `schema` block may be empty (it is for `extend schema @d`). -/
def tdefWfL (dd : Bool) : TDef → Prop
  | .schema desc ds ots =>
    Exec.descWf desc ∧ Exec.dirsWfC true ds ∧ ∀ ot ∈ ots, Exec.isOpType ot.1 ∧ validName ot.2 = true
  | d => Exec.tdefWf dd d

theorem tdefWf_L {dd : Bool} {d : TDef} (h : Exec.tdefWf dd d) : tdefWfL dd d := by
  cases d with
  | schema desc ds ots => exact ⟨h.1, h.2.1, h.2.2.2⟩
  | _ => exact h

theorem edef_base_wfL (dd : Bool) (d : EDef) (h : Exec.edefWf d) : tdefWfL dd d.base := by
  cases d with
  | schema ds ots => exact ⟨trivial, h.1, h.2.1⟩
  | scalar n ds => exact ⟨trivial, h.1, h.2.1⟩
  | object iface n ifs ds fs => exact ⟨trivial, h.1, h.2.1, h.2.2.1, h.2.2.2.1⟩
  | union n ds ts => exact ⟨trivial, h.1, h.2.1, h.2.2.1⟩
  | enum n ds vs => exact ⟨trivial, h.1, h.2.1, h.2.2.1⟩
  | input n ds fs => exact ⟨trivial, h.1, h.2.1, h.2.2.1⟩

/-- `Exec.endsBlock` of a definition whose `schema` block may be empty (as `tdefWfL` allows). -/
def endsL : TDef → Bool
  | .schema _ _ ots => !ots.isEmpty
  | d => Exec.endsBlock (.t d)

theorem printTDef_head (w : Widths) (d : TDef) : (Exec.printTDef w d).head? ≠ some 123 := by
  rw [Exec.printTDef_eq]
  exact descPre_kw_head w _ _ _ (Exec.tdefKw_valid d)

/-! A printed type-system definition is `description keyword part part …` (`Exec.printTDef_eq`), the parts optional
and separated by blanks: it has the tokens of the parts, and ends as its last part that is not empty does, or as the
keyword. -/

/-- A part with its tokens: nothing, or a piece; its text ends with `}` exactly when `b`. -/
def Part (b : Bool) (p : List Nat × List KV) : Prop := OptPc p.1 p.2 ∧ Ends b p.1

/-- Parts of which only the last may end with `}`, and does exactly when `b`. -/
inductive Parts (b : Bool) : List (List Nat × List KV) → Prop
  | last {l} : Part b l → Parts b [l]
  | cons {p r} : Part false p → Parts b r → Parts b (p :: r)

theorem Part.name {n : List Nat} (h : validName n = true) : Part false (n, [(.name, some n)]) :=
  ⟨(Pc.name h).opt, ends_name h⟩

/-- The optional block `{ LF items LF }` of a list of items. -/
theorem Part.block {α : Type} (pr : α → List Nat) (kv : α → List KV) (kvs : List α → List KV)
    (hnil : kvs [] = []) (hcons : ∀ a r, kvs (a :: r) = kv a ++ kvs r) (xs : List α)
    (hx : ∀ a ∈ xs, Pc (pr a) (kv a)) :
    Part (!xs.isEmpty) (block (xs.map pr), Exec.bracketKvs .braceL .braceR (kvs xs) xs.isEmpty) := by
  have hI := Its.map pr kv kvs hnil hcons xs hx
  refine ⟨by simpa [Exec.bracketKvs] using hI.block, ?_⟩
  cases xs with
  | nil => rw [List.map_nil, block_nil]; exact Ends.nil
  | cons a r => exact iff_of_true (block_last _ (by simp) hI.ne) rfl

/-- a piece that does not end with `}`, then the parts, each behind a blank -/
theorem Parts.pc {b : Bool} {ps : List (List Nat × List KV)} (h : Parts b ps) : ∀ {a : List Nat} {ka : List KV},
    Pc a ka → Ends false a →
      Pc (a ++ spaced (ps.map (·.1))) (ka ++ (ps.map (·.2)).flatten) ∧ Ends b (a ++ spaced (ps.map (·.1))) := by
  have sp : ∀ {b a ka p}, Pc a ka → Ends false a → Part b p →
      Pc (a ++ wrap [32] p.1) (ka ++ p.2) ∧ Ends b (a ++ wrap [32] p.1) := by
    intro b a ka p ha hae hp
    refine ⟨ha.sp hp.1, ?_⟩
    have he := hp.2
    rcases hp.1 with ⟨h0, _⟩ | hP
    · rw [h0] at he ⊢; rw [he.of_nil]; simpa [wrap] using hae
    · rw [wrap_of_ne hP.ne, List.append_nil, ← List.append_assoc]; exact he.append _ hP.ne
  induction h with
  | last hl => intro a ka ha hae; simpa [spaced] using sp ha hae hl
  | cons hp _ ih =>
    intro a ka ha hae
    obtain ⟨h1, h2⟩ := sp ha hae hp
    simpa [spaced, List.append_assoc] using ih h1 h2

section
variable (w : Widths) (hw : 4 ≤ w.object)
variable (hT : tableOK Generated.escapeTable = true) (hC : tableComplete Generated.escapeTable = true)
include hw hT hC

theorem Part.dirs (ds : List Dir) (h : Exec.dirsWfC true ds) : Part false (Exec.printDirs w ds, Exec.dirsKvs ds) :=
  ⟨optDirs w hw hT hC true ds h, ends_printDirs w true ds h⟩

theorem tdefParts_ok (dd : Bool) (d : TDef) (h : tdefWfL dd d) : Parts (endsL d) (Exec.tdefParts w d) := by
  have hdirs := Part.dirs w hw hT hC
  cases d with
  | schema desc ds ots =>
    exact .cons (hdirs ds h.2.1) (.last (.block Exec.printOt Exec.otKvs Exec.otsKvs rfl (fun _ _ => rfl) ots
      fun a ha => pcOt a (h.2.2 a ha)))
  | scalar desc n ds => exact .cons (.name h.2.1) (.last (hdirs ds h.2.2))
  | object iface desc n ifs ds fs =>
    obtain ⟨_, hn, hifs, hds, hfs⟩ := h
    exact .cons (.name hn) (.cons ⟨optImpl ifs hifs, ends_delim _ _ ifs hifs⟩
      (.cons (hdirs ds hds) (.last (.block (Exec.printFd w) Exec.fdKvs Exec.fdsKvs rfl (fun _ _ => rfl) fs
        fun a ha => pcFd w hw hT hC a (hfs a ha)))))
  | union desc n ds ts =>
    obtain ⟨_, hn, hds, hts⟩ := h
    exact .cons (.name hn) (.cons (hdirs ds hds) (.last ⟨optUnionTypes ts hts, ends_delim _ _ ts hts⟩))
  | enum desc n ds vs =>
    obtain ⟨_, hn, hds, hvs⟩ := h
    exact .cons (.name hn) (.cons (hdirs ds hds) (.last (.block (Exec.printEv w) Exec.evKvs Exec.evsKvs rfl
      (fun _ _ => rfl) vs fun a ha => pcEv w hw hT hC a (hvs a ha))))
  | input desc n ds fs =>
    obtain ⟨_, hn, hds, hfs⟩ := h
    exact .cons (.name hn) (.cons (hdirs ds hds) (.last (.block (Exec.printIvd w) Exec.ivdKvs Exec.ivdsKvs rfl
      (fun _ _ => rfl) fs fun a ha => pcIvd w hw hT hC a (hfs a ha))))
  | directive desc n args ds rep locs =>
    obtain ⟨_, hn, hargs, hds, _, hlne, hlocs⟩ := h
    have hlw : Exec.namesWf locs := fun l hl => locations_valid l (hlocs l hl)
    have hon := lexes_kwSp (kwsp := S "on ") (kw := S "on") (by decide +kernel) (by decide +kernel)
    have hJ := pcDelim 124 .pipe (by decide) (by decide) locs hlne hlw
    refine .cons ⟨?_, ?_⟩ (.cons (hdirs ds hds) (.cons ?_ (.last ⟨?_, ?_⟩)))
    · simpa using (Pc.punct_then 64 .at (by decide) (by decide) ((Pc.name hn).appendOpt
        (optArgDefs w hw hT hC args hargs) (argDefs_safeHd _))).opt
    · exact ((ends_name hn).append [64] (validName_ne_nil hn)).appendOpt (ends_argDefs _)
    · cases rep
      · exact ⟨.none, Ends.nil⟩
      · exact .name (by decide +kernel)
    · rw [S_pipe, join_eq_joinWith _ _ (names_ne_nil locs hlw)]
      exact (Pc.pre hon.1 hon.2 hJ).opt
    · rw [S_pipe, join_eq_joinWith _ _ (names_ne_nil locs hlw)]
      exact (ends_joinWith _ locs (names_ne_nil locs hlw) (ends_names hlw)).append _ hJ.ne

theorem pcTDef_ends (dd : Bool) (d : TDef) (h : tdefWfL dd d) :
    Pc (Exec.printTDef w d) (Exec.tdefKvs d) ∧ Ends (endsL d) (Exec.printTDef w d) := by
  rw [Exec.printTDef_eq, Exec.tdefKvs_eq w]
  have hdesc : Exec.descWf d.desc := by cases d <;> exact h.1
  obtain ⟨h1, h2⟩ := (tdefParts_ok w hw hT hC dd d h).pc (Pc.name (Exec.tdefKw_valid d)) (ends_name (Exec.tdefKw_valid d))
  exact ⟨Pc.descPre w hw hT hC d.desc hdesc h1, h2.append _ h1.ne⟩

theorem pcEDef (d : EDef) (h : Exec.edefWf d) : Pc (Exec.printEDef w d) (Exec.edefKvs d) := by
  have hx := lexes_kwSp (kwsp := S "extend ") (kw := S "extend") (by decide +kernel) (by decide +kernel)
  exact Pc.pre hx.1 hx.2 (pcTDef_ends w hw hT hC false d.base (edef_base_wfL false d h)).1

/-- An extension ends as its definition without description does. -/
theorem printEDef_ends (d : EDef) (h : Exec.edefWf d) : Ends (Exec.endsBlock (.e d)) (Exec.printEDef w d) := by
  have e : Exec.endsBlock (.e d) = endsL d.base := by cases d <;> rfl
  obtain ⟨h1, h2⟩ := pcTDef_ends w hw hT hC false d.base (edef_base_wfL false d h)
  rw [e]
  exact h2.append _ h1.ne

omit hw hT hC in
theorem isShortG_iff (desc : Desc) (ot n : List Nat) (vds : List VarDef) (ds : List Dir) (ss : List Sel) :
    Exec.isShortG (.x (.op desc ot n vds ds ss)) = true ↔ shortCond desc ot n vds ds := by
  unfold Exec.isShortG shortCond
  cases desc <;> simp [and_assoc]

theorem pcGDef (fa dd : Bool) (d : GDef) (h : Exec.gdefWf fa dd d) : Pc (Exec.printGDef w d) (Exec.gdefKvs d) := by
  cases d with
  | x d => exact pcXDef w hw hT hC fa d h
  | t d => exact (pcTDef_ends w hw hT hC dd d (tdefWf_L h)).1
  | e d => exact pcEDef w hw hT hC d h

theorem printGDef_facts (fa dd : Bool) (d : GDef) (h : Exec.gdefWf fa dd d) :
    ((Exec.printGDef w d).head? = some 123 ↔ Exec.isShortG d = true) ∧
    ((Exec.printGDef w d).getLast? = some 125 ↔ Exec.endsBlock d = true) := by
  cases d with
  | t d =>
    have he := (pcTDef_ends w hw hT hC dd d (tdefWf_L h)).2
    -- a `schema` definition has a block
    have e : endsL d = Exec.endsBlock (.t d) := by
      cases d with
      | schema desc ds ots => cases ots with | nil => exact absurd rfl h.2.2.1 | cons => rfl
      | _ => rfl
    exact ⟨⟨fun h0 => absurd h0 (printTDef_head w d), fun h0 => by simp [Exec.isShortG] at h0⟩, e ▸ he⟩
  | e d =>
    have hhd : (Exec.printEDef w d).head? = some 101 := by
      unfold Exec.printEDef
      have : S "extend " = 101 :: S "xtend " := by decide
      rw [this]; rfl
    refine ⟨⟨fun h0 => ?_, fun h0 => by simp [Exec.isShortG] at h0⟩, printEDef_ends w hw hT hC d h⟩
    have h0' : (Exec.printEDef w d).head? = some 123 := h0
    rw [hhd] at h0'; cases h0'
  | x d =>
    refine ⟨?_, ⟨fun _ => rfl, fun _ => printXDef_last w hw hT hC fa d h⟩⟩
    cases d with
    | frag desc n vds tc ds ss =>
      simp only [Exec.printGDef, Exec.printXDef, S_fragment, List.append_assoc]
      exact ⟨fun h0 => absurd h0 (descPre_kw_head w desc _ _ (by decide)), fun h0 => by simp [Exec.isShortG] at h0⟩
    | op desc ot n vds ds ss =>
      obtain ⟨hdesc, hot, hn, hvds, hds, hssne, hss⟩ := h
      simp only [Exec.printGDef]
      rw [printXDef_op w hw hT hC desc ot n vds ds hdesc hot hn hvds hds ss, isShortG_iff]
      by_cases hs : shortCond desc ot n vds ds
      · rw [if_pos hs, block_eq _ (printSels_ne w hssne) (itsSels w hw hT hC ss hss).ne]
        simp [hs]
      · rw [if_neg hs]
        simp only [List.append_assoc]
        exact ⟨fun h0 => absurd h0 (descPre_kw_head w desc _ _ (validName_opType hot)), fun h0 => absurd h0 hs⟩

end

/-- The relation between the printer's `prev` and the flag of `gdefsKvs`. -/
def PrevOk (prev : Option (List Nat)) (pb : Bool) : Prop :=
  (prev = none → pb = true) ∧ ∀ p, prev = some p → (p.getLast? = some 125 ↔ pb = true)

section
variable (w : Widths) (hw : 4 ≤ w.object)
variable (hT : tableOK Generated.escapeTable = true) (hC : tableComplete Generated.escapeTable = true)
include hw hT hC

/-- The definitions as `leave_document` hands them to `join`: pieces, with the tokens of the document. -/
theorem itsGDefs (fa dd : Bool) (defs : List GDef) (h : Exec.gdefsWf fa dd defs) :
    ∀ (prev : Option (List Nat)) (pb : Bool), PrevOk prev pb →
      Its (documentDefs prev (defs.map (Exec.printGDef w))) (Exec.gdefsKvs pb defs) := by
  induction defs with
  | nil => intro _ _ _; exact .nil
  | cons d r ih =>
    intro prev pb hp
    have hwf := h d (by simp)
    obtain ⟨hhead, hlast⟩ := printGDef_facts w hw hT hC fa dd d hwf
    have hd := pcGDef w hw hT hC fa dd d hwf
    simp only [List.map_cons, documentDefs, Exec.gdefsKvs]
    refine .cons ?_ (ih (fun x hx => h x (by simp [hx])) (some (Exec.printGDef w d)) (Exec.endsBlock d)
      ⟨fun h0 => by simp at h0, fun p hp' => by cases hp'; exact hlast⟩)
    -- the first definition, possibly with the `query` keyword
    cases prev with
    | none => simpa [hp.1 rfl] using hd
    | some p =>
      -- the printer's test on the two texts is the test of `gdefsKvs` on the trees
      have hc : ((Exec.printGDef w d).head? = some 123 ∧ p.getLast? ≠ some 125) ↔
          (Exec.isShortG d && !pb) = true := by
        rw [hhead, Ne, hp.2 p rfl]
        cases Exec.isShortG d <;> cases pb <;> simp
      have hq := lexes_kwSp (kwsp := S "query ") (kw := S "query") (by decide +kernel) (by decide +kernel)
      by_cases hs : (Exec.isShortG d && !pb) = true
      · simpa [hc.mpr hs, hs] using Pc.pre hq.1 hq.2 hd
      · simpa [mt hc.mp hs, hs] using hd

/-- `render_lex` for documents of executable and type-system definitions (stage 3). -/
theorem lexes_gdoc (fa dd : Bool) (defs : List GDef) (h : Exec.gdefsWf fa dd defs) :
    Lexes true (Exec.printGDoc w defs) (Exec.gdefsKvs true defs) :=
  ((itsGDefs w hw hT hC fa dd defs h none true ⟨fun _ => rfl, by intro p hp; cases hp⟩).joined [10, 10]
    (by intro x hx; simp at hx; simp [hx]) (by simp)).lexes

end

end Gql.Text
