import Gql.Proofs.SpecKeep
/-!
The documented traversal of a visitor that never edits terminates: the nesting depth is bounded
by the size of the tree (`node_inv` with the undefined case excluded, over the nodes smaller than the
depth bound).
-/
namespace Gql.Syntax
open Gql Gql.Syntax.Spec

variable {σ : Type}

theorem lookup_size (fs : List (String × Child)) (k : String) (c : Child)
    (h : fs.lookup k = some c) : c.size ≤ sizeFields fs := by
  induction fs with
  | nil => simp at h
  | cons hd tl ih =>
    obtain ⟨k', c'⟩ := hd
    simp only [List.lookup] at h
    simp only [sizeFields]
    split at h
    · simp at h; subst h; omega
    · have := ih h; omega

theorem mem_sizeNodes (cs : List Node) (c : Node) (h : c ∈ cs) : c.size ≤ sizeNodes cs := by
  induction cs with
  | nil => simp at h
  | cons hd tl ih =>
    simp only [sizeNodes]
    rcases List.mem_cons.mp h with h | h
    · subst h; omega
    · have := ih h; omega

theorem IsChild.size_lt {m c : Node} (h : IsChild m c) : c.size < m.size := by
  obtain ⟨k, ch, hl, hch⟩ := h.field
  have h1 := lookup_size _ k ch hl
  obtain ⟨kd, sr, pl, fs⟩ := m
  simp only [Node.size, Node.fields_mk] at h1 ⊢
  rcases hch with rfl | ⟨cs, rfl, hc⟩
  · simp only [Child.size] at h1
    omega
  · have h2 := mem_sizeNodes cs c hc
    simp only [Child.size] at h1
    omega

theorem node_total {vk : String → List String} {v : Visitor σ} (hv : NonEditing v) (d : Nat) :
    InvRec False (fun n => n.size < d) (fun _ _ => True) (fun _ _ => True) (specNode vk v d) :=
  node_inv hv (N := fun d n => n.size < d) (fun _ h => Nat.not_lt_zero _ h)
    (fun _ _ _ hc hm => by have := hc.size_lt; omega) (fun _ _ _ _ _ _ => by split <;> trivial) d

theorem spec_terminates {vk : String → List String} {v : Visitor σ} (hv : NonEditing v)
    (root : Node) (s : σ) (d : Nat) (hd : root.size < d) : ∃ out, specVisit vk v d root s = some out := by
  obtain ⟨r, hr⟩ := (node_total (vk := vk) hv d ⟨s, 0, false⟩ root .none none [] [] hd trivial).defined
  unfold specVisit
  rw [hr]
  cases r with
  | brk w => exact ⟨_, rfl⟩
  | done w sl => cases sl <;> exact ⟨_, rfl⟩

end Gql.Syntax
