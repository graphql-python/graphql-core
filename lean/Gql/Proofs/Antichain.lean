import Gql.Proofs.Finish
/-!
P5 as a state invariant: no proper ancestor of a root group has a node in the graph — the
enclosing fragments of a pending (announced) fragment are all finished or pruned; in
particular the roots form an antichain of the parent order.
-/
namespace Gql.Async
open Gql.Spec.Protocol

/-- `a` is a proper ancestor of `x` along `σ.parent`. -/
inductive Anc (σ : Static) : Nat → Nat → Prop where
  | parent {a x : Nat} : σ.parent x = some a → Anc σ a x
  | step {a p x : Nat} : σ.parent x = some p → Anc σ a p → Anc σ a x

theorem Anc.inv {σ : Static} {a x : Nat} (h : Anc σ a x) :
    ∃ p, σ.parent x = some p ∧ (a = p ∨ Anc σ a p) := by
  cases h with
  | parent hp => exact ⟨a, hp, Or.inl rfl⟩
  | step hp ha => exact ⟨_, hp, Or.inr ha⟩

/-- No proper ancestor of `x` has a node. -/
def NoAnc (σ : Static) (q : WQ) (x : Nat) : Prop := ∀ a, Anc σ a x → ¬ hasNode q a

theorem NoAnc.sub {σ : Static} {q q' : WQ} {x : Nat} (h : NoAnc σ q x) (s : SubGraph q q') :
    NoAnc σ q' x := fun a ha hn => h a ha (s.hasNode hn)

/-- The roots' ancestors are gone. -/
def Anti (σ : Static) (q : WQ) : Prop := ∀ r ∈ q.rootGroups, NoAnc σ q r

/-- The introduced groups are closed under `parent`, and parents are older (E6). -/
def Closed (σ : Static) (e : EnvSt) : Prop :=
  ∀ g ∈ e.introG, ∀ p, σ.parent g = some p → p < g ∧ p ∈ e.introG

theorem Closed.anc {σ : Static} {e : EnvSt} (c : Closed σ e) {a x : Nat} (hx : x ∈ e.introG)
    (h : Anc σ a x) : a ∈ e.introG := by
  induction h with
  | parent hp => exact (c _ hx _ hp).2
  | step hp _ ih => exact ih (c _ hx _ hp).2

/-- After `prune`, every promoted group and every deleted node has no ancestor left in the
graph, provided the groups it started from had none: going up from such a node, every ancestor was
deleted until one of the list is met. -/
theorem prune_noAnc (σ : Static) (qin qout : WQ) (gs new : List Nat) (po : PruneOut qin gs qout new)
    (tl : TreeLike σ qin) (hgs : ∀ y ∈ gs, NoAnc σ qin y) :
    ∀ x, (x ∈ new ∨ (hasNode qin x ∧ ¬ hasNode qout x)) → NoAnc σ qout x := by
  have src : ∀ x, (x ∈ new ∨ (hasNode qin x ∧ ¬ hasNode qout x)) →
      x ∈ gs ∨ ∃ p, σ.parent x = some p ∧ hasNode qin p ∧ ¬ hasNode qout p := by
    intro x hx
    rcases hx.elim (po.src x) fun h => po.del x h.1 h.2 with h | ⟨p, hp1, hp2⟩
    · exact .inl h
    · refine .inr ⟨p, tl.parent p x hp1, ⟨_, hp1.choose_spec.1⟩, fun ⟨m, hm⟩ => ?_⟩
      rw [hp2] at hm; cases hm
  intro x hx a ha
  induction ha with
  | parent hp =>
    rcases src _ hx with h | ⟨p, e, _, hno⟩
    · exact fun hn => hgs _ h _ (.parent hp) (po.sub.hasNode hn)
    · cases hp.symm.trans e; exact hno
  | step hp ha ih =>
    rcases src _ hx with h | ⟨p, e, hd⟩
    · exact fun hn => hgs _ h _ (.step hp ha) (po.sub.hasNode hn)
    · cases hp.symm.trans e; exact ih (.inr hd)

/-- Integrating a well-formed work keeps the roots' ancestors out of the graph. -/
theorem integrateWork_anti (σ : Static) (e : EnvSt) (q : WQ) (w : Work) (pt : Option Nat)
    (g : Good σ e q) (c : Closed σ e) (ok : WorkOk σ e w) (a : Anti σ q) :
    Anti σ (integrateWork σ q (some w) pt).1 := by
  intro r hr x hx hn
  have gr := integrateWork_grow σ q (some w) pt
  rw [gr.frame.rg] at hr
  rcases gr.nodes x hn with h | h
  · exact ok.gfresh x h (c.anc (g.known.roots r hr) hx)
  · exact a r hr x hx h

/-- E2 and E6: introducing a well-formed work keeps the introduced groups closed under `parent`. -/
theorem closed_intro (σ : Static) (e : EnvSt) (q : WQ) (pr : Option Nat) (wo : Option Work)
    (c : Closed σ e) (h : workOptOk σ e q pr wo = true) : Closed σ (e.intro wo) := by
  cases wo with
  | none => exact c
  | some w =>
    have ok := workOk_of σ e q pr w h
    intro g hg p hpg
    simp only [EnvSt.intro, List.mem_append] at hg ⊢
    rcases hg with hg | hg
    · exact ok.par g hg p hpg
    · exact ⟨(c g hg p hpg).1, Or.inr (c g hg p hpg).2⟩

end Gql.Async
