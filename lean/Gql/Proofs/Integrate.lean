import Gql.Proofs.Attach
/-!
`_maybe_integrate_work` of a well-formed `Work` keeps the graph invariant (relative to the
environment ghost extended by the work's fresh objects), and what it returns: `addGroups_good` for
the groups, `addStreams_good` for the streams given to a producing task (one write to a task node,
`SForest.setTask`).
-/
namespace Gql.Async

/-- What `workOk` says of the groups and streams of a work, as propositions. -/
structure WorkOk (σ : Static) (e : EnvSt) (w : Work) : Prop where
  snodup : w.streams.Nodup
  gfresh : ∀ g ∈ w.groups, g ∉ e.introG
  sfresh : ∀ s ∈ w.streams, s ∉ e.introS
  /-- E2: the parent of a new group is older, and in the same work or introduced earlier. -/
  par : ∀ g ∈ w.groups, ∀ p, σ.parent g = some p → p < g ∧ (p ∈ w.groups ∨ p ∈ e.introG)

theorem nodupB_iff (xs : List Nat) : nodupB xs = true ↔ xs.Nodup := by
  induction xs with
  | nil => simp [nodupB]
  | cons x r ih => simp [nodupB, ih, List.nodup_cons]

theorem workOk_of (σ : Static) (e : EnvSt) (q : WQ) (pr : Option Nat) (w : Work)
    (h : workOk σ e q pr w = true) : WorkOk σ e w := by
  unfold workOk at h
  simp only [Bool.and_eq_true, List.all_eq_true, Bool.not_eq_true', nodupB_iff] at h
  obtain ⟨⟨⟨⟨⟨⟨_, h3⟩, h4⟩, _⟩, h6⟩, h7⟩, _⟩ := h
  refine ⟨h3, fun g hg hm => by simpa [hm] using h4 g hg, fun s hs hm => by simpa [hm] using h6 s hs,
    fun g hg p hp => ?_⟩
  have := h7 g hg
  rw [hp] at this
  simpa using this

theorem addGroups_good (σ : Static) (e : EnvSt) (q : WQ) (w : Work) (hpt : Bool)
    (g : Good σ e q) (ok : WorkOk σ e w) :
    Good σ (e.intro (some w)) (addGroups σ q w.groups hpt).1 ∧
    (addGroups σ q w.groups hpt).2.Nodup ∧
    ∀ x ∈ (addGroups σ q w.groups hpt).2, x ∈ w.groups ∧ σ.parent x = none ∧ hpt = false := by
  obtain ⟨S, hS, hn, hsub⟩ := addGroups_seq σ q w.groups hpt
  rw [hS]
  obtain ⟨f, k⟩ := attachSeq_forest σ hpt S (q, []) e.introG g.forest g.known hn
    (fun x hx => ok.gfresh x (hsub x hx))
  have fr := (attachSeq_grow σ hpt S (q, [])).frame
  have ht := hS ▸ addGroups_taskNodes σ q w.groups hpt
  have hsnd := attachSeq_snd σ hpt S (q, [])
  refine ⟨⟨f, ?_, ?_, ?_⟩, ?_, ?_⟩
  · exact k.mono fun x hx => List.mem_append.mpr ((List.mem_append.mp hx).imp_left (hsub x))
  · exact g.sforest.shrink (tsub_of_eq ht) (fun x hx => g.sforest.rootAbsent (fr.rs ▸ hx))
  · have := g.sknown.shrink (tsub_of_eq ht) (fun x hx => g.sknown.roots x (fr.rs ▸ hx))
    exact ⟨fun s hs => List.mem_append.mpr (Or.inr (this.roots s hs)),
      fun t tn s a b => List.mem_append.mpr (Or.inr (this.children t tn s a b))⟩
  · rw [hsnd]; simp only [List.nil_append]
    exact hn.sublist List.filter_sublist
  · intro x hx
    rw [hsnd] at hx
    simp only [List.nil_append, List.mem_filter, Bool.and_eq_true, Bool.not_eq_true',
      Option.isNone_iff_eq_none] at hx
    exact ⟨hsub x hx.1, hx.2.2, hx.2.1⟩

theorem addStreams_good (σ : Static) (e : EnvSt) (q : WQ) (w : Work) (t : Nat)
    (g : Good σ (e.intro (some w)) q) (hold : SKnown e.introS q) (ok : WorkOk σ e w) :
    Good σ (e.intro (some w)) (addStreams q w.streams (some t)).1 ∧ (addStreams q w.streams (some t)).2 = [] := by
  unfold addStreams
  simp only
  cases ht : alookup q.taskNodes t with
  | none => exact ⟨g, rfl⟩
  | some tn =>
    obtain ⟨sf, sk⟩ := g.sforest.setTask g.sknown t { tn with childStreams := tn.childStreams ++ w.streams }
      (List.nodup_append.mpr ⟨g.sforest.nodup t tn ht, ok.snodup,
        fun a ha b hb e => ok.sfresh b hb (e ▸ hold.children t tn a ht ha)⟩)
      fun s hs => (List.mem_append.mp hs).elim
        -- a stream that waited in the node of `t` already
        (fun hs => ⟨g.sforest.notRoot t tn s ht hs, g.sknown.children t tn s ht hs,
          fun x tx hx hsx => g.sforest.owner x t tx tn s hx ht hsx hs⟩)
        -- a new stream: the graph did not know it
        (fun hs => ⟨fun h => ok.sfresh s hs (hold.roots s h), List.mem_append.mpr (Or.inl hs),
          fun x tx hx hsx => absurd (hold.children x tx s hx hsx) (ok.sfresh s hs)⟩)
    exact ⟨⟨g.forest.sub (subGraph_of_eq rfl) fun x hx => (g.rootGroup hx).2,
      g.known.sub (subGraph_of_eq rfl) g.known.roots, sf, sk⟩, rfl⟩

end Gql.Async
