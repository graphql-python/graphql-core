import Gql.Proofs.LexerNumber
/-!
# The lexer against the lexical grammar: one token, then the whole token sequence

The two string classes enter as hypotheses (`StringClassOK`, `BlockClassOK`), discharged in
`LexerString` and `LexerBlock`; every other class is compared here, through `lexToken?_cons`.
`TokenCase` with `lexToken?_iff` is `lexToken?_cons` as a relation, for the grammar-side proofs
that take a match apart class by class.
-/
open Gql Gql.Text
namespace Gql.Text
open Gql.Spec.Lex


/-- Hypothesis for the StringValue class on a given text: wherever the lexer calls `read_string`,
its result is the grammar's `string?` match. -/
def StringClassOK (body : List Nat) : Prop :=
  ∀ st pos, (h : pos < body.length) → body[pos] = 34 → slice body (pos + 1) (pos + 3) ≠ [34, 34] →
    TokAgree pos (readString body st pos >>= fun t => pure (t, st)) (string? (body.drop pos))

/-- Hypothesis for the BlockString class on a given text. -/
def BlockClassOK (body : List Nat) : Prop :=
  ∀ st pos, (h : pos < body.length) → body[pos] = 34 → slice body (pos + 1) (pos + 3) = [34, 34] →
    TokAgree pos (readBlockString body st pos) (blockString? (body.drop pos))

theorem slice_eq_take_drop (body : List Nat) (a n : Nat) : slice body a (a + n) = (body.drop a).take n := by
  simp [slice]

theorem string?_triple (r : List Nat) : string? (34 :: 34 :: 34 :: r) = none := rfl

theorem blockString?_not_triple (r : List Nat) (h : r.take 2 ≠ [34, 34]) : blockString? (34 :: r) = none := by
  unfold blockString?
  split
  · rename_i heq
    simp at heq
    subst heq
    simp at h
  · rfl

theorem lexToken?_none (c : Nat) (r : List Nat) (h1 : ¬ PunctStart c) (h2 : ¬ NameStart c)
    (h3 : ¬ Digit c) (h4 : c ≠ 45) (h5 : c ≠ 34) : lexToken? (c :: r) = none := by
  unfold lexToken?
  rw [punctuator?_none _ _ h1, name?_none _ _ h2, number?_none _ _ h4 h3,
    string?_none _ _ h5, blockString?_none _ _ h5]
  rfl

theorem punctuator?_dot (r : List Nat) :
    punctuator? (46 :: r) = if r.take 2 = [46, 46] then some ⟨.spread, 3, none⟩ else none := by
  have e : r.take 2 = [46, 46] ↔ [46, 46] <+: r := by rw [List.prefix_iff_eq_take]; exact eq_comm
  -- of the table only `...` starts with `.`
  by_cases h : [46, 46] <+: r <;> simp [punctuator?, punctuators, List.findSome?, e, h]

theorem string?_of_triple (r : List Nat) (h : r.take 2 = [34, 34]) : string? (34 :: r) = none := by
  match r, h with
  | a :: b :: r', h =>
    obtain ⟨rfl, rfl⟩ : a = 34 ∧ b = 34 := by simpa using h
    rfl

/-- The longest-match token by its first code point, in the order of `tokenAt`: no two token
classes share a first code point, except the two string forms. -/
theorem lexToken?_cons (c : Nat) (r : List Nat) :
    lexToken? (c :: r) =
      if c = 34 then (if r.take 2 = [34, 34] then blockString? (c :: r) else string? (c :: r))
      else match punctKind c with
        | some k => some ⟨kindOf k, 1, none⟩
        | none =>
          if Digit c ∨ c = 45 then number? (c :: r)
          else if NameStart c then name? (c :: r)
          else if c = 46 ∧ r.take 2 = [46, 46] then some ⟨.spread, 3, none⟩ else none := by
  by_cases h34 : c = 34
  · subst h34
    rw [if_pos rfl]
    unfold lexToken?
    rw [punctuator?_none _ _ (by decide), name?_none _ _ (by decide),
      number?_none _ _ (by decide) (by decide)]
    simp only [longer_none_left]
    by_cases htr : r.take 2 = [34, 34]
    · rw [if_pos htr, string?_of_triple r htr, longer_none_left]
    · rw [if_neg htr, blockString?_not_triple r htr, longer_none_right]
  rw [if_neg h34]
  cases hk : punctKind c with
  | some k => exact lexToken?_punct c r k hk
  | none =>
    simp only []
    unfold lexToken?
    rw [string?_none _ _ h34, blockString?_none _ _ h34]
    simp only [longer_none_right]
    by_cases hnum : Digit c ∨ c = 45
    · rw [if_pos hnum, punctuator?_none _ _ (by unfold Digit at hnum; unfold PunctStart; omega),
        name?_none _ _ (by unfold Digit at hnum; unfold NameStart Letter; omega)]
      simp only [longer_none_left]
    rw [if_neg hnum, number?_none _ _ (fun h => hnum (.inr h)) (fun h => hnum (.inl h)),
      longer_none_right]
    by_cases hname : NameStart c
    · rw [if_pos hname, punctuator?_none _ _ (by
        have hl : Letter c ∨ c = 95 := hname
        unfold Letter at hl; unfold PunctStart; omega), longer_none_left]
    rw [if_neg hname, name?_none _ _ hname, longer_none_right]
    by_cases hdot : c = 46
    · subst hdot
      rw [punctuator?_dot]
      by_cases htr : r.take 2 = [46, 46]
      · rw [if_pos htr, if_pos ⟨rfl, htr⟩]
      · rw [if_neg htr, if_neg (fun h => htr h.2)]
    · rw [if_neg (fun h => hdot h.1), punctuator?_none _ _ ((punctKind_none hk).resolve_right hdot)]

/-- What the longest-match token at the head of `c :: r` can be, class by class: `lexToken?_cons`
as a relation, for the proofs that start from, or arrive at, `lexToken? (c :: r) = some m`. -/
inductive TokenCase (c : Nat) (r : List Nat) : Match → Prop
  | block {m} : c = 34 → r.take 2 = [34, 34] → blockString? (c :: r) = some m → TokenCase c r m
  | string {m} : c = 34 → r.take 2 ≠ [34, 34] → string? (c :: r) = some m → TokenCase c r m
  | punct {k} : c ≠ 34 → punctKind c = some k → TokenCase c r ⟨kindOf k, 1, none⟩
  | number {m} : c ≠ 34 → punctKind c = none → (Digit c ∨ c = 45) → number? (c :: r) = some m → TokenCase c r m
  | name {m} : c ≠ 34 → punctKind c = none → ¬ (Digit c ∨ c = 45) → NameStart c → name? (c :: r) = some m →
      TokenCase c r m
  | spread : c = 46 → r.take 2 = [46, 46] → TokenCase c r ⟨.spread, 3, none⟩

theorem lexToken?_iff (c : Nat) (r : List Nat) (m : Match) : lexToken? (c :: r) = some m ↔ TokenCase c r m := by
  rw [lexToken?_cons]
  constructor
  · intro h
    by_cases hq : c = 34
    · rw [if_pos hq] at h
      by_cases htr : r.take 2 = [34, 34]
      · rw [if_pos htr] at h; exact .block hq htr h
      · rw [if_neg htr] at h; exact .string hq htr h
    rw [if_neg hq] at h
    cases hk : punctKind c with
    | some k => rw [hk] at h; cases h; exact .punct hq hk
    | none =>
      rw [hk] at h
      simp only [] at h
      by_cases hnum : Digit c ∨ c = 45
      · rw [if_pos hnum] at h; exact .number hq hk hnum h
      rw [if_neg hnum] at h
      by_cases hname : NameStart c
      · rw [if_pos hname] at h; exact .name hq hk hnum hname h
      rw [if_neg hname] at h
      split at h
      · rename_i hs; cases h; exact .spread hs.1 hs.2
      · cases h
  · intro h
    cases h with
    | block hq htr h => rw [if_pos hq, if_pos htr, h]
    | string hq htr h => rw [if_pos hq, if_neg htr, h]
    | punct hq hk => rw [if_neg hq, hk]
    | number hq hk hnum h => rw [if_neg hq, hk]; simp only []; rw [if_pos hnum, h]
    | name hq hk hnum hname h => rw [if_neg hq, hk]; simp only []; rw [if_neg hnum, if_pos hname, h]
    | spread h46 htr =>
      subst h46
      rw [if_neg (by decide), show punctKind 46 = none from rfl]
      simp only []
      rw [if_neg (by decide), if_neg (by decide), if_pos ⟨trivial, htr⟩]

theorem take2_iff (body : List Nat) (pos a b : Nat) :
    (charAt body (pos + 1) = some a ∧ charAt body (pos + 2) = some b) ↔
      (body.drop (pos + 1)).take 2 = [a, b] := by
  have e0 := charAt_drop body (pos + 1) 0
  have e1 := charAt_drop body (pos + 1) 1
  rw [Nat.add_zero] at e0
  rw [show pos + 2 = pos + 1 + 1 by omega, e0, e1]
  generalize body.drop (pos + 1) = l
  match l with
  | [] => simp
  | [x] => simp
  | x :: y :: t => simp

/-- One token: where the next code point starts no Ignored item, `read_next_token` returns exactly
the longest-match token of the grammar (kind, span, value), or fails exactly when no token of the
grammar starts there. -/
theorem readNextToken_tokAgree (body : List Nat) (st : LexState) (pos : Nat) (h : pos < body.length)
    (hstr : StringClassOK body) (hblk : BlockClassOK body)
    (hni : ignoredLen (body.drop pos) = none) :
    TokAgree pos (readNextToken body st pos) (lexToken? (body.drop pos)) := by
  have hdrop := List.drop_eq_getElem_cons h
  have hns : ¬ IgnoredStart body[pos] := ignoredLen_none_start (hdrop ▸ hni)
  have e : slice body (pos + 1) (pos + 3) = (body.drop (pos + 1)).take 2 := slice_eq_take_drop _ _ 2
  have hstr' := hstr st pos h
  have hblk' := hblk st pos h
  rw [readNextToken_unfold _ _ _ h]
  simp only []
  rw [if_neg (fun hc => hns (.inl (.inl hc))), if_neg (fun hc => hns (.inl (.inr hc))),
    if_neg (fun hc => hns (.inr (.inl hc))), tokenAt, if_neg (fun hc => hns (.inr (.inr hc)))]
  rw [e] at hstr' hblk' ⊢
  rw [hdrop] at hstr' hblk'
  rw [hdrop, lexToken?_cons]
  by_cases hq : body[pos] = 34
  · rw [if_pos hq, if_pos hq]
    by_cases htr : (body.drop (pos + 1)).take 2 = [34, 34]
    · rw [if_pos htr, if_pos htr]; exact hblk' hq htr
    · rw [if_neg htr, if_neg htr]; exact hstr' hq htr
  rw [if_neg hq, if_neg hq]
  cases hk : punctKind body[pos] with
  | some k =>
    exact ⟨_, rfl, by simp [toSpec, mkToken], Nat.lt_succ_self 0, punctKind_ne_eof hk,
      punctKind_forall (P := fun _ k => k ≠ .comment) (by decide) hk⟩
  | none =>
    simp only []
    by_cases hnum : Digit body[pos] ∨ body[pos] = 45
    · rw [if_pos (hnum.imp_left (isDigit_iff _).mpr), if_pos hnum, ← hdrop]
      exact readNumber_tokAgree body st pos h
    rw [if_neg (fun hc => hnum (hc.imp_left (isDigit_iff _).mp)), if_neg hnum]
    by_cases hname : NameStart body[pos]
    · rw [if_pos ((isNameStart_iff _).mpr hname), if_pos hname]
      unfold readName
      rw [readNameLoop_eq]
      simp only [Out.bind_ok, Out.pure_eq, name?]
      rw [if_pos hname]
      refine ⟨_, rfl, ?_, by simp; omega, by simp [mkToken], by simp [mkToken]⟩
      simp only [toSpec, mkToken, kindOf]
      rw [show pos + 1 + nameContinueLen (body.drop (pos + 1)) =
        pos + (1 + nameContinueLen (body.drop (pos + 1))) by omega, slice_eq_take_drop, hdrop]
    rw [if_neg (fun hc => hname ((isNameStart_iff _).mp hc)), if_neg hname]
    by_cases hsp : body[pos] = 46 ∧ (body.drop (pos + 1)).take 2 = [46, 46]
    · rw [if_pos ⟨hsp.1, (take2_iff body pos 46 46).mpr hsp.2⟩, if_pos hsp]
      exact ⟨_, rfl, by simp [toSpec, mkToken, kindOf], by decide, by simp [mkToken], by simp [mkToken]⟩
    · rw [if_neg (fun hc => hsp ⟨hc.1, (take2_iff body pos 46 46).mp hc.2⟩), if_neg hsp]
      -- every remaining branch is an error
      split
      · split
        · unfold dotDigitsLoop; rw [digitsLoop_eq]; rfl
        · rfl
      · repeat' split
        all_goals rfl

/-- Agreement of a `lexAll` outcome with the specification's token sequence. -/
def LexAgree (r : LexOut (List Token)) (s : Option (List SpecToken)) : Prop :=
  match r with
  | .ok ts => s = some (sig ts)
  | .err _ => s = none
  | .crash _ => False

def lexStep (body : List Nat) (fuel : Nat) (acc : List Token) (r : Token × LexState) : LexOut (List Token) :=
  if r.1.kind = .eof then pure (acc ++ [r.1])
  else if r.1.kind = .comment then lexAllAux body fuel r.2 r.1.stop acc
  else lexAllAux body fuel r.2 r.1.stop (acc ++ [r.1])

theorem lexAllAux_succ (body : List Nat) (fuel : Nat) (st : LexState) (pos : Nat) (acc : List Token) :
    lexAllAux body (fuel + 1) st pos acc = readNextToken body st pos >>= lexStep body fuel acc := by
  rw [lexAllAux]; rfl

theorem tokenizeFrom_nil (fuel off : Nat) : tokenizeFrom fuel off [] = some [⟨.eof, off, off, none⟩] := by
  cases fuel <;> rfl

theorem tokenizeFrom_cons (fuel off c : Nat) (r : List Nat) :
    tokenizeFrom (fuel + 1) off (c :: r) =
      match ignoredLen (c :: r) with
      | some n => tokenizeFrom fuel (off + n) ((c :: r).drop n)
      | none =>
        match lexToken? (c :: r) with
        | some m =>
          if m.len = 0 then none
          else
            match tokenizeFrom fuel (off + m.len) ((c :: r).drop m.len) with
            | some ts => some (⟨m.kind, off, off + m.len, m.value⟩ :: ts)
            | none => none
        | none => none := by
  rw [tokenizeFrom]
  all_goals first | rfl | (intros; simp_all)

/-- One Ignored item of the grammar takes the loop of `lexAll` at most one turn: a comment is a turn of
`lexAllAux`, anything else a turn inside `read_next_token`. -/
theorem lexAllAux_ignored (body : List Nat) (fuel : Nat) (st : LexState) (pos : Nat) (acc : List Token)
    (h : pos < body.length) {n : Nat} (hig : ignoredLen (body.drop pos) = some n) :
    ∃ st' fuel', fuel ≤ fuel' ∧
      lexAllAux body (fuel + 1) st pos acc = lexAllAux body fuel' st' (pos + n) acc := by
  rw [List.drop_eq_getElem_cons h, ignoredLen_cons] at hig
  rw [lexAllAux_succ, readNextToken_unfold _ _ _ h]
  simp only []
  by_cases hws : SkipChar body[pos]
  · rw [if_pos (.inl hws)] at hig; cases hig
    exact ⟨_, fuel + 1, Nat.le_succ _, by rw [if_pos hws, lexAllAux_succ]⟩
  by_cases hlf : body[pos] = 10
  · rw [if_pos (.inr hlf)] at hig; cases hig
    exact ⟨_, fuel + 1, Nat.le_succ _, by rw [if_neg hws, if_pos hlf, lexAllAux_succ]⟩
  rw [if_neg (fun h => h.elim hws hlf)] at hig
  rw [if_neg hws, if_neg hlf]
  by_cases hcr : body[pos] = 13
  · rw [if_pos hcr, charAt_eq_head]
    rw [if_pos hcr] at hig
    split at hig <;> cases hig
    · rename_i h10; exact ⟨_, fuel + 1, Nat.le_succ _, by rw [if_pos h10, lexAllAux_succ]⟩
    · rename_i h10; exact ⟨_, fuel + 1, Nat.le_succ _, by rw [if_neg h10, lexAllAux_succ]⟩
  rw [if_neg hcr] at hig
  split at hig <;> cases hig
  rename_i hc
  refine ⟨st, fuel, Nat.le_refl _, ?_⟩
  rw [if_neg hcr, tokenAt, if_pos hc]
  unfold readComment
  rw [readCommentLoop_eq]
  simp only [Out.bind_ok, Out.pure_eq, lexStep, mkToken]
  rw [if_neg (by simp), if_pos trivial, Nat.add_assoc]

theorem lexAllAux_agree (body : List Nat) (hstr : StringClassOK body) (hblk : BlockClassOK body) :
    ∀ (fuelS fuel : Nat) (st : LexState) (pos : Nat) (acc : List Token),
      pos ≤ body.length → body.length ≤ pos + fuelS → fuelS < fuel →
      LexAgree (lexAllAux body fuel st pos acc)
        ((tokenizeFrom fuelS pos (body.drop pos)).map (fun ts => sig acc ++ ts)) := by
  -- at the end of the text both sides stop with `<EOF>`, whatever the fuel
  have hend : ∀ (fuelS fuel : Nat) (st : LexState) (acc : List Token), 0 < fuel →
      LexAgree (lexAllAux body fuel st body.length acc)
        ((tokenizeFrom fuelS body.length (body.drop body.length)).map (fun ts => sig acc ++ ts)) := by
    intro fuelS fuel st acc hf
    obtain ⟨k, rfl⟩ : ∃ k, fuel = k + 1 := ⟨fuel - 1, by omega⟩
    rw [lexAllAux_succ, readNextToken_eof _ _ _ (Nat.le_refl _), Out.bind_ok, List.drop_length, tokenizeFrom_nil]
    simp [lexStep, mkToken, LexAgree, sig, toSpec, kindOf]
  -- every step costs the grammar one unit of fuel and the lexer at most one (`lexAllAux_ignored`)
  intro fuelS
  induction fuelS with
  | zero =>
    intro fuel st pos acc hp hfs hf
    obtain rfl : pos = body.length := by omega
    exact hend 0 fuel st acc (by omega)
  | succ fs ih =>
    intro fuel st pos acc hp hfs hf
    rcases Nat.eq_or_lt_of_le hp with rfl | hlt
    · exact hend _ fuel st acc (by omega)
    obtain ⟨k, rfl⟩ : ∃ k, fuel = k + 1 := ⟨fuel - 1, by omega⟩
    have hdrop := List.drop_eq_getElem_cons hlt
    rw [hdrop, tokenizeFrom_cons, ← hdrop]
    cases hig : ignoredLen (body.drop pos) with
    | some n =>
      obtain ⟨hn0, hnl⟩ := ignoredLen_le hig
      rw [List.length_drop] at hnl
      obtain ⟨st', k', hk, hr⟩ := lexAllAux_ignored body k st pos acc hlt hig
      rw [hr]
      simp only [List.drop_drop]
      exact ih k' st' (pos + n) acc (by omega) (by omega) (by omega)
    | none =>
      simp only []
      have hta := readNextToken_tokAgree body st pos hlt hstr hblk hig
      have hpost := readNextToken_post body st pos hp
      rw [lexAllAux_succ]
      cases hr : readNextToken body st pos with
      | ok r =>
        obtain ⟨t, st'⟩ := r
        rw [hr] at hta hpost
        obtain ⟨mm, hm, hsp, hlen, hne, hnc⟩ := hta
        rw [hm]
        simp only []
        rw [if_neg (by omega), Out.bind_ok]
        simp only [lexStep]
        rw [if_neg hne, if_neg hnc]
        have hstop : t.stop = pos + mm.len := by
          have := congrArg SpecToken.stop hsp; simpa [toSpec] using this
        have hle : t.stop ≤ body.length := by
          obtain ⟨_, h2⟩ := hpost
          rcases h2 with h2 | h2
          · exact h2.2.2
          · exact absurd h2.1 hne
        have := ih k st' t.stop (acc ++ [t]) hle (by omega) (by omega)
        rw [hstop] at this ⊢
        rw [List.drop_drop]
        -- the token moves from the accumulator to the head of the rest
        cases htk : tokenizeFrom fs (pos + mm.len) (body.drop (pos + mm.len)) <;>
          simpa [htk, sig, hsp] using this
      | err e =>
        rw [hr] at hta
        have : lexToken? (body.drop pos) = none := hta
        rw [this]; rfl
      | crash c => rw [hr] at hta; exact hta.elim

/-- The whole token sequence: `lexAll` agrees with the specification's tokenizer on every text
for which the two string classes agree. -/
theorem lexAll_agree (body : List Nat) (hstr : StringClassOK body) (hblk : BlockClassOK body) :
    LexAgree (lexAll body) (specTokenize body) := by
  have := lexAllAux_agree body hstr hblk body.length (body.length + 2) {} 0 [] (by omega) (by omega) (by omega)
  unfold lexAll specTokenize
  simp only [List.drop_zero] at this
  cases h : tokenizeFrom body.length 0 body with
  | none => rw [h] at this; exact this
  | some ts => rw [h] at this; simpa [sig] using this

/-- A text without the quotation mark never reaches `read_string` / `read_block_string`. -/
theorem stringClassOK_of_noQuote (body : List Nat) (h : 34 ∉ body) : StringClassOK body := by
  intro st pos hlt hq
  exact absurd (hq ▸ List.getElem_mem hlt) h

theorem blockClassOK_of_noQuote (body : List Nat) (h : 34 ∉ body) : BlockClassOK body := by
  intro st pos hlt hq
  exact absurd (hq ▸ List.getElem_mem hlt) h

end Gql.Text
