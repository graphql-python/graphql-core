import Gql.Proofs.OverlapFieldMap
/-! C14: the document-level hypotheses of `overlap_iff`, from simple syntactic conditions. -/
namespace Gql.Exec
open Overlap

/-- selection-set identities are pairwise different (the document is a tree of distinct nodes) -/
def Doc.IdsNodup (d : Doc) : Prop := (d.allSets.map (·.id)).Nodup

def Doc.NoTypename (d : Doc) : Prop :=
  ∀ ss ∈ d.allSets, ∀ n ∈ selsFields ss.sels, n.name ≠ "__typename"

theorem Doc.NoTypename.inst {s : Schema} {d : Doc} (h : d.NoTypename) {a : Spec.FieldInst}
    (ha : DocInst s d a) : a.node.name ≠ "__typename" := by
  obtain ⟨t, ht, hm⟩ := ha
  exact h _ (Doc.typedSets_allSets ht) _ (node_mem_of_flat hm)

mutual
theorem Sel.argsWF_facts : ∀ (x : Sel), x.argsWF = true →
    (∀ n ∈ x.fields, n.argsOK) ∧ (∀ ss ∈ x.subSets, selsArgsWF ss.sels = true)
  | .field id al name args st hasSub subId sub, h => by
    simp only [Sel.argsWF, Bool.and_eq_true] at h
    obtain ⟨⟨h1, h2⟩, h3⟩ := h
    refine ⟨fun n hn => ?_, fun ss hss => ?_⟩
    · simp only [Sel.fields, List.mem_singleton] at hn
      subst hn
      refine ⟨h1, fun x hx => ?_⟩
      simp only at hx
      subst hx
      simpa using h2
    · simp only [Sel.subSets, List.mem_append] at hss
      rcases hss with hss | hss
      · cases hasSub with
        | false => simp at hss
        | true =>
          simp only [if_true, List.mem_singleton] at hss
          subst hss
          exact h3
      · exact (selsArgsWF_facts sub h3).2 ss hss
  | .inline tc ssId sels, h => by
    simp only [Sel.argsWF] at h
    obtain ⟨h1, h2⟩ := selsArgsWF_facts sels h
    refine ⟨fun n hn => h1 n (by simpa [Sel.fields] using hn), fun ss hss => ?_⟩
    simp only [Sel.subSets, List.mem_cons] at hss
    rcases hss with rfl | hss
    · exact h
    · exact h2 ss hss
  | .spread _, _ => by simp [Sel.fields, Sel.subSets]
theorem selsArgsWF_facts : ∀ (xs : List Sel), selsArgsWF xs = true →
    (∀ n ∈ selsFields xs, n.argsOK) ∧ (∀ ss ∈ selsSubSets xs, selsArgsWF ss.sels = true)
  | [], _ => by simp [selsFields, selsSubSets]
  | x :: xs, h => by
    simp only [selsArgsWF, Bool.and_eq_true] at h
    obtain ⟨a1, a2⟩ := Sel.argsWF_facts x h.1
    obtain ⟨b1, b2⟩ := selsArgsWF_facts xs h.2
    refine ⟨fun n hn => ?_, fun ss hss => ?_⟩
    · simp only [selsFields, List.mem_append] at hn
      rcases hn with hn | hn
      · exact a1 n hn
      · exact b1 n hn
    · simp only [selsSubSets, List.mem_append] at hss
      rcases hss with hss | hss
      · exact a2 ss hss
      · exact b2 ss hss
end

theorem Doc.argsWF_inst {s : Schema} {d : Doc} (h : d.argsWF = true) {a : Spec.FieldInst}
    (ha : DocInst s d a) : a.node.argsOK := by
  obtain ⟨t, ht, hm⟩ := ha
  have hss := Doc.typedSets_allSets ht
  obtain ⟨df, hdf, hcase⟩ := Doc.mem_allSets hss
  have hdfw : selsArgsWF df.ss.sels = true := by
    simp only [Doc.argsWF, List.all_eq_true] at h
    have := h df hdf
    cases df <;> simpa [Defn.ss] using this
  have hw : selsArgsWF t.2.sels = true := by
    rcases hcase with e | hin
    · rw [e]; exact hdfw
    · exact (selsArgsWF_facts _ hdfw).2 _ hin
  exact (selsArgsWF_facts _ hw).1 _ (node_mem_of_flat hm)

mutual
theorem Sel.typedSets_sublist (s : Schema) : ∀ (x : Sel) (p : Option String),
    ((x.typedSets s p).map (·.2)).Sublist x.subSets
  | .field id al name args st hasSub subId sub, p => by
    cases hasSub with
    | false =>
      simp only [Sel.typedSets, Bool.false_eq_true, if_false, List.map_nil]
      exact List.nil_sublist _
    | true =>
      simp only [Sel.typedSets, if_true, List.map_cons, Sel.subSets, List.singleton_append]
      exact List.Sublist.cons₂ _ (selsTypedSets_sublist s sub _)
  | .inline tc ssId sels, p => by
    simp only [Sel.typedSets, List.map_cons, Sel.subSets]
    exact List.Sublist.cons₂ _ (selsTypedSets_sublist s sels _)
  | .spread _, p => by simp [Sel.typedSets, Sel.subSets]
theorem selsTypedSets_sublist (s : Schema) : ∀ (xs : List Sel) (p : Option String),
    ((selsTypedSets s p xs).map (·.2)).Sublist (selsSubSets xs)
  | [], p => by simp [selsTypedSets, selsSubSets]
  | x :: xs, p => by
    simp only [selsTypedSets, List.map_append, selsSubSets]
    exact List.Sublist.append (Sel.typedSets_sublist s x p) (selsTypedSets_sublist s xs p)
end

theorem Doc.typedSets_sublist (s : Schema) (d : Doc) :
    ((d.typedSets s).map (·.2)).Sublist d.allSets := by
  induction d with
  | nil => simp [Doc.typedSets, Doc.allSets]
  | cons df rest ih =>
    simp only [Doc.typedSets, Doc.allSets, List.flatMap_cons, List.map_append, List.map_cons] at ih ⊢
    exact List.Sublist.append (List.Sublist.cons₂ _ (selsTypedSets_sublist s _ _)) ih

theorem eq_of_nodup_map {α β : Type} (f : α → β) {l : List α} (h : (l.map f).Nodup) {x y : α}
    (hx : x ∈ l) (hy : y ∈ l) (e : f x = f y) : x = y := by
  induction l with
  | nil => cases hx
  | cons a as ih =>
    simp only [List.map_cons, List.nodup_cons, List.mem_map, not_exists, not_and] at h
    rcases List.mem_cons.1 hx with hxa | hx <;> rcases List.mem_cons.1 hy with hya | hy
    · rw [hxa, hya]
    · exact absurd (by rw [← e, hxa]) (h.1 y hy)
    · exact absurd (by rw [e, hya]) (h.1 x hx)
    · exact ih h.2 hx hy

theorem Doc.IdsNodup.typed {d : Doc} (h : d.IdsNodup) (s : Schema) : TypedIdsUnique s d := by
  have h1 : ((d.typedSets s).map (fun t => t.2.id)).Nodup := by
    have := (Doc.typedSets_sublist s d).map (·.id)
    rw [List.map_map] at this
    exact List.Nodup.sublist this h
  intro x hx y hy e
  exact eq_of_nodup_map (fun t => t.2.id) h1 hx hy e

/-- a field whose return type is (a wrapped) scalar or enum has no sub-selection -/
def ScalarLeafs (s : Schema) (d : Doc) : Prop :=
  ∀ t ∈ d.typedSets s, ∀ a ∈ selsFlat s t.1 t.2.sels,
    (a.node.hasSub && (match Spec.fieldType s a.parent a.node.name with
      | some ty => Spec.namedIsLeaf ty
      | none => false)) = false

end Gql.Exec
