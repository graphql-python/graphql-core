import Gql.Proofs.OverlapDfsUniv
/-! C14, oracle = specification: the fuel of `Spec.specConflictB` is enough.

* a merged set has at most `3·F` fields (`F = countFields d`): the expansion with one shared
  visited set lists the own fields of the two sub-selections and the own fields of every fragment
  at most once (`ExpLen`, a budget argument on the fragments not yet visited — no acyclicity);
* so a state has at most `(3F)²` successors;
* the keys of document states lie in a list of `2·F²` keys. -/
namespace Gql.Exec
open Overlap

def fragW (fr : FragDef) : Nat := (selsFields fr.ss.sels).length

/-- own fields of the fragment definitions whose name was not visited yet -/
def remW (d : Doc) (vis : List String) : Nat :=
  ((d.frags.filter (fun fr => !vis.contains fr.name)).map fragW).sum

theorem wfilter_mono {α : Type} (f : α → Nat) (p q : α → Bool) (l : List α)
    (h : ∀ x ∈ l, q x = true → p x = true) :
    ((l.filter q).map f).sum ≤ ((l.filter p).map f).sum := by
  induction l with
  | nil => simp
  | cons x xs ih =>
    have ih' := ih (fun y hy => h y (List.mem_cons_of_mem _ hy))
    simp only [List.filter_cons]
    by_cases hq : q x = true
    · have hp := h x List.mem_cons_self hq
      simp only [hq, hp, if_true, List.map_cons, List.sum_cons]; omega
    · have hq' : q x = false := by simpa using hq
      by_cases hp : p x = true
      · simp only [hq', hp, if_true, Bool.false_eq_true, if_false, List.map_cons, List.sum_cons]
        omega
      · have hp' : p x = false := by simpa using hp
        simp only [hq', hp', Bool.false_eq_true, if_false]
        exact ih'

theorem wfilter_lt {α : Type} (f : α → Nat) (p q : α → Bool) (l : List α)
    (h : ∀ x ∈ l, q x = true → p x = true) {y : α} (hy : y ∈ l) (hpy : p y = true)
    (hqy : q y = false) : ((l.filter q).map f).sum + f y ≤ ((l.filter p).map f).sum := by
  obtain ⟨a, b, rfl⟩ := List.append_of_mem hy
  have ha := wfilter_mono f p q a fun x hx => h x (List.mem_append_left _ hx)
  have hb := wfilter_mono f p q b fun x hx =>
    h x (List.mem_append_right _ (List.mem_cons_of_mem _ hx))
  simp only [List.filter_append, List.filter_cons, hpy, hqy, if_true, Bool.false_eq_true, if_false,
    List.map_append, List.map_cons, List.sum_append_nat, List.sum_cons]
  omega

theorem remW_mono (d : Doc) {vis vis' : List String} (h : vis ⊆ vis') :
    remW d vis' ≤ remW d vis := by
  apply wfilter_mono
  intro x _ hx
  simp only [Bool.not_eq_true', List.contains_eq_mem, decide_eq_false_iff_not] at hx ⊢
  exact fun hm => hx (h hm)

theorem remW_cons (d : Doc) {vis : List String} {n : String} {fr : FragDef}
    (hg : d.getFragment n = some fr) (hv : n ∉ vis) :
    remW d (n :: vis) + fragW fr ≤ remW d vis := by
  have hname : fr.name = n := (getFragment_name hg).1
  have hmem : fr ∈ d.frags := List.mem_reverse.1 (List.mem_of_find?_eq_some hg)
  subst hname
  apply wfilter_lt fragW _ _ _ _ hmem
  · simp [hv]
  · simp
  · intro x _ hx
    simp only [Bool.not_eq_true', List.contains_eq_mem, decide_eq_false_iff_not, List.mem_cons,
      not_or] at hx ⊢
    exact hx.2

/-- the fields returned, plus what is left of the budget, fit in the own fields `w` of the
selection plus the budget before -/
def ExpLen (d : Doc) (w : Nat) (vis : List String) (r : List Spec.FieldInst × List String) :
    Prop :=
  r.1.length + remW d r.2 ≤ w + remW d vis

section rec
variable (s : Schema) (d : Doc) (rec : Spec.Expander)
  (hrec : ∀ p xs vis, ExpLen d (selsFields xs).length vis (rec p xs vis))
include hrec

mutual
theorem expandSel_len : ∀ (x : Sel) (p : Option String) (vis : List String),
    ExpLen d x.fields.length vis (Spec.expandSel s d rec p x vis)
  | .field id al name args st hasSub subId sub, p, vis => by
    simp [Spec.expandSel, Sel.fields, ExpLen]
  | .inline tc ssId sels, p, vis => by
    cases tc <;> simp only [Spec.expandSel, Sel.fields] <;> exact expandSels_len sels _ vis
  | .spread name, p, vis => by
    simp only [Spec.expandSel, Sel.fields]
    by_cases hc : vis.contains name = true
    · simp only [hc, if_true, ExpLen]
      exact Nat.le_refl _
    · have hnm : name ∉ vis := by simpa using hc
      simp only [hc, Bool.false_eq_true, if_false]
      cases hg : d.getFragment name with
      | none =>
        simp only [ExpLen, List.length_nil, Nat.zero_add]
        exact remW_mono d (fun _ h => List.mem_cons_of_mem _ h)
      | some fr =>
        simp only
        have R := hrec (s.typeFromAst fr.typeCond) fr.ss.sels (name :: vis)
        have C := remW_cons d hg hnm
        simp only [ExpLen, fragW, List.length_nil, Nat.zero_add] at R C ⊢
        omega
theorem expandSels_len : ∀ (xs : List Sel) (p : Option String) (vis : List String),
    ExpLen d (selsFields xs).length vis (Spec.expandSels s d rec p xs vis)
  | [], p, vis => by simp [Spec.expandSels, selsFields, ExpLen]
  | x :: xs, p, vis => by
    have h1 := expandSel_len x p vis
    have h2 := expandSels_len xs p (Spec.expandSel s d rec p x vis).2
    simp only [ExpLen, Spec.expandSels, selsFields, List.length_append] at h1 h2 ⊢
    omega
end
end rec

theorem expandLvl_len (s : Schema) (d : Doc) : ∀ (n : Nat) (p : Option String) (xs : List Sel)
    (vis : List String), ExpLen d (selsFields xs).length vis (Spec.expandLvl s d n p xs vis) := by
  intro n
  induction n with
  | zero => intro p xs vis; simp [Spec.expandLvl, ExpLen]
  | succ n ih =>
    intro p xs vis
    simp only [Spec.expandLvl]
    exact expandSels_len s d _ ih xs p vis

theorem expandWith_len (s : Schema) (d : Doc) (p : Option String) (xs : List Sel)
    (vis : List String) : ExpLen d (selsFields xs).length vis (Spec.expandWith s d p xs vis) :=
  expandLvl_len s d _ p xs vis

mutual
theorem Sel.fields_length : ∀ (x : Sel), x.fields.length ≤ Spec.countFieldsSel x
  | .field .. => by simp [Sel.fields, Spec.countFieldsSel]
  | .inline _ _ sels => by simpa [Sel.fields, Spec.countFieldsSel] using selsFields_length sels
  | .spread _ => by simp [Sel.fields]
theorem selsFields_length : ∀ (xs : List Sel), (selsFields xs).length ≤ Spec.countFieldsSels xs
  | [] => by simp [selsFields]
  | x :: xs => by
    have h1 := Sel.fields_length x
    have h2 := selsFields_length xs
    simp only [selsFields, List.length_append, Spec.countFieldsSels]
    omega
end

theorem fragsW_le (d : Doc) : (d.frags.map fragW).sum ≤ Spec.countFields d := by
  induction d with
  | nil => simp [Doc.frags]
  | cons df rest ih =>
    rw [countFields_cons]
    cases df with
    | op root ss => exact Nat.le_trans ih (Nat.le_add_left _ _)
    | frag f =>
      have := selsFields_length f.ss.sels
      simp only [Doc.frags, List.filterMap_cons, List.map_cons, List.sum_cons, fragW, Defn.ss] at ih ⊢
      omega

theorem remW_nil_le (d : Doc) : remW d [] ≤ Spec.countFields d := by
  have e : remW d [] = (d.frags.map fragW).sum := by
    simp only [remW, List.contains_nil, Bool.not_false, List.filter_eq_self.mpr fun _ _ => rfl]
  rw [e]
  exact fragsW_le d

theorem subSels_count {s : Schema} {d : Doc} {a : Spec.FieldInst} (ha : DocInst s d a) :
    (selsFields (subSels a)).length ≤ Spec.countFields d := by
  unfold subSels
  cases hs : a.node.hasSub with
  | false => simp [selsFields]
  | true =>
    rw [if_pos rfl, ← selsFlat_nodes s _ (subP s a), List.length_map]
    exact Nat.le_trans ((selsFlat_sublist_allInsts s _ _).trans
      (Doc.typedSets_allInsts_sublist (ha.sub hs))).length_le (Doc.allInsts_length s d)

theorem mergedFields_length {s : Schema} {d : Doc} {a b : Spec.FieldInst} (ha : DocInst s d a)
    (hb : DocInst s d b) : (Spec.mergedFields s d a b).length ≤ 3 * Spec.countFields d := by
  have HA := expandWith_len s d (subP s a) (subSels a) []
  have HB := expandWith_len s d (subP s b) (subSels b) (Spec.expandWith s d (subP s a) (subSels a) []).2
  have wa := subSels_count ha
  have wb := subSels_count hb
  have wf := remW_nil_le d
  simp only [ExpLen, subP, subSels] at HA HB wa wb
  simp only [Spec.mergedFields, List.length_append]
  omega

theorem pairsOf_length {α : Type} (l : List α) : (Spec.pairsOf l).length ≤ l.length * l.length := by
  induction l with
  | nil => simp [Spec.pairsOf]
  | cons x xs ih =>
    simp only [Spec.pairsOf, List.length_append, List.length_map, List.length_cons,
      Nat.add_mul, Nat.mul_add, Nat.one_mul, Nat.mul_one]
    omega

theorem succs_length {s : Schema} {d : Doc} {x : Spec.State} (hx : DocState s d x) :
    (Spec.succs s d x).length ≤ 9 * (Spec.countFields d * Spec.countFields d) := by
  simp only [Spec.succs]
  split
  · simp
  · rw [List.length_map]
    have h1 : (Spec.sameNamePairs (Spec.mergedFields s d x.a x.b)).length ≤
        (Spec.pairsOf (Spec.mergedFields s d x.a x.b)).length := List.length_filter_le _ _
    have h2 := pairsOf_length (Spec.mergedFields s d x.a x.b)
    have h3 := mergedFields_length hx.1 hx.2
    have h4 := Nat.mul_le_mul h3 h3
    have h5 : 3 * Spec.countFields d * (3 * Spec.countFields d) =
        9 * (Spec.countFields d * Spec.countFields d) := by
      rw [Nat.mul_mul_mul_comm]
    omega

def allKeys (ids : List Nat) : List Spec.Key :=
  ids.flatMap (fun i => ids.flatMap (fun j => [(i, j, true), (i, j, false)]))

theorem mem_allKeys {ids : List Nat} {i j : Nat} (b : Bool) (hi : i ∈ ids) (hj : j ∈ ids) :
    (i, j, b) ∈ allKeys ids := by
  simp only [allKeys, List.mem_flatMap]
  exact ⟨i, hi, j, hj, by cases b <;> simp⟩

theorem allKeys_length (ids : List Nat) : (allKeys ids).length = ids.length * (ids.length * 2) := by
  simp only [allKeys, List.length_flatMap, List.length_cons, List.length_nil, List.map_const',
    List.sum_replicate_nat]

theorem specConflictB_isSome (s : Schema) (d : Doc) : (Spec.specConflictB s d).isSome = true := by
  unfold Spec.specConflictB
  apply dfs_isSome s d (DocState s d) (allKeys ((d.allInsts s).map (·.node.id)))
    (9 * (Spec.countFields d * Spec.countFields d)) (fun x hx => hx.succs)
    (fun x hx => ⟨mem_allKeys x.full (List.mem_map_of_mem hx.1.mem_allInsts)
      (List.mem_map_of_mem hx.2.mem_allInsts), succs_length hx⟩) _ _ _
    (fun x hx => DocState.init hx)
  have h2 := Doc.allInsts_length s d
  have h1 : Unmarked.count (allKeys ((d.allInsts s).map (·.node.id))) [] ≤
      2 * (Spec.countFields d * Spec.countFields d) + 1 := by
    refine Nat.le_trans (Unmarked.count_le _ _) (Nat.le_succ_of_le ?_)
    rw [allKeys_length, List.length_map, ← Nat.mul_assoc, Nat.mul_comm]
    exact Nat.mul_le_mul_left 2 (Nat.mul_le_mul h2 h2)
  have h4 := Nat.mul_le_mul_right (9 * (Spec.countFields d * Spec.countFields d) + 1) h1
  simp only [Spec.specFuel]
  omega

theorem specConflictB_iff {s : Schema} {d : Doc} (hF : d.FieldIdsNodup) :
    Spec.specConflictB s d = some true ↔ Spec.SpecConflict s d := by
  have hs := specConflictB_isSome s d
  cases hb : Spec.specConflictB s d with
  | none => rw [hb] at hs; cases hs
  | some b =>
    have := dfs_init_iff hF (Spec.specFuel s d) b hb
    rw [← this]
    simp

theorem specConflictB_sound {s : Schema} {d : Doc} (h : Spec.specConflictB s d = some true) :
    Spec.SpecConflict s d :=
  dfs_sound s d _ [] _ h

end Gql.Exec
