import Gql.Proofs.OverlapClosed
/-! C14, named fragments, completeness: the invariant of a run that reports nothing — every memo
entry written since the run began is closed (its body passed, relative to the current tables); a
comparison in progress is an entry that was there before its body began (`ClosedSince`). Tables
only grow; pass predicates are monotone in the tables. `ClosedX`, `Good`, `Tr` state the invariant
for one state, with the comparisons in progress listed. -/
namespace Gql.Exec
open Overlap

theorem PairsPass.mono {s : Schema} {d : Doc} {T T' : St} (hT : TLe T T') {q : Bool} {t1 t2 : TSet}
    (h : PairsPass s d T q t1 t2) : PairsPass s d T' q t1 t2 :=
  fun c1 h1 c2 h2 hrn => (h c1 h1 c2 h2 hrn).mono hT

theorem FFok.mono {s : Schema} {d : Doc} {T T' : St} (hT : TLe T T') {t : TSet} {nm : String}
    {r : Bool} (h : FFok s d T t nm r) : FFok s d T' t nm r := by
  intro tf hfs
  rcases h tf hfs with h | ⟨h1, h2⟩
  · exact Or.inl h
  · exact Or.inr ⟨h1.mono hT, fun n hn => (h2 n hn).mono hT⟩

theorem FRok.mono {s : Schema} {d : Doc} {T T' : St} (hT : TLe T T') {n1 n2 : String}
    {r : Bool} (h : FRok s d T n1 n2 r) : FRok s d T' n1 n2 r := by
  intro t1 t2 h1 h2
  obtain ⟨a, b, c⟩ := h t1 t2 h1 h2
  exact ⟨a.mono hT, fun n hn => (b n hn).mono hT, fun n hn => (c n hn).mono hT⟩

theorem tle_same {σ σ' : St} (e : SameT σ σ') : TLe σ σ' :=
  ⟨fun i k q hh => by simpa [St.cfpHas, e.1] using hh,
    fun a b q hh => by simpa [St.cmpHas, e.2] using hh⟩

/-- a write that a memo table let through keeps every `has` of the table -/
theorem flagHas_assocSet_mono {κ : Type} [BEq κ] [LawfulBEq κ] {m : List (κ × Bool)} {k k' : κ}
    {e q : Bool} (hno : flagHas (assocGet m k) e = false) (h : flagHas (assocGet m k') q = true) :
    flagHas (assocGet (assocSet m k e) k') q = true := by
  by_cases hk : k = k'
  · subst hk
    rw [assocGet_assocSet_same]
    cases ho : assocGet m k with
    | none => simp [ho, flagHas] at h
    | some r =>
      obtain ⟨rfl, rfl⟩ := flagHas_false_of_some (ho ▸ hno)
      cases q <;> simp [ho, flagHas] at h ⊢
  · rwa [assocGet_assocSet_other _ _ _ _ hk]

theorem tle_cfpAdd {σ : St} {i : Nat} {k : String} {e : Bool} (hno : σ.cfpHas i k e = false) :
    TLe σ (σ.cfpAdd i k e) :=
  ⟨fun _ _ _ => flagHas_assocSet_mono hno, fun _ _ _ h => h⟩

theorem tle_cmpAdd {σ : St} {a b : String} {e : Bool} (hno : σ.cmpHas a b e = false) :
    TLe σ (σ.cmpAdd a b e) :=
  ⟨fun _ _ _ h => h, fun _ _ _ => flagHas_assocSet_mono hno⟩

/-- the tables have grown from `σ` to `σ'`, and every memo entry of `σ'` is an entry of `σ` or
closed: its body passed, relative to the tables of `σ'` -/
def ClosedSince (s : Schema) (d : Doc) (σ σ' : St) : Prop :=
  TLe σ σ' ∧
  (∀ t ∈ d.typedSets s, ∀ nm ∈ d.spreadNames, ∀ r,
    assocGet σ'.cfp (t.2.id, keyOf d nm) = some r →
      assocGet σ.cfp (t.2.id, keyOf d nm) = some r ∨ FFok s d σ' t nm r) ∧
  (∀ n1 ∈ d.spreadNames, ∀ n2 ∈ d.spreadNames, ∀ r, keyOf d n1 ≠ keyOf d n2 →
    assocGet σ'.cmp (pairKey (keyOf d n1) (keyOf d n2)) = some r →
      assocGet σ.cmp (pairKey (keyOf d n1) (keyOf d n2)) = some r ∨
        FRok s d σ' n1 n2 r ∨ FRok s d σ' n2 n1 r)

section
variable {s : Schema} {d : Doc}

theorem ClosedSince.refl (σ : St) : ClosedSince s d σ σ :=
  ⟨TLe.refl σ, fun _ _ _ _ _ h => Or.inl h, fun _ _ _ _ _ _ h => Or.inl h⟩

theorem ClosedSince.trans {σ σ1 σ' : St} (h1 : ClosedSince s d σ σ1) (h2 : ClosedSince s d σ1 σ') :
    ClosedSince s d σ σ' := by
  refine ⟨h1.1.trans h2.1, fun t ht nm hnm r hr => ?_, fun n1 m1 n2 m2 r hk hr => ?_⟩
  · rcases h2.2.1 t ht nm hnm r hr with x | x
    · exact (h1.2.1 t ht nm hnm r x).imp_right (FFok.mono h2.1)
    · exact Or.inr x
  · rcases h2.2.2 n1 m1 n2 m2 r hk hr with x | x
    · exact (h1.2.2 n1 m1 n2 m2 r hk x).imp_right (Or.imp (FRok.mono h2.1) (FRok.mono h2.1))
    · exact Or.inr x

/-- only the memo tables are read -/
theorem ClosedSince.same {σ σ' : St} (e : SameT σ σ') : ClosedSince s d σ σ' :=
  ⟨tle_same e, fun _ _ _ _ _ h => Or.inl (e.1 ▸ h), fun _ _ _ _ _ _ h => Or.inl (e.2 ▸ h)⟩

theorem ClosedSince.closed {T : St} (h : ClosedSince s d {} T) : Closed s d T :=
  ⟨fun t ht nm hnm r hr => (h.2.1 t ht nm hnm r hr).resolve_left (by simp [assocGet]),
   fun n1 h1 n2 h2 r hk hr => (h.2.2 n1 h1 n2 h2 r hk hr).resolve_left (by simp [assocGet])⟩

/-- the comparison of `t` with fragment `nm` under `e`, whose entry was written first, has
finished: if the entry is still `e`, its body passed; and the comparison is covered -/
theorem ClosedSince.cfpAdd (hU : TypedIdsUnique s d) (hK : KeysInj d) {σ σ1 : St} {t : TSet}
    (ht : t ∈ d.typedSets s) {nm : String} (hnm : nm ∈ d.spreadNames) {e : Bool}
    (hno : σ.cfpHas t.2.id (keyOf d nm) e = false)
    (h : ClosedSince s d (σ.cfpAdd t.2.id (keyOf d nm) e) σ1) (hbody : FFok s d σ1 t nm e) :
    ClosedSince s d σ σ1 ∧ CovFF σ1 t.2.id (keyOf d nm) e := by
  refine ⟨⟨(tle_cfpAdd hno).trans h.1, fun t0 ht0 nm0 hnm0 r hr => ?_, h.2.2⟩,
    CovFF.mono h.1 ((cfpHas_cfpAdd σ _ _ e e).2 id)⟩
  refine (h.2.1 t0 ht0 nm0 hnm0 r hr).elim (fun x => ?_) Or.inr
  by_cases hkey : (t.2.id, keyOf d nm) = (t0.2.id, keyOf d nm0)
  · rw [St.cfpAdd, ← hkey, assocGet_assocSet_same] at x
    cases x
    cases hU t ht t0 ht0 (Prod.mk.inj hkey).1
    cases hK nm hnm nm0 hnm0 (Prod.mk.inj hkey).2
    exact Or.inr hbody
  · rw [St.cfpAdd, assocGet_assocSet_other _ _ _ _ hkey] at x
    exact Or.inl x

theorem ClosedSince.cmpAdd (hK : KeysInj d) {σ σ1 : St} {n1 n2 : String}
    (hm1 : n1 ∈ d.spreadNames) (hm2 : n2 ∈ d.spreadNames) {e : Bool}
    (hno : σ.cmpHas (keyOf d n1) (keyOf d n2) e = false)
    (h : ClosedSince s d (σ.cmpAdd (keyOf d n1) (keyOf d n2) e) σ1) (hbody : FRok s d σ1 n1 n2 e) :
    ClosedSince s d σ σ1 ∧ CovFR σ1 (keyOf d n1) (keyOf d n2) e := by
  refine ⟨⟨(tle_cmpAdd hno).trans h.1, h.2.1, fun m1 h1 m2 h2 r hk hr => ?_⟩,
    CovFR.mono h.1 (Or.inr ((cmpHas_cmpAdd σ _ _ e e).2 id))⟩
  refine (h.2.2 m1 h1 m2 h2 r hk hr).elim (fun x => ?_) Or.inr
  by_cases hkey : pairKey (keyOf d n1) (keyOf d n2) = pairKey (keyOf d m1) (keyOf d m2)
  · rw [St.cmpAdd, ← hkey, assocGet_assocSet_same] at x
    cases x
    rcases pairKey_eq hkey.symm with ⟨e1, e2⟩ | ⟨e1, e2⟩
    · cases hK m1 h1 n1 hm1 e1; cases hK m2 h2 n2 hm2 e2; exact Or.inr (Or.inl hbody)
    · cases hK m1 h1 n2 hm2 e1; cases hK m2 h2 n1 hm1 e2; exact Or.inr (Or.inr hbody)
  · rw [St.cmpAdd, assocGet_assocSet_other _ _ _ _ hkey] at x
    exact Or.inl x

end

/-- comparisons in progress (entries already written, body not finished) -/
structure Prog where
  ff : List (Nat × String × Bool)
  fr : List ((String × String) × Bool)

def ClosedX (s : Schema) (d : Doc) (σ : St) (P : Prog) : Prop :=
  (∀ t ∈ d.typedSets s, ∀ nm ∈ d.spreadNames, ∀ r,
    assocGet σ.cfp (t.2.id, keyOf d nm) = some r →
      (t.2.id, keyOf d nm, r) ∈ P.ff ∨ FFok s d σ t nm r) ∧
  (∀ n1 ∈ d.spreadNames, ∀ n2 ∈ d.spreadNames, ∀ r, keyOf d n1 ≠ keyOf d n2 →
    assocGet σ.cmp (pairKey (keyOf d n1) (keyOf d n2)) = some r →
      (pairKey (keyOf d n1) (keyOf d n2), r) ∈ P.fr ∨ FRok s d σ n1 n2 r ∨ FRok s d σ n2 n1 r)

section
variable (env : Env)

def Good (σ : St) (P : Prog) : Prop := CacheNF env σ ∧ ClosedX env.s env.d σ P

/-- if `r` returns without a conflict: invariants kept, tables grew, and `Post` holds -/
def Tr (P : Prog) (r : St → Res) (Post : St → Prop) : Prop :=
  ∀ σ σ', Good env σ P → r σ = some (σ', []) → Good env σ' P ∧ TLe σ σ' ∧ Post σ'

theorem tr_nil (P : Prog) : Tr env P (fun σ => some (σ, [])) (fun _ => True) := by
  intro σ σ' hg e
  simp only [Option.some.injEq, Prod.mk.injEq, and_true] at e
  subst e
  exact ⟨hg, TLe.refl _, trivial⟩

end

end Gql.Exec
