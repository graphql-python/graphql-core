import Gql.Proofs.Antichain
/-!
Every root group has its node (`RootsHaveNodes`): the scheduler deletes the node of a root
only together with removing it from the roots.  With `Anti` this makes the roots an antichain.
Here: what `_remove_group` leaves (`removeGroup_keeps`), and the invariant with its preservation lemma.
-/
namespace Gql.Async
open Gql.Spec.Protocol

/-- `_remove_group` deletes only the group itself and listed children: a node that is neither keeps
its node. -/
theorem removeGroup_keeps (σ : Static) (fuel : Nat) : ∀ (q : WQ) (g : Nat) (n : GroupNode),
    alookup q.groupNodes g = some n → ∀ k, hasNode q k → k ≠ g → Detached q k →
    hasNode (removeGroup σ fuel q g n) k := by
  induction fuel with
  | zero => intro q g n _ k h _ _; exact h
  | succ f ih =>
    intro q g n hn k h hkg hdet
    unfold removeGroup
    simp only
    have u2 := dropOrphans_upd σ n.tasks { q with groupNodes := aerase q.groupNodes g }
    -- along the fold over the children, none of which is `k`, it keeps its node and stays detached
    refine (List.foldlRecOn n.children _ (motive := fun q2 => hasNode q2 k ∧ Detached q2 k)
      ⟨u2.kept rfl k (hasNode_erase h hkg), hdet.sub ((subGraph_erase q g).trans u2.shrink.sub)⟩
      fun q2 ⟨h2, hd⟩ c hc => ?_).1
    split
    · rename_i cn hcn
      exact ⟨ih q2 c cn hcn k h2 (fun e => hdet g ⟨n, hn, e ▸ hc⟩) hd,
        hd.sub (removeGroup_upd σ f q2 c cn).shrink.sub⟩
    · exact ⟨h2, hd⟩

/-- Every root group has its node. -/
def RootsHaveNodes (q : WQ) : Prop := ∀ r ∈ q.rootGroups, hasNode q r

theorem RootsHaveNodes.kept {q q' : WQ} (h : RootsHaveNodes q) (k : NodesKept q q')
    (hr : ∀ x, x ∈ q'.rootGroups → x ∈ q.rootGroups) : RootsHaveNodes q' :=
  fun r hr' => k r (h r (hr r hr'))

end Gql.Async
