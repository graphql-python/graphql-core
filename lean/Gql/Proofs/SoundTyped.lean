import Gql.Proofs.SoundExec
import Gql.Proofs.ExecFuel

/-!
C13 — soundness, general chain (variables, fragments, type conditions, @skip/@include, merged
response keys): the data of one request (`GCtx`), validity of selection sets for a static type,
directives never fail, and every field CollectFields collects for a runtime object type is
well-typed on that type (`collectFields_typed`).
-/

namespace Gql.Exec.Valid
open Gql.Exec Gql.Exec.Refine

/-- the fixed data of one request in the general chain: executor context, declared variables,
and a set of fragment names closed under "spreads" whose definitions are valid -/
structure GCtx where
  cx : Spec.Ctx
  env : List VarDef
  reach : List Name

namespace GCtx
def vcx (g : GCtx) : VCtx := { schema := g.cx.schema, doc := g.cx.doc, env := g.env }
end GCtx

/-- a selection set is valid for (values of) the named type `S`, the run-time exception does not
apply anywhere in it, and it only spreads fragments of the closed set -/
def SelsOk (g : GCtx) (S : Name) (sels : List Selection) : Prop :=
  validSels g.vcx S sels = true ∧ excSels g.cx.schema g.env g.cx.vars S sels = false ∧
    ∀ n ∈ spreadsIn sels, n ∈ g.reach

def FragsOk (g : GCtx) : Prop :=
  ∀ n ∈ g.reach, ∀ fr, g.cx.doc.frag n = some fr → SelsOk g fr.cond fr.sels

def SelsV (g : GCtx) (S : Name) (sels : List Selection) : Prop :=
  validSels g.vcx S sels = true ∧ ∀ n ∈ spreadsIn sels, n ∈ g.reach

def FragsV (g : GCtx) : Prop :=
  ∀ n ∈ g.reach, ∀ fr, g.cx.doc.frag n = some fr → SelsV g fr.cond fr.sels

theorem SelsOk.toV {g : GCtx} {S : Name} {sels : List Selection} (h : SelsOk g S sels) :
    SelsV g S sels := ⟨h.1, h.2.2⟩

theorem FragsOk.toV {g : GCtx} (h : FragsOk g) : FragsV g :=
  fun n hn fr hf => (h n hn fr hf).toV

theorem validSels_eq_all (cx : VCtx) (S : Name) (sels : List Selection) :
    validSels cx S sels = sels.all (validSel cx S) := by
  induction sels with
  | nil => simp [validSels]
  | cons h t ih => simp [validSels, ih]

theorem excSels_eq_any (s : Schema) (env : List VarDef) (vars : Vars) (S : Name) (sels : List Selection) :
    excSels s env vars S sels = sels.any (excSel s env vars S) := by
  induction sels with
  | nil => simp [excSels]
  | cons h t ih => simp [excSels, ih]

theorem spreadsIn_eq_flatMap (sels : List Selection) : spreadsIn sels = sels.flatMap spreadsInSel := by
  induction sels with
  | nil => simp [spreadsIn]
  | cons h t ih => simp [spreadsIn, ih]

/-- `SelsOk` and `SelsV` hold of a selection set exactly if they hold of each selection: so they
pass to the tail, to an appended set, to merged sub-selections -/
theorem selsOk_iff {g : GCtx} {S : Name} {sels : List Selection} :
    SelsOk g S sels ↔ ∀ sel ∈ sels, validSel g.vcx S sel = true ∧
      excSel g.cx.schema g.env g.cx.vars S sel = false ∧ ∀ n ∈ spreadsInSel sel, n ∈ g.reach := by
  simp only [SelsOk, validSels_eq_all, excSels_eq_any, spreadsIn_eq_flatMap, List.all_eq_true,
    List.any_eq_false, List.mem_flatMap, Bool.not_eq_true]
  exact ⟨fun ⟨a, b, c⟩ sel h => ⟨a sel h, b sel h, fun n hn => c n ⟨sel, h, hn⟩⟩,
    fun h => ⟨fun sel hs => (h sel hs).1, fun sel hs => (h sel hs).2.1,
      fun n ⟨sel, hs, hn⟩ => (h sel hs).2.2 n hn⟩⟩

theorem selsV_iff {g : GCtx} {S : Name} {sels : List Selection} :
    SelsV g S sels ↔ ∀ sel ∈ sels, validSel g.vcx S sel = true ∧ ∀ n ∈ spreadsInSel sel, n ∈ g.reach := by
  simp only [SelsV, validSels_eq_all, spreadsIn_eq_flatMap, List.all_eq_true, List.mem_flatMap]
  exact ⟨fun ⟨a, c⟩ sel h => ⟨a sel h, fun n hn => c n ⟨sel, h, hn⟩⟩,
    fun h => ⟨fun sel hs => (h sel hs).1, fun n ⟨sel, hs, hn⟩ => (h sel hs).2 n hn⟩⟩

theorem selsOk_merge {g : GCtx} {S : Name} {fields : List FieldNode}
    (h : ∀ f ∈ fields, SelsOk g S f.sels) : SelsOk g S (Spec.mergeSelectionSets fields) :=
  selsOk_iff.2 fun sel hs => by
    obtain ⟨f, hf, hs⟩ := List.mem_flatMap.1 hs
    exact selsOk_iff.1 (h f hf) sel hs

theorem selsV_merge {g : GCtx} {S : Name} {fields : List FieldNode}
    (h : ∀ f ∈ fields, SelsV g S f.sels) : SelsV g S (Spec.mergeSelectionSets fields) :=
  selsV_iff.2 fun sel hs => by
    obtain ⟨f, hf, hs⟩ := List.mem_flatMap.1 hs
    exact selsV_iff.1 (h f hf) sel hs

/-- the object type `rt` is (a possible type of) `S` -/
def Sub (s : Schema) (rt S : Name) : Prop := rt = S ∨ s.isSubType S rt = true

/-- what the value layer owes for this request (`OpsSoundV` with `VarsTyped` discharged) -/
def ValuesOk (g : GCtx) : Prop :=
  ∀ (t : TypeRef) (d : Bool) (v : Value), validValue g.cx.schema g.env t d v = true →
    excValue g.cx.schema g.env g.cx.vars t v = false →
    (∀ x, v = .var x → (g.cx.vars.lookup x).isSome = true) →
    g.cx.ops.coerceLiteral g.cx.schema g.cx.vars t v ≠ none

def FieldOn (g : GCtx) (rt : Name) (f : FieldNode) : Prop :=
  f.name ≠ "__typename" → ∃ fd, g.cx.schema.getField rt f.name = some fd ∧
    validArgs g.cx.schema g.env fd.args f.args = true ∧
    excArgs g.cx.schema g.env g.cx.vars fd.args f.args = false ∧
    (if isLeaf g.cx.schema fd.type.baseName = true then f.sels = []
     else SelsOk g fd.type.baseName f.sels)

def AllOn (g : GCtx) (rt : Name) (gs : Spec.Groups) : Prop :=
  ∀ p ∈ gs, p.2 ≠ [] ∧ ∀ f ∈ p.2, FieldOn g rt f

theorem AllOn.nil (g : GCtx) (rt : Name) : AllOn g rt [] := by intro p hp; cases hp

theorem AllOn.append {g : GCtx} {rt : Name} {a b : List FieldNode}
    (ha : a ≠ [] ∧ ∀ f ∈ a, FieldOn g rt f) (hb : b ≠ [] ∧ ∀ f ∈ b, FieldOn g rt f) :
    a ++ b ≠ [] ∧ ∀ f ∈ a ++ b, FieldOn g rt f :=
  ⟨by simp [ha.1], fun f hf => (List.mem_append.1 hf).elim (ha.2 f) (hb.2 f)⟩

theorem AllOn.appendGroup {g : GCtx} {rt : Name} {gs : Spec.Groups} (h : AllOn g rt gs)
    (k : Name) (f : FieldNode) (hf : FieldOn g rt f) : AllOn g rt (Spec.appendGroup gs k [f]) :=
  forall_appendGroup (G := fun _ fs => fs ≠ [] ∧ ∀ f ∈ fs, FieldOn g rt f) AllOn.append h
    ⟨by simp, by simpa using hf⟩

theorem AllOn.mergeGroups {g : GCtx} {rt : Name} {gs fg : Spec.Groups} (h : AllOn g rt gs)
    (hf : AllOn g rt fg) : AllOn g rt (Spec.mergeGroups gs fg) :=
  forall_mergeGroups (G := fun _ fs => fs ≠ [] ∧ ∀ f ∈ fs, FieldOn g rt f) AllOn.append h hf

def AllK (R : Name → FieldNode → Prop) (gs : Spec.Groups) : Prop :=
  ∀ p ∈ gs, ∀ f ∈ p.2, R p.1 f

theorem AllK.nil (R : Name → FieldNode → Prop) : AllK R [] := by intro p hp; cases hp

theorem AllK.append {R : Name → FieldNode → Prop} {k : Name} {a b : List FieldNode}
    (ha : ∀ f ∈ a, R k f) (hb : ∀ f ∈ b, R k f) : ∀ f ∈ a ++ b, R k f :=
  fun f hf => (List.mem_append.1 hf).elim (ha f) (hb f)

theorem AllK.appendGroups {R : Name → FieldNode → Prop} {gs : Spec.Groups} (h : AllK R gs)
    (k : Name) (fs : List FieldNode) (hf : ∀ f ∈ fs, R k f) : AllK R (Spec.appendGroup gs k fs) :=
  forall_appendGroup (G := fun k fs => ∀ f ∈ fs, R k f) AllK.append h hf

theorem AllK.mergeGroups {R : Name → FieldNode → Prop} {gs fg : Spec.Groups} (h : AllK R gs)
    (hf : AllK R fg) : AllK R (Spec.mergeGroups gs fg) :=
  forall_mergeGroups (G := fun k fs => ∀ f ∈ fs, R k f) AllK.append h hf

theorem directiveIf_some (g : GCtx) (hvok : VarsOk g.env g.cx.vars) (hval : ValuesOk g)
    (d : Directive)
    (hv : validArgs g.cx.schema g.env [{ name := "if", type := boolNN, default := none }] d.args = true)
    (he : excArgs g.cx.schema g.env g.cx.vars [{ name := "if", type := boolNN, default := none }] d.args = false) :
    ∃ b, Spec.directiveIf g.cx d = some b := by
  have hne := specHere_ne_none g.cx g.env hvok hval _ d.args hv he _ (List.mem_singleton.2 rfl)
    (by intro dflt hd; cases hd)
  rw [directiveIf_eq]
  cases hs : specHere g.cx d.args { name := "if", type := boolNN, default := none } with
  | none => exact absurd hs hne
  | some o =>
    cases o with
    | none => exact absurd hs (specHere_ne_some_none rfl rfl)
    | some v => exact ⟨v.truthy, rfl⟩

theorem included_some (g : GCtx) (hvok : VarsOk g.env g.cx.vars) (hval : ValuesOk g)
    (dirs : List Directive) (hv : validDirs g.cx.schema g.env dirs = true)
    (he : excDirs g.cx.schema g.env g.cx.vars dirs = false) :
    ∃ b, Spec.included g.cx dirs = some b := by
  have hd : ∀ d ∈ dirs, ∃ b, Spec.directiveIf g.cx d = some b := by
    intro d hd
    unfold validDirs at hv
    simp only [Bool.and_eq_true, List.all_eq_true] at hv
    have h1 := (hv.2 d hd).2
    unfold excDirs at he
    have h2 := List.any_eq_false.1 he d hd
    exact directiveIf_some g hvok hval d h1 (by simpa using h2)
  unfold Spec.included
  cases hs : dirs.find? (fun d => d.name == "skip") with
  | none =>
    simp only
    cases hi : dirs.find? (fun d => d.name == "include") with
    | none => exact ⟨true, rfl⟩
    | some d' =>
      obtain ⟨b, hb⟩ := hd d' (List.mem_of_find?_eq_some hi)
      exact ⟨b, by simp [hb]⟩
  | some d =>
    obtain ⟨b, hb⟩ := hd d (List.mem_of_find?_eq_some hs)
    simp only [hb]
    cases b with
    | true => exact ⟨false, rfl⟩
    | false =>
      simp only
      cases hi : dirs.find? (fun d => d.name == "include") with
      | none => exact ⟨true, rfl⟩
      | some d' =>
        obtain ⟨b', hb'⟩ := hd d' (List.mem_of_find?_eq_some hi)
        exact ⟨b', by simp [hb']⟩

theorem fieldsAgree_of_sub {ops : Ops} {s : Schema} (h : SoundHyps ops s) {rt S : Name}
    (hsub : Sub s rt S) (hrt : s.kind rt = .object) : FieldsAgree s S rt := by
  intro name fd hf
  rcases hsub with rfl | hsub
  · rw [getField_eq_any hrt]; exact hf
  · exact h.ifaceOk S rt name fd hsub hrt hf

theorem sub_of_applies {s : Schema} {rt c : Name}
    (h : Spec.doesFragmentTypeApply s rt c = true) : Sub s rt c := by
  unfold Spec.doesFragmentTypeApply at h
  cases hl : s.lookup c with
  | none => simp [hl] at h
  | some d =>
    cases d with
    | object n is fs => simp only [hl, beq_iff_eq] at h; exact Or.inl h.symm
    | iface n is fs => simp only [hl] at h; exact Or.inr h
    | union n ms => simp only [hl] at h; exact Or.inr h
    | _ => simp [hl] at h

theorem selsOk_cons {g : GCtx} {S : Name} {sel : Selection} {rest : List Selection}
    (h : SelsOk g S (sel :: rest)) :
    (validSel g.vcx S sel = true ∧ excSel g.cx.schema g.env g.cx.vars S sel = false ∧
      ∀ n ∈ spreadsInSel sel, n ∈ g.reach) ∧ SelsOk g S rest := by
  simpa only [selsOk_iff, List.forall_mem_cons] using h

theorem selsV_cons {g : GCtx} {S : Name} {sel : Selection} {rest : List Selection}
    (h : SelsV g S (sel :: rest)) :
    (validSel g.vcx S sel = true ∧ ∀ n ∈ spreadsInSel sel, n ∈ g.reach) ∧ SelsV g S rest := by
  simpa only [selsV_iff, List.forall_mem_cons] using h

variable (g : GCtx) (hvok : VarsOk g.env g.cx.vars) (hval : ValuesOk g) (hfr : FragsOk g)
variable (hyps : SoundHyps g.cx.ops g.cx.schema) (rt : Name) (hrt : g.cx.schema.kind rt = .object)

include hvok hval hfr hyps hrt in
/-- collecting a valid selection set for an object type `rt` of its static type: directives
coerce, and every collected field is well-typed on `rt` -/
theorem typedInv : CollectInv g.cx rt (fun sels => ∃ S, SelsOk g S sels ∧ Sub g.cx.schema rt S)
    (AllOn g rt) False where
  nil := AllOn.nil g rt
  merge := AllOn.mergeGroups
  tail := fun ⟨S, hok, hsub⟩ => ⟨S, (selsOk_cons hok).2, hsub⟩
  spread := fun ⟨S, hok, _⟩ hf happ =>
    ⟨_, hfr _ ((selsOk_cons hok).1.2.2 _ (by simp [spreadsInSel])) _ hf, sub_of_applies happ⟩
  inline := by
    rintro cond dirs sels rest ⟨S, hok, hsub⟩ happ
    obtain ⟨⟨hv, he, hs⟩, _⟩ := selsOk_cons hok
    simp only [validSel, Bool.and_eq_true] at hv
    simp only [excSel, Bool.or_eq_false_iff] at he
    have hsp : ∀ n ∈ spreadsIn sels, n ∈ g.reach := by simpa [spreadsInSel] using hs
    cases cond with
    | none => exact ⟨S, ⟨hv.2, he.2, hsp⟩, hsub⟩
    | some c =>
      simp only [Bool.and_eq_true] at hv
      exact ⟨c, ⟨hv.2.2, he.2, hsp⟩, sub_of_applies (happ c rfl)⟩
  dirs := by
    rintro sel rest ⟨S, hok, _⟩ hnone
    obtain ⟨⟨hv, he, _⟩, _⟩ := selsOk_cons hok
    obtain ⟨b, hb⟩ := included_some g hvok hval (selDirs sel)
      (by cases sel <;> simp only [validSel, Bool.and_eq_true] at hv <;> exact hv.1)
      (by cases sel <;> simp only [excSel, Bool.or_eq_false_iff] at he <;> first | exact he.1 | exact he)
    rw [hnone] at hb
    cases hb
  field := by
    rintro alias name args dirs sels rest acc ⟨S, hok, hsub⟩ hacc
    obtain ⟨⟨hv, he, hs⟩, _⟩ := selsOk_cons hok
    simp only [excSel, Bool.or_eq_false_iff] at he
    refine AllOn.appendGroup hacc _ _ fun hty => ?_
    obtain ⟨_, fd, hfa, hargs, hleaf, hsels⟩ := (validSel_field hv).resolve_left fun h => hty h.1
    replace hfa : getFieldAny g.cx.schema S name = some fd := hfa
    simp only [hfa, Bool.or_eq_false_iff] at he
    refine ⟨fd, fieldsAgree_of_sub hyps hsub hrt name fd hfa, hargs, he.2.1, ?_⟩
    cases hl : isLeaf g.cx.schema fd.type.baseName with
    | true => exact hleaf hl
    | false => exact ⟨(hsels hl).2, he.2.2, by simpa [spreadsInSel] using hs⟩

include hvok hval hfr hyps hrt in
theorem collectFields_typed (sels : List Selection) (S : Name) (hok : SelsOk g S sels)
    (hsub : Sub g.cx.schema rt S) :
    ∃ gs, Spec.collectFields g.cx rt sels = .ok gs ∧ AllOn g rt gs := by
  have h := collectFields_inv (typedInv g hvok hval hfr hyps rt hrt) ⟨S, hok, hsub⟩
  have hnc := collectFields_noCrash g.cx rt sels
  revert h hnc
  cases Spec.collectFields g.cx rt sels with
  | crash c => intro _ hnc; exact absurd rfl (hnc c)
  | err e => exact fun h _ => h.elim
  | ok gs => exact fun h _ => ⟨gs, rfl, h⟩

end Gql.Exec.Valid
