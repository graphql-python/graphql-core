import Gql.Values.ValidateInput
import Gql.Values.ToLiteral
import Gql.Values.Variables
import Gql.Proofs.Values
/-!
C15, value side: what the item loop and the field loop return (`seqItems_some_iff`, `seqFields_some_iff`), the
per-field step `fieldRes` of an object case and the end `dictOf` of one, which value and literal coercion share
(`dictOf_agree` is the object case of both agreement theorems), the equations of `coerceValue` / `validateValue`
branch by branch, and the induction over the inputs `coerceValue` accepts (`coerceValue_accepted`), of which
conformance, `coerceValue_ne_none` and the literal round trip are instances.
-/
namespace Gql.Values
open Gql

/-- What schema validation guarantees about defaults, as far as agreement needs it:
`coerce_default_value` returns (it does not raise). -/
def DefaultsTotal (D : Field → R) : Prop := ∀ f, ∃ r, D f = .ok r

def NoOneOf (tm : TypeMap) : Prop :=
  ∀ n fields o, tm.find n = some (.inputObject fields o) → o = false

theorem leafValue_of_ne {c : PyConv} {t : Leaf} {v : PyVal} (hu : leafValue c t v ≠ .undefined) :
    t.coerceInputValue c v = .ok (leafValue c t v) := by
  unfold leafValue at hu ⊢
  split <;> simp_all

theorem leafLiteral_of_ne {c : PyConv} {t : Leaf} {l : Lit} (hu : leafLiteral c t l ≠ .undefined) :
    t.coerceInputLiteral c l = .ok (leafLiteral c t l) := by
  unfold leafLiteral at hu ⊢
  split <;> simp_all

/-- The form in which the agreement theorems are proved, read as an equivalence. -/
theorem accepts_iff_of_agree {x : R} {p : Prop} (h : ∃ cv, x = .ok cv ∧ (p ↔ cv ≠ .undefined)) :
    (∃ cv, x = .ok cv ∧ cv ≠ .undefined) ↔ p := by
  obtain ⟨cv, rfl, hiff⟩ := h
  rw [hiff]
  exact ⟨fun ⟨_, h1, h2⟩ => Out.ok.inj h1 ▸ h2, fun h => ⟨cv, rfl, h⟩⟩

theorem seqItems_cons_some {cv : PyVal} (hu : cv ≠ .undefined) {rs : List R} {cs : List PyVal}
    (h : seqItems rs = .ok (some cs)) : seqItems (.ok cv :: rs) = .ok (some (cv :: cs)) := by
  cases cv <;> simp_all [seqItems]

theorem seqItems_cons_none {cv : PyVal} (hu : cv ≠ .undefined) {rs : List R}
    (h : seqItems rs = .ok none) : seqItems (.ok cv :: rs) = .ok none := by
  cases cv <;> simp_all [seqItems]

theorem seqItems_cons_inv {r : R} {rs : List R} {cs : List PyVal} (h : seqItems (r :: rs) = .ok (some cs)) :
    ∃ cv cs', r = .ok cv ∧ cv ≠ .undefined ∧ seqItems rs = .ok (some cs') ∧ cs = cv :: cs' := by
  unfold seqItems at h
  split at h
  · simp at h
  · rename_i cv hne
    split at h
    · rename_i cs' hcs'
      simp only [Out.ok.injEq, Option.some.injEq] at h
      exact ⟨cv, cs', rfl, fun hc => hne (by rw [hc]), hcs', h.symm⟩
    · rename_i hno
      cases hs : seqItems rs with
      | ok o =>
        cases o with
        | none => rw [hs] at h; simp at h
        | some cs' => exact absurd hs (hno cs')
      | err e => rw [hs] at h; simp at h
      | crash k => rw [hs] at h; simp at h
  · simp at h
  · simp at h

/-- The item loop returns a list exactly when every item was coerced to a value; the list holds the values. -/
theorem seqItems_some_iff {rs : List R} {cs : List PyVal} :
    seqItems rs = .ok (some cs) ↔ rs = cs.map .ok ∧ ∀ x ∈ cs, x ≠ .undefined := by
  induction rs generalizing cs with
  | nil => cases cs <;> simp [seqItems]
  | cons r rs ih =>
    constructor
    · intro h
      obtain ⟨cv, cs', rfl, hcu, hrest, rfl⟩ := seqItems_cons_inv h
      obtain ⟨rfl, hall⟩ := ih.1 hrest
      exact ⟨rfl, by simpa using ⟨hcu, hall⟩⟩
    · rintro ⟨h, hall⟩
      cases cs with
      | nil => cases h
      | cons cv cs =>
        cases h
        exact seqItems_cons_some (hall cv (by simp)) (ih.2 ⟨rfl, fun x hx => hall x (by simp [hx])⟩)

theorem seqItems_ok {rs : List R} (h : ∀ r ∈ rs, ∃ cv, r = .ok cv) :
    ∃ o, seqItems rs = .ok o ∧ (o.isSome = true ↔ ∀ r ∈ rs, r ≠ .ok .undefined) := by
  induction rs with
  | nil => exact ⟨some [], rfl, by simp⟩
  | cons r rs ih =>
    obtain ⟨cv, rfl⟩ := h r (by simp)
    obtain ⟨o, ho, hiff⟩ := ih (fun r hr => h r (by simp [hr]))
    by_cases hu : cv = .undefined
    · subst hu
      exact ⟨none, by simp [seqItems], by simp⟩
    · cases o with
      | none =>
        refine ⟨none, seqItems_cons_none hu ho, ?_⟩
        simp only [Option.isSome_none, Bool.false_eq_true, List.mem_cons, ne_eq, forall_eq_or_imp, false_iff, not_and]
        intro _
        simpa using hiff
      | some cs =>
        refine ⟨some (cv :: cs), seqItems_cons_some hu ho, ?_⟩
        simp only [Option.isSome_some, List.mem_cons, ne_eq, forall_eq_or_imp, true_iff]
        exact ⟨by simpa using hu, by simpa using hiff⟩

theorem wrapList_ok (o : Option (List PyVal)) :
    ∃ cv, wrapList (.ok o) = .ok cv ∧ (cv ≠ .undefined ↔ o.isSome = true) := by
  cases o <;> simp [wrapList]

theorem attach_map_pat {α β : Type} (xs : List α) (f : α → β) :
    (xs.attach.map fun ⟨x, _⟩ => f x) = xs.map f := by
  have : (fun (i : {y // y ∈ xs}) => match i with | ⟨x, _⟩ => f x) = fun i => f i.val := by
    funext ⟨x, h⟩; rfl
  rw [this]
  exact List.attach_map_val (f := f)

theorem wrapList_inv {x : Out Unit (Option (List PyVal))} {cv : PyVal} (h : wrapList x = .ok cv) (hu : cv ≠ .undefined) :
    ∃ cs, x = .ok (some cs) ∧ cv = .list cs := by
  rcases x with (_ | cs) | e | k
  · exact absurd (Out.ok.inj h).symm hu
  · exact ⟨cs, rfl, (Out.ok.inj h).symm⟩
  all_goals cases h

theorem mem_seqItems {α : Type} {xs : List α} {F : α → R} {cs : List PyVal} (hs : seqItems (xs.map F) = .ok (some cs))
    {cv : PyVal} (h : cv ∈ cs) : cv ≠ .undefined ∧ ∃ x ∈ xs, F x = .ok cv := by
  obtain ⟨hrs, hdef⟩ := seqItems_some_iff.1 hs
  have hmem : (.ok cv : R) ∈ cs.map .ok := List.mem_map_of_mem h
  rw [← hrs] at hmem
  exact ⟨hdef cv h, List.mem_map.1 hmem⟩

/-- The list case of both agreement theorems: `f` coerces an item, `g` validates it at its index. -/
theorem items_agree {α : Type} (xs : List α) (f : α → R) (g : α → Nat → List Path)
    (h : ∀ x ∈ xs, ∀ i, ∃ cv, f x = .ok cv ∧ (g x i = [] ↔ cv ≠ .undefined)) :
    ∃ cv, wrapList (seqItems (xs.map f)) = .ok cv ∧
      ((xs.attach.zipIdx.flatMap fun ⟨⟨x, _⟩, i⟩ => g x i) = [] ↔ cv ≠ .undefined) := by
  obtain ⟨o, ho, hiff⟩ := seqItems_ok (rs := xs.map f) fun r hr =>
    let ⟨x, hx, e⟩ := List.mem_map.1 hr
    let ⟨cv, hcv, _⟩ := h x hx 0
    ⟨cv, e ▸ hcv⟩
  obtain ⟨cv, hcv, hcvu⟩ := wrapList_ok o
  refine ⟨cv, by rw [ho, hcv], ?_⟩
  rw [hcvu, hiff, List.flatMap_eq_nil_iff, List.forall_mem_map]
  constructor
  · intro hnil x hx hc
    -- `x` stands at some index `i`
    have hmem : (⟨x, hx⟩ : {y // y ∈ xs}) ∈ xs.attach.zipIdx.map Prod.fst := by
      rw [List.zipIdx_map_fst]; exact List.mem_attach _ _
    obtain ⟨⟨⟨x', hx'⟩, i⟩, hmi, heq⟩ := List.mem_map.1 hmem
    cases heq
    obtain ⟨cv, hcv, hv⟩ := h x hx i
    exact hv.1 (hnil _ hmi) (Out.ok.inj (hcv.symm.trans hc))
  · intro hne ⟨⟨x, hx⟩, i⟩ _
    obtain ⟨cv, hcv, hv⟩ := h x hx i
    exact hv.2 fun hc => hne x hx (hc ▸ hcv)

theorem seqFields_ok {rs : List (Out Unit FieldRes)} (h : ∀ r ∈ rs, ∃ x, r = .ok x) :
    ∃ o, seqFields rs = .ok o ∧ (o.isSome = true ↔ ∀ r ∈ rs, r ≠ .ok .invalid) := by
  induction rs with
  | nil => exact ⟨some [], rfl, by simp⟩
  | cons r rs ih =>
    obtain ⟨x, rfl⟩ := h r (by simp)
    obtain ⟨o, ho, hiff⟩ := ih (fun r hr => h r (by simp [hr]))
    cases x with
    | invalid => exact ⟨none, by simp [seqFields], by simp⟩
    | skip =>
      refine ⟨o, by simp [seqFields, ho], ?_⟩
      simp only [List.mem_cons, ne_eq, forall_eq_or_imp]
      constructor
      · intro h1; exact ⟨by simp, hiff.1 h1⟩
      · intro h1; exact hiff.2 h1.2
    | entry k cv =>
      cases o with
      | none =>
        refine ⟨none, by simp [seqFields, ho], ?_⟩
        simp only [Option.isSome_none, Bool.false_eq_true, List.mem_cons, ne_eq, forall_eq_or_imp, false_iff, not_and]
        intro _
        simpa using hiff
      | some es =>
        refine ⟨some ((k, cv) :: es), by simp [seqFields, ho], ?_⟩
        simp only [Option.isSome_some, List.mem_cons, ne_eq, forall_eq_or_imp, true_iff]
        exact ⟨by simp, by simpa using hiff⟩

def entryOf : Out Unit FieldRes → Option (List Nat × PyVal)
  | .ok (.entry k c) => some (k, c)
  | _ => none

/-- The field loop returns a dict exactly when no field is invalid or raises; the dict holds the entries. -/
theorem seqFields_some_iff {rs : List (Out Unit FieldRes)} {es : List (List Nat × PyVal)} :
    seqFields rs = .ok (some es) ↔ (∀ r ∈ rs, ∃ x, r = .ok x ∧ x ≠ .invalid) ∧ es = rs.filterMap entryOf := by
  induction rs generalizing es with
  | nil => simp [seqFields, eq_comm]
  | cons r rs ih =>
    rcases r with (_ | _ | ⟨k, cv⟩) | e | j
    · simp [seqFields]
    · simp [seqFields, ih, List.filterMap_cons, entryOf]
    · constructor
      · intro h
        cases hs : seqFields rs with
        | ok o =>
          cases o with
          | some es' =>
            obtain ⟨hall, rfl⟩ := ih.1 hs
            simp only [seqFields, hs, Out.ok.injEq, Option.some.injEq] at h
            subst h
            simpa [List.filterMap_cons, entryOf] using hall
          | none => simp [seqFields, hs] at h
        | err e => simp [seqFields, hs] at h
        | crash j => simp [seqFields, hs] at h
      · rintro ⟨hall, rfl⟩
        simp [seqFields, ih.2 ⟨fun r hr => hall r (List.mem_cons_of_mem _ hr), rfl⟩, entryOf]
    · simp [seqFields]
    · simp [seqFields]

theorem entryOf_eq_some_iff {r : Out Unit FieldRes} {k : List Nat} {cv : PyVal} :
    entryOf r = some (k, cv) ↔ r = .ok (.entry k cv) := by
  unfold entryOf
  split <;> simp_all

theorem mem_seqFields {α : Type} {xs : List α} {G : α → Out Unit FieldRes} {es : List (List Nat × PyVal)}
    (hs : seqFields (xs.map G) = .ok (some es)) {k : List Nat} {cv : PyVal} :
    (k, cv) ∈ es ↔ ∃ x ∈ xs, G x = .ok (.entry k cv) := by
  simp [(seqFields_some_iff.1 hs).2, List.mem_filterMap, entryOf_eq_some_iff]

theorem seqFields_valid {α : Type} {xs : List α} {G : α → Out Unit FieldRes} {es : List (List Nat × PyVal)}
    (hs : seqFields (xs.map G) = .ok (some es)) {x : α} (hx : x ∈ xs) : ∃ r, G x = .ok r ∧ r ≠ .invalid :=
  (seqFields_some_iff.1 hs).1 _ (List.mem_map_of_mem hx)

/-- The end of the object case of `coerceValue` and `coerceLiteral`: `Undefined` when a provided key is not declared
or a field is invalid, else `post` of the entries. -/
def dictOf (unknown : Bool) (post : List (List Nat × PyVal) → R) (rs : Out Unit (Option (List (List Nat × PyVal)))) : R :=
  if unknown then .ok .undefined
  else match rs with
    | .ok (some es) => post es
    | .ok none => .ok .undefined
    | .err e => .err e
    | .crash k => .crash k

theorem dictOf_inv {unknown : Bool} {post : List (List Nat × PyVal) → R} {rs : Out Unit (Option (List (List Nat × PyVal)))}
    {cv : PyVal} (h : dictOf unknown post rs = .ok cv) (hu : cv ≠ .undefined) :
    unknown = false ∧ ∃ es, rs = .ok (some es) ∧ post es = .ok cv := by
  unfold dictOf at h
  cases unknown with
  | true => exact absurd (Out.ok.inj h).symm hu
  | false =>
    rcases rs with (_ | es) | e | k
    · exact absurd (Out.ok.inj h).symm hu
    · exact ⟨rfl, es, rfl, h⟩
    all_goals cases h

/-- The object case of both agreement theorems: `G` coerces a declared field, `H` validates it, `U` are the provided
keys that are not declared, `X` the reports of the OneOf check, which `hpost` relates to `post`.  An invalid field is
reported; `Q f` is what is known of a field that is not invalid, and `hpost` has it for every field. -/
theorem dictOf_agree {α : Type} {fields : List Field} {G : Field → Out Unit FieldRes} {H : Field → List Path}
    {Q : Field → Prop} {unknown : Bool} {U : List α} {post : List (List Nat × PyVal) → R} {X : List Path} (path : Path)
    (hU : unknown = false ↔ U = [])
    (hG : ∀ f ∈ fields, ∃ x, G f = .ok x ∧ (x = .invalid → H f ≠ []) ∧ (x ≠ .invalid → Q f))
    (hpost : unknown = false → ∀ es, seqFields (fields.map G) = .ok (some es) → (∀ f ∈ fields, Q f) →
      ∃ cv, post es = .ok cv ∧ (fields.flatMap H ++ X = [] ↔ cv ≠ .undefined)) :
    ∃ cv, dictOf unknown post (seqFields (fields.map G)) = .ok cv ∧
      (fields.flatMap H ++ U.map (fun _ => path) ++ X = [] ↔ cv ≠ .undefined) := by
  cases hunk : unknown with
  | true =>
    have : U ≠ [] := fun h => by rw [hU.2 h] at hunk; cases hunk
    exact ⟨.undefined, rfl, by simp [this]⟩
  | false =>
    rw [hU.1 hunk]
    obtain ⟨o, hso, hiff⟩ := seqFields_ok (rs := fields.map G) fun r hr =>
      let ⟨f, hf, e⟩ := List.mem_map.1 hr
      let ⟨x, hx, _⟩ := hG f hf
      ⟨x, e ▸ hx⟩
    cases o with
    | some es =>
      obtain ⟨cv, hcv, h⟩ := hpost hunk es hso fun f hf =>
        let ⟨x, hx, _, hq⟩ := hG f hf
        let ⟨x', hx', hxn⟩ := seqFields_valid hso hf
        hq (Out.ok.inj (hx'.symm.trans hx) ▸ hxn)
      exact ⟨cv, by rw [hso]; exact hcv, by simpa using h⟩
    | none =>
      refine ⟨.undefined, by rw [hso]; rfl, ?_⟩
      -- some field is invalid, so it is reported
      simp only [ne_eq, not_true_eq_false, iff_false, List.map_nil, List.append_nil, List.append_eq_nil_iff,
        List.flatMap_eq_nil_iff]
      intro h
      have : ¬ ∀ r ∈ fields.map G, r ≠ .ok .invalid := fun hc => by simpa using hiff.2 hc
      refine this fun r hr hc => ?_
      obtain ⟨f, hf, rfl⟩ := List.mem_map.1 hr
      obtain ⟨x, hx, hinv, _⟩ := hG f hf
      exact hinv (Out.ok.inj (hx.symm.trans hc)) (h.1 f hf)

/-- A value that is not iterable, taken as a list of one item (`Undefined` stays `Undefined`): the
last branch of the list case of `coerceValue` and `coerceLiteral`. -/
def listOfOne : R → R
  | .ok .undefined => .ok .undefined
  | .ok r => .ok (.list [r])
  | .err e => .err e
  | .crash k => .crash k

theorem listOfOne_ok {r : PyVal} (h : r ≠ .undefined) : listOfOne (.ok r) = .ok (.list [r]) := by
  cases r <;> first | rfl | exact absurd rfl h

theorem listOfOne_inv {x : R} {cv : PyVal} (h : listOfOne x = .ok cv) (hu : cv ≠ .undefined) :
    ∃ r, x = .ok r ∧ r ≠ .undefined ∧ cv = .list [r] := by
  unfold listOfOne at h
  split at h
  · exact absurd (Out.ok.inj h).symm hu
  · exact ⟨_, rfl, ‹_›, (Out.ok.inj h).symm⟩
  all_goals cases h

/-- The single-value case of both agreement theorems. -/
theorem listOfOne_agree {x : R} {V : List Path} (h : ∃ cv, x = .ok cv ∧ (V = [] ↔ cv ≠ .undefined)) :
    ∃ cv, listOfOne x = .ok cv ∧ (V = [] ↔ cv ≠ .undefined) := by
  obtain ⟨cv, rfl, hv⟩ := h
  by_cases hu : cv = .undefined
  · subst hu; exact ⟨.undefined, rfl, hv⟩
  · exact ⟨.list [cv], listOfOne_ok hu, by simpa [hu] using hv⟩

/-- What a declared field of an input object contributes, given the coerced provided value if there is one
(`none`: the key is absent or `Undefined`; for a literal also a variable without runtime value). -/
def fieldRes (D : Field → R) (f : Field) : Option R → Out Unit FieldRes
  | some r => fieldOfCoerced f.name r
  | none => fieldMissing D f

theorem fieldRes_entry_iff {D : Field → R} {f : Field} {o : Option R} {k : List Nat} {cv : PyVal} :
    fieldRes D f o = .ok (.entry k cv) ↔
      k = f.name ∧ cv ≠ .undefined ∧ (o = some (.ok cv) ∨ (o = none ∧ f.isRequired = false ∧ D f = .ok cv)) := by
  cases o with
  | some r =>
    simp only [fieldRes, Option.some.injEq, reduceCtorEq, false_and, or_false]
    unfold fieldOfCoerced
    split
    · simp; rintro _ h rfl; exact h rfl
    · rename_i r' hne
      simp only [Out.ok.injEq, FieldRes.entry.injEq]
      exact ⟨fun ⟨h1, h2⟩ => ⟨h1.symm, h2 ▸ fun h => hne (by rw [h]), by rw [h2]⟩,
        fun ⟨h1, _, h3⟩ => ⟨h1.symm, h3⟩⟩
    · simp
    · simp
  | none =>
    simp only [fieldRes, reduceCtorEq, true_and, false_or]
    unfold fieldMissing
    split
    · simp_all
    · rename_i hreq
      split
      · rename_i hd; simp [hd]; rintro _ h1 _ h2; exact h1 h2.symm
      · rename_i r' hne hd
        simp only [Out.ok.injEq, FieldRes.entry.injEq, hd]
        exact ⟨fun ⟨h1, h2⟩ => ⟨h1.symm, h2 ▸ fun h => hne (by rw [h]), by simpa using hreq, by rw [h2]⟩,
          fun ⟨h1, _, _, h3⟩ => ⟨h1.symm, h3⟩⟩
      · rename_i hd; simp [hd]
      · rename_i hd; simp [hd]

theorem fieldRes_invalid_iff {D : Field → R} {f : Field} {o : Option R} :
    fieldRes D f o = .ok .invalid ↔ o = some (.ok .undefined) ∨ (o = none ∧ f.isRequired = true) := by
  cases o with
  | some r =>
    simp only [fieldRes, Option.some.injEq, reduceCtorEq, false_and, or_false]
    unfold fieldOfCoerced
    split <;> simp_all
  | none =>
    simp only [fieldRes, reduceCtorEq, true_and, false_or]
    unfold fieldMissing
    repeat' split
    all_goals simp_all

theorem fieldRes_skip_iff {D : Field → R} {f : Field} {o : Option R} :
    fieldRes D f o = .ok .skip ↔ o = none ∧ f.isRequired = false ∧ D f = .ok .undefined := by
  cases o with
  | some r =>
    simp only [fieldRes, reduceCtorEq, false_and, iff_false]
    unfold fieldOfCoerced
    split <;> simp
  | none =>
    simp only [fieldRes, true_and]
    unfold fieldMissing
    repeat' split
    all_goals simp_all

/-- A provided value that coercion and validation agree on (`V` is what the validator reports for it): the field
returns, and is invalid exactly when `V` is not empty. -/
theorem fieldRes_provided (D : Field → R) (f : Field) {cv : PyVal} {V : List Path} (hv : V = [] ↔ cv ≠ .undefined) :
    ∃ x, fieldRes D f (some (.ok cv)) = .ok x ∧ (x = .invalid ↔ V ≠ []) := by
  by_cases hu : cv = .undefined
  · exact ⟨.invalid, fieldRes_invalid_iff.2 (.inl (by rw [hu])), by simp [hv, hu]⟩
  · exact ⟨.entry f.name cv, fieldRes_entry_iff.2 ⟨rfl, hu, .inl rfl⟩, by simp [hv, hu]⟩

/-- A field without provided value, under valid defaults: it returns, and is invalid exactly when required. -/
theorem fieldRes_missing {D : Field → R} (hD : DefaultsTotal D) (f : Field) :
    ∃ x, fieldRes D f none = .ok x ∧ (x = .invalid ↔ f.isRequired = true) := by
  by_cases hr : f.isRequired = true
  · exact ⟨.invalid, fieldRes_invalid_iff.2 (.inr ⟨rfl, hr⟩), by simp [hr]⟩
  · obtain ⟨r, hd⟩ := hD f
    have hr' : f.isRequired = false := by simpa using hr
    by_cases hu : r = .undefined
    · exact ⟨.skip, fieldRes_skip_iff.2 ⟨rfl, hr', hu ▸ hd⟩, by simp [hr]⟩
    · exact ⟨.entry f.name r, fieldRes_entry_iff.2 ⟨rfl, hu, .inr ⟨rfl, hr', hd⟩⟩, by simp [hr]⟩

/-- A provided value whose field is not invalid was coerced to a value, and the field is its entry. -/
theorem fieldRes_some_inv {D : Field → R} {f : Field} {r : R} {x : FieldRes} (h : fieldRes D f (some r) = .ok x)
    (hx : x ≠ .invalid) : ∃ cv, r = .ok cv ∧ cv ≠ .undefined ∧ x = .entry f.name cv := by
  cases x with
  | invalid => exact absurd rfl hx
  | skip => cases (fieldRes_skip_iff.1 h).1
  | entry k cv =>
    obtain ⟨rfl, hcu, h | h⟩ := fieldRes_entry_iff.1 h
    · exact ⟨cv, Option.some.inj h, hcu, rfl⟩
    · cases h.1

/-- Without a default, a field that was not provided has no entry. -/
theorem entryOf_fieldRes_none {D : Field → R} {f : Field} (h : D f = .ok .undefined) :
    entryOf (fieldRes D f none) = none := by
  rw [fieldRes, fieldMissing, h]
  split <;> rfl

theorem isDefined_iff (v : PyVal) : isDefined v = true ↔ v ≠ .undefined := by
  cases v <;> simp [isDefined]

theorem hasUnknownDefined_iff (kvs : List (List Nat × PyVal)) (fields : List Field) :
    hasUnknownDefined kvs fields = false ↔
      (kvs.filter fun kv => isDefined kv.2 && !fields.any (fun f => f.name = kv.1)) = [] := by
  rw [hasUnknownDefined, List.any_eq_false, List.filter_eq_nil_iff]

/-- What `coerceValue` does with one declared field of an input object, given the entries of the dict. -/
def coerceField (c : PyConv) (D : Field → R) (tm : TypeMap) (kvs : List (List Nat × PyVal)) (f : Field) :
    Out Unit FieldRes :=
  fieldRes D f ((dictGetDefined kvs f.name).map fun fv => coerceValue c D tm fv f.type)

/-- What `validateValue` reports for one declared field. -/
def validateField (c : PyConv) (tm : TypeMap) (kvs : List (List Nat × PyVal)) (path : Path) (f : Field) : List Path :=
  match _h : dictGetDefined kvs f.name with
  | some fv => validateValue c tm fv f.type (path ++ [.key f.name])
  | none => if f.isRequired then [path] else []


section unfold
variable (c : PyConv) (D : Field → R) (tm : TypeMap)

theorem coerceValue_nullish (v : PyVal) (t : InType) (hv : v.isNullish = true) :
    coerceValue c D tm v t = .ok (if t.isNonNull then .undefined else .none) := by
  cases t <;> rw [coerceValue] <;> simp [hv, InType.isNonNull]

theorem coerceValue_list_iter {v : PyVal} {t' : InType} {xs : List PyVal}
    (hn : ¬ v.isNullish = true) (hit : v.iterItems = some xs) :
    coerceValue c D tm v (.list t') = wrapList (seqItems (xs.map fun x => coerceValue c D tm x t')) := by
  rw [coerceValue, ← attach_map_pat xs fun x => coerceValue c D tm x t']
  simp only [hn, Bool.false_eq_true, ↓reduceIte]
  split
  · rename_i xs' h'; rw [hit] at h'; cases h'; rfl
  · rename_i h'; rw [hit] at h'; cases h'

theorem coerceValue_list_single {v : PyVal} {t' : InType}
    (hn : ¬ v.isNullish = true) (hit : v.iterItems = none) :
    coerceValue c D tm v (.list t') = listOfOne (coerceValue c D tm v t') := by
  rw [coerceValue]; simp only [hn, Bool.false_eq_true, ↓reduceIte]
  split
  · rename_i xs' h'; rw [hit] at h'; cases h'
  · rfl

theorem validateValue_list_iter {v : PyVal} {t' : InType} {xs : List PyVal} {path : Path}
    (hn : ¬ v.isNullish = true) (hit : v.iterItems = some xs) :
    validateValue c tm v (.list t') path =
      xs.attach.zipIdx.flatMap fun ⟨⟨x, _⟩, i⟩ => validateValue c tm x t' (path ++ [.idx i]) := by
  rw [validateValue]; simp only [hn, Bool.false_eq_true, ↓reduceIte]
  split
  · rename_i xs' h'; rw [hit] at h'; cases h'; rfl
  · rename_i h'; rw [hit] at h'; cases h'

theorem validateValue_list_single {v : PyVal} {t' : InType} {path : Path}
    (hn : ¬ v.isNullish = true) (hit : v.iterItems = none) :
    validateValue c tm v (.list t') path = validateValue c tm v t' path := by
  rw [validateValue]; simp only [hn, Bool.false_eq_true, ↓reduceIte]
  split
  · rename_i xs' h'; rw [hit] at h'; cases h'
  · rfl

theorem coerceValue_obj {v : PyVal} {n : List Nat} {fields : List Field} {oneOf : Bool}
    {kvs : List (List Nat × PyVal)}
    (hn : ¬ v.isNullish = true) (hf : tm.find n = some (.inputObject fields oneOf)) (hd : v.asDict = some kvs) :
    coerceValue c D tm v (.named n) =
      dictOf (hasUnknownDefined kvs fields)
        (fun es => if oneOf then oneOfValue (definedCount kvs) es else .ok (.dict es))
        (seqFields (fields.map (coerceField c D tm kvs))) := by
  rw [coerceValue]; simp only [hn, Bool.false_eq_true, ↓reduceIte, hf]
  split
  · rename_i kvs' h'; rw [hd] at h'; cases h'
    rw [List.map_congr_left (g := coerceField c D tm kvs) fun f _ => ?_]
    · rfl
    · unfold coerceField; split <;> simp [*, fieldRes]
  · rename_i h'; rw [hd] at h'; cases h'

theorem coerceValue_notobj {v : PyVal} {n : List Nat} {fields : List Field} {oneOf : Bool}
    (hn : ¬ v.isNullish = true) (hf : tm.find n = some (.inputObject fields oneOf)) (hd : v.asDict = none) :
    coerceValue c D tm v (.named n) = .ok .undefined := by
  rw [coerceValue]; simp only [hn, Bool.false_eq_true, ↓reduceIte, hf]
  split
  · rename_i kvs' h'; rw [hd] at h'; cases h'
  · rfl

theorem validateValue_obj {v : PyVal} {n : List Nat} {fields : List Field} {oneOf : Bool}
    {kvs : List (List Nat × PyVal)} {path : Path}
    (hn : ¬ v.isNullish = true) (hf : tm.find n = some (.inputObject fields oneOf)) (hd : v.asDict = some kvs) :
    validateValue c tm v (.named n) path =
      fields.flatMap (validateField c tm kvs path)
        ++ ((kvs.filter fun kv => isDefined kv.2 && !fields.any (fun f => f.name = kv.1)).map fun _ => path)
        ++ (if oneOf then
              oneOfValueErrors path (kvs.filter fun kv => isDefined kv.2 && fields.any (fun f => f.name = kv.1))
            else []) := by
  rw [validateValue]; simp only [hn, Bool.false_eq_true, ↓reduceIte, hf]
  split
  · rename_i kvs' h'; rw [hd] at h'; cases h'; rfl
  · rename_i h'; rw [hd] at h'; cases h'

theorem validateValue_notobj {v : PyVal} {n : List Nat} {fields : List Field} {oneOf : Bool} {path : Path}
    (hn : ¬ v.isNullish = true) (hf : tm.find n = some (.inputObject fields oneOf)) (hd : v.asDict = none) :
    validateValue c tm v (.named n) path = [path] := by
  rw [validateValue]; simp only [hn, Bool.false_eq_true, ↓reduceIte, hf]
  split
  · rename_i kvs' h'; rw [hd] at h'; cases h'
  · rfl

theorem coerceValue_leaf {v : PyVal} {n : List Nat} {d : NamedDef} {lf : Leaf}
    (hn : ¬ v.isNullish = true) (hf : tm.find n = some d) (hl : d.asLeaf = some lf) :
    coerceValue c D tm v (.named n) = .ok (leafValue c lf v) := by
  rw [coerceValue]; cases d <;> cases hl <;> simp only [hn, hf, Bool.false_eq_true, ↓reduceIte]

theorem validateValue_leaf {v : PyVal} {n : List Nat} {d : NamedDef} {lf : Leaf} {path : Path}
    (hn : ¬ v.isNullish = true) (hf : tm.find n = some d) (hl : d.asLeaf = some lf) :
    validateValue c tm v (.named n) path = if isDefined (leafValue c lf v) then [] else [path] := by
  rw [validateValue]; cases d <;> cases hl <;> simp only [hn, hf, Bool.false_eq_true, ↓reduceIte]

theorem oneOfValue_ok {n : Nat} {es : List (List Nat × PyVal)} {cv : PyVal}
    (h : oneOfValue n es = .ok cv) (hu : cv ≠ .undefined) :
    ∃ k c, es = [(k, c)] ∧ c ≠ .none ∧ cv = .dict es := by
  unfold oneOfValue at h
  split at h
  · rename_i k c
    split at h
    · simp only [Out.ok.injEq] at h; exact absurd h.symm hu
    · split at h
      · simp only [Out.ok.injEq] at h; exact absurd h.symm hu
      · rename_i hne
        simp only [Out.ok.injEq] at h
        exact ⟨k, c, rfl, fun hc => hne (by rw [hc]), h.symm⟩
  · simp only [Out.ok.injEq] at h; exact absurd h.symm hu

/-- Induction over the inputs `coerceValue` accepts.  A value is accepted (the result is not `Undefined`) in one of
six ways: null at a nullable type; at a non-null type as at the type inside; an iterable item by item; any other value
at a list type as a list of one; a leaf; a dict field by field.  Whatever holds in these six cases, given it for the
items and the provided fields, holds of every accepted input and its result. -/
theorem coerceValue_accepted {motive : PyVal → InType → PyVal → Prop}
    (null : ∀ v t, v.isNullish = true → t.isNonNull = false → motive v t .none)
    (nonNull : ∀ v t' cv, ¬ v.isNullish = true → coerceValue c D tm v t' = .ok cv → motive v t' cv →
      motive v (.nonNull t') cv)
    (items : ∀ v t' xs cs, ¬ v.isNullish = true → v.iterItems = some xs →
      seqItems (xs.map fun x => coerceValue c D tm x t') = .ok (some cs) →
      (∀ x ∈ xs, ∀ cv, coerceValue c D tm x t' = .ok cv → cv ≠ .undefined → motive x t' cv) →
      motive v (.list t') (.list cs))
    (single : ∀ v t' cv, ¬ v.isNullish = true → v.iterItems = none → coerceValue c D tm v t' = .ok cv →
      cv ≠ .undefined → motive v t' cv → motive v (.list t') (.list [cv]))
    (leaf : ∀ v n d lf, ¬ v.isNullish = true → tm.find n = some d → d.asLeaf = some lf →
      leafValue c lf v ≠ .undefined → motive v (.named n) (leafValue c lf v))
    (obj : ∀ v n fields oneOf kvs es, ¬ v.isNullish = true → tm.find n = some (.inputObject fields oneOf) →
      v.asDict = some kvs → hasUnknownDefined kvs fields = false →
      seqFields (fields.map (coerceField c D tm kvs)) = .ok (some es) →
      (oneOf = true → ∃ k cv, es = [(k, cv)] ∧ cv ≠ .none) →
      (∀ (f : Field) fv, dictGetDefined kvs f.name = some fv → ∀ cv, coerceValue c D tm fv f.type = .ok cv →
        cv ≠ .undefined → motive fv f.type cv) →
      motive v (.named n) (.dict es))
    (v : PyVal) (t : InType) {cv : PyVal} (h : coerceValue c D tm v t = .ok cv) (hu : cv ≠ .undefined) :
    motive v t cv := by
  -- the validator's induction has the case structure wanted (`coerceValue.induct` splits twice as often); its path
  -- plays no part
  have path : Path := []
  induction v, t, path using validateValue.induct c tm generalizing cv with
  | case1 v path t' hn =>
    rw [coerceValue_nullish c D tm v _ hn] at h; exact absurd (Out.ok.inj h).symm hu
  | case8 v path n hn fields oneOf hf hd =>
    rw [coerceValue_notobj c D tm hn hf hd] at h; exact absurd (Out.ok.inj h).symm hu
  | case13 v path n hn hf =>
    rw [coerceValue] at h; simp only [hn, hf, Bool.false_eq_true, ↓reduceIte] at h
    exact absurd (Out.ok.inj h).symm hu
  | case2 v path t' hn ih =>
    rw [coerceValue] at h
    simp only [hn, Bool.false_eq_true, ↓reduceIte] at h
    exact nonNull v t' cv hn h (ih h hu)
  | case3 v path t' hn | case6 v path n hn =>
    rw [coerceValue_nullish c D tm v _ hn] at h
    cases Out.ok.inj h
    exact null v _ hn rfl
  | case4 v path t' hn xs hit ih =>
    rw [coerceValue_list_iter c D tm hn hit] at h
    obtain ⟨cs, hs, rfl⟩ := wrapList_inv h hu
    exact items v t' xs cs hn hit hs fun x hx _ => ih x hx 0
  | case5 v path t' hn hit ih =>
    rw [coerceValue_list_single c D tm hn hit] at h
    obtain ⟨r, hc, hr, rfl⟩ := listOfOne_inv h hu
    exact single v t' r hn hit hc hr (ih hc hr)
  | case7 v path n hn fields oneOf hf kvs hd ih =>
    rw [coerceValue_obj c D tm hn hf hd] at h
    obtain ⟨hunk, es, hs, h⟩ := dictOf_inv h hu
    have : cv = .dict es ∧ (oneOf = true → ∃ k c', es = [(k, c')] ∧ c' ≠ .none) := by
      cases oneOf with
      | true => obtain ⟨k, c', hes, hcn, hcv⟩ := oneOfValue_ok h hu; exact ⟨hcv, fun _ => ⟨k, c', hes, hcn⟩⟩
      | false => exact ⟨(Out.ok.inj h).symm, fun ho => by cases ho⟩
    rw [this.1]
    exact obj v n fields oneOf kvs es hn hf hd hunk hs this.2 fun f fv hfv _ => ih f fv hfv
  | case9 v path n hn s hf hdv | case10 v path n hn s hf hdv | case11 v path n hn s hf hdv
  | case12 v path n hn s hf hdv =>
    cases Out.ok.inj ((coerceValue_leaf c D tm hn hf rfl).symm.trans h)
    exact leaf v n _ _ hn hf rfl hu

end unfold

end Gql.Values
