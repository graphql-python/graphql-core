/-!
Ordered dicts of lists (`Dict[K, List[V]]` kept as an association list with distinct keys): the
insertion `d.setdefault(k, []).extend(vs)` that the model writes four times (`Spec.appendGroup`,
`Impl.addField`, `IncExec.addField`, `Collect.addField`), with what it does to the keys, to a
property of the entries that is closed under `++`, and under a map of the values.  Each region
states once that its insertion is `List.extendAt`.  Core only.
-/
namespace List
variable {κ β γ : Type} [DecidableEq κ]

/-- extend the list under the first key `k`, or append the new entry `(k, vs)` -/
def extendAt : List (κ × List β) → κ → List β → List (κ × List β)
  | [], k, vs => [(k, vs)]
  | (k', g) :: rest, k, vs => if k' = k then (k', g ++ vs) :: rest else (k', g) :: extendAt rest k vs

theorem extendAt_of_not_mem {g : List (κ × List β)} {k : κ} (vs : List β) (h : k ∉ g.map (·.1)) :
    g.extendAt k vs = g ++ [(k, vs)] := by
  induction g with
  | nil => rfl
  | cons p r ih =>
    obtain ⟨k', v⟩ := p
    simp only [map_cons, mem_cons, not_or] at h
    simp [extendAt, Ne.symm h.1, ih h.2]

theorem keys_extendAt (g : List (κ × List β)) (k : κ) (vs : List β) :
    (g.extendAt k vs).map (·.1) = if k ∈ g.map (·.1) then g.map (·.1) else g.map (·.1) ++ [k] := by
  induction g with
  | nil => simp [extendAt]
  | cons p r ih =>
    obtain ⟨k', v⟩ := p
    by_cases hk : k' = k
    · simp [extendAt, hk]
    · simp only [extendAt, hk, ↓reduceIte, map_cons, ih, mem_cons, Ne.symm hk, false_or]
      split <;> rfl

theorem mem_keys_extendAt {g : List (κ × List β)} {k k' : κ} {vs : List β} :
    k' ∈ (g.extendAt k vs).map (·.1) ↔ k' ∈ g.map (·.1) ∨ k' = k := by
  rw [keys_extendAt]
  split
  · exact ⟨.inl, fun h => h.elim id (· ▸ ‹_›)⟩
  · simp

theorem nodup_keys_extendAt {g : List (κ × List β)} (k : κ) (vs : List β)
    (h : (g.map (·.1)).Nodup) : ((g.extendAt k vs).map (·.1)).Nodup := by
  rw [keys_extendAt]
  split
  · exact h
  · next hk => exact nodup_append.2 ⟨h, by simp, fun a ha b hb e => hk (mem_singleton.1 hb ▸ e ▸ ha)⟩

/-- a property of the entries that is closed under `++` survives the insertion of an entry that
has it -/
theorem forall_mem_extendAt {G : κ → List β → Prop} (happ : ∀ {k a b}, G k a → G k b → G k (a ++ b))
    {g : List (κ × List β)} (h : ∀ p ∈ g, G p.1 p.2) {k : κ} {vs : List β} (hf : G k vs) :
    ∀ p ∈ g.extendAt k vs, G p.1 p.2 := by
  induction g with
  | nil => simpa [extendAt] using hf
  | cons p r ih =>
    obtain ⟨k', v⟩ := p
    have hr := ih fun p hp => h p (mem_cons_of_mem _ hp)
    have hp := h (k', v) mem_cons_self
    by_cases hk : k' = k
    · subst hk
      simpa [extendAt] using ⟨happ hp hf, fun a b hab => h (a, b) (mem_cons_of_mem _ hab)⟩
    · simpa [extendAt, hk] using ⟨hp, fun a b hab => hr (a, b) hab⟩

theorem map_extendAt (f : β → γ) (g : List (κ × List β)) (k : κ) (vs : List β) :
    (g.extendAt k vs).map (fun p => (p.1, p.2.map f)) =
      (g.map fun p => (p.1, p.2.map f)).extendAt k (vs.map f) := by
  induction g with
  | nil => rfl
  | cons p r ih =>
    obtain ⟨k', v⟩ := p
    by_cases hk : k' = k <;> simp [extendAt, hk, ih]

end List
