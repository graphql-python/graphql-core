/-!
Association lists are read with core `List.lookup`.  The model has nine first-match lookups of its
own (`Async.lookup`, `Async.alookup`, `PyVal.dictGet`, `Overlap.assocGet`, …); each region states
once that its lookup is `List.lookup` and then uses core's `lookup_cons`, `lookup_append`,
`lookup_eq_none_iff`, `lookup_eq_some_iff` and the lemmas below, which core lacks.  `List.assign`
is the dict assignment `d[k] = v` that the model writes three times (`Async.aset`,
`Validation.Context.store`, `Overlap.assocSet`).  Core only, so that every region can import it.
-/
namespace List
variable {κ β : Type} [BEq κ] [LawfulBEq κ]

/-- `lookup_cons` in the form in which the model writes its own lookups -/
theorem lookup_cons_ite [DecidableEq κ] (k' k : κ) (v : β) (r : List (κ × β)) :
    ((k', v) :: r).lookup k = if k' = k then some v else r.lookup k := by
  rw [lookup_cons]
  by_cases h : k' = k
  · subst h; rw [if_pos rfl, beq_self_eq_true]
  · rw [if_neg h, beq_false_of_ne (Ne.symm h)]

theorem mem_of_lookup {l : List (κ × β)} {k : κ} {v : β} (h : l.lookup k = some v) : (k, v) ∈ l := by
  obtain ⟨a, b, rfl, _⟩ := lookup_eq_some_iff.mp h; simp

theorem lookup_of_mem_nodup {l : List (κ × β)} {k : κ} {v : β} (hn : (l.map (·.1)).Nodup)
    (h : (k, v) ∈ l) : l.lookup k = some v := by
  obtain ⟨a, b, rfl⟩ := append_of_mem h
  refine lookup_eq_some_iff.mpr ⟨a, b, rfl, fun p hp => ?_⟩
  rw [map_append, map_cons, nodup_append] at hn
  exact bne_iff_ne.mpr fun e => hn.2.2 _ (mem_map_of_mem hp) _ mem_cons_self e.symm

theorem lookup_eq_none_iff_not_mem {l : List (κ × β)} {k : κ} :
    l.lookup k = none ↔ k ∉ l.map (·.1) := by
  rw [lookup_eq_none_iff]
  exact ⟨fun h hk => by obtain ⟨p, hp, rfl⟩ := mem_map.mp hk; simpa using h p hp,
    fun h p hp => bne_iff_ne.mpr fun (e : k = p.1) => h (e ▸ mem_map_of_mem (f := (·.1)) hp)⟩

theorem lookup_append_of_not_mem {a b : List (κ × β)} {k : κ} (h : k ∉ a.map (·.1)) :
    (a ++ b).lookup k = b.lookup k := by
  rw [lookup_append, lookup_eq_none_iff_not_mem.mpr h, Option.none_or]

theorem lookup_eq_find? (l : List (κ × β)) (k : κ) :
    l.lookup k = (l.find? (·.1 == k)).map (·.2) := by
  induction l with
  | nil => rfl
  | cons x l ih =>
    obtain ⟨k', v⟩ := x
    rw [lookup_cons, find?_cons, BEq.comm (a := k)]; cases k' == k <;> simp [ih]

/-- filtering on the key alone hides the keys that fail the test and nothing else -/
theorem lookup_filter_key (p : κ → Bool) (l : List (κ × β)) (k : κ) :
    (l.filter fun e => p e.1).lookup k = if p k then l.lookup k else none := by
  induction l with
  | nil => simp
  | cons x l ih =>
    obtain ⟨a, b⟩ := x
    rw [filter_cons, lookup_cons]
    cases h : k == a
    · split <;> simp only [lookup_cons, h, ih]
    · rw [← eq_of_beq h] at *; cases hp : p k <;> simp [ih, hp]

/-- `d[k] = v`: replace the first entry with key `k`, or append -/
def assign : List (κ × β) → κ → β → List (κ × β)
  | [], k, v => [(k, v)]
  | (k', v') :: r, k, v => if k' == k then (k, v) :: r else (k', v') :: assign r k v

theorem lookup_assign (m : List (κ × β)) (k k' : κ) (v : β) :
    (m.assign k v).lookup k' = if k == k' then some v else m.lookup k' := by
  induction m with
  | nil => simp only [assign, lookup_cons, lookup_nil, BEq.comm (a := k')]; cases k == k' <;> rfl
  | cons p r ih =>
    obtain ⟨a, b⟩ := p
    simp only [assign]
    split
    · next h => rw [eq_of_beq h, lookup_cons, lookup_cons, BEq.comm (a := k')]; cases k == k' <;> rfl
    · next h =>
      rw [lookup_cons, lookup_cons, ih]
      cases h' : k' == a
      · rfl
      · rw [eq_of_beq h'] at *; exact (if_neg fun e => h (BEq.comm (a := a) ▸ e)).symm

end List
