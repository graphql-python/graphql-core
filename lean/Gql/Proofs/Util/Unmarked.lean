/-!
The measure of every visited-set search: how many members of a fixed universe `U` are not yet
marked.  It never grows as marks are added and drops strictly when a member of `U` is newly marked.
Core only, so that every region can import it.  `stable` is the other half of a fuel argument: a
fuel-indexed value that one more unit does not change above `b` is constant above `b`.
-/

namespace Gql.Unmarked

def count {κ : Type} [BEq κ] (U vis : List κ) : Nat := (U.filter (fun x => !vis.contains x)).length

variable {κ : Type} [BEq κ] [LawfulBEq κ] {U vis vis' : List κ} {c : κ}

omit [LawfulBEq κ] in
theorem count_le (U vis : List κ) : count U vis ≤ U.length := List.length_filter_le _ _

theorem count_mono (U : List κ) (h : ∀ x ∈ vis, x ∈ vis') : count U vis' ≤ count U vis := by
  simp only [count, ← List.countP_eq_length_filter]
  apply List.countP_mono_left
  intro x _ hx
  simp only [List.contains_eq_mem, Bool.not_eq_true', decide_eq_false_iff_not] at hx ⊢
  exact fun hm => hx (h x hm)

theorem count_cons_lt (hU : c ∈ U) (hc : c ∉ vis) : count U (c :: vis) < count U vis := by
  have e : U.filter (fun x => !(c :: vis).contains x) =
      (U.filter (fun x => !vis.contains x)).filter (fun x => !(x == c)) := by
    rw [List.filter_filter]
    apply List.filter_congr
    intro x _
    simp
  simp only [count, e]
  exact List.length_filter_lt_length_iff_exists.mpr
    ⟨c, List.mem_filter.mpr ⟨hU, by simpa using hc⟩, by simp⟩

/-- the marks grew from `vis` to `vis'` and `c` is among the new ones -/
theorem count_lt (h : ∀ x ∈ vis, x ∈ vis') (hU : c ∈ U) (hc : c ∉ vis) (hc' : c ∈ vis') :
    count U vis' < count U vis :=
  Nat.lt_of_le_of_lt
    (count_mono U fun x hx => (List.mem_cons.mp hx).elim (fun e => e ▸ hc') (h x))
    (count_cons_lt hU hc)

theorem stable {α : Type} (f : Nat → α) (b : Nat) (h : ∀ n, b ≤ n → f n = f (n + 1)) (k : Nat) :
    f b = f (b + k) := by
  induction k with
  | zero => rfl
  | succ k ih => rw [ih]; exact h _ (Nat.le_add_right _ _)

end Gql.Unmarked
