import Gql.Proofs.SchemaDcGraph
import Gql.Proofs.SchemaAssemble
/-!
Lemmas for C20: `InputObjectDefaultValueCircularRefsValidator` as a depth-first search of
`dcGraph` with visited fields shared between calls: one field (`dcField_step`), one call from
between two types (`dcCall_step`), and the calls threaded over the type map (`dcThread_spec`):
the errors name fields that reach themselves, and without errors no start field reaches a cycle.
-/
namespace Gql.Types
open Gql

abbrev DCState.dfs (st : DCState) : Dfs := ⟨st.visited, st.index.map (·.1), st.errs, st.outOfFuel⟩

theorem dcUnvisited_lt_fuel (s : RawSchema) (vis : List Str) : Unmarked.count (coordUniverse s) vis < dcFuel s := by
  have := coordUniverse_length s
  have := Unmarked.count_le (coordUniverse s) vis
  omega

theorem dcField_step (s : RawSchema) : ∀ (fuel : Nat) (n : DNode) (st : DCState),
    (dcGraph s).Ready (coordUniverse s) fuel st.dfs n →
    (dcGraph s).Step st.dfs (dcField s fuel n.f n.m n.c st).dfs
      (Live n → Black (dcField s fuel n.f n.m n.c st).dfs n.c)
  | 0, _, _, h => absurd h.fuel (Nat.not_lt_zero _)
  | fuel + 1, n, st, hpre => by
    unfold dcField
    cases hd : n.f.default with
    | none => exact .refl hpre.oof (by simp [Live, hd])
    | some lit =>
      have hlive : Live n := by simp [Live, hd]
      simp only
      cases hfind : List.find? (fun e => e.1 == n.c) st.index with
      | some e =>
        obtain ⟨n0, hok0, hc0, hr0⟩ := hpre.path n.c (mem_keys_of_find hfind)
        exact .err rfl rfl hpre.oof rfl hpre.ok hlive fun hi => hi n0 n hok0 hpre.ok hc0 ▸ hr0
      | none =>
        have hnk : n.c ∉ st.dfs.keys := not_mem_keys_of_find hfind
        simp only
        by_cases hv : st.visited.contains n.c = true
        · simp only [hv, ↓reduceIte]
          exact .refl hpre.oof fun _ => ⟨by simpa using hv, hnk⟩
        · simp only [hv, Bool.false_eq_true, ↓reduceIte]
          rw [dcLit_eq, runNodes, show need s lit n.m = succD s n by rw [succD, hd]]
          generalize ha : (succD s n).foldl _ _ = a
          refine Graph.Step.imp ?_ fun h _ => h
          exact Graph.Step.visit (G := dcGraph s) DCState.dfs (fun st x => dcField s fuel x.f x.m x.c st) some
            (n := n) (items := succD s n) (a := a)
            hpre hlive (node_mem_universe hpre.ok) (by simpa using hv : n.c ∉ st.visited) hnk rfl
            (fun x e => ⟨x, e, rfl⟩)
            (fun x hx acc _ hacc => (dcField_step s fuel x acc (hacc x hx)).imp
              fun h y hy => Option.some.inj hy ▸ h)
            ha fun h => congrArg (Dfs.mk _ · _ _) (keys_pop h hnk)

theorem dcCall_eq (s : RawSchema) (tn : Str) (st : DCState) :
    dcCall s tn st = runNodes (dcField s (dcFuel s)) (needObject s tn []) st := by
  unfold dcCall
  exact dcObject_eq s _ tn [] [] (fun k => by simp [lookupLast, DRel]) st

theorem startNodes_ok (s : RawSchema) (tn : Str) : ∀ x ∈ needObject s tn [], NodeOK s x :=
  needObject_ok s tn [] (fun k h hl => by simp [lookupLast] at hl)

/-- one call of the validator from between two types: the path is empty -/
theorem dcCall_step (s : RawSchema) (tn : Str) (vis : List Str) :
    (dcGraph s).Step (DCState.dfs ⟨vis, [], [], [], false⟩) (dcCall s tn ⟨vis, [], [], [], false⟩).dfs
      (∀ x ∈ needObject s tn [], Live x → Black (dcCall s tn ⟨vis, [], [], [], false⟩).dfs x.c) := by
  rw [dcCall_eq, runNodes]
  refine (Graph.Step.foldl (G := dcGraph s) DCState.dfs (fun st x => dcField s (dcFuel s) x.f x.m x.c st)
    some ⟨vis, [], [], [], false⟩ (needObject s tn []) _ (.refl rfl trivial) ?_).imp
      fun h x hx => h x hx x rfl
  intro x hx acc hacc
  exact (dcField_step s (dcFuel s) x acc (.of_keys_nil (startNodes_ok s tn x hx) (dcUnvisited_lt_fuel s _)
    hacc.oof hacc.keys_eq)).imp fun h y hy => Option.some.inj hy ▸ h

theorem runDC_terminates (s : RawSchema) (tn : Str) (st : VState) (h : st.outOfFuel = false) :
    (runDC s tn st).2.outOfFuel = false := by
  have : (dcCall s tn ⟨st.dcVisited, [], [], [], false⟩).outOfFuel = false := (dcCall_step s tn _).oof
  simp [runDC, h, this]

/-- from `x` a field is reachable that reaches itself -/
def ReachesCycle (s : RawSchema) (x : DNode) : Prop :=
  ∃ h, RStar (EdgeD s) x h ∧ RPlus (EdgeD s) h h

theorem dcThread_spec (s : RawSchema) (hwf : NamesWF s) : ∀ (ts : List NamedType) (vis : List Str),
    (∀ e ∈ dcThread s ts vis, (dcGraph s).CycleErr e) ∧
    (dcThread s ts vis = [] → (dcGraph s).Safe (· ∈ vis) →
      ∀ t ∈ ts, ∀ fs o, t.defn = .input fs o →
        ∀ x ∈ needObject s t.name [], ¬ ReachesCycle s x) :=
  Graph.thread_spec (dcGraph_inj hwf) (dcThread s)
    (fun t => ∀ fs o, t.defn = .input fs o → ∀ x ∈ needObject s t.name [], ¬ ReachesCycle s x)
    (fun _ => rfl) fun ⟨name, defn⟩ ts vis => by
      cases defn with
      | input fs0 o0 =>
        exact ⟨_, rfl, (dcCall_step s name vis).imp fun h hs _ _ _ x hx ⟨_, hr1, hr2⟩ =>
          hs.no_cycle (startNodes_ok s name x hx) (fun hl => (h x hx hl).1) hr1 hr2⟩
      | _ => exact ⟨⟨vis, [], [], false⟩, rfl, .refl rfl (by rintro _ _ _ ⟨⟩)⟩

end Gql.Types
