import Gql.Request.Pipeline
/-
Lemmas for the `graphql_impl` / `located_error` models: formatted library errors satisfy the
response-format spec; an already located error passes unchanged through every enclosing handler.
-/
namespace Gql.Request
open Gql.Spec

theorem wfLocation_mk (l c : Int) (hl : 1 ≤ l) (hc : 1 ≤ c) :
    wfLocation (.obj [("line", .int l), ("column", .int c)]) = true := by
  simp [wfLocation, allowedKeys, J.keys, J.get?, List.lookup, hl, hc]

theorem all_wfLocation (ls : List (Int × Int)) (h : ∀ lc ∈ ls, 1 ≤ lc.1 ∧ 1 ≤ lc.2) :
    (ls.map locToJ).all wfLocation = true := by
  simp only [List.all_map, List.all_eq_true]
  intro lc hlc
  exact wfLocation_mk _ _ (h lc hlc).1 (h lc hlc).2

theorem all_wfPathSeg (p : List PathSeg) (h : ∀ s ∈ p, ∀ i, s = .idx i → 0 ≤ i) :
    (p.map PathSeg.toJ).all wfPathSeg = true := by
  simp only [List.all_map, List.all_eq_true]
  intro s hs
  cases s with
  | key => rfl
  | idx i => simp [PathSeg.toJ, wfPathSeg, h _ hs i rfl]

theorem wfError_formatted_eq (e : GErr) (pre : Bool) : wfError pre e.formatted =
    (e.messageIsStr &&
      (match e.locations with | some ls => (ls.map locToJ).all wfLocation | none => true) &&
      (match e.path with | some p => !pre && (p.map PathSeg.toJ).all wfPathSeg | none => true)) := by
  obtain ⟨m, locs, path, ext⟩ := e
  cases m <;> cases locs <;> cases path <;> cases ext <;>
    simp [GErr.formatted, wfError, allowedKeys, J.keys, J.get?, List.lookup]

/-- a well-formed library error formats to a well-formed error entry; without a path it is also a
well-formed *request* error (`pre = true`) -/
theorem wfError_formatted (e : GErr) (h : e.WF) (pre : Bool) (hp : pre = true → e.path = none) :
    wfError pre e.formatted = true := by
  obtain ⟨hm, hl, hpth⟩ := h
  rw [wfError_formatted_eq, hm]
  simp only [Bool.true_and, Bool.and_eq_true]
  constructor
  · cases hloc : e.locations with
    | none => rfl
    | some ls => exact all_wfLocation ls (hl ls hloc)
  · cases hpa : e.path with
    | none => rfl
    | some p =>
      have : pre = false := by
        cases pre
        · rfl
        · rw [hp rfl] at hpa; cases hpa
      subst this
      exact all_wfPathSeg p (hpth p hpa)

theorem wfResponse_errorsOnly (es : List GErr) (hne : es ≠ []) (h : ∀ e ∈ es, e.WF ∧ e.path = none)
    (pre : Bool) : wfResponse pre (Resp.formatted ⟨false, some es⟩) = true := by
  have hall : (es.map GErr.formatted).all (wfError pre) = true := by
    simp only [List.all_map, List.all_eq_true]
    intro e he
    exact wfError_formatted e (h e he).1 pre (fun _ => (h e he).2)
  have hne' : (es.map GErr.formatted).isEmpty = false := by
    cases es with
    | nil => exact absurd rfl hne
    | cons a t => rfl
  simp [Resp.formatted, wfResponse, allowedKeys, J.keys, J.get?, List.lookup, hall, hne']

/-- `graphql_impl` never raises when every stage returns or raises a well-formed path-less
`GraphQLError`: the result is well-formed, and when the request fails before execution it is
`data = None` with errors that are well-formed under the request-error reading -/
theorem graphqlImpl_wf (st : Stages) (hse : ∀ e ∈ st.schemaErrors, e.WF ∧ e.path = none)
    (hp : st.parse = .ret () ∨ ∃ e, st.parse = .raiseGql e ∧ e.WF ∧ e.path = none)
    (hv : ∃ errs, st.validate = .ret errs ∧ ∀ e ∈ errs, e.WF ∧ e.path = none)
    (hx : ∃ r, st.execute = .ret r ∧ wfResponse false r.formatted = true) :
    ∃ r, graphqlImpl st = .result r ∧ wfResponse false r.formatted = true ∧
      ((st.schemaErrors ≠ [] ∨ (∃ e, st.parse = .raiseGql e) ∨
          ∃ errs, st.validate = .ret errs ∧ errs ≠ []) →
        r.dataIsMap = false ∧ wfResponse true r.formatted = true) := by
  obtain ⟨errs, hv, hve⟩ := hv
  obtain ⟨r, hx, hxr⟩ := hx
  -- the three exits with errors only
  have exit (es : List GErr) (hne : es ≠ []) (h : ∀ e ∈ es, e.WF ∧ e.path = none) (C : Prop) :
      ∃ r, Outcome.result ⟨false, some es⟩ = .result r ∧ wfResponse false r.formatted = true ∧
        (C → r.dataIsMap = false ∧ wfResponse true r.formatted = true) :=
    ⟨_, rfl, wfResponse_errorsOnly es hne h false, fun _ => ⟨rfl, wfResponse_errorsOnly es hne h true⟩⟩
  unfold graphqlImpl
  cases hs : st.schemaErrors with
  | cons a t => exact exit _ (List.cons_ne_nil a t) (hs ▸ hse) _
  | nil =>
    rcases hp with hp | ⟨e, hp, hew⟩
    · rw [hp, hv]
      cases errs with
      | cons a t => exact exit _ (List.cons_ne_nil a t) hve _
      | nil =>
        refine ⟨r, by simp [hx], hxr, ?_⟩
        rintro (h | ⟨_, h⟩ | ⟨_, h, h'⟩)
        · exact absurd rfl h
        · cases h
        · cases h; exact absurd rfl h'
    · rw [hp]
      exact exit [e] (List.cons_ne_nil e []) (by simpa using hew) _
/-- `pre = true` only adds constraints -/
theorem wfError_pre_imp (j : J) (h : wfError true j = true) : wfError false j = true := by
  cases j with
  | obj kvs =>
    simp only [wfError, Bool.and_eq_true] at h ⊢
    obtain ⟨⟨⟨⟨h1, h2⟩, h3⟩, h4⟩, h5⟩ := h
    refine ⟨⟨⟨⟨h1, h2⟩, h3⟩, ?_⟩, h5⟩
    revert h4
    cases J.get? kvs "path" with
    | none => simp
    | some v => cases v <;> simp
  | _ => simp [wfError] at h

theorem chain_located (hardened : Bool) (chain : List Bool) (p path : List PathSeg) :
    ∃ g, handleFieldErrorChain hardened chain { gqlPath := some (some p) } path = .collected g ∧
      g.path = some p := by
  induction chain generalizing path with
  | nil => exact ⟨_, rfl, rfl⟩
  | cons nn outer ih =>
    cases nn with
    | false => exact ⟨_, rfl, rfl⟩
    | true =>
      obtain ⟨g, hg, hp⟩ := ih path.dropLast
      exact ⟨g, by simpa [handleFieldErrorChain, locatedError, mkError] using hg, hp⟩

/-- the path under which an exception surfaces: its own if it is an already located `GraphQLError`,
else the path of the field whose resolver raised -/
def surfacePath (e : Exn) (path : List PathSeg) : List PathSeg :=
  match e.isException, e.gqlPath with
  | true, some (some p) => p
  | _, _ => path

theorem locatedInner_some {e : Exn} {path : List PathSeg} {g : GErr} (h : locatedInner e path = some g) :
    g = mkError path (e.extensions = .good) := by
  unfold locatedInner at h
  split at h
  · simp only [Option.some.injEq] at h; exact h.symm
  · simp at h

theorem attrsOk_of_wellTyped {e : Exn} (hw : e.WellTyped) : attrsOk e = true := by
  obtain ⟨h1, h2, h3, h4, h5, h6⟩ := hw
  have ha : ∀ a : Attr, a = .missing ∨ a = .good → attrOk a = true := fun a h => by
    simpa [attrOk] using h
  have hm : msgOk e = true := by rcases h2 with h | h <;> simp [msgOk, h, h1]
  simp [attrsOk, hm, ha _ h3, ha _ h4, ha _ h5, ha _ h6]

theorem locatedError_fresh (hardened : Bool) (e : Exn) (path : List PathSeg) (hpath : path ≠ [])
    (hexc : e.isException = true) (hg : ∀ p, e.gqlPath ≠ some (some p))
    (hok : hardened = true ∨ attrsOk e = true) :
    ∃ g, locatedError hardened e path = .ret g ∧ g.path = some path := by
  have hmk : ∀ b, (mkError path b).path = some path := by intro b; simp [mkError, hpath]
  unfold locatedError
  simp only [hexc, ↓reduceIte]
  rcases hgp : e.gqlPath with _ | _ | p
  case some.some => exact absurd hgp (hg p)
  all_goals
    cases hin : locatedInner e path with
    | some g => exact ⟨g, rfl, by rw [locatedInner_some hin]; exact hmk _⟩
    | none =>
      rcases hok with rfl | hw
      · exact ⟨_, rfl, hmk _⟩
      · simp [locatedInner, hw] at hin

/-- a non-exception is first wrapped into a `TypeError` -/
theorem locatedError_nonException (hardened : Bool) (e : Exn) (path : List PathSeg)
    (h : e.isException = false) : locatedError hardened e path = locatedError hardened {} path := by
  simp [locatedError, h]

theorem chain_collects (hardened : Bool) (e : Exn) (nn : Bool) (outer : List Bool) (path : List PathSeg)
    (hpath : path ≠ []) (hok : hardened = true ∨ e.WellTyped) :
    ∃ g, handleFieldErrorChain hardened (nn :: outer) e path = .collected g ∧
      g.path = some (surfacePath e path) := by
  -- the error `located_error` returns at the field itself
  have hloc : ∃ g, locatedError hardened e path = .ret g ∧ g.path = some (surfacePath e path) := by
    cases hexc : e.isException with
    | false =>
      rw [locatedError_nonException hardened e path hexc,
        show surfacePath e path = path by simp [surfacePath, hexc]]
      exact locatedError_fresh hardened {} path hpath rfl (by intro p; simp) (Or.inr (by decide))
    | true =>
      by_cases hg : ∃ p, e.gqlPath = some (some p)
      · obtain ⟨p, hg⟩ := hg
        exact ⟨{ (mkError p false) with path := some p }, by simp [locatedError, hexc, hg],
          by simp [surfacePath, hexc, hg]⟩
      · have : surfacePath e path = path := by
          unfold surfacePath
          split
          · next p _ h => exact absurd ⟨p, h⟩ hg
          · rfl
        rw [this]
        exact locatedError_fresh hardened e path hpath hexc (fun p h => hg ⟨p, h⟩)
          (hok.imp id attrsOk_of_wellTyped)
  obtain ⟨g, hg, hp⟩ := hloc
  cases nn with
  | false => exact ⟨g, by simp [handleFieldErrorChain, hg], hp⟩
  | true =>
    obtain ⟨g', hg', hp'⟩ := chain_located hardened outer (surfacePath e path) path.dropLast
    refine ⟨g', ?_, hp'⟩
    simp only [handleFieldErrorChain, hg, ↓reduceIte, hp]
    exact hg'

end Gql.Request
