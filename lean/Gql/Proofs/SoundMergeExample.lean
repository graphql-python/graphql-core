import Gql.Proofs.SoundFullWitness
import Gql.Proofs.SoundMergeRule
import Gql.Proofs.SoundBlame

/-!
C13 — a concrete instance of the hypotheses of `soundness_partial₄` in which the merge rule matters:
two different fields share a response key under different object parent types, inside a value of an
object type that implements an interface.
-/

namespace Gql.Exec.Valid.MergeWitness
open Gql Gql.Exec Gql.Exec.Valid Gql.Exec.Valid.Example

/-- `interface I { foo: String bar: String }`, `A` and `B` implement it, `Query { a: A }` -/
def wS : Schema :=
  { query := "Query", mutation := none,
    types := [
      .object "Query" [] [⟨"a", [], .named "A" false⟩],
      .iface "I" [] [⟨"foo", [], .named "String" false⟩, ⟨"bar", [], .named "String" false⟩],
      .object "A" ["I"] [⟨"foo", [], .named "String" false⟩, ⟨"bar", [], .named "String" false⟩],
      .object "B" ["I"] [⟨"foo", [], .named "String" false⟩, ⟨"bar", [], .named "String" false⟩]] }

def fooSel : Selection := .field (some "x") "foo" [] [] []
def barSel : Selection := .field (some "x") "bar" [] [] []
def aSels : List Selection := [fooSel, .inline (some "I") [] [.inline (some "B") [] [barSel]]]

/-- `{ a { x: foo ... on I { ... on B { x: bar } } } }` -/
def wOp : Operation :=
  { kind := .query, name := none, vars := [], sels := [.field none "a" [] [] aSels] }

def wDoc : Doc := { ops := [wOp], frags := [] }

def wCx : Spec.Ctx := { ops := exOps, schema := wS, doc := wDoc, vars := [] }

def wRoot : RVal := .obj .missing (fun _ _ => .obj .missing (fun _ _ => .null))

theorem wS_sub (i o : Name) (h : wS.isSubType i o = true) : i = "I" ∧ (o = "A" ∨ o = "B") := by
  unfold Schema.isSubType at h
  cases hl : wS.lookup i with
  | none => simp [hl] at h
  | some d =>
    rcases lookup_name wS i d hl with ⟨hm, hn⟩ | hm
    · simp only [wS, List.mem_cons, List.mem_nil_iff, or_false] at hm
      rcases hm with rfl | rfl | rfl | rfl <;> simp only [hl] at h <;> try (cases h)
      simp only [TypeDef.name] at hn
      subst hn
      refine ⟨rfl, ?_⟩
      cases hl2 : wS.lookup o with
      | none => simp [hl2] at h
      | some d2 =>
        rcases lookup_name wS o d2 hl2 with ⟨hm2, hn2⟩ | hm2
        · simp only [wS, List.mem_cons, List.mem_nil_iff, or_false] at hm2
          rcases hm2 with rfl | rfl | rfl | rfl <;> simp only [hl2] at h <;> simp only [TypeDef.name] at hn2
          · simp at h
          · simp at h
          · exact Or.inl hn2.symm
          · exact Or.inr hn2.symm
        · subst hm2; simp [hl2] at h
    · subst hm; simp [hl] at h

theorem wHyps : SoundHyps exOps wS :=
  exOps_hyps wS rfl fun i o name fd h _ hg => by
    have h1 : wS.lookup "I" = some (.iface "I" [] [⟨"foo", [], .named "String" false⟩, ⟨"bar", [], .named "String" false⟩]) := rfl
    simp only [getFieldAny] at hg
    obtain ⟨rfl, rfl | rfl⟩ := wS_sub i o h <;> rw [h1] at hg <;> exact hg

theorem wConf : Conforms exOps wS (.named "Query" true) wRoot :=
  conforms_obj "Query" (by decide) rfl <| by
    simp only [List.forall_mem_cons, List.not_mem_nil, false_imp_iff, implies_true, and_true]
    exact fun _ => conforms_obj "A" (by decide) rfl (by simp [Conforms, TypeRef.nonNull])

theorem wVarsOk : VarsOk wOp.vars [] := by intro vd hvd; simp [wOp] at hvd
theorem wVarsTyped : VarsTyped wS wOp.vars [] := by intro vd hvd; simp [wOp] at hvd
theorem wOpsV : OpsSoundV exOps wS wOp.vars [] := exOps_soundV _ _ _

end Gql.Exec.Valid.MergeWitness
