import Gql.Text.Lexer
/-
`BlockRepresentable v`: the explicit, decidable description of the values a GraphQL block
string literal can denote (specification §2.9.4, `BlockStringValue`): the value is empty, or
  * it contains no carriage return (every CR in the raw text is a line terminator and is
    normalised to LF),
  * its first and its last line are not blank (blank = spaces and tabs only; leading and trailing
    blank lines are removed),
  * it is a single line, or some non-blank line has no leading space/tab (the common indentation
    has been removed).
`Gql/Proofs/BlockForced2.lean` proves that every value the lexer produces satisfies it;
`Gql/Proofs/BlockRoundtrip.lean` proves that every such value is printed to a literal that
lexes back to it.  So the predicate is forced, not chosen.
-/
namespace Gql.Text

/-- Split at LF only (the value of a block string never contains CR). -/
def splitLF : List Nat → List (List Nat)
  | [] => [[]]
  | c :: rest =>
    if c = 10 then [] :: splitLF rest
    else
      match splitLF rest with
      | l :: ls => (c :: l) :: ls
      | [] => [[c]]

/-- A line that `dedent_block_string_lines` treats as empty: spaces and tabs only. -/
def isBlankLine (l : List Nat) : Bool := leadingWhiteSpace l == l.length

/-- A non-blank line without leading white space. -/
def startsUnindented : List Nat → Bool
  | [] => false
  | c :: _ => !(c = 32 || c = 9)

def blockRepresentableLines (ls : List (List Nat)) : Bool :=
  match ls.head?, ls.getLast? with
  | some first, some last =>
    !isBlankLine first && !isBlankLine last && (ls.length == 1 || ls.any startsUnindented)
  | _, _ => false

def blockRepresentable (v : List Nat) : Bool :=
  v == [] || (!v.contains 13 && blockRepresentableLines (splitLF v))

/-- The decidable predicate used as the hypothesis of `block_roundtrip`. -/
def BlockRepresentable (v : List Nat) : Prop := blockRepresentable v = true

instance (v : List Nat) : Decidable (BlockRepresentable v) := by
  unfold BlockRepresentable; infer_instance

end Gql.Text
