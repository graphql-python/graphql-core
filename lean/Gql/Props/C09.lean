import Gql.Proofs.LexerBasic
import Gql.Proofs.LexerGrammar
import Gql.Proofs.LexerBlock
import Gql.Proofs.GapReplace
import Gql.Proofs.StripProofs
import Gql.Proofs.SpecLex
import Gql.Proofs.C09Misc
/-!
# C09 — Ignored tokens are ignored: layout changes never change the token stream or AST

Property theorems only.  Models: `Gql.Text.lexAll` / `readNextToken` (lexer.py, index-based,
crash-faithful), `Gql.Text.stripIgnoredCharacters` (strip_ignored_characters.py),
`Gql.Text.advanceAll` (the counter of `Parser.advance_lexer`).  Specification:
`Gql.Spec.Lex` — the lexical grammar of spec §2.1 as suffix recognisers per class, the executable
`specTokenize`, and the relation `SpecTokens` ("tokens in order, every gap consists of Ignored
items only, every token is the longest match at its position, then `<EOF>`").

`sig` maps a model token to (kind, start, stop, value); `kv` keeps kinds and values only.

Status: clause 1 (lexer = grammar), the gap clause and clause 3 (gap replacement with prefix
stability) are proved for every text and every token class (Ignored, Punctuator, Name, IntValue,
FloatValue, StringValue with the three escape forms and the surrogate-pair rule, BlockString with
`BlockStringValue()`).  `strip_tokens` / `strip_idem` are proved at full strength (`strip_tokens :
strip_tokens_full`, `strip_idem : strip_idem_full`): for every source text that lexes, including
texts with verbatim surrogate pairs (a leading surrogate immediately followed by a trailing one)
inside strings, block strings and comments; the `_partial` forms (scalar values only) are
corollaries.
-/
namespace Gql.Props.C09
open Gql Gql.Text Gql.Spec.Lex Gql.Text.Pairs

/-! ## Clause 0 — the lexer is total and makes progress (needed by everything else, and by C01) -/

/-- `read_next_token` never raises anything but a syntax error: every subscript is guarded. -/
theorem lex_no_crash (body : List Nat) (st : LexState) (pos : Nat) :
    ¬ (readNextToken body st pos).isCrash := Gql.Text.lex_no_crash body st pos

/-- A token read at `pos ≤ |body|` starts at or after `pos`; a non-EOF token has
`start < stop ≤ |body|`; the EOF token is `(|body|, |body|)`. -/
theorem lex_progress (body : List Nat) (st st' : LexState) (pos : Nat) (t : Token)
    (hp : pos ≤ body.length) (h : readNextToken body st pos = .ok (t, st')) :
    pos ≤ t.start ∧ (t.kind ≠ .eof → t.start < t.stop ∧ t.stop ≤ body.length) ∧
    (t.kind = .eof → t.start = body.length ∧ t.stop = body.length) :=
  Gql.Text.lex_progress body st st' pos t hp h

/-- The whole-text driver never crashes: the fuel `|body| + 2` is never exhausted. -/
theorem lexAll_no_crash (body : List Nat) : ¬ (lexAll body).isCrash := Gql.Text.lexAll_no_crash body

example : ¬ (readNextToken [34, 92] {} 0).isCrash := lex_no_crash _ _ _

/-! ## Clause 1 — the tokens are exactly those of the lexical grammar -/

/-- The executable specification tokenizer decides the token-sequence relation of the grammar. -/
theorem specTokenize_iff_SpecTokens (body : List Nat) (ts : List SpecToken) :
    specTokenize body = some ts ↔ SpecTokens body ts := specTokenize_iff body ts

/-- Clause 1, for every text: the lexer returns tokens `ts` exactly when the grammar's token
sequence is `sig ts` (same kinds, spans and values, for every token class including both string
forms), and it raises a syntax error exactly when the text has no token sequence. -/
theorem lexer_eq_grammar (body : List Nat) :
    (∀ ts, lexAll body = .ok ts → specTokenize body = some (sig ts)) ∧
    (∀ e, lexAll body = .err e → specTokenize body = none) ∧
    (∀ ss, specTokenize body = some ss → ∃ ts, lexAll body = .ok ts ∧ sig ts = ss) ∧
    (specTokenize body = none → ∃ e, lexAll body = .err e) := by
  have h := lexAll_agree_all body
  refine ⟨?_, ?_, ?_, ?_⟩
  · intro ts hts; rw [hts] at h; exact h
  · intro e he; rw [he] at h; exact h
  · exact fun ss hss => lexAll_of_SpecTokens body ss ((specTokenize_iff body ss).mp hss)
  · intro hn
    cases hl : lexAll body with
    | ok ts => rw [hl] at h; rw [hn] at h; exact absurd h (by simp [LexAgree])
    | err e => exact ⟨e, rfl⟩
    | crash c => rw [hl] at h; exact h.elim

/-- Clause 1 in relational form: the tokens of a text that lexes form a derivation of the
grammar's token-sequence relation, and every derivation is what the lexer returns. -/
theorem lexer_eq_SpecTokens (body : List Nat) :
    (∀ ts, lexAll body = .ok ts → SpecTokens body (sig ts)) ∧
    (∀ ss, SpecTokens body ss → ∃ ts, lexAll body = .ok ts ∧ sig ts = ss) :=
  ⟨SpecTokens_of_lexAll body, lexAll_of_SpecTokens body⟩

-- a string with all three escape forms and a surrogate pair, and a block string with indentation
example : specTokenize [34, 92, 110, 92, 117, 48, 48, 52, 49, 92, 117, 123, 49, 70, 54, 48, 48, 125,
      92, 117, 68, 56, 51, 68, 92, 117, 68, 69, 48, 48, 34] =
    some [⟨.string, 0, 31, some [10, 65, 0x1F600, 0x1F600]⟩, ⟨.eof, 31, 31, none⟩] := by decide
example : specTokenize [34, 34, 34, 10, 32, 32, 97, 10, 32, 32, 32, 98, 92, 34, 34, 34, 10, 32, 34, 34, 34] =
    some [⟨.blockString, 0, 21, some [97, 10, 32, 98, 34, 34, 34]⟩, ⟨.eof, 21, 21, none⟩] := by decide
-- a lone surrogate escape, an unpaired lead surrogate, a 9-digit braced escape are not strings
example : specTokenize [34, 92, 117, 68, 56, 48, 48, 34] = none ∧
    specTokenize [34, 92, 117, 123, 48, 48, 48, 48, 48, 48, 48, 52, 49, 125, 34] = none := by decide

-- `{a -1.5e3 ...,}` : the hypotheses hold and the grammar gives five tokens and EOF
example : 34 ∉ [123, 97, 32, 45, 49, 46, 53, 101, 51, 32, 46, 46, 46, 44, 125] ∧
    specTokenize [123, 97, 32, 45, 49, 46, 53, 101, 51, 32, 46, 46, 46, 44, 125] =
      some [⟨.braceL, 0, 1, none⟩, ⟨.name, 1, 2, some [97]⟩, ⟨.float, 3, 9, some [45, 49, 46, 53, 101, 51]⟩,
            ⟨.spread, 10, 13, none⟩, ⟨.braceR, 14, 15, none⟩, ⟨.eof, 15, 15, none⟩] := by decide
-- `1.e3`, `1a`, `01`, `.5` are not in the language
example : specTokenize [49, 46, 101, 51] = none ∧ specTokenize [49, 97] = none ∧
    specTokenize [48, 49] = none ∧ specTokenize [46, 53] = none := by decide

/-! ## Clause 2 — spans are disjoint, ordered, in bounds; gaps contain Ignored items only -/

/-- For every text that lexes: no comment or SOF token is returned, every token is non-empty and
inside the text, each token starts at or after the end of the previous one (so spans are disjoint
and strictly ordered), and the last token is `<EOF>` at `(|body|, |body|)`. -/
theorem spans (body : List Nat) (ts : List Token) (h : lexAll body = .ok ts) :
    SpanChain body.length 0 ts :=
  (lexAll_run h).spans (Nat.zero_le _)

/-- The gap clause, for every text that lexes: the returned tokens with the text between them form
a derivation `Ignored* (Token Ignored*)* <EOF>` of the grammar (`SpecTokens`), i.e. every gap
between consecutive tokens, before the first and after the last consists of Ignored items only. -/
theorem gaps_ignored (body : List Nat) (ts : List Token) (h : lexAll body = .ok ts) :
    SpecTokens body (sig ts) := (lexer_eq_SpecTokens body).1 ts h

example : SpanChain 3 0 [⟨.braceL, 0, 1, 1, 1, none⟩, ⟨.braceR, 2, 3, 1, 3, none⟩, ⟨.eof, 3, 3, 1, 4, none⟩] := by
  simp [SpanChain]

/-! ## Clause 3 — rewriting the ignored material leaves kinds and values unchanged -/

/-- On the specification side, with no hypothesis: dropping (equivalently: inserting) a run of
Ignored items in front of a suffix changes no kind and no value of its token sequence. -/
theorem ignored_invariance_spec (t : List Nat) (k : Nat) (h : IgnoredRun t k) :
    (specTokenize t).map kv = (specTokenize (t.drop k)).map kv := by
  cases h1 : specTokenize t with
  | some ts =>
    obtain ⟨ts', h', hkv⟩ := (h.tokens_iff.1 ((specTokenize_iff t ts).mp h1)).shift 0
    rw [(specTokenize_iff _ ts').mpr h', Option.map_some, Option.map_some, hkv]
  | none =>
    cases h2 : specTokenize (t.drop k) with
    | none => rfl
    | some ts' =>
      obtain ⟨ts, h', _⟩ := ((specTokenize_iff _ ts').mp h2).shift (0 + k)
      rw [(specTokenize_iff t ts).mpr (h.tokens_iff.2 h')] at h1; cases h1

/-- Clause 3, gap replacement (with prefix stability): let `pre` end right after a token of the text
(or be empty), and let `G` be a run of Ignored items between `pre` and `post`.  Replacing `G` by
any other run of Ignored items `G'` that keeps the last token of `pre` separated from `post`
(`Inert (G' ++ post)`: `G'` non-empty, or `post` empty, or `post` starting with a code point that
cannot extend a token) gives a text that lexes to the same kinds and values — the tokens before
the gap and the tokens after it.  `G = []` is insertion, `G' = []` is removal. -/
theorem ignored_invariance (pre G G' post : List Nat) (ts : List Token)
    (h : lexAll (pre ++ (G ++ post)) = .ok ts)
    (hb : pre = [] ∨ ∃ t ∈ ts, t.kind ≠ .eof ∧ t.stop = pre.length)
    (hG : IgnoredRun (G ++ post) G.length) (hG' : IgnoredRun (G' ++ post) G'.length)
    (hI : Inert (G' ++ post)) :
    ∃ ts', lexAll (pre ++ (G' ++ post)) = .ok ts' ∧ kv (sig ts') = kv (sig ts) := by
  have hb' : pre = [] ∨ ∃ t ∈ sig ts, t.kind ≠ .eof ∧ t.stop = pre.length :=
    hb.imp_right fun ⟨t, ht, hk, hs⟩ => ⟨toSpec t, List.mem_map_of_mem ht, fun hk' => hk ((kindOf_eq_eof _).mp hk'), hs⟩
  obtain ⟨ss, hss, hkv⟩ := gap_replace pre G G' post (sig ts) (SpecTokens_of_lexAll _ ts h) hb' hG hG' hI
  obtain ⟨ts', hl, rfl⟩ := lexAll_of_SpecTokens _ ss hss
  exact ⟨ts', hl, hkv⟩

/-- Clause 3, insertion: inserting a run of Ignored items `g` (white space, commas, line
terminators, BOMs, comments — `IgnoredRun (g ++ post) g.length` says that `g` is such a run in
front of `post`, e.g. a comment must be closed by a line terminator of `g` or of `post`) right
after any token of a text that lexes, or in front of the text, leaves the kinds and values of
all tokens unchanged. -/
theorem ignored_insertion (pre g post : List Nat) (ts : List Token)
    (h : lexAll (pre ++ post) = .ok ts)
    (hb : pre = [] ∨ ∃ t ∈ ts, t.kind ≠ .eof ∧ t.stop = pre.length)
    (hg : IgnoredRun (g ++ post) g.length) :
    ∃ ts', lexAll (pre ++ (g ++ post)) = .ok ts' ∧ kv (sig ts') = kv (sig ts) := by
  by_cases hg0 : g = []
  · subst hg0; exact ⟨ts, by simpa using h, rfl⟩
  · exact ignored_invariance pre [] g post ts (by simpa using h) hb (.zero _) hg (hg.inert (List.length_pos_iff.2 hg0))

/-- Clause 3, rejection is preserved too: if the text with the run `g` inserted after a token
lexes, so does the text without it whenever `post` cannot extend that token (so a text that does
not lex is not repaired by inserting Ignored items at such a place, and conversely). -/
theorem ignored_removal (pre g post : List Nat) (ts : List Token)
    (h : lexAll (pre ++ (g ++ post)) = .ok ts)
    (hb : pre = [] ∨ ∃ t ∈ ts, t.kind ≠ .eof ∧ t.stop = pre.length)
    (hg : IgnoredRun (g ++ post) g.length) (hI : Inert post) :
    ∃ ts', lexAll (pre ++ post) = .ok ts' ∧ kv (sig ts') = kv (sig ts) := by
  have := ignored_invariance pre g [] post ts h hb hg (.zero _) (by simpa using hI)
  simpa using this

-- a BOM, a comment with its line terminator, a comma and a CR LF in front of `a`
example : IgnoredRun ([0xFEFF, 35, 120, 10, 44, 13, 10] ++ [97]) 7 :=
  .step (n := 1) (k := 6) (by decide) (.step (n := 2) (k := 4) (by decide)
    (.step (n := 1) (k := 3) (by decide) (.step (n := 1) (k := 2) (by decide)
      (.step (n := 2) (k := 0) (by decide) (.zero _)))))

/-! ## Clause 4 — strip_ignored_characters -/

/-- `strip_ignored_characters` rejects exactly the texts the lexer rejects, with the same error;
it never crashes. -/
theorem strip_rejects (s : List Nat) :
    (∀ e, lexAll s = .err e ↔ stripIgnoredCharacters s = .err e) ∧
    ¬ (stripIgnoredCharacters s).isCrash := by
  unfold stripIgnoredCharacters
  have hnc := Gql.Text.lexAll_no_crash s
  cases h : lexAll s with
  | ok ts => simp [Out.isCrash]
  | err e => simp [Out.isCrash]
  | crash c => rw [h] at hnc; simp [Out.isCrash] at hnc

/-- FULL STATEMENT: stripping preserves the token signature (block strings compared by value). -/
def strip_tokens_full : Prop :=
  ∀ s out ts, stripIgnoredCharacters s = .ok out → lexAll s = .ok ts →
    ∃ ts', lexAll out = .ok ts' ∧ kv (sig ts') = kv (sig ts)

/-- FULL STATEMENT: stripping is idempotent. -/
def strip_idem_full : Prop :=
  ∀ s out, stripIgnoredCharacters s = .ok out → stripIgnoredCharacters out = .ok out

/-- Ingredient of clause 4, lexer side: the value of every block string token of the grammar is
block-representable and is a sequence of Unicode scalar values and surrogate pairs (`Paired`: a
leading surrogate is immediately followed by a trailing one and every trailing one is so preceded) —
splitting the raw value at line terminators, removing the common indentation and dropping blank
lines never separates a pair. -/
theorem block_token_value (u : List Nat) (m : Match) (h : lexToken? u = some m)
    (hk : m.kind = .blockString) : ∃ v, m.value = some v ∧ BlockRepresentable v ∧ Paired v := by
  obtain ⟨v, hv, hrep, _, hp⟩ := lexToken?_block_value h hk
  exact ⟨v, hv, hrep, hp⟩

/-- Ingredient of clause 4, printer side: `print_block_string(v, minimize=True)` of a
block-representable value of scalar values and surrogate pairs, followed by any text, is read by
the grammar as one block string token with exactly that value (the C08 round trip extended from
scalar values to surrogate pairs). -/
theorem block_reprint (v rest : List Nat) (hs : Paired v) (hrep : BlockRepresentable v) :
    lexToken? (printBlockString v true ++ rest) =
      some ⟨.blockString, (printBlockString v true).length, some v⟩ :=
  lexToken?_printed_block v rest hs hrep

-- ` <pair>"""<LF><pair>` is such a value; a lone, a reversed and a separated pair are not `Paired`
example : Paired [32, 0xD83D, 0xDE00, 34, 34, 34, 10, 0xDBFF, 0xDFFF] ∧
    BlockRepresentable [32, 0xD83D, 0xDE00, 34, 34, 34, 10, 0xDBFF, 0xDFFF] := by decide
example : ¬ Paired [0xD83D] ∧ ¬ Paired [0xDE00, 0xD83D] ∧ ¬ Paired [0xD83D, 10, 0xDE00] := by decide

/-- `strip_tokens`, full statement, for every source text that lexes — Unicode scalar values
and verbatim surrogate pairs (a leading surrogate immediately followed by a trailing one, which the
lexer accepts inside strings, block strings and comments; lone surrogates do not lex): the stripped
text lexes, and to the same kinds and values (block strings are re-printed minimised and compared
by value).  The block-string part rests on `printBlockStringW_roundtrip_paired` (print then lex is
the identity on every representable value of scalar values and pairs) and on
`blockString?_value` (the value of a block string token is such a sequence: neither the line
split nor the removal of the common indentation separates a pair). -/
theorem strip_tokens : strip_tokens_full := by
  intro s out ts h hl
  obtain ⟨out', ts', h1, h2, h3, _⟩ := strip_correct s ts hl
  rw [h] at h1
  cases h1
  exact ⟨ts', h2, h3⟩

/-- `strip_idem`, full statement, for every source text (surrogate pairs included): stripping the
stripped text returns it unchanged. -/
theorem strip_idem : strip_idem_full := by
  intro s out h
  cases hl : lexAll s with
  | ok ts =>
    obtain ⟨out', ts', h1, _, _, h4⟩ := strip_correct s ts hl
    rw [h] at h1
    cases h1
    exact h4
  | err e => rw [((strip_rejects s).1 e).mp hl] at h; cases h
  | crash c => exact absurd (hl ▸ Gql.Text.lexAll_no_crash s) (by simp [Out.isCrash])

/-- `strip_tokens` restricted to source texts made of Unicode scalar values (a corollary of
`strip_tokens`). -/
theorem strip_tokens_partial (s out : List Nat) (ts : List Token) (_hs : ∀ c ∈ s, isScalar c = true)
    (h : stripIgnoredCharacters s = .ok out) (hl : lexAll s = .ok ts) :
    ∃ ts', lexAll out = .ok ts' ∧ kv (sig ts') = kv (sig ts) := strip_tokens s out ts h hl

/-- `strip_idem` restricted to source texts made of Unicode scalar values (corollary of
`strip_idem`). -/
theorem strip_idem_partial (s out : List Nat) (_hs : ∀ c ∈ s, isScalar c = true)
    (h : stripIgnoredCharacters s = .ok out) : stripIgnoredCharacters out = .ok out :=
  strip_idem s out h

-- `{ a ...b }` consists of scalar values: the two theorems apply to it
example : ∀ c ∈ [123, 32, 97, 32, 46, 46, 46, 98, 32, 125], isScalar c = true := by decide

-- a text with verbatim surrogate pairs (U+D83D U+DE00) in a block string (indented second line),
-- in a comment and in a string is in the language, so it lexes and the two theorems apply to it:
-- `"""<LF>  <pair>a<LF>   <pair>""" #<pair><LF>"<pair>"`
example : ∃ ts out ts', lexAll [34, 34, 34, 10, 32, 32, 0xD83D, 0xDE00, 97, 10, 32, 32, 32, 0xD83D, 0xDE00,
      34, 34, 34, 32, 35, 0xD83D, 0xDE00, 10, 34, 0xD83D, 0xDE00, 34] = .ok ts ∧
    stripIgnoredCharacters [34, 34, 34, 10, 32, 32, 0xD83D, 0xDE00, 97, 10, 32, 32, 32, 0xD83D, 0xDE00,
      34, 34, 34, 32, 35, 0xD83D, 0xDE00, 10, 34, 0xD83D, 0xDE00, 34] = .ok out ∧
    lexAll out = .ok ts' ∧ kv (sig ts') = kv (sig ts) ∧
    sig ts = [⟨.blockString, 0, 18, some [0xD83D, 0xDE00, 97, 10, 32, 0xD83D, 0xDE00]⟩,
      ⟨.string, 23, 27, some [0xD83D, 0xDE00]⟩, ⟨.eof, 27, 27, none⟩] := by
  obtain ⟨ts, hts, hsig⟩ := (lexer_eq_grammar _).2.2.1 _ (show specTokenize [34, 34, 34, 10, 32, 32,
      0xD83D, 0xDE00, 97, 10, 32, 32, 32, 0xD83D, 0xDE00, 34, 34, 34, 32, 35, 0xD83D, 0xDE00, 10,
      34, 0xD83D, 0xDE00, 34] = some [⟨.blockString, 0, 18, some [0xD83D, 0xDE00, 97, 10, 32, 0xD83D, 0xDE00]⟩,
      ⟨.string, 23, 27, some [0xD83D, 0xDE00]⟩, ⟨.eof, 27, 27, none⟩] by decide)
  obtain ⟨out, ts', h1, h2, h3, _⟩ := strip_correct _ ts hts
  exact ⟨ts, out, ts', hts, h1, h2, h3, hsig⟩
-- a lone leading surrogate in a block string is not in the language
example : specTokenize [34, 34, 34, 0xD83D, 34, 34, 34] = none := by decide

example : (∃ e, lexAll [49, 97] = .err e) := by
  have := (lexer_eq_grammar [49, 97]).2.2.2 (by decide)
  exact this

/-! ## Clause 5 — the token limit -/

/-- The counter of `advance_lexer` over a token stream: with `max_tokens = n` all tokens are
accepted exactly when the stream has at most `n` significant tokens, the final counter
(`document.token_count`) is that number, and without a limit everything is accepted. -/
theorem token_limit (n : Nat) (ts : List Token) :
    (sigCount ts ≤ n → advanceAll (some n) ts 0 = .ok (sigCount ts)) ∧
    (n < sigCount ts → ∃ p, advanceAll (some n) ts 0 = .err p) ∧
    advanceAll none ts 0 = .ok (sigCount ts) := by
  have h := advanceAll_some_ok n ts 0 (by omega)
  refine ⟨?_, ?_, ?_⟩
  · intro hle; simpa using h.1 (by omega)
  · intro hlt; exact h.2 (by omega)
  · simpa using advanceAll_none ts 0

example : sigCount [⟨.braceL, 0, 1, 1, 1, none⟩, ⟨.braceR, 2, 3, 1, 3, none⟩, ⟨.eof, 3, 3, 1, 4, none⟩] = 2 ∧
    advanceAll (some 1) [⟨.braceL, 0, 1, 1, 1, none⟩, ⟨.braceR, 2, 3, 1, 3, none⟩, ⟨.eof, 3, 3, 1, 4, none⟩] 0 = .err 2 := by
  decide

end Gql.Props.C09
