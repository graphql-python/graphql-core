/-
C02 — Execution computes exactly what the specification's algorithm computes.

Models: `Gql/Exec/ImplExec.lean` (the synchronous executor, state and exceptions explicit) and
`Gql/Exec/SpecExec.lean` (GraphQL October 2021 §6 as pure structural recursion).  Both are
parametric in the value layer `Ops` (leaf output coercion, literal input coercion — C15/C16); the
only law needed is `OpsOk` (a variable without a runtime value is not coercible at a Non-Null
type), which the driver's instance satisfies (`concrete_ops_ok`).

All statements are for every schema, document, operation name, coerced variable values and data
graph (`RVal`, whose object nodes are arbitrary resolver *functions*) — no size bound, no
validity hypothesis (validation only matters for the reading of the spec's silent points, see the
header of SpecExec.lean).
-/
import Gql.Proofs.ExecProps
import Gql.Proofs.SpecLog
import Gql.Proofs.SpecNulls

namespace Gql.Props.C02
open Gql Gql.Exec Gql.Exec.Refine

/-- **C02-1 (refinement).** The implementation model's response — `data` with its keys in order,
the ordered list of errors (path and kind), and the resolver call log — equals the response of
the specification's algorithm.  In particular the model never crashes: the `IndexError` on an
empty field group and the exhaustion of the fragment-recursion fuel are unreachable, and the
ancestor filter of `CollectedErrors.add` never drops an error. -/
theorem impl_eq_spec (ops : Ops) (hops : OpsOk ops) (s : Schema) (doc : Doc)
    (opName : Option Name) (vars : Vars) (root : RVal) :
    (Impl.executeRequest ops s doc opName vars root []).1 =
      .ok (Spec.executeRequest ops s doc opName vars root) := by
  obtain ⟨dm', _, h⟩ := executeRequest_refines ops hops s doc opName vars root []
    (by intro e he; cases he)
  rw [h]

/-- C02-1, crash freedom spelled out. -/
theorem impl_no_crash (ops : Ops) (hops : OpsOk ops) (s : Schema) (doc : Doc)
    (opName : Option Name) (vars : Vars) (root : RVal) :
    (Impl.executeRequest ops s doc opName vars root []).1.isCrash = false := by
  rw [impl_eq_spec ops hops]; rfl

/-- Termination of CollectFields on every document (fragment cycles included): the fuel
`doc.frags.length + 1` is never exhausted; the measure is the number of unvisited fragment
definitions. -/
theorem collect_terminates (scx : Spec.Ctx) (rt : Name) (sels : List Selection) (c : String) :
    Spec.collectFields scx rt sels ≠ .crash c :=
  collectFields_noCrash scx rt sels c

/-- **C02-4 (history independence).** Running any list of requests one after the other on the
same schema, threading the only state that survives a request (the memo of coerced argument
defaults), gives exactly the responses each request gives from the initial state.  (Within a
request the sub-selection memo is covered by `impl_eq_spec`: every memo entry equals
recomputation, `collectSubfieldsM_spec`.) -/
theorem history_independent (ops : Ops) (hops : OpsOk ops) (s : Schema) (rs : List Impl.Request) :
    Impl.runAll ops s rs [] =
      rs.map (fun r => (Impl.executeRequest ops s r.doc r.opName r.vars r.root []).1) := by
  rw [runAll_eq ops hops s rs [] (by intro e he; cases he)]
  apply List.map_congr_left
  intro r _
  rw [impl_eq_spec ops hops]

/-- **C02-3 (arguments).** Every resolver invocation of the implementation model — the call log
is, entry by entry, the specification's depth-first invocation sequence (`impl_eq_spec`) — is an
invocation of a field defined on its parent type and carries exactly
`CoerceArgumentValues(fieldDefinition, arguments of a field node of that name, variableValues)`:
defaults for absent arguments and absent variables, variable values, coerced literals. -/
theorem args_as_coerced (ops : Ops) (hops : OpsOk ops) (s : Schema) (doc : Doc)
    (opName : Option Name) (vars : Vars) (root : RVal) (resp : Resp)
    (h : (Impl.executeRequest ops s doc opName vars root []).1 = .ok resp) :
    resp.log = (Spec.executeRequest ops s doc opName vars root).log ∧
    ∀ c ∈ resp.log, ∃ (fdef : FieldDef) (node : FieldNode),
      s.getField c.parent c.field = some fdef ∧ node.name = c.field ∧
      Spec.coerceArgumentValues { ops := ops, schema := s, doc := doc, vars := vars }
        node.args fdef.args [] = some c.args := by
  rw [impl_eq_spec ops hops] at h
  cases h
  exact ⟨rfl, spec_calls_ok ops s doc opName vars root⟩

/-- **C02-3, second half (every field is invoked exactly once).**  The resolver invocations of a
request happen at pairwise distinct response positions: no field position is resolved twice
(response keys of a grouped field set are distinct, list indices are distinct, and a field's own
invocation precedes those below it). -/
theorem args_invoked_once (ops : Ops) (hops : OpsOk ops) (s : Schema) (doc : Doc)
    (opName : Option Name) (vars : Vars) (root : RVal) (resp : Resp)
    (h : (Impl.executeRequest ops s doc opName vars root []).1 = .ok resp) :
    (resp.log.map (·.path)).Nodup := by
  rw [impl_eq_spec ops hops] at h
  cases h
  exact executeRequest_log_nodup ops s doc opName vars root

/-- **C02-2 (nulls).** `data` and the ordered error list of the implementation model are the
specification's (a position is `null` exactly where the specification's algorithm nulls it, the
errors are exactly the specification's, in order); `data = null` only together with at least one
error; and the errors account for the nulled positions: for every error with a path, the longest
prefix of that path which is present in `data` holds `null` (the field itself when it is
nullable, else the nearest nullable ancestor, else `data`).  The last part is for data graphs
whose raising resolvers do not bring an error that already carries a foreign path
(`NoOwnPath`; such an error is reported under its own path by design). -/
theorem null_exactly_where_spec (ops : Ops) (hops : OpsOk ops) (s : Schema) (doc : Doc)
    (opName : Option Name) (vars : Vars) (root : RVal) (resp : Resp)
    (h : (Impl.executeRequest ops s doc opName vars root []).1 = .ok resp) :
    resp.data = (Spec.executeRequest ops s doc opName vars root).data ∧
    resp.errors = (Spec.executeRequest ops s doc opName vars root).errors ∧
    (resp.data = .null → resp.errors ≠ []) ∧
    (NoOwnPath root → ∀ e ∈ resp.errors, ∀ p, e.path = some p →
      ∃ q, q <+: p ∧ Json.at? resp.data q = some .null ∧
        ∀ q', q' <+: p → q.length < q'.length → Json.at? resp.data q' = none) := by
  rw [impl_eq_spec ops hops] at h
  cases h
  exact ⟨rfl, rfl, spec_null_has_error ops s doc opName vars root,
    fun hr => executeRequest_accounts ops s doc opName vars root hr⟩

/-! ### non-vacuity: a concrete schema, document and data graph (abstract type, list of non-null
items with a null inside, alias, fragment cycle) -/

def exSchema : Schema :=
  { query := "Query", mutation := none,
    types := [
      .object "Query" [] [⟨"node", [⟨"x", .named "Int" false, some (.int 5)⟩], .named "Node" false⟩],
      .iface "Node" [] [⟨"id", [], .named "ID" true⟩],
      .object "A" ["Node"] [⟨"id", [], .named "ID" true⟩, ⟨"ls", [], .list (.named "Int" true) false⟩]] }

def exDoc : Doc :=
  { ops := [{ kind := .query, name := none, vars := [],
              sels := [.field (some "n") "node" [] [] [.spread "F" [], .field none "id" [] [] []]] }],
    frags := [{ name := "F", cond := "A",
                sels := [.field none "ls" [] [] [], .spread "F" []] }] }

def exData : RVal :=
  .obj .missing (fun f args =>
    if f == "node" && ArgMap.beq args [("x", .int 5)] then
      .obj (.name "A") (fun g _ =>
        if g == "id" then .leaf (.int 7)
        else if g == "ls" then .list [.leaf (.int 1), .null]
        else .null)
    else .null)

def exResp : Resp := Spec.executeRequest Concrete.ops exSchema exDoc none [] exData

example : exResp.errors = [⟨some [.key "n", .key "ls", .idx 1], .nullNonNull⟩] := by decide
example : exResp.log.map (·.path) = [[.key "n"], [.key "n", .key "ls"], [.key "n", .key "id"]] := by
  decide
example : (exResp.log.map (·.args)).head?.map (ArgMap.beq [("x", PyVal.int 5)]) = some true := by
  decide
example : (Impl.executeRequest Concrete.ops exSchema exDoc none [] exData []).1 = .ok exResp :=
  impl_eq_spec Concrete.ops concrete_ops_ok exSchema exDoc none [] exData
example : (Impl.runAll Concrete.ops exSchema
    [⟨exDoc, none, [], exData⟩, ⟨exDoc, none, [], exData⟩] []).length = 2 := by
  simp [history_independent Concrete.ops concrete_ops_ok]

example : (exResp.log.map (·.path)).Nodup := by decide
/-- the error at `n.ls[1]` is accounted for: `n.ls` (the nearest nullable ancestor) is `null` -/
example : (match Json.at? exResp.data [.key "n", .key "ls"] with
    | some .null => true
    | _ => false) = true := by decide
example : NoOwnPath exData := by
  simp only [exData, NoOwnPath]
  intro name args
  split
  · simp only [NoOwnPath]
    intro g _
    split
    · simp [NoOwnPath]
    · split <;> simp [NoOwnPath, NoOwnPathL]
  · simp [NoOwnPath]

end Gql.Props.C02
