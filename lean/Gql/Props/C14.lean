import Gql.Proofs.OverlapTerm
import Gql.Proofs.OverlapNoFrag
import Gql.Proofs.OverlapLocal
import Gql.Proofs.OverlapHyps
import Gql.Proofs.OverlapNatural
import Gql.Proofs.OverlapIff
import Gql.Proofs.OverlapDfsBound
import Gql.Exec.SpecMergeIds
/-!
# C14 — Field-merge validation accepts exactly what the specification accepts

Property theorems only (lemmas: `Gql/Proofs/Overlap*.lean`).
Model: `Gql.Exec.Overlap` — `OverlappingFieldsCanBeMergedRule` as written, with both pair sets,
the per-selection-set cache and fuel-indexed recursion.  Spec: `Gql.Exec.Spec` —
FieldsInSetCanMerge / SameResponseShape over fragment-expanded sets (`SpecConflict`).

Proved here: the four structural lemmas, the *local* part of the equivalence
(`overlap_iff_partial`), the document-level equivalence for documents without fragment spreads
(`overlap_iff_nofrag`) and the **unrestricted** equivalence `overlap_iff : overlap_iff_full` —
every schema, every document: named fragments, cyclic spreads, one fragment reached under many
parents, both memo tables with their exclusivity flag, the per-selection-set cache.  The
three-way differential run of `checks/c14.py` ties the model to the Python code.

The executable oracle of that run, `Spec.specConflictB`, is proved to decide `Spec.SpecConflict`
(`specConflictB_total`, `specConflictB_iff`), hence `overlap_iff_oracle`: model of the rule and
oracle agree on every schema and document.
-/
namespace Gql.Props.C14
open Gql.Exec Gql.Exec.Overlap

/-- C14-a. `do_types_conflict` holds exactly when SameResponseShape fails on the two return
types: list and non-null wrappers must match level by level, scalar/enum leaves must be the same
type, a leaf never matches a composite, composites are left to the sub-selections. -/
theorem doTypesConflict_iff (a b : Ty) :
    doTypesConflict a b = true ↔ Spec.shapeConflict a b = true := by
  rw [doTypesConflict_eq_shapeConflict]

example : doTypesConflict (.list (.nonNull (.leaf "Int"))) (.list (.leaf "Int")) = true ∧
    doTypesConflict (.nonNull (.list (.comp "A"))) (.nonNull (.list (.comp "B"))) = false ∧
    doTypesConflict (.leaf "Int") (.comp "A") = true := by decide

/-- C14-b. `same_arguments` (values sorted by `sort_value_node`, then compared as printed) holds
exactly when the two argument lists are the same map from argument name to value, values taken
up to the order of input-object fields at every depth — for any linear order used as sort key
(`natural_comparison_key` is one), given unique argument / input-field names. -/
theorem sameArguments_iff {le : String → String → Bool} (hle : LinOrd le) (a b : Args)
    (ha : argsWF a = true) (hb : argsWF b = true) :
    sameArguments le a b = true ↔ Spec.argsEquiv a b = true := by
  rw [sameArguments_eq_argsEquiv hle a b ha hb]

/-- C14-b'. `natural_comparison_key` is a linear order on names, so C14-b holds of the rule's
actual sort key without further hypothesis. -/
theorem sameArguments_iff_natural (a b : Args) (ha : argsWF a = true) (hb : argsWF b = true) :
    sameArguments naturalLe a b = true ↔ Spec.argsEquiv a b = true :=
  sameArguments_iff naturalLe_linOrd a b ha hb

/-- `{x: 1, o: {a2: 1, a10: 2, a: [3, {b: 1, c: 2}]}}` against the same arguments in another order,
with the object keys permuted at both levels; and a different nested value. -/
example :
    let a : Args := [("x", .leaf "1"), ("o", .obj [("a2", .leaf "1"), ("a10", .leaf "2"),
      ("a", .list [.leaf "3", .obj [("b", .leaf "1"), ("c", .leaf "2")]])])]
    let b : Args := [("o", .obj [("a", .list [.leaf "3", .obj [("c", .leaf "2"), ("b", .leaf "1")]]),
      ("a10", .leaf "2"), ("a2", .leaf "1")]), ("x", .leaf "1")]
    let c : Args := [("o", .obj [("a", .list [.leaf "3", .obj [("c", .leaf "1"), ("b", .leaf "2")]]),
      ("a10", .leaf "2"), ("a2", .leaf "1")]), ("x", .leaf "1")]
    argsWF a = true ∧ argsWF b = true ∧ sameArguments naturalLe a b = true ∧
      Spec.argsEquiv a b = true ∧ sameArguments naturalLe a c = false ∧
      Spec.argsEquiv a c = false := by decide

/-- C14-c (`PairSet`). A `has(a, b, flag)` hit means: an entry for the unordered pair exists
whose comparison was at least as demanding as the one being skipped — every unmergeable pair the
specification can reach from a pair of fields checked the way the *skipped* comparison would
(`full = ¬flag`) it also reaches checked the way the *recorded* comparison was (`full = ¬r`).
In particular an entry recorded under "mutually exclusive" never answers a non-exclusive query. -/
theorem pairset_sound (σ : St) (a b : String) (flag : Bool) (h : σ.cmpHas a b flag = true) :
    ∃ r, assocGet σ.cmp (pairKey a b) = some r ∧ (r = true → flag = true) ∧
      ∀ (sc : Schema) (d : Doc) (x y : Spec.FieldInst) (st : Spec.State),
        Spec.Reach sc d ⟨x, y, !flag⟩ st → Spec.direct sc st = true →
        ∃ st', Spec.Reach sc d ⟨x, y, !r⟩ st' ∧ Spec.direct sc st' = true :=
  flagHas_sound h

/-- C14-c (`OrderedPairSet`, fields × fragment). Same statement for the ordered pair set. -/
theorem orderedPairset_sound (σ : St) (i : Nat) (k : String) (flag : Bool)
    (h : σ.cfpHas i k flag = true) :
    ∃ r, assocGet σ.cfp (i, k) = some r ∧ (r = true → flag = true) ∧
      ∀ (sc : Schema) (d : Doc) (x y : Spec.FieldInst) (st : Spec.State),
        Spec.Reach sc d ⟨x, y, !flag⟩ st → Spec.direct sc st = true →
        ∃ st', Spec.Reach sc d ⟨x, y, !r⟩ st' ∧ Spec.direct sc st' = true :=
  flagHas_sound h

/-- C14-c. The pair set is unordered, and after `add(a, b, r)` a query `has(·, ·, q)` in either
order is answered exactly when `r → q` (an exclusive entry does not satisfy a non-exclusive
query). -/
theorem pairset_add_has (σ : St) (a b : String) (r q : Bool) :
    ((σ.cmpAdd a b r).cmpHas a b q = true ↔ (r = true → q = true)) ∧
      (σ.cmpAdd a b r).cmpHas b a q = (σ.cmpAdd a b r).cmpHas a b q :=
  ⟨cmpHas_cmpAdd σ a b r q, cmpHas_comm _ b a q⟩

example : (({} : St).cmpAdd "F1()" "F2()" true).cmpHas "F2()" "F1()" false = false ∧
    (({} : St).cmpAdd "F1()" "F2()" true).cmpHas "F2()" "F1()" true = true ∧
    (({} : St).cmpAdd "F2()" "F1()" false).cmpHas "F1()" "F2()" true = true := by decide

/-- C14-d. The rule terminates on every document — cyclic fragment spreads included — within
recursion depth `fuelBound d = (memoCapacity d + 1) · (2 · depth d + 2)`: with that much fuel (or
more) the model never runs out.  Only hypothesis: selection-set identities are identities. -/
theorem terminates (le : String → String → Bool) (s : Schema) (d : Doc) (hU : d.IdsUnique)
    (n : Nat) (hn : fuelBound d ≤ n) : (implConflictsFuel le n s d).isSome = true :=
  implConflictsFuel_isSome le s d hU n hn

/-- `{ n { ...A ...B } } fragment A on N { n { ...B x: a } } fragment B on N { n { ...A x: b } }`:
mutually recursive fragments with a conflict that is only seen through the cycle. -/
def cyclicSchema : Schema :=
  [⟨"Query", .object, [("n", .comp "N")]⟩,
   ⟨"N", .object, [("a", .leaf "Int"), ("b", .leaf "Int"), ("n", .comp "N")]⟩]

def cyclicDoc : Doc :=
  [.op (some "Query") ⟨1, [.field 2 none "n" [] none true 3 [.spread "A", .spread "B"]]⟩,
   .frag ⟨"A", "N", ⟨4, [.field 5 none "n" [] none true 6
      [.spread "B", .field 7 (some "x") "a" [] none false 0 []]]⟩⟩,
   .frag ⟨"B", "N", ⟨8, [.field 9 none "n" [] none true 10
      [.spread "A", .field 11 (some "x") "b" [] none false 0 []]]⟩⟩]

example : cyclicDoc.IdsUnique := Doc.IdsNodup.unique (by unfold Doc.IdsNodup; decide)

example : (implConflicts cyclicSchema cyclicDoc).isSome = true ∧
    (implConflicts cyclicSchema cyclicDoc).map (·.length) = some 1 ∧
    Spec.specConflictB cyclicSchema cyclicDoc = some true := by decide +kernel

/-- C14-e (**partial**: the local step of `overlap_iff`).  For two field entries of which at most
one has a sub-selection — the leaves of the rule's comparison tree — `find_conflict` reports a
conflict iff the pair violates the specification's requirements on a pair (`Spec.direct`:
SameResponseShape on the return types, identical `@stream`, and — unless the parents are known
to be mutually exclusive — identical field names and identical arguments), and leaves the rule's
state unchanged.  "Known to be mutually exclusive" is the inherited flag or two different object
parent types, which is exactly ¬(`full` ∧ parents overlap) of the specification.

This is the local step on which `overlap_iff_nofrag` and `overlap_iff` are built
(`findConflict_direct` is its version with the sub-selection branch). -/
theorem overlap_iff_partial (env : Env) (hle : LinOrd env.le) (n : Nat) (parentExcl : Bool)
    (rn : String) (e1 e2 : FieldEntry) (σ : St)
    (h1 : e1.node.argsOK) (h2 : e2.node.argsOK)
    (hd1 : e1.defTy = Spec.fieldType env.s e1.parent e1.node.name)
    (hd2 : e2.defTy = Spec.fieldType env.s e2.parent e2.node.name)
    (hsub : (e1.node.hasSub && e2.node.hasSub) = false) :
    ∃ cs, findConflict env (n + 1) parentExcl rn e1 e2 σ = some (σ, cs) ∧
      (cs ≠ [] ↔ Spec.direct env.s ⟨e1.inst, e2.inst, !parentExcl⟩ = true) :=
  findConflict_local env hle n parentExcl rn e1 e2 σ h1 h2 hd1 hd2 hsub

/-- The target, unrestricted over schemas and documents (named fragments, cyclic spreads, one
fragment reached under many parents, both memo tables): the rule returns and reports at least one
conflict iff the specification finds an unmergeable pair.  Hypotheses are the ones of
`overlap_iff_nofrag` plus `KeysInj` (different spread names have different conflict keys — true
of GraphQL names, which contain no parenthesis: `keysInj_of_names`).  Without `NoTypename` the
statement is false for the code as it is (corpus witness `w04_typename_vs_int`, example below). -/
def overlap_iff_full : Prop :=
  ∀ (s : Schema) (d : Doc), d.IdsNodup → d.argsWF = true → d.NoTypename → RootsObject s d →
    LeafNoSub s d → KeysInj d →
    ∃ cs, implConflicts s d = some cs ∧ (cs ≠ [] ↔ ¬ Spec.specMergeable s d)

/-- C14 (**full**).  `overlap_iff_full` holds.

*Soundness* (`implConflictsFuel_sound`): by induction on the run (`run_of_eval`, `run_sound`),
every comparison the rule makes is between two fields of one expanded set of the specification,
in a mode the specification reaches; the memo tables only skip work.
*Completeness* (`implConflictsFuel_complete`): in a run that reports nothing, every memo entry
whose comparison has finished is *closed* — its body passed, relative to the tables — tables only
grow and pass predicates are monotone in them (`step_complete`, `run_complete`; entries of
comparisons still on the call stack are exempt until they return, which is what makes cyclic
spreads harmless); from closed
final tables and the passed visit of every selection set, no two fields of an expanded set
conflict (`no_uwconf`: induction on the size of the would-be conflict — spread paths and chain of
sub-selections — not on the fragment graph, so no acyclicity is needed).  A `has` hit under a
stored flag `r` for a query `q` requires `r → q`, and passing under `r` implies passing under `q`
(`PPass.weaken`): the exclusivity flag of the pair sets.
*Specification side*: the depth-first, shared-visited-set expansion collects exactly the fields
reachable through spreads (`expand_mem`, fuel = number of fragment definitions + 1 suffices), and
`SpecConflict` is an unordered notion (`specConflict_iff_uw`). -/
theorem overlap_iff : overlap_iff_full := by
  intro s d hI hA hT hR hL hK
  obtain ⟨cs, e, i⟩ := overlap_iff_le naturalLe naturalLe_linOrd s d hI hA hT hR hL hK
  refine ⟨cs, e, i.trans ?_⟩
  simp [Spec.specMergeable]

/-- C14-e (**documents without fragment spreads**).  For every schema and every document that
spreads no named fragment — inline fragments with and without type conditions, arbitrary nesting,
any number of operations (and unused fragment definitions) — the rule, run with its actual sort
key and the proved recursion bound, returns and reports at least one conflict **iff** the
specification's FieldsInSetCanMerge / SameResponseShape finds an unmergeable pair.

Hypotheses (each is what another validation rule or the parser guarantees):
selection-set identities pairwise different (`IdsNodup`, a document is a tree of distinct nodes),
unique argument / input-field names (`argsWF`), no `__typename` selection (`NoTypename`; without it
the statement is false for the code as it is, see the known finding below), operation roots are
object types (`RootsObject`), the specification never stops at a scalar pair with sub-selections
(`LeafNoSub`; follows from ScalarLeafs, `leafNoSub_of_scalarLeafs`).

A special case of `overlap_iff` above (without spreads `KeysInj` holds trivially), whose proof
covers: field-map (`collect_fields_and_fragment_spreads`, grouped by response name)
↔ the specification's expanded set; the visitor's `TypeInfo` parent types and the first-come
parent of the per-selection-set cache (equal after normalising non-composite types to `None`,
which is all the rule can observe); recursion into sub-selections with the inherited
"mutually exclusive" flag ↔ the specification's `full`/shape-only modes; the specification's
pairs *within* a merged sub-selection are found when that selection set is visited itself. -/
theorem overlap_iff_nofrag (s : Schema) (d : Doc) (hn : d.NoSpreads) (hI : d.IdsNodup)
    (hA : d.argsWF = true) (hT : d.NoTypename) (hR : RootsObject s d) (hL : LeafNoSub s d) :
    ∃ cs, implConflicts s d = some cs ∧ (cs ≠ [] ↔ ¬ Spec.specMergeable s d) :=
  overlap_iff s d hI hA hT hR hL hn.keysInj

/-- `LeafNoSub` follows from the ScalarLeafs rule (decidable on a concrete document). -/
theorem leafNoSub_of_scalarLeafs (s : Schema) (d : Doc) (hn : d.NoSpreads)
    (hs : ScalarLeafs s d) : LeafNoSub s d :=
  Gql.Exec.leafNoSub_of_scalarLeafs_gen hs

/-- `{ t { ... on T1 { f: a { x } } ... on T2 { f: b { x y: x } } } t { ... { ... on T1 { a { y: x } } } } }`
with `T1.a: A`, `T2.b: B`, `A.x: Int`, `B.x: String`: exclusive parents, so `f: a` / `f: b` may
differ, but the shapes of `x` (Int / String) may not. -/
def nofragSchema : Schema :=
  [⟨"Query", .object, [("t", .comp "U")]⟩, ⟨"U", .union, []⟩,
   ⟨"T1", .object, [("a", .comp "A")]⟩, ⟨"T2", .object, [("b", .comp "B")]⟩,
   ⟨"A", .object, [("x", .leaf "Int")]⟩, ⟨"B", .object, [("x", .leaf "String")]⟩]

def nofragDoc : Doc :=
  [.op (some "Query") ⟨1, [
    .field 2 none "t" [] none true 3
      [.inline (some "T1") 4 [.field 5 (some "f") "a" [] none true 6
          [.field 7 none "x" [] none false 0 []]],
       .inline (some "T2") 8 [.field 9 (some "f") "b" [] none true 10
          [.field 11 none "x" [] none false 0 [], .field 12 (some "y") "x" [] none false 0 []]]],
    .field 13 none "t" [] none true 14
      [.inline none 15 [.inline (some "T1") 16 [.field 17 none "a" [] none true 18
          [.field 19 (some "y") "x" [] none false 0 []]]]]]⟩]

example : nofragDoc.NoSpreads ∧ nofragDoc.IdsNodup ∧ nofragDoc.argsWF = true ∧
    nofragDoc.NoTypename ∧ RootsObject nofragSchema nofragDoc ∧
    ScalarLeafs nofragSchema nofragDoc := by
  refine ⟨by unfold Doc.NoSpreads; decide, by unfold Doc.IdsNodup; decide, by decide,
    by unfold Doc.NoTypename; decide, ?_, by unfold ScalarLeafs; decide⟩
  intro df hdf
  simp only [nofragDoc, List.mem_singleton] at hdf
  subst hdf
  exact Or.inr (by decide)

example : (implConflicts nofragSchema nofragDoc).map (·.length) = some 1 ∧
    Spec.specConflictB nofragSchema nofragDoc = some true := by decide +kernel

/-- `KeysInj` for documents whose spread names contain no `(`. -/
theorem keysInj_of_names (d : Doc) (h : ∀ n ∈ d.spreadNames, '(' ∉ n.toList) : KeysInj d :=
  Gql.Exec.keysInj_of_names h

/-- `LeafNoSub` follows from ScalarLeafs, also with fragments. -/
theorem leafNoSub_of_scalarLeafs_gen (s : Schema) (d : Doc) (hs : ScalarLeafs s d) :
    LeafNoSub s d := Gql.Exec.leafNoSub_of_scalarLeafs_gen hs

/-- the mutually recursive fragments of `cyclicDoc` satisfy every hypothesis of `overlap_iff` -/
example : cyclicDoc.IdsNodup ∧ cyclicDoc.argsWF = true ∧ cyclicDoc.NoTypename ∧
    RootsObject cyclicSchema cyclicDoc ∧ ScalarLeafs cyclicSchema cyclicDoc ∧
    KeysInj cyclicDoc := by
  refine ⟨by unfold Doc.IdsNodup; decide, by decide, by unfold Doc.NoTypename; decide, ?_,
    by unfold ScalarLeafs; decide, by unfold KeysInj; decide⟩
  intro df hdf
  simp only [cyclicDoc, List.mem_cons, List.not_mem_nil, or_false] at hdf
  rcases hdf with rfl | rfl | rfl
  · exact Or.inr (by decide)
  · trivial
  · trivial

/-! ### the executable oracle decides the specification -/

/-- C14-f (termination of the oracle).  `Spec.specConflictB` — the work-list depth-first search
over the specification's pairs that `checks/c14.py` runs through the driver as the oracle —
always answers: its fuel `Spec.specFuel` is never exhausted, for every schema and every document,
cyclic fragment spreads included.  (Every state is expanded at most once, there are at most
`2·F²` state keys for `F` field nodes, and a state has at most `(3F)²` successors because an
expanded merged set lists every fragment at most once.)  No hypothesis. -/
theorem specConflictB_total (s : Schema) (d : Doc) : (Spec.specConflictB s d).isSome = true :=
  specConflictB_isSome s d

/-- C14-f (soundness of the oracle).  Whenever the oracle answers "conflict", the specification
finds an unmergeable pair.  No hypothesis. -/
theorem specConflictB_sound (s : Schema) (d : Doc) (h : Spec.specConflictB s d = some true) :
    Spec.SpecConflict s d :=
  Gql.Exec.specConflictB_sound h

/-- C14-f (**the oracle decides the specification**).  For every schema and every document whose
field nodes carry pairwise different identities, `specConflictB` answers `some true` iff
`SpecConflict` holds (and `some false` otherwise, by `specConflictB_total`).

Hypothesis `FieldIdsNodup` (decidable): the search remembers expanded states by
`(id of field a, id of field b, full)`; `FieldNode.id` stands for the Python object identity of a
field node, and the serialiser of the check (`tools/c14_gen.py`, `Ser.fresh`) numbers the nodes of
the parsed document with one running counter, so the hypothesis holds of every case the driver
receives.  Without it the statement is false (`dupIdDoc` below): two different pairs with one key. -/
theorem specConflictB_iff (s : Schema) (d : Doc) (hF : d.FieldIdsNodup) :
    Spec.specConflictB s d = some true ↔ Spec.SpecConflict s d :=
  Gql.Exec.specConflictB_iff hF

/-- C14-f, the other answer: `some false` iff the specification accepts the document. -/
theorem specConflictB_false_iff (s : Schema) (d : Doc) (hF : d.FieldIdsNodup) :
    Spec.specConflictB s d = some false ↔ Spec.specMergeable s d := by
  have ht := specConflictB_total s d
  have hi := specConflictB_iff s d hF
  unfold Spec.specMergeable
  rw [← hi]
  cases h : Spec.specConflictB s d with
  | none => rw [h] at ht; cases ht
  | some b => cases b <;> simp

example : cyclicDoc.FieldIdsNodup ∧ nofragDoc.FieldIdsNodup := by decide

/-- C14 (**model of the rule = executable oracle**).  Under the hypotheses of `overlap_iff` and
pairwise different field identities, the rule returns and reports at least one conflict iff the
oracle `specConflictB` — the function the correspondence check evaluates on every generated
document — answers `some true`. -/
theorem overlap_iff_oracle (s : Schema) (d : Doc) (hI : d.IdsNodup) (hA : d.argsWF = true)
    (hT : d.NoTypename) (hR : RootsObject s d) (hL : LeafNoSub s d) (hK : KeysInj d)
    (hF : d.FieldIdsNodup) :
    ∃ cs, implConflicts s d = some cs ∧ (cs ≠ [] ↔ Spec.specConflictB s d = some true) := by
  obtain ⟨cs, e, i⟩ := overlap_iff s d hI hA hT hR hL hK
  refine ⟨cs, e, i.trans ?_⟩
  rw [specConflictB_iff s d hF]
  simp [Spec.specMergeable]

/-- `{ a: x  a: x  b: x  b: y }` with every field node given the identity 0: all other hypotheses
of `overlap_iff` hold, the rule and the specification reject (`b: x` / `b: y`), the search answers
`some false` because the pair `(b: x, b: y)` has the key of the harmless pair `(a: x, a: x)`. -/
def dupIdSchema : Schema := [⟨"Query", .object, [("x", .leaf "Int"), ("y", .leaf "Int")]⟩]

def dupIdDoc : Doc :=
  [.op (some "Query") ⟨1, [.field 0 (some "a") "x" [] none false 0 [],
    .field 0 (some "a") "x" [] none false 0 [], .field 0 (some "b") "x" [] none false 0 [],
    .field 0 (some "b") "y" [] none false 0 []]⟩]

example : ¬ dupIdDoc.FieldIdsNodup ∧ Spec.specConflictB dupIdSchema dupIdDoc = some false ∧
    (implConflicts dupIdSchema dupIdDoc).map (·.length) = some 1 ∧
    Spec.SpecConflict dupIdSchema dupIdDoc := by
  refine ⟨by decide, by decide +kernel, by decide +kernel, ?_⟩
  have h : (Spec.initStates dupIdSchema dupIdDoc).any (Spec.direct dupIdSchema) = true := by
    decide +kernel
  obtain ⟨st, hst, hd⟩ := List.any_eq_true.1 h
  exact ⟨st, hst, st, Spec.Reach.refl _, hd⟩

/-- `dupIdDoc` satisfies every hypothesis of `overlap_iff`: `FieldIdsNodup` cannot be dropped from
`specConflictB_iff` / `overlap_iff_oracle`. -/
example : dupIdDoc.IdsNodup ∧ dupIdDoc.argsWF = true ∧ dupIdDoc.NoTypename ∧
    RootsObject dupIdSchema dupIdDoc ∧ ScalarLeafs dupIdSchema dupIdDoc ∧ KeysInj dupIdDoc := by
  refine ⟨by unfold Doc.IdsNodup; decide, by decide, by unfold Doc.NoTypename; decide, ?_,
    by unfold ScalarLeafs; decide, by unfold KeysInj; decide⟩
  intro df hdf
  simp only [dupIdDoc, List.mem_singleton] at hdf
  subst hdf
  exact Or.inr (by decide)

/-! ### what the rule does for `__typename` (known finding `missed-conflict-typename-meta-field`) -/

/-- C14-g (**partial**: the local step for the meta field).  For two field entries as the rule
collects them (`field_def = parent_type.fields.get(name)`), at least one of them a `__typename`
selection, at most one with a sub-selection, in a schema that defines no field called
`__typename`: `find_conflict` reports a conflict **iff** the pair violates `directNoTypes` —
identical `@stream`, and, unless the parents are known to be mutually exclusive, identical names
and arguments.  The return types are never compared (`__typename` has no entry in any field
table, so its definition is `None`), whereas the specification also requires SameResponseShape
with `String!`:

  `Spec.direct = (return types conflict) ∨ directNoTypes`   (`direct_eq_types_or`).

So for pairs with a `__typename` field the rule reports exactly the specification's violations
other than the type requirement, and misses exactly the pairs whose only violation is
"`String!` against a different type" — the known finding.

Missing for the exact document-level statement (`overlap_iff_typename_full` below): the
induction of `overlap_iff` with entries whose definition is `None` instead of `String!`
(`known_facts` in `Proofs/OverlapFieldMap.lean` uses `NoTypename` exactly to identify `field_def`
with the specification's type). -/
theorem overlap_typename_local (env : Env) (hle : LinOrd env.le) (n : Nat) (parentExcl : Bool)
    (rn : String) (e1 e2 : FieldEntry) (σ : St)
    (h1 : e1.node.argsOK) (h2 : e2.node.argsOK) (hm : env.s.NoMetaField)
    (hn : e1.node.name = "__typename" ∨ e2.node.name = "__typename")
    (hd1 : e1.defTy = env.s.fieldDef e1.parent e1.node.name)
    (hd2 : e2.defTy = env.s.fieldDef e2.parent e2.node.name)
    (hsub : (e1.node.hasSub && e2.node.hasSub) = false) :
    ∃ cs, findConflict env (n + 1) parentExcl rn e1 e2 σ = some (σ, cs) ∧
      (cs ≠ [] ↔ directNoTypes env.s ⟨e1.inst, e2.inst, !parentExcl⟩ = true) ∧
      (Spec.direct env.s ⟨e1.inst, e2.inst, !parentExcl⟩ = true ↔
        cs ≠ [] ∨ Spec.typesConflict (Spec.fieldType env.s e1.parent e1.node.name)
          (Spec.fieldType env.s e2.parent e2.node.name) = true) := by
  obtain ⟨cs, e, i⟩ :=
    findConflict_local_meta env hle n parentExcl rn e1 e2 σ h1 h2 hm hn hd1 hd2 hsub
  refine ⟨cs, e, i, ?_⟩
  rw [direct_eq_types_or, i, Bool.or_eq_true]
  simp only [Spec.typesOf, Overlap.FieldEntry.inst]
  exact Or.comm

/-- `z` is a field name neither the schema nor the document uses -/
def _root_.Gql.Exec.FreshName (s : Schema) (d : Doc) (z : String) : Prop :=
  z ≠ "__typename" ∧ (∀ t ∈ s, ∀ f ∈ t.fields, f.1 ≠ z) ∧
    ∀ ss ∈ d.allSets, ∀ n ∈ selsFields ss.sels, n.name ≠ z

/-- The open target for `__typename` (**not proved**; exact characterisation of the rule with
`__typename` selections allowed).  The rule reports a conflict iff the specification finds an
unmergeable pair *when `__typename` is regarded as a field without return type* — formally, on
the document in which every `__typename` selection is renamed to a field `z` that neither schema
nor document uses (`Doc.hideMeta`, response names kept).  Equivalently, by `overlap_iff` applied
to the renamed document (which has no `__typename`): `implConflicts s d` and
`implConflicts s (d.hideMeta z)` are empty together.  `overlap_typename_local` is its local
step; the examples below check it on the known-finding document and on two documents where a
`__typename` pair is rejected for its names. -/
def overlap_iff_typename_full : Prop :=
  ∀ (s : Schema) (d : Doc) (z : String), d.IdsNodup → d.argsWF = true → s.NoMetaField →
    FreshName s d z → RootsObject s d → LeafNoSub s (d.hideMeta z) → KeysInj d →
    ∃ cs, implConflicts s d = some cs ∧ (cs ≠ [] ↔ Spec.SpecConflict s (d.hideMeta z))

/-- C14-g'' (reduction of the open target to one evaluation per document).  If the rule's model
gives equally empty results on `d` and on `d.hideMeta z`, and `d.hideMeta z` satisfies the
hypotheses of `overlap_iff` (it has no `__typename` as soon as `z ≠ "__typename"`), then on `d` —
`__typename` selections allowed — the rule reports a conflict iff the specification with
`__typename` hidden finds an unmergeable pair, iff the oracle run on `d.hideMeta z` says so.
The first hypothesis is decidable for a concrete document (`decide`, example below); the check
measures the resulting equivalence on every generated document that selects `__typename`
(driver output `T`, statistics `typename_blind_spec_agrees`). -/
theorem overlap_iff_typename_of_invariance (s : Schema) (d : Doc) (z : String)
    (hinv : (implConflicts s d).map (·.isEmpty) = (implConflicts s (d.hideMeta z)).map (·.isEmpty))
    (hI : (d.hideMeta z).IdsNodup) (hA : (d.hideMeta z).argsWF = true)
    (hT : (d.hideMeta z).NoTypename) (hR : RootsObject s (d.hideMeta z))
    (hL : LeafNoSub s (d.hideMeta z)) (hK : KeysInj (d.hideMeta z))
    (hF : (d.hideMeta z).FieldIdsNodup) :
    ∃ cs, implConflicts s d = some cs ∧
      (cs ≠ [] ↔ Spec.SpecConflict s (d.hideMeta z)) ∧
      (cs ≠ [] ↔ Spec.specConflictB s (d.hideMeta z) = some true) := by
  obtain ⟨cs', e', i'⟩ := overlap_iff s (d.hideMeta z) hI hA hT hR hL hK
  rw [e'] at hinv
  cases e : implConflicts s d with
  | none => rw [e] at hinv; cases hinv
  | some cs =>
    rw [e] at hinv
    have hemp : cs.isEmpty = cs'.isEmpty := by simpa using hinv
    have hne : cs ≠ [] ↔ cs' ≠ [] := by
      cases cs <;> cases cs' <;> simp_all
    have h1 : cs ≠ [] ↔ Spec.SpecConflict s (d.hideMeta z) := by
      rw [hne, i']; simp [Spec.specMergeable]
    exact ⟨cs, rfl, h1, by rw [specConflictB_iff s _ hF]; exact h1⟩

/-- C14-g'. The same local step for arbitrary looked-up definitions: the report is
"the looked-up return types conflict, or `directNoTypes`". -/
theorem overlap_local_defs (env : Env) (hle : LinOrd env.le) (n : Nat) (parentExcl : Bool)
    (rn : String) (e1 e2 : FieldEntry) (σ : St)
    (h1 : e1.node.argsOK) (h2 : e2.node.argsOK)
    (hsub : (e1.node.hasSub && e2.node.hasSub) = false) :
    ∃ cs, findConflict env (n + 1) parentExcl rn e1 e2 σ = some (σ, cs) ∧
      (cs ≠ [] ↔ (Spec.typesConflict e1.defTy e2.defTy ||
        directNoTypes env.s ⟨e1.inst, e2.inst, !parentExcl⟩) = true) :=
  findConflict_local_defs env hle n parentExcl rn e1 e2 σ h1 h2 hsub

/-- Known finding, machine-checked on the model: `{ t { ... on T1 { f: __typename } ... on T2 { f: i } } }`
(`i: Int`) — the rule reports nothing, the specification rejects (`String!` vs `Int`). -/
def typenameSchema : Schema :=
  [⟨"Query", .object, [("t", .comp "U")]⟩, ⟨"U", .union, []⟩,
   ⟨"T1", .object, [("i", .leaf "Int")]⟩, ⟨"T2", .object, [("i", .leaf "Int")]⟩]

def typenameDoc : Doc :=
  [.op (some "Query") ⟨1, [.field 2 none "t" [] none true 3
    [.inline (some "T1") 4 [.field 5 (some "f") "__typename" [] none false 0 []],
     .inline (some "T2") 6 [.field 7 (some "f") "i" [] none false 0 []]]]⟩]

example : implConflicts typenameSchema typenameDoc = some [] ∧
    Spec.specConflictB typenameSchema typenameDoc = some true := by decide +kernel

/-- the two entries of `typenameDoc` (`f: __typename` on `T1`, `f: i` on `T2`): exclusive
parents, no `@stream` — `directNoTypes` holds nothing against the pair, the specification's
`direct` does (`String!` / `Int`), the rule reports nothing. -/
example :
    let e1 : FieldEntry := ⟨some "T1", ⟨5, some "f", "__typename", [], none, false, 0, []⟩,
      Schema.fieldDef typenameSchema (some "T1") "__typename"⟩
    let e2 : FieldEntry := ⟨some "T2", ⟨7, some "f", "i", [], none, false, 0, []⟩,
      Schema.fieldDef typenameSchema (some "T2") "i"⟩
    e1.defTy = none ∧ e2.defTy = some (.leaf "Int") ∧
      directNoTypes typenameSchema ⟨e1.inst, e2.inst, true⟩ = false ∧
      Spec.direct typenameSchema ⟨e1.inst, e2.inst, true⟩ = true ∧
      (findConflict ⟨typenameSchema, typenameDoc, naturalLe⟩ 1 false "f" e1 e2 {}).map (·.2)
        = some [] := by decide +kernel

example : Schema.NoMetaField typenameSchema := by
  intro t ht f hf
  simp only [typenameSchema, List.mem_cons, List.not_mem_nil, or_false] at ht
  rcases ht with rfl | rfl | rfl | rfl <;> simp_all

/-- `{ t { ... on T1 { f: __typename } ... on T2 { f: i } } }`: rule and typename-blind
specification accept; `{ t { f: __typename f: i } }` and
`{ t { ... on T1 { f: __typename } f: i } }` (parents overlap): both reject, for the names. -/
def typenameDoc2 : Doc :=
  [.op (some "Query") ⟨1, [.field 2 none "t" [] none true 3
    [.field 5 (some "f") "__typename" [] none false 0 [],
     .field 7 (some "f") "i" [] none false 0 []]]⟩]

def typenameDoc3 : Doc :=
  [.op (some "Query") ⟨1, [.field 2 none "t" [] none true 3
    [.inline (some "T1") 4 [.field 5 (some "f") "__typename" [] none false 0 []],
     .field 7 (some "f") "i" [] none false 0 []]]⟩]

example :
    implConflicts typenameSchema typenameDoc = some [] ∧
    Spec.specConflictB typenameSchema (typenameDoc.hideMeta "z") = some false ∧
    (implConflicts typenameSchema typenameDoc2).map (·.length) = some 1 ∧
    Spec.specConflictB typenameSchema (typenameDoc2.hideMeta "z") = some true ∧
    (implConflicts typenameSchema typenameDoc3).map (·.length) = some 1 ∧
    Spec.specConflictB typenameSchema (typenameDoc3.hideMeta "z") = some true := by
  decide +kernel

/-- the invariance hypothesis of `overlap_iff_typename_of_invariance`, evaluated on the three
`__typename` documents -/
example :
    (implConflicts typenameSchema typenameDoc).map (·.isEmpty) =
      (implConflicts typenameSchema (typenameDoc.hideMeta "?")).map (·.isEmpty) ∧
    (implConflicts typenameSchema typenameDoc2).map (·.isEmpty) =
      (implConflicts typenameSchema (typenameDoc2.hideMeta "?")).map (·.isEmpty) ∧
    (implConflicts typenameSchema typenameDoc3).map (·.isEmpty) =
      (implConflicts typenameSchema (typenameDoc3.hideMeta "?")).map (·.isEmpty) := by
  decide +kernel

end Gql.Props.C14
