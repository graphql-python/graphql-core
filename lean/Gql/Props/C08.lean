import Gql.Proofs.StringRoundtrip
import Gql.Proofs.C09Pairs
import Gql.Proofs.BlockForced2
import Gql.Proofs.BlockIndent
import Gql.Syntax.Printer
import Gql.Proofs.TypeTokens
import Gql.Proofs.TypeParse
import Gql.Proofs.ValueRoundtrip
import Gql.Proofs.Printable
import Gql.Proofs.ExecPrint
import Gql.Proofs.ExecDoc3
import Gql.Proofs.ParseWfType
import Gql.Proofs.ParseWfValue
import Gql.Proofs.ParseWfExec
import Gql.Proofs.ParseWfDefs
/-!
# C08 — Printing a parsed document and parsing it again gives the same AST

Property theorems only (lemmas live in `Gql/Proofs/StringRoundtrip.lean`, `Block*.lean`).

Models: `Gql.Text.printString` (print_string.py, escape table = T1 `Generated.escapeTable`),
`Gql.Text.printBlockStringW` / `isPrintableAsBlockString` (block_string.py, width = parameter),
`Gql.Text.readString` / `readBlockString` (lexer.py; shared lexer model).
Strings are lists of code points.  `tokOf` projects the token out of the lexer's
`(token, line bookkeeping)` result.
-/
namespace Gql.Props.C08
open Gql Gql.Text Gql.Text.Pairs

/-- T1 obligation: every entry of `escape_sequences` is an escape sequence the lexer decodes back
to the entry's key (`\x` with `_ESCAPED_CHARS[x] = key`, or `\uXXXX` of a non-surrogate). -/
theorem escape_table_entries_decode : tableOK Generated.escapeTable = true := by decide

/-- T1 obligation: everything the lexer cannot read raw inside a quoted string — the quote, the
backslash, LF and CR — has an entry in `escape_sequences`. -/
theorem escape_table_covers_required : tableComplete Generated.escapeTable = true := by decide

/-- T1 obligation (documented contract of `print_string`, not needed for the round trip because the
lexer accepts raw control characters): all C0 controls, DEL and the C1 controls are escaped. -/
theorem escape_table_covers_controls : tableCoversControls Generated.escapeTable = true := by decide

/-- **C08-1** ("every quoted string value is preserved character for character").  For every
string `s` of Unicode scalar values, whatever follows it and whatever the lexer's line state:
reading `print_string(s)` as a string token consumes exactly the printed text and yields `s`. -/
theorem printString_roundtrip (s rest : List Nat) (st : LexState) (hs : ∀ c ∈ s, isScalar c = true) :
    readString (printString s ++ rest) st 0 =
      .ok (mkToken st .string 0 (printString s).length (some s)) :=
  printStringWith_roundtrip_paired Generated.escapeTable escape_table_entries_decode
    escape_table_covers_required s rest st (.of_forall_scalar hs)

-- non-vacuity: a string with quote, backslash, LF, CR, DEL, U+2028, an astral code point
-- satisfies the hypothesis; its printed form is `"\"\\\n\r\u007F<U+2028><U+1F600>a"`
example : readString (printString [34, 92, 10, 13, 127, 8232, 128512, 97] ++ [32, 34]) {} 0 =
    .ok (mkToken {} .string 0 (printString [34, 92, 10, 13, 127, 8232, 128512, 97]).length
      (some [34, 92, 10, 13, 127, 8232, 128512, 97])) :=
  printString_roundtrip _ _ _ (by decide)
example : printString [34, 92, 10, 13, 127, 8232, 128512, 97] =
    [34, 92, 34, 92, 92, 92, 110, 92, 114, 92, 117, 48, 48, 55, 70, 8232, 128512, 97, 34] := by decide

/-- **C08-1 for everything a STRING token can carry.**  `Paired s` (decidable): every code point of
`s` is a Unicode scalar value, or a leading surrogate immediately followed by a trailing surrogate,
or that trailing surrogate — exactly the values `read_string` can produce (`parse_wf_value_full`
below: a lone surrogate is a syntax error, a verbatim pair is accepted as one SourceCharacter and
kept as two code points).  `print_string` has no table entry for a surrogate
(`escape_table_entries_decode`: every key is a scalar value), so `str.translate` copies both halves
verbatim, and `read_string` steps two code points over the pair (`is_supplementary_code_point`):
reading `print_string(s)` consumes exactly the printed text and yields `s`.  Generalises
`printString_roundtrip` (`Paired.of_forall_scalar`). -/
theorem printString_roundtrip_paired (s rest : List Nat) (st : LexState) (hs : Paired s) :
    readString (printString s ++ rest) st 0 =
      .ok (mkToken st .string 0 (printString s).length (some s)) :=
  printStringWith_roundtrip_paired Generated.escapeTable escape_table_entries_decode
    escape_table_covers_required s rest st hs

-- non-vacuity: `a`, the verbatim pair U+D83D U+DE00, a quote, U+1F600 as one code point; a lone
-- or reversed surrogate is not `Paired`; the pair is printed verbatim
example : Paired [97, 0xD83D, 0xDE00, 34, 128512] ∧ ¬ Paired [0xD83D] ∧ ¬ Paired [0xDE00, 0xD83D] ∧
    ¬ Paired [0xD83D, 97] := by decide
example : printString [97, 0xD83D, 0xDE00, 34, 128512] = [34, 97, 0xD83D, 0xDE00, 92, 34, 128512, 34] := by
  decide
example : readString (printString [97, 0xD83D, 0xDE00, 34, 128512] ++ [32]) {} 0 =
    .ok (mkToken {} .string 0 (printString [97, 0xD83D, 0xDE00, 34, 128512]).length
      (some [97, 0xD83D, 0xDE00, 34, 128512])) :=
  printString_roundtrip_paired _ _ _ (by decide)

/-- Characters without a table entry are copied verbatim (`str.translate`). -/
theorem printString_verbatim (c : Nat) (h : escapeLookup Generated.escapeTable c = none) :
    printString [c] = [34, c, 34] := by
  simp [printString, printStringWith, translate, h]

/-- **C08-2** ("every block string value is preserved character for character").  For every
block-representable value of Unicode scalar values, every width in place of the literal `70`,
both settings of `minimize`, anything after the literal: the lexer reads
`print_block_string(v, minimize)` as one block string token spanning exactly the printed text,
with value `v`. -/
theorem block_roundtrip (width : Nat) (v : List Nat) (minimize : Bool) (rest : List Nat) (st : LexState)
    (hs : ∀ c ∈ v, isScalar c = true) (hrep : BlockRepresentable v) :
    tokOf (readBlockString (printBlockStringW width v minimize ++ rest) st 0) =
      .ok (mkToken st .blockString 0 (printBlockStringW width v minimize).length (some v)) :=
  printBlockStringW_roundtrip_paired width v minimize rest st (.of_forall_scalar hs) hrep

-- non-vacuity: `  a"""\n\n b\nc\` (leading blanks, triple quote, blank line, trailing backslash)
example : tokOf (readBlockString
    (printBlockStringW 70 [32, 32, 97, 34, 34, 34, 10, 10, 32, 98, 10, 99, 92] false ++ [32]) {} 0) =
    .ok (mkToken {} .blockString 0
      (printBlockStringW 70 [32, 32, 97, 34, 34, 34, 10, 10, 32, 98, 10, 99, 92] false).length
      (some [32, 32, 97, 34, 34, 34, 10, 10, 32, 98, 10, 99, 92])) :=
  block_roundtrip 70 _ false _ _ (by decide) (by decide)
example : printBlockStringW 70 [32, 32, 97, 34, 34, 34, 10, 10, 32, 98, 10, 99, 92] false =
    [34, 34, 34, 10, 32, 32, 97, 92, 34, 34, 34, 10, 10, 32, 98, 10, 99, 92, 10, 34, 34, 34] := by decide

/-- **C08-2 for everything a BLOCK_STRING token can carry**: `block_roundtrip` with `Paired v` (scalar
values and verbatim leading+trailing surrogate pairs) in place of "all scalar" (proved by C09's
builder: `Gql.Text.Pairs.printBlockStringW_roundtrip_paired`). -/
theorem block_roundtrip_paired (width : Nat) (v : List Nat) (minimize : Bool) (rest : List Nat) (st : LexState)
    (hs : Paired v) (hrep : BlockRepresentable v) :
    tokOf (readBlockString (printBlockStringW width v minimize ++ rest) st 0) =
      .ok (mkToken st .blockString 0 (printBlockStringW width v minimize).length (some v)) :=
  printBlockStringW_roundtrip_paired width v minimize rest st hs hrep

/-- **C08-2, re-indentation, `Paired` values**: `block_indent_roundtrip` with `Paired v`
(re-indentation inserts spaces after line feeds only, so it never separates a pair). -/
theorem block_indent_roundtrip_paired (k width : Nat) (v rest : List Nat) (st : LexState)
    (hs : Paired v) (hrep : BlockRepresentable v) :
    tokOf (readBlockString (indentLF k (printBlockStringW width v false) ++ rest) st 0) =
      .ok (mkToken st .blockString 0 (indentLF k (printBlockStringW width v false)).length (some v)) :=
  indent_printed_roundtrip k width false v rest st hs hrep

example : Paired [32, 97, 10, 0xD83D, 0xDE00, 34] ∧ BlockRepresentable [32, 97, 10, 0xD83D, 0xDE00, 34] := by
  decide

/-- **C08-2, the hypothesis is forced.**  Every value the lexer produces for a block string
literal — any source text, any position — is block-representable.  So `block_roundtrip` covers
every block string a parsed document can contain. -/
theorem lex_block_representable (body : List Nat) (st : LexState) (start : Nat) (tok : Token)
    (st' : LexState) (h : readBlockString body st start = .ok (tok, st')) :
    ∃ v, tok.value = some v ∧ BlockRepresentable v :=
  readBlockString_representable body st start tok st' h

/-- **`is_printable_as_block_string` is sound.**  Every value the schema printer decides to print as
a block string (`print_description` in print_schema.py, C17) is block-representable — so by
`block_roundtrip` it reads back character for character, with and without `minimize`. -/
theorem printable_representable (v : List Nat) (h : isPrintableAsBlockString v = true) :
    BlockRepresentable v :=
  Gql.Text.printable_representable v h

example : isPrintableAsBlockString [97, 10, 32, 32, 98, 34, 10, 10, 99] = true := by decide

/-- The printer's `indent` (`string.replace("\n", "\n  ")`, applied once per nesting level to the
already printed children, block strings included) is `indentLF`; nesting adds up. -/
theorem printer_indent_is_indentLF (x : List Nat) (a b : Nat) :
    Gql.Syntax.indentNL x = indentLF 2 x ∧ indentLF a (indentLF b x) = indentLF (a + b) x := by
  refine ⟨?_, indentLF_indentLF a b x⟩
  induction x with
  | nil => rfl
  | cons c r ih => by_cases hc : c = 10 <;> simp [Gql.Syntax.indentNL, indentLF, hc, ih, List.replicate]

/-- **C08-2, re-indentation.**  A block string printed inside nested selections, definitions or
wrapped argument lists has `k` spaces inserted after each of its line feeds (`k` = 2 × nesting
depth; any `k` here).  The lexer still reads exactly the value `v`: the printer (which never uses
`minimize`) puts the closing `"""` on its own line whenever the literal spans several lines, so
the extra indentation is common to all lines after the first and is removed again. -/
theorem block_indent_roundtrip (k width : Nat) (v rest : List Nat) (st : LexState)
    (hs : ∀ c ∈ v, isScalar c = true) (hrep : BlockRepresentable v) :
    tokOf (readBlockString (indentLF k (printBlockStringW width v false) ++ rest) st 0) =
      .ok (mkToken st .blockString 0 (indentLF k (printBlockStringW width v false)).length (some v)) :=
  block_indent_roundtrip_paired k width v rest st (.of_forall_scalar hs) hrep

example : indentLF 4 (printBlockStringW 70 [32, 97, 10, 10, 98, 34] false) =
    [34, 34, 34, 10, 32, 32, 32, 32, 32, 97, 10, 32, 32, 32, 32, 10, 32, 32, 32, 32, 98, 34, 10,
      32, 32, 32, 32, 34, 34, 34] ∧ BlockRepresentable [32, 97, 10, 10, 98, 34] := by decide

-- values outside the predicate exist and are exactly those a literal cannot denote
example : ¬ BlockRepresentable [10, 97] ∧ ¬ BlockRepresentable [97, 13, 98] ∧ ¬ BlockRepresentable [32] ∧
    ¬ BlockRepresentable [32, 97, 10, 32, 98] ∧ BlockRepresentable [32, 97] ∧ BlockRepresentable [] := by decide

open Gql.Syntax in
/-- **C08-3, types (complete for this sub-grammar).**  For every type reference whose names are
lexically Names: the printer model prints `Ty.print` for the parser's tree of the type (no crash,
any widths), and lexing that text yields exactly the type's tokens followed by EOF — nothing is
lost, merged or split. -/
theorem type_print_lex (w : Widths) (t : Ty) (hwf : t.wf = true) :
    printAst w t.toAst = .ok t.print ∧
    ∃ toks : List Token, lexAll t.print = .ok toks ∧ toks.map Token.kv = t.kvs ++ [(.eof, none)] :=
  ⟨printAst_of_pr (printAst_ty w t), lexAll_ty t hwf⟩

-- `[[Foo!]]!`
example : (Ty.nonNull (.list (.list (.nonNull (.named [70, 111, 111]))))).wf = true ∧
    (Ty.nonNull (.list (.list (.nonNull (.named [70, 111, 111]))))).print =
      [91, 91, 70, 111, 111, 33, 93, 93, 33] := by decide

open Gql.Syntax in
/-- **C08 for the TYPE entry point, with the real parser model** (`Gql.Syntax.parseSource`, C01's
crash-faithful model of parser.py; any flags, no `max_tokens`).  For every type tree the parser can
build (`TyP.shaped`: the child of a non-null type is not itself non-null) whose names are lexically
Names: the printer model prints it without crashing (any widths) and `parse_type` of the printed
text is the same tree — `roundtrip_full` instantiated for `parse_type`. -/
theorem roundtrip_type (w : Widths) (cfg : Cfg) (hm : cfg.maxTokens = none) (t : Ty)
    (hwf : t.wf = true) (hsh : TyP.shaped t = true) :
    ∃ text, printAst w t.toAst = .ok text ∧ parseSource .type cfg text = .ok t.toAst :=
  ⟨t.print, (type_print_lex w t hwf).1, parseSource_type_print cfg hm t hwf hsh⟩

open Gql.Syntax in
/-- **`parse_wf` for the TYPE entry point** (the converse of the typed-tree hypothesis): every tree
`parse_type` returns — any source text, any flags, any `max_tokens` — is the tree of a `Ty` that is
well formed (its names are lexically Names: the lexer's NAME tokens carry valid names,
`readNextToken_valOk`) and parser-shaped. -/
theorem parse_wf_type (cfg : Cfg) (src : List Nat) (d : Ast) (h : parseSource .type cfg src = .ok d) :
    ∃ t : Ty, t.wf = true ∧ TyP.shaped t = true ∧ d = t.toAst :=
  parseSource_type_wf cfg src d h

open Gql.Syntax in
/-- **C08 for the TYPE entry point with no well-formedness hypothesis** — `roundtrip_full`
instantiated for `parse_type`: whatever source text parses (no `max_tokens`) prints, without a
crash, to text that parses to the same tree. -/
theorem roundtrip_type_parsed (w : Widths) (cfg : Cfg) (hm : cfg.maxTokens = none) (src : List Nat) (d : Ast)
    (h : parseSource .type cfg src = .ok d) :
    ∃ text, printAst w d = .ok text ∧ parseSource .type cfg text = .ok d := by
  obtain ⟨t, hwf, hsh, rfl⟩ := parse_wf_type cfg src d h
  exact roundtrip_type w cfg hm t hwf hsh

-- `[[Foo!]]!` is parser-shaped, `Foo!!` is not
example : Gql.Syntax.TyP.shaped (Ty.nonNull (.list (.list (.nonNull (.named [70, 111, 111]))))) = true ∧
    Gql.Syntax.TyP.shaped (Ty.nonNull (.nonNull (.named [70, 111, 111]))) = false := by decide

open Gql.Syntax in
/-- **C08-3 `render_lex` for values.**  For every well-formed value (`Val.wf`: what
`parse_value_literal` can build — valid names and number texts, enum values other than
true/false/null, strings of scalar values, block-representable block strings), in whichever layout
the widths select at every nesting level (one line / wrapped with `indent`), re-indented by any
`k`, after any prefix and before any continuation that cannot extend a token (`Safe`): the lexer
reads exactly the value's tokens `Val.kvs v` — no two tokens run together, nothing is split, every
string token carries its value. -/
theorem render_lex_value (w : Widths) (hw : 4 ≤ w.object) (c : Bool) (v : Val) (hwf : Val.wf c v) (k : Nat) :
    Lexes true (indentLF k (Val.print w v)) v.kvs :=
  (pcV w hw c escape_table_entries_decode escape_table_covers_required v (Val.wfP_of_wf c v hwf)).lex k

open Gql.Syntax in
/-- **C08 for the VALUE and CONST VALUE entry points, with the real parser model.**  For every
well-formed value tree (`c = false`: `parse_value`, variables allowed; `c = true`:
`parse_const_value`), all widths with `object ≥ 4` (an empty object prints as `{  }`), any flags,
no `max_tokens`: the printer model prints it without crashing and parsing the printed text gives
the same tree — `roundtrip_full` instantiated for `parse_value` / `parse_const_value`. -/
theorem roundtrip_value (w : Widths) (hw : 4 ≤ w.object) (cfg : Cfg) (hm : cfg.maxTokens = none)
    (c : Bool) (v : Val) (hwf : Val.wf c v) :
    ∃ text, printAst w v.toAst = .ok text ∧
      parseSource (if c then .constValue else .value) cfg text = .ok v.toAst :=
  ⟨Val.print w v, printAst_val w v,
    parseSource_value_print cfg hm w hw escape_table_entries_decode escape_table_covers_required c v hwf⟩

-- non-vacuity: `[1, """a\nb""", {a: B}, -0.5e+10]` is a well-formed constant value; the generated widths qualify
example : Val.wf true (.list [.int [49], .str [97, 10, 98] true, .obj [([97], .enum [66])],
    .float [45, 48, 46, 53, 101, 43, 49, 48]]) ∧ 4 ≤ Gql.Syntax.Widths.generated.object := by
  refine ⟨⟨?_, ⟨by decide, fun _ => by decide⟩, ⟨by decide, ⟨by decide, by decide, by decide, by decide⟩, trivial⟩, ?_, trivial⟩,
    by decide⟩
  · exact ⟨⟨[], [49], [], []⟩, ⟨Or.inl rfl, by decide, Or.inl rfl, Or.inl rfl⟩, rfl, rfl⟩
  · exact ⟨⟨[45], [48], [46, 53], [101, 43, 49, 48]⟩,
      ⟨Or.inr rfl, by decide, Or.inr ⟨[53], rfl, by decide⟩,
        Or.inr ⟨101, [43], [49, 48], rfl, Or.inr rfl, Or.inr (Or.inl rfl), by decide⟩⟩, rfl, rfl⟩

open Gql.Syntax in
/-- **C08-3 `render_lex` for values whose strings hold verbatim surrogate pairs** (`Val.wfP`:
`Val.wf` with `Paired s` in place of "every code point of `s` is a scalar value" at the two string
leaves — what `parse_value_literal` can build from ANY source text, `parse_wf_value_full`).
Statement as `render_lex_value`. -/
theorem render_lex_value_paired (w : Widths) (hw : 4 ≤ w.object) (c : Bool) (v : Val) (hwf : Val.wfP c v)
    (k : Nat) : Lexes true (indentLF k (Val.print w v)) v.kvs :=
  (pcV w hw c escape_table_entries_decode escape_table_covers_required v hwf).lex k

open Gql.Syntax in
/-- **C08 for the VALUE and CONST VALUE entry points, typed trees with verbatim surrogate pairs.**
`roundtrip_value` for `Val.wfP` (every `Val.wf` tree is `Val.wfP`: `Val.wfP_of_wf`): the printer
model prints the tree without crashing and the real parser model rebuilds it from the printed
text. -/
theorem roundtrip_value_paired (w : Widths) (hw : 4 ≤ w.object) (cfg : Cfg) (hm : cfg.maxTokens = none)
    (c : Bool) (v : Val) (hwf : Val.wfP c v) :
    ∃ text, printAst w v.toAst = .ok text ∧
      parseSource (if c then .constValue else .value) cfg text = .ok v.toAst :=
  ⟨Val.print w v, printAst_val w v,
    parseSource_value_printP cfg hm w hw escape_table_entries_decode escape_table_covers_required c v hwf⟩

-- non-vacuity: `["a<U+D83D><U+DE00>", {k: """<U+D83D><U+DE00>"""}]` is `Val.wfP` but not `Val.wf`
example : Val.wfP true (.list [.str [97, 0xD83D, 0xDE00] false, .obj [([107], .str [0xD83D, 0xDE00] true)]]) ∧
    ¬ Val.wf true (.list [.str [97, 0xD83D, 0xDE00] false, .obj [([107], .str [0xD83D, 0xDE00] true)]]) := by
  refine ⟨⟨⟨by decide, fun h => by cases h⟩, ⟨by decide, ⟨by decide, fun _ => by decide⟩, trivial⟩, trivial⟩, ?_⟩
  intro h
  have := h.1.1 0xD83D (by simp)
  revert this; decide

open Gql.Syntax in
/-- **`parse_wf` for the VALUE and CONST VALUE entry points, no hypothesis on the source text.**
Every tree `parse_value` (`c = false`) / `parse_const_value` (`c = true`) returns — any source text,
any flags, any `max_tokens` — is the tree of a `Val` that is well formed *up to verbatim surrogates*
(`Val.wfG (ChOk src)`): names are lexically Names and enum values differ from `true`/`false`/`null`
(inversion of the lexer for NAME tokens), INT / FLOAT values are number texts of the grammar
(`IsNum`; inversion of `read_number` through `readNumber_agree` and the number grammar:
`numberCandidates_isNum`), no variable occurs in a constant value, every block string value is
block-representable (`lex_block_representable`), and every code point of a string value is a
Unicode scalar value or a surrogate that stands verbatim in the source text (`ChOk src`; inversion
of `read_string` / `read_block_string` through the StringValue / BlockString grammar: escapes decode
to scalar values only, a surrogate can only come from a leading+trailing pair the lexer accepts
verbatim as one SourceCharacter), and every string value is `Paired` (`Val.wfG` carries it: inversion of `read_string` / `read_block_string`, `readString_strOk`,
`readBlockString_strOk` — a surrogate in a string value is half of a leading+trailing pair). -/
theorem parse_wf_value_surrogates (cfg : Cfg) (c : Bool) (src : List Nat) (d : Ast)
    (h : parseSource (if c then .constValue else .value) cfg src = .ok d) :
    ∃ v : Val, Val.wfG (ChOk src) c v ∧ d = v.toAst :=
  parseSource_value_wfG cfg c src d h

open Gql.Syntax in
/-- **`parse_wf` for the VALUE and CONST VALUE entry points** (the converse of the typed-tree
hypothesis of `roundtrip_value`).  Hypothesis `hsrc`: the source text holds no surrogate code point
(decidable; true of every text decoded from UTF-8 / of every `str` without lone or paired surrogate
code units — CPython keeps astral characters as single code points, so a `str` holds a surrogate
only if it was put there deliberately, e.g. by `surrogatepass`).  Then every tree `parse_value` /
`parse_const_value` returns — any flags, any `max_tokens` — is the tree of a well-formed `Val`
(`Val.wf`, the hypothesis of `roundtrip_value`).  Without `hsrc` the statement is
`parse_wf_value_surrogates`; the only trees outside `Val.wf` are those with a string value holding a
surrogate pair copied verbatim from the text (`'"' + chr(0xD83D) + chr(0xDE00) + '"'` parses to the
value `[0xD83D, 0xDE00]` on the implementation, and round-trips there too). -/
theorem parse_wf_value (cfg : Cfg) (c : Bool) (src : List Nat) (hsrc : ∀ x ∈ src, isSurr x = false)
    (d : Ast) (h : parseSource (if c then .constValue else .value) cfg src = .ok d) :
    ∃ v : Val, Val.wf c v ∧ d = v.toAst := by
  obtain ⟨v, hv, rfl⟩ := parse_wf_value_surrogates cfg c src d h
  exact ⟨v, Val.wf_of_wfG (ChOk src) (fun _ hc => ChOk.isScalar hsrc hc) c v hv, rfl⟩

open Gql.Syntax in
/-- **`parse_wf` for the VALUE and CONST VALUE entry points, EVERY source text.**
Every tree `parse_value` (`c = false`) / `parse_const_value` (`c = true`) returns — any source text,
surrogates included, any flags, any `max_tokens` — is the tree of a `Val` that is well formed in the
sense of `roundtrip_value_paired` (`Val.wfP`: as `Val.wf`, string values `Paired`). -/
theorem parse_wf_value_full (cfg : Cfg) (c : Bool) (src : List Nat) (d : Ast)
    (h : parseSource (if c then .constValue else .value) cfg src = .ok d) :
    ∃ v : Val, Val.wfP c v ∧ d = v.toAst := by
  obtain ⟨v, hv, rfl⟩ := parse_wf_value_surrogates cfg c src d h
  exact ⟨v, Val.wfP_of_wfG (ChOk src) c v hv, rfl⟩

open Gql.Syntax in
/-- **C08 for the VALUE and CONST VALUE entry points, EVERY source text** — `roundtrip_full`
instantiated for `parse_value` / `parse_const_value` with no hypothesis on the text or the tree:
whatever `parse_value` / `parse_const_value` returns for any source text (verbatim surrogate pairs
inside strings included) prints, without a crash, to text that parses to the same tree.  Remaining
hypotheses: no `max_tokens` limit on the re-parse, and widths with `object ≥ 4` (as generated; an
empty object prints as `{  }`). -/
theorem roundtrip_value_parsed_full (w : Widths) (hw : 4 ≤ w.object) (cfg : Cfg) (hm : cfg.maxTokens = none)
    (c : Bool) (src : List Nat) (d : Ast)
    (h : parseSource (if c then .constValue else .value) cfg src = .ok d) :
    ∃ text, printAst w d = .ok text ∧ parseSource (if c then .constValue else .value) cfg text = .ok d := by
  obtain ⟨v, hwf, rfl⟩ := parse_wf_value_full cfg c src d h
  exact roundtrip_value_paired w hw cfg hm c v hwf

-- non-vacuity: a source text with a verbatim pair inside a string parses (it is the printed text of
-- a `Val.wfP` tree), so the hypothesis of `roundtrip_value_parsed_full` is met by texts that
-- `roundtrip_value_parsed` excludes
example (w : Gql.Syntax.Widths) (hw : 4 ≤ w.object) :
    ∃ src d, (¬ ∀ x ∈ src, isSurr x = false) ∧ Gql.Syntax.parseSource .constValue {} src = .ok d := by
  obtain ⟨text, hp, h⟩ := roundtrip_value_paired w hw {} rfl true (.str [0xD83D, 0xDE00] false)
    ⟨by decide, fun h => by cases h⟩
  refine ⟨text, _, ?_, h⟩
  have ht : text = Val.print w (.str [0xD83D, 0xDE00] false) := by
    have := Gql.Text.printAst_val w (.str [0xD83D, 0xDE00] false)
    rw [this] at hp; cases hp; rfl
  subst ht
  intro hall
  have := hall 0xD83D (by simp [Val.print]; decide)
  revert this; decide

open Gql.Syntax in
/-- **C08 for the VALUE and CONST VALUE entry points with no well-formedness hypothesis on the
tree** — `roundtrip_full` instantiated for `parse_value` / `parse_const_value`: whatever source text
without surrogate code points parses (no `max_tokens`, widths with `object ≥ 4` as generated)
prints, without a crash, to text that parses to the same tree. -/
theorem roundtrip_value_parsed (w : Widths) (hw : 4 ≤ w.object) (cfg : Cfg) (hm : cfg.maxTokens = none)
    (c : Bool) (src : List Nat) (hsrc : ∀ x ∈ src, isSurr x = false) (d : Ast)
    (h : parseSource (if c then .constValue else .value) cfg src = .ok d) :
    ∃ text, printAst w d = .ok text ∧ parseSource (if c then .constValue else .value) cfg text = .ok d := by
  obtain ⟨v, hwf, rfl⟩ := parse_wf_value cfg c src hsrc d h
  exact roundtrip_value w hw cfg hm c v hwf

-- non-vacuity: the text `[1, "a\u00e9", {a: B}, -0.5e+10]` holds no surrogate; a text with a
-- verbatim pair does; admissible code points of a value read from such a text
example : (∀ x ∈ Gql.Syntax.S "[1, \"a\\u00e9\", {a: B}, -0.5e+10]", isSurr x = false) ∧
    ¬ (∀ x ∈ [34, 0xD83D, 0xDE00, 34], isSurr x = false) := by decide
example : ChOk [34, 0xD83D, 0xDE00, 34] 0xD83D ∧ ChOk [34, 97, 34] 0x1F600 :=
  ⟨Or.inr (by decide), Or.inl (by decide)⟩
-- and source texts that parse exist: the printed text of any well-formed value (`roundtrip_value`)
example (w : Gql.Syntax.Widths) (hw : 4 ≤ w.object) :
    ∃ src d, Gql.Syntax.parseSource .constValue {} src = .ok d :=
  let ⟨text, _, h⟩ := roundtrip_value w hw {} rfl true (.list [.int [49], .str [97] false]) (by
    refine ⟨?_, ⟨by decide, fun h => by cases h⟩, trivial⟩
    exact ⟨⟨[], [49], [], []⟩, ⟨Or.inl rfl, by decide, Or.inl rfl, Or.inl rfl⟩, rfl, rfl⟩)
  ⟨text, _, h⟩

open Gql.Syntax in
/-- The invariant the converse direction (`parse_wf`) carries through the parser: the current token
and every token still in the lexer's stream carry a value of their class (`VPS src`: NAME tokens
valid names, INT / FLOAT tokens number texts, STRING / BLOCK_STRING tokens strings of admissible
code points, block values block-representable).  It holds of the initial parser state of every
source text — every token comes from `read_next_token` (`readNextToken_valOk`). -/
theorem parser_state_invariant_init (src : List Nat) : VPS src (initState (streamOf src)) :=
  vps_init src

open Gql.Syntax in
/-- **`parse_wf` for selection sets (first layer of the document grammar; partial: not yet lifted to
the DOCUMENT entry point).**  Source text without surrogates, `experimental_fragment_arguments` off
(arguments on fragment spreads are not a node kind of the typed tree yet), any `max_tokens`, any
fuel: whatever `parse_selection_set` returns from a parser state over the tokens of the text
(`VPS src`, see `parser_state_invariant_init`; the invariant is handed on to the state after the
selection set) is the tree of a non-empty list of well-formed selections (`Exec.selsWf`: fields with
alias / arguments / directives / nested selection sets, fragment spreads with a name other than
`on`, inline fragments; names valid, argument values well-formed `Val`s) — the hypothesis of
`roundtrip_document_partial` for this layer.  Also proved at lemma level, for constant and
non-constant positions: `parseArguments_vinv`, `parseDirectives_vinv` (Gql/Proofs/ParseWfExec.lean).
Missing for `parse_wf_document`: variable definitions, operation / fragment definitions, type-system
definitions and extensions, and the keyword dispatch of `parse_definition`. -/
theorem parse_wf_selection_set_partial (cfg : Cfg) (hfa : cfg.fragArgs = false) (src : List Nat)
    (hsrc : ∀ x ∈ src, isSurr x = false) (n : Nat) (s s' : PS) (a : Ast) (hs : VPS src s)
    (h : selectionSet n cfg s = .ok (a, s')) :
    VPS src s' ∧ ∃ sels : List Sel, Exec.selsWf sels ∧ sels ≠ [] ∧ a = Exec.ssAst sels :=
  selectionSet_vinv hsrc hfa n s hs a s' h

open Gql.Syntax in
/-- **`parse_wf` for operation and fragment definitions (second layer; partial: not yet lifted to the
DOCUMENT entry point).**  Same setting as `parse_wf_selection_set_partial`: whatever
`parse_operation_definition` (shorthand `{ … }`, or description? operation-type name? variable
definitions? directives? selection set) and `parse_fragment_definition` (description? `fragment`
name `on` type directives? selection set) return is the tree of a well-formed `XDef`
(`Exec.xdefWf false`: descriptions of scalar values and block descriptions block-representable,
operation type from the table, names valid, fragment name other than `on`, variable definitions with
well-formed parser-shaped types, well-formed constant default values and constant directives,
non-empty well-formed selection sets) — the hypothesis `roundtrip_document_partial` puts on these
definitions.  Uses `typeRef_vinv` (Gql/Proofs/ParseWfType.lean), `parseDescription_vinv`,
`parseVariableDefinitions_vinv` (Gql/Proofs/ParseWfDefs.lean).  Missing for `parse_wf_document`: type-system definitions and
extensions, and the keyword dispatch of `parse_definition`. -/
theorem parse_wf_executable_definition_partial (cfg : Cfg) (hfa : cfg.fragArgs = false) (src : List Nat)
    (hsrc : ∀ x ∈ src, isSurr x = false) (n : Nat) (s s' : PS) (a : Ast) (hs : VPS src s)
    (h : parseOperationDefinition cfg n s = .ok (a, s') ∨ parseFragmentDefinition cfg n s = .ok (a, s')) :
    VPS src s' ∧ ∃ x : XDef, Exec.xdefWf false x ∧ a = Exec.xdefAst false x := by
  rcases h with h | h
  · exact parseOperationDefinition_vinv hsrc hfa n hs a s' h
  · exact parseFragmentDefinition_vinv hsrc hfa n hs a s' h

-- non-vacuity: the invariant holds of the state `parse` starts from, for every text
example : Gql.Syntax.VPS (Gql.Syntax.S "{ a: f(x: 1) @d ...F ... on T { g } }")
    (Gql.Syntax.initState (Gql.Syntax.streamOf (Gql.Syntax.S "{ a: f(x: 1) @d ...F ... on T { g } }"))) :=
  parser_state_invariant_init _
example : ∀ x ∈ Gql.Syntax.S "{ a: f(x: 1) @d ...F ... on T { g } }", isSurr x = false := by decide

open Gql.Syntax in
/-- **C08-3 `render_lex` for documents (stages 1–3).**  The text printed for a document whose
definitions are

* operations (shorthand, or keyword with optional name, variable definitions and directives) and
  fragment definitions (with variable definitions when `fa`, the `experimental_fragment_arguments`
  flag, is set), each with an optional description; variable definitions with optional description,
  default value and constant directives, on one line or one per line (`has_multiline_items`);
  selection sets of fields (alias, arguments, directives, nested selection sets), fragment spreads
  and inline fragments, in every layout (`wrapped_line_and_args`, `block`/`indent`);
* type-system definitions: `schema` (operation types), `scalar`, `type` / `interface`
  (`implements A & B`, field definitions with argument definitions in the one-line and the indented
  multi-line layout of `leave_field_definition`), `union` (`= A | B`), `enum` (value definitions),
  `input` (input value definitions with defaults) and `directive` definitions (arguments,
  `repeatable`, locations `A | B`, and directives on the definition when `dd`, the
  `experimental_directives_on_directive_definitions` flag, is set) — each with optional description
  (quoted or block string) and constant directives;
* type-system extensions: `extend schema`, `extend scalar`, `extend type` / `extend interface`,
  `extend union`, `extend enum`, `extend input` (each extending something: directives, interfaces,
  members or a non-empty block, as the parser requires);

lexes to exactly the document's tokens `Exec.gdefsKvs`, **including the `query` keyword the printer
puts before a shorthand query that follows a definition not ending with a block** (fix e7002aa: the
token list has `query` exactly there; also after `extend schema @d`, `extend type T @d`, …).  Not yet
covered: arguments on fragment spreads (experimental flag) and `extend directive @d …`
(`DirectiveExtensionNode`, experimental flag). -/
theorem render_lex_document_partial (w : Widths) (hw : 4 ≤ w.object) (fa dd : Bool) (defs : List GDef)
    (hwf : Exec.gdefsWf fa dd defs) : Lexes true (Exec.printGDoc w defs) (Exec.gdefsKvs true defs) :=
  lexes_gdoc w hw escape_table_entries_decode escape_table_covers_required fa dd defs hwf

open Gql.Syntax in
/-- **C08 for the DOCUMENT entry point, stages 1–3, with the real parser model.**  For every
well-formed document of the sub-grammar above (`Exec.gdefsWf`: names valid, operation types and
directive locations from the tables, fragment names other than `on`, enum values other than
`true`/`false`/`null`, non-empty selection sets and `schema` blocks, descriptions of scalar values
and block descriptions block-representable, types and constant values well formed, variable
definitions on a fragment / directives on a directive definition only when the flag is set), all
widths with `object ≥ 4`, either setting of both experimental flags, no `max_tokens`: the printer
model prints it without crashing and `parse` of the printed text is the same tree — in particular a
shorthand query printed as `query { … }` after `scalar S`, `type T`, `union U`, `directive @d on Q`
… or an extension without a block parses back to the shorthand tree.  The missing node kinds are listed at
`render_lex_document_partial`; the full statement is `roundtrip_full`. -/
theorem roundtrip_document_partial (w : Widths) (hw : 4 ≤ w.object) (cfg : Cfg) (hm : cfg.maxTokens = none)
    (defs : List GDef) (hne : defs ≠ []) (hwf : Exec.gdefsWf cfg.fragArgs cfg.dirOnDir defs) :
    ∃ text, printAst w (Exec.gdocAst cfg.fragArgs cfg.dirOnDir defs) = .ok text ∧
      parseSource .document cfg text = .ok (Exec.gdocAst cfg.fragArgs cfg.dirOnDir defs) :=
  ⟨Exec.printGDoc w defs, printAst_gdoc w cfg.fragArgs cfg.dirOnDir defs hwf,
    parseSource_gdoc_print cfg hm w hw escape_table_entries_decode escape_table_covers_required defs hne hwf⟩

-- non-vacuity:
-- `"d" query Q($v: [T!] = [A] @c) @d(a: true) { x: f(a: null) @e { ...F ... on T { g } } }`
-- `fragment F($w: T) on T { h }`
-- `"""t""" type T implements I & J @k { "f" f(a: T = true): [T] @m }`
-- `enum E { A @x B }`   `union U = T | V`   `directive @d(a: T) repeatable on FIELD | QUERY`
-- `extend type T @k`   `extend schema { query: T }`   `scalar S`
-- `{ g }` (printed `query { g }`: it follows `scalar S`)
open Gql.Syntax in
example : Exec.gdefsWf true false
    [.x (.op (some ([100], false)) (S "query") [81]
      [⟨none, [118], .list (.nonNull (.named [84]) ), some (.list [.enum [65]]), [⟨[99], []⟩]⟩]
      [⟨[100], [([97], .bool true)]⟩]
      [.field [120] [102] [([97], .null)] [⟨[101], []⟩]
        [.spread [70] [], .inline [84] [] [.field [] [103] [] [] []]]]),
     .x (.frag none [70] [⟨none, [119], .named [84], none, []⟩] [84] [] [.field [] [104] [] [] []]),
     .t (.object false (some ([116], true)) [84] [[73], [74]] [⟨[107], []⟩]
       [⟨some ([102], false), [102], [⟨none, [97], .named [84], some (.bool true), []⟩], .list (.named [84]),
         [⟨[109], []⟩]⟩]),
     .t (.enum none [69] [] [⟨none, [65], [⟨[120], []⟩]⟩, ⟨none, [66], []⟩]),
     .t (.union none [85] [] [[84], [86]]),
     .t (.directive none [100] [⟨none, [97], .named [84], none, []⟩] [] true [S "FIELD", S "QUERY"]),
     .e (.object false [84] [] [⟨[107], []⟩] []),
     .e (.schema [] [(S "query", [84])]),
     .t (.scalar none [83] []),
     .x (.op none (S "query") [] [] [] [.field [] [103] [] [] []])] := by
  intro d hd
  simp only [List.mem_cons, List.not_mem_nil, or_false] at hd
  rcases hd with rfl | rfl | rfl | rfl | rfl | rfl | rfl | rfl | rfl | rfl <;>
  simp (config := { decide := true }) [Exec.gdefWf, Exec.tdefWf, Exec.edefWf, Exec.fdWf, Exec.evWf, Exec.ivdsWf,
    Exec.namesWf, Exec.isLocation, Exec.xdefWf, Exec.isOpType, Exec.dirsWfC, Exec.dirWfC, Exec.argsWfC,
    Exec.argsWf, Val.wfFields, Val.wfList, Val.wf, Exec.selsWf, Exec.selWf, Exec.varDefsWf, Exec.varDefWf,
    Exec.descWf, Ty.wf, TyP.shaped]

open Gql.Syntax in
/-- The document-level statement of C08 against an abstract parser (the crash-faithful parser model
is C01's; it is a parameter here): whatever parses, prints (no crash) to text that parses, with the
same flags, to the same tree — hence printing is a fixed point.  **Proved** for the type, value and
const-value entry points with the real parser model (`roundtrip_type`, `roundtrip_value`) and for
documents of executable definitions, type-system definitions and extensions
(`roundtrip_document_partial`, stages 1–3: everything except arguments on fragment spreads and
`extend directive`, both behind experimental flags), each for
the typed well-formed trees, and with no hypothesis at all for the type entry point
(`parse_wf_type`, `roundtrip_type_parsed`) and for the value and const-value entry points
(`parse_wf_value_full`, `roundtrip_value_parsed_full`: every source text, verbatim surrogate pairs
inside strings included — `printString_roundtrip_paired`, `block_roundtrip_paired`,
`roundtrip_value_paired`); **not proved**: those two node families, the converse `parse_wf` for
documents beyond its first two layers (`parse_wf_selection_set_partial`,
`parse_wf_executable_definition_partial`: arguments, directives, selection sets, variable
definitions, operation and fragment definitions are done; type-system definitions / extensions and
the keyword dispatch of `parse_definition` are not), and, at the DOCUMENT level only, string values
and descriptions that hold a verbatim surrogate pair (`Exec.gdefsWf` / `Exec.descWf` ask for
scalar values; the value sub-grammar asks only for `Val.wfP`).
What is proved: every string token of the printed text reads back to its value
(`printString_roundtrip`, `block_roundtrip`, `block_indent_roundtrip`, `lex_block_representable`)
and the type sub-grammar (`type_print_lex`).  On the implementation the relation below is
evaluated directly on every generated case (checks/c08.py). -/
def roundtrip_full (parse : Bool → Bool → List Nat → Out Unit Ast) (w : Widths) : Prop :=
  ∀ (fragArgs dirOnDir : Bool) (s : List Nat) (d : Ast), parse fragArgs dirOnDir s = .ok d →
    ∃ t, printAst w d = .ok t ∧ parse fragArgs dirOnDir t = .ok d

open Gql.Syntax in
/-- The fixed-point clause follows from the round trip (stated for completeness). -/
theorem fixed_point_of_roundtrip (parse : Bool → Bool → List Nat → Out Unit Ast) (w : Widths)
    (h : roundtrip_full parse w) (fa dd : Bool) (s : List Nat) (d : Ast) (hp : parse fa dd s = .ok d) :
    ∃ t, printAst w d = .ok t ∧ ∃ d', parse fa dd t = .ok d' ∧ printAst w d' = .ok t := by
  obtain ⟨t, h1, h2⟩ := h fa dd s d hp
  exact ⟨t, h1, d, h2, h1⟩

end Gql.Props.C08
