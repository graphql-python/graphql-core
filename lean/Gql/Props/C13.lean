/-
C13 — A document that passes validation cannot go wrong at execution time.

`Gql/Exec/ValidDoc.lean`: the validation rules execution depends on (`Valid.validOp`), tied to
`validate()` in the required direction (implementation accepts ⇒ `validOp`) by `checks/c13.py`,
and the per-position decision of the specification's run-time exception (`mayHitNullViaDefault`).
`Gql/Exec/Shape.lean`: `Conforms` (data of the declared kinds) and `shapeResponse` (keys, nesting,
nullability, leaf kinds).  The executor is the specification executor of C02, which the
implementation model equals (`Gql.Props.C02.impl_eq_spec`).

Proved:
* `soundness_partial₁` — fields / arguments / literals / abstract types (plain operations);
* `soundness_partial₂` — + variables (allowed position with the default-value clause, the
  run-time exception decided per position);
* `soundness_partial₃` — + inline fragments, fragment spreads, type conditions, `@skip`/`@include`,
  merged response keys (under `MergeOk`, which is what OverlappingFieldsCanBeMerged provides);
* `blame_partial₃` — over arbitrary data no request-attributable error occurs;
* `soundness_partial₄` / `blame_partial₄` — the merge hypothesis replaced by the static rule
  Field Selection Merging (`specMergeable`, `Gql/Exec/ValidMerge.lean`, compared with `validate()`
  in the required direction by `checks/c13.py`): `mergeOkT_of_specMergeable`.
The hypotheses that remain are about other layers: the value layer (`OpsSoundV`, C15) and schema
validity (`SoundHyps`: defaults coercible, interface fields implemented identically).
-/
import Gql.Proofs.SoundExample
import Gql.Proofs.SoundBlame
import Gql.Proofs.SoundMergeRule
import Gql.Proofs.SoundFullWitness
import Gql.Proofs.SoundMergeExample
import Gql.Props.C02

namespace Gql.Props.C13
open Gql Gql.Exec Gql.Exec.Valid

/-- **C13-1, full statement.**  Like `soundness_partial₃`, with the two remaining hypotheses
replaced by what validation itself establishes: `MergeOk` by the static rule
FieldsInSetCanMerge (C14 proves that rule correct for `overlapping_fields_can_be_merged.py` in its
own document model, `Gql.Props.C14.overlap_iff`), and `SoundHyps.ifaceOk` by the covariant form of
interface implementation.

The statement has `validOp` as its only validation hypothesis, and `validOp` does not contain the
merge rule: as written it is false (`soundness_full_false`).  `soundness_partial₄` is this
statement with the missing rule added, stated on this document model as `Valid.specMergeable`;
that the rule gives the merge fact execution needs is `Valid.mergeOkT_of_specMergeable`. -/
def soundness_full : Prop :=
  ∀ (ops : Ops) (s : Schema) (doc : Doc) (op : Operation) (opName : Option Name) (vars : Vars)
    (root : RVal) (rt : Name),
    SoundHyps ops s → Spec.getOperation doc.ops opName = some op → validOp s doc op = true →
    VarsOk op.vars vars → VarsTyped s op.vars vars → OpsSoundV ops s op.vars vars →
    mayHitNullViaDefault s doc op vars = false →
    Spec.rootType s op.kind = some rt → Conforms ops s (.named rt true) root →
    (Spec.executeRequest ops s doc opName vars root).errors = [] ∧
    shapeResponse ops s doc op vars root (Spec.executeRequest ops s doc opName vars root).data = true

/-- **C13-1, stage 1 (`soundness_partial₁`): fields, arguments, literals, abstract types.**
An operation accepted by the rules that consists of fields only (no fragments, directives or
variables) with distinct response keys, executed over a root value that conforms to the schema
(all resolvers return values of the declared kinds, `__typename` names a possible type), reports
no errors, and `data` has exactly the prescribed shape: keys in selection order, nesting, no
`null` at Non-Null positions, leaf kinds. -/
theorem soundness_partial₁ (ops : Ops) (s : Schema) (doc : Doc) (hyps : SoundHyps ops s)
    (op : Operation) (opName : Option Name) (vars : Vars) (root : RVal) (rt : Name)
    (hsel : Spec.getOperation doc.ops opName = some op)
    (hvalid : validOp s doc op = true) (hnovars : op.vars = [])
    (hplain : plainSels op.sels = true) (hdist : distinctSels op.sels = true)
    (hroot : Spec.rootType s op.kind = some rt)
    (hconf : Conforms ops s (.named rt true) root) :
    (Spec.executeRequest ops s doc opName vars root).errors = [] ∧
    shapeResponse ops s doc op vars root (Spec.executeRequest ops s doc opName vars root).data = true :=
  -- no declared variables: `VarsOk`, `VarsTyped` are vacuous and `OpsSoundV` is `SoundHyps.opsSound`
  MergeInv.soundness ops s doc hyps op opName vars root rt hsel hvalid
    (hnovars ▸ fun _ h => nomatch h) (hnovars ▸ fun _ h => nomatch h)
    (hnovars ▸ fun _ t d v hv _ _ => hyps.opsSound t d v hv vars)
    (mayHitNullViaDefault_nil s doc op vars hnovars) (plainInv _) ⟨hplain, hdist⟩ hroot hconf

/-- `soundness_partial₁` for the implementation model of C02 (through `C02.impl_eq_spec`): the
modelled executor itself reports no errors and produces the prescribed shape. -/
theorem soundness_partial₁_impl (ops : Ops) (s : Schema) (doc : Doc) (hyps : SoundHyps ops s)
    (hops : Refine.OpsOk ops)
    (op : Operation) (opName : Option Name) (vars : Vars) (root : RVal) (rt : Name)
    (hsel : Spec.getOperation doc.ops opName = some op)
    (hvalid : validOp s doc op = true) (hnovars : op.vars = [])
    (hplain : plainSels op.sels = true) (hdist : distinctSels op.sels = true)
    (hroot : Spec.rootType s op.kind = some rt)
    (hconf : Conforms ops s (.named rt true) root) :
    ∃ resp, (Impl.executeRequest ops s doc opName vars root []).1 = .ok resp ∧
      resp.errors = [] ∧ shapeResponse ops s doc op vars root resp.data = true :=
  ⟨_, C02.impl_eq_spec ops hops s doc opName vars root,
    soundness_partial₁ ops s doc hyps op opName vars root rt hsel hvalid hnovars hplain hdist hroot hconf⟩

/-- **C13-1, stage 3 (`soundness_partial₃`): variables, fragments, type conditions, directives,
merged response keys.**  For an operation accepted by the rules (`validOp`: fields on correct
type, scalar leafs, known / unique / required arguments, values of correct type, known fragments
and types, possible spreads, no cycles, variables defined, of input type and in allowed position
including the default-value clause), variable values as CoerceVariableValues hands them over
(`VarsOk`, `VarsTyped`), no position where the specification defers to run time
(`mayHitNullViaDefault = false`: no variable with runtime value `null` at a Non-Null position that
was only allowed through a default — decided per position), response keys that merge (`MergeOk`),
and a root value conforming to the schema: execution reports no errors and `data` has exactly the
prescribed shape (keys in order, nesting, nullability, leaf kinds, for the runtime types in the
data). -/
theorem soundness_partial₃ (ops : Ops) (s : Schema) (doc : Doc) (hyps : SoundHyps ops s)
    (op : Operation) (opName : Option Name) (vars : Vars) (root : RVal) (rt : Name)
    (hsel : Spec.getOperation doc.ops opName = some op)
    (hvalid : validOp s doc op = true)
    (hvok : VarsOk op.vars vars) (htyped : VarsTyped s op.vars vars)
    (hops : OpsSoundV ops s op.vars vars)
    (hexc : mayHitNullViaDefault s doc op vars = false)
    (hmerge : MergeOk { ops := ops, schema := s, doc := doc, vars := vars } op)
    (hroot : Spec.rootType s op.kind = some rt)
    (hconf : Conforms ops s (.named rt true) root) :
    (Spec.executeRequest ops s doc opName vars root).errors = [] ∧
    shapeResponse ops s doc op vars root (Spec.executeRequest ops s doc opName vars root).data = true :=
  MergeInv.soundness ops s doc hyps op opName vars root rt hsel hvalid hvok htyped hops hexc hmerge.inv
    (.root hroot) hroot hconf

/-- **C13-1, stage 2 (`soundness_partial₂`): + variables.**  Fields-only operations with
distinct response keys and variables anywhere in their argument values (whole arguments, list
items, input object fields): no `MergeOk` hypothesis is needed (`plainInv`: such selection sets
are a `MergeInv` by themselves). -/
theorem soundness_partial₂ (ops : Ops) (s : Schema) (doc : Doc) (hyps : SoundHyps ops s)
    (op : Operation) (opName : Option Name) (vars : Vars) (root : RVal) (rt : Name)
    (hsel : Spec.getOperation doc.ops opName = some op)
    (hvalid : validOp s doc op = true)
    (hvok : VarsOk op.vars vars) (htyped : VarsTyped s op.vars vars)
    (hops : OpsSoundV ops s op.vars vars)
    (hexc : mayHitNullViaDefault s doc op vars = false)
    (hplain : plainSels op.sels = true) (hdist : distinctSels op.sels = true)
    (hroot : Spec.rootType s op.kind = some rt)
    (hconf : Conforms ops s (.named rt true) root) :
    (Spec.executeRequest ops s doc opName vars root).errors = [] ∧
    shapeResponse ops s doc op vars root (Spec.executeRequest ops s doc opName vars root).data = true :=
  MergeInv.soundness ops s doc hyps op opName vars root rt hsel hvalid hvok htyped hops hexc
    (plainInv _) ⟨hplain, hdist⟩ hroot hconf

/-- `soundness_partial₃` for the implementation model of C02. -/
theorem soundness_partial₃_impl (ops : Ops) (s : Schema) (doc : Doc) (hyps : SoundHyps ops s)
    (hok : Refine.OpsOk ops)
    (op : Operation) (opName : Option Name) (vars : Vars) (root : RVal) (rt : Name)
    (hsel : Spec.getOperation doc.ops opName = some op)
    (hvalid : validOp s doc op = true)
    (hvok : VarsOk op.vars vars) (htyped : VarsTyped s op.vars vars)
    (hops : OpsSoundV ops s op.vars vars)
    (hexc : mayHitNullViaDefault s doc op vars = false)
    (hmerge : MergeOk { ops := ops, schema := s, doc := doc, vars := vars } op)
    (hroot : Spec.rootType s op.kind = some rt)
    (hconf : Conforms ops s (.named rt true) root) :
    ∃ resp, (Impl.executeRequest ops s doc opName vars root []).1 = .ok resp ∧
      resp.errors = [] ∧ shapeResponse ops s doc op vars root resp.data = true :=
  ⟨_, C02.impl_eq_spec ops hok s doc opName vars root,
    MergeInv.soundness ops s doc hyps op opName vars root rt hsel hvalid hvok htyped hops hexc hmerge.inv
    (.root hroot) hroot hconf⟩

/-- **C13-2 (`blame_partial₃`): with arbitrary data every error is attributable to the data.**
Under the hypotheses of stage 3 *without* any assumption on the data graph (nulls at Non-Null
positions, ill-typed leaves, raising resolvers, wrong or missing `__typename`, non-iterables …),
no error of the response is of a request-attributable kind: never argument coercion, never
directive coercion (unknown fields are skipped, not errors; the operation and its root type
exist by hypothesis). -/
theorem blame_partial₃ (ops : Ops) (s : Schema) (doc : Doc) (hyps : SoundHyps ops s)
    (op : Operation) (opName : Option Name) (vars : Vars) (root : RVal) (rt : Name)
    (hsel : Spec.getOperation doc.ops opName = some op)
    (hvalid : validOp s doc op = true)
    (hvok : VarsOk op.vars vars) (htyped : VarsTyped s op.vars vars)
    (hops : OpsSoundV ops s op.vars vars)
    (hexc : mayHitNullViaDefault s doc op vars = false)
    (hmerge : MergeOk { ops := ops, schema := s, doc := doc, vars := vars } op)
    (hroot : Spec.rootType s op.kind = some rt) :
    ∀ e ∈ (Spec.executeRequest ops s doc opName vars root).errors,
      e.kind ≠ .argCoercion ∧ e.kind ≠ .directiveCoercion :=
  MergeInv.blame ops s doc hyps op opName vars root rt hsel hvalid hvok htyped hops hexc hmerge.inv
    (.root hroot) hroot

/-- `blame_partial₃` for fields-only operations with variables (stage 2), no merge hypothesis. -/
theorem blame_partial₂ (ops : Ops) (s : Schema) (doc : Doc) (hyps : SoundHyps ops s)
    (op : Operation) (opName : Option Name) (vars : Vars) (root : RVal) (rt : Name)
    (hsel : Spec.getOperation doc.ops opName = some op)
    (hvalid : validOp s doc op = true)
    (hvok : VarsOk op.vars vars) (htyped : VarsTyped s op.vars vars)
    (hops : OpsSoundV ops s op.vars vars)
    (hexc : mayHitNullViaDefault s doc op vars = false)
    (hplain : plainSels op.sels = true) (hdist : distinctSels op.sels = true)
    (hroot : Spec.rootType s op.kind = some rt) :
    ∀ e ∈ (Spec.executeRequest ops s doc opName vars root).errors,
      e.kind ≠ .argCoercion ∧ e.kind ≠ .directiveCoercion :=
  MergeInv.blame ops s doc hyps op opName vars root rt hsel hvalid hvok htyped hops hexc
    (plainInv _) ⟨hplain, hdist⟩ hroot

/-- **C13-2, full statement**: `blame_partial₃` without `MergeOk` (see `soundness_full`).  As written
(no merge rule among the hypotheses) it is false: `blame_full_false`; with `specMergeable` added it
is `blame_partial₄`. -/
def blame_full : Prop :=
  ∀ (ops : Ops) (s : Schema) (doc : Doc) (op : Operation) (opName : Option Name) (vars : Vars)
    (root : RVal) (rt : Name),
    SoundHyps ops s → Spec.getOperation doc.ops opName = some op → validOp s doc op = true →
    VarsOk op.vars vars → VarsTyped s op.vars vars → OpsSoundV ops s op.vars vars →
    mayHitNullViaDefault s doc op vars = false → Spec.rootType s op.kind = some rt →
    ∀ e ∈ (Spec.executeRequest ops s doc opName vars root).errors,
      e.kind ≠ .argCoercion ∧ e.kind ≠ .directiveCoercion

open Gql.Exec.Valid.Example in
/-- the hypotheses of `soundness_partial₁` are satisfiable: a nested selection with an argument
literal and `__typename`, over a conforming resolver tree -/
example : (Spec.executeRequest exOps exS exDoc none [] exRoot).errors = [] ∧
    shapeResponse exOps exS exDoc exOp [] exRoot
      (Spec.executeRequest exOps exS exDoc none [] exRoot).data = true :=
  soundness_partial₁ exOps exS exDoc exHyps exOp none [] exRoot "Query" rfl (by decide) rfl
    (by decide) (by decide) (by decide) exConf


open Gql.Exec.Valid.Example in
/-- the hypotheses of `soundness_partial₃` / `blame_partial₃` are satisfiable (variables, `@skip`
on a variable, a fragment spread and an inline fragment merging the key `id`); `MergeOk` through
the checkable criterion `mergeOk_of_keyNames` -/
example : (Spec.executeRequest exOps exS exDoc3 none exVars3 exRoot).errors = [] ∧
    shapeResponse exOps exS exDoc3 exOp3 exVars3 exRoot
      (Spec.executeRequest exOps exS exDoc3 none exVars3 exRoot).data = true :=
  soundness_partial₃ exOps exS exDoc3 exHyps exOp3 none exVars3 exRoot "Query" rfl (by decide)
    exVarsOk3 exVarsTyped3 exOpsV3 (by decide)
    (mergeOk_of_keyNames _ exOp3 (by decide)) rfl exConf

/-! ### stage 4: the merge hypothesis derived from the static rule -/

/-- **C13-1, stage 4 (`soundness_partial₄`): `MergeOk` replaced by Field Selection Merging.**
Like `soundness_partial₃`, with the run-time hypothesis `MergeOk` replaced by the static rule of
the specification (§5.3.2 FieldsInSetCanMerge + SameResponseShape over the fragment-expanded
selection sets with parent types, `Valid.specMergeable`, an executable predicate on the document
that `checks/c13.py` evaluates on every document `validate()` accepts).  So: an operation that
passes validation (`validOp` and `specMergeable`), variable values as CoerceVariableValues hands
them over, no position where the specification defers to run time, a conforming root value ⇒ no
errors, and `data` of exactly the prescribed shape.

The derivation (`Valid.mergeOkT_of_specMergeable`): all fields CollectFields groups under one
response key for a runtime object type `T` come from scopes whose type condition contains `T`;
two parent types that both contain `T` are equal or not both object types, so FieldsInSetCanMerge
demands the same field name (and arguments) and a mergeable merged set, which is the selection
set execution continues with.  It uses `SoundHyps.ifaceOk` (an object type implements its
interfaces' fields with identical definitions) to identify the return type found on the runtime
type with the one found on the static parent type.

The merge fact derived is `MergeOkT`: `MergeOk` restricted to the object types a field's
sub-selections can be executed on (possible types of the field's return type); the general chain
is proved for both at once (`MergeInv`, `Gql/Proofs/SoundMergeInv.lean`).  The unrestricted `MergeOk`
does *not* follow from validation (`mergeOk_not_from_validation` below). -/
theorem soundness_partial₄ (ops : Ops) (s : Schema) (doc : Doc) (hyps : SoundHyps ops s)
    (op : Operation) (opName : Option Name) (vars : Vars) (root : RVal) (rt : Name)
    (hsel : Spec.getOperation doc.ops opName = some op)
    (hvalid : validOp s doc op = true)
    (hmergeable : specMergeable s doc op = true)
    (hvok : VarsOk op.vars vars) (htyped : VarsTyped s op.vars vars)
    (hops : OpsSoundV ops s op.vars vars)
    (hexc : mayHitNullViaDefault s doc op vars = false)
    (hroot : Spec.rootType s op.kind = some rt)
    (hconf : Conforms ops s (.named rt true) root) :
    (Spec.executeRequest ops s doc opName vars root).errors = [] ∧
    shapeResponse ops s doc op vars root (Spec.executeRequest ops s doc opName vars root).data = true :=
  MergeInv.soundness ops s doc hyps op opName vars root rt hsel hvalid hvok htyped hops hexc
    (mergeOkT_of_specMergeable ops s doc hyps op vars hvalid hmergeable).inv (.root hroot) hroot hconf

/-- `soundness_partial₄` for the implementation model of C02. -/
theorem soundness_partial₄_impl (ops : Ops) (s : Schema) (doc : Doc) (hyps : SoundHyps ops s)
    (hok : Refine.OpsOk ops)
    (op : Operation) (opName : Option Name) (vars : Vars) (root : RVal) (rt : Name)
    (hsel : Spec.getOperation doc.ops opName = some op)
    (hvalid : validOp s doc op = true)
    (hmergeable : specMergeable s doc op = true)
    (hvok : VarsOk op.vars vars) (htyped : VarsTyped s op.vars vars)
    (hops : OpsSoundV ops s op.vars vars)
    (hexc : mayHitNullViaDefault s doc op vars = false)
    (hroot : Spec.rootType s op.kind = some rt)
    (hconf : Conforms ops s (.named rt true) root) :
    ∃ resp, (Impl.executeRequest ops s doc opName vars root []).1 = .ok resp ∧
      resp.errors = [] ∧ shapeResponse ops s doc op vars root resp.data = true :=
  ⟨_, C02.impl_eq_spec ops hok s doc opName vars root,
    soundness_partial₄ ops s doc hyps op opName vars root rt hsel hvalid hmergeable hvok htyped hops
      hexc hroot hconf⟩

/-- **C13-2, stage 4 (`blame_partial₄`)**: `blame_partial₃` with `MergeOk` replaced by the static
rule `specMergeable`: for an operation that passes validation, over arbitrary data, no error of
the response is of a request-attributable kind. -/
theorem blame_partial₄ (ops : Ops) (s : Schema) (doc : Doc) (hyps : SoundHyps ops s)
    (op : Operation) (opName : Option Name) (vars : Vars) (root : RVal) (rt : Name)
    (hsel : Spec.getOperation doc.ops opName = some op)
    (hvalid : validOp s doc op = true)
    (hmergeable : specMergeable s doc op = true)
    (hvok : VarsOk op.vars vars) (htyped : VarsTyped s op.vars vars)
    (hops : OpsSoundV ops s op.vars vars)
    (hexc : mayHitNullViaDefault s doc op vars = false)
    (hroot : Spec.rootType s op.kind = some rt) :
    ∀ e ∈ (Spec.executeRequest ops s doc opName vars root).errors,
      e.kind ≠ .argCoercion ∧ e.kind ≠ .directiveCoercion :=
  MergeInv.blame ops s doc hyps op opName vars root rt hsel hvalid hvok htyped hops hexc
    (mergeOkT_of_specMergeable ops s doc hyps op vars hvalid hmergeable).inv (.root hroot) hroot

/-- **Field merging from the static rule**: validation (`validOp` + `specMergeable`) gives the merge fact execution needs,
and `soundness_partial₃`'s hypothesis `MergeOk` implies it (so stage 4 subsumes stage 3). -/
theorem mergeOkT_of_validation (ops : Ops) (s : Schema) (doc : Doc) (hyps : SoundHyps ops s)
    (op : Operation) (vars : Vars)
    (hvalid : validOp s doc op = true) (hmergeable : specMergeable s doc op = true) :
    MergeOkT { ops := ops, schema := s, doc := doc, vars := vars } op ∧
    (MergeOk { ops := ops, schema := s, doc := doc, vars := vars } op →
      MergeOkT { ops := ops, schema := s, doc := doc, vars := vars } op) :=
  ⟨mergeOkT_of_specMergeable ops s doc hyps op vars hvalid hmergeable, MergeOk.toT⟩

open Gql.Exec.Valid.Example in
/-- the hypotheses of `soundness_partial₄` / `blame_partial₄` are satisfiable (the stage 3 example:
the key `id` merged from a fragment spread and an inline fragment); `specMergeable` is evaluated -/
example : (Spec.executeRequest exOps exS exDoc3 none exVars3 exRoot).errors = [] ∧
    shapeResponse exOps exS exDoc3 exOp3 exVars3 exRoot
      (Spec.executeRequest exOps exS exDoc3 none exVars3 exRoot).data = true :=
  soundness_partial₄ exOps exS exDoc3 exHyps exOp3 none exVars3 exRoot "Query" rfl (by decide)
    (by decide) exVarsOk3 exVarsTyped3 exOpsV3 (by decide) rfl exConf

/-! ### `MergeOk` itself does not follow from validation -/


open Gql.Exec.Valid.MergeWitness in
/-- **`validOp → specMergeable → MergeOk` is false.**  The document
`{ a { x: foo ... on I { ... on B { x: bar } } } }` over `Query { a: A }` with object types `A`,
`B` implementing `I` passes validation (the parent types `A` and `B` of the two `x` are different
object types, so FieldsInSetCanMerge only asks for the same response shape; `validate()` of the
implementation accepts it as well).  `MergeOk` follows the sub-selections of `a` to *every* object
type, also to `B`, which `a : A` can never be at run time; collected for `B` the key `x` groups
`foo` and `bar`.  `MergeOkT`, which follows them only to the possible types of `A`, holds
(`mergeOkT_of_specMergeable`). -/
theorem mergeOk_not_from_validation :
    validOp wS wDoc wOp = true ∧ specMergeable wS wDoc wOp = true ∧ ¬ MergeOk wCx wOp := by
  refine ⟨by decide, by decide, ?_⟩
  intro h
  have hr : ReachSel wCx wOp "B"
      (Spec.mergeSelectionSets [{ alias := none, name := "a", args := [], dirs := [], sels := aSels }]) :=
    ReachSel.step (k := "a") (rt' := "B") (ReachSel.root (rt := "Query") rfl)
      (groups := [("a", [{ alias := none, name := "a", args := [], dirs := [], sels := aSels }])])
      rfl (List.mem_singleton.2 rfl) (by decide)
  have hu := h "B" _ hr
    [("x", [{ alias := some "x", name := "foo", args := [], dirs := [], sels := [] },
            { alias := some "x", name := "bar", args := [], dirs := [], sels := [] }])] rfl
  have hne := hu _ (List.mem_singleton.2 rfl)
    { alias := some "x", name := "foo", args := [], dirs := [], sels := [] } (by simp)
    { alias := some "x", name := "bar", args := [], dirs := [], sels := [] } (by simp)
  exact absurd hne (by decide)

open Gql.Exec.Valid.Example Gql.Exec.Valid.MergeWitness in
/-- the hypotheses of `soundness_partial₄` are satisfiable where the merge rule matters and stage 3
says nothing: in `{ a { x: foo ... on I { ... on B { x: bar } } } }` the key `x` names two different
fields (under the different object parent types `A` and `B`), so the checkable criterion of stage 3
fails (`keyNamesConsistent = false`) and `MergeOk` itself is false
(`mergeOk_not_from_validation`); `A` implements the interface `I` (`SoundHyps.ifaceOk` is used) -/
example : keyNamesConsistent wDoc wOp = false ∧
    (Spec.executeRequest exOps wS wDoc none [] wRoot).errors = [] ∧
    shapeResponse exOps wS wDoc wOp [] wRoot (Spec.executeRequest exOps wS wDoc none [] wRoot).data = true :=
  ⟨by decide, soundness_partial₄ exOps wS wDoc wHyps wOp none [] wRoot "Query" rfl (by decide) (by decide)
    wVarsOk wVarsTyped wOpsV (by decide) rfl wConf⟩

/-! ### `soundness_full` / `blame_full` as stated are false: `validOp` does not contain the merge rule -/

open Gql.Exec.Valid.Example Gql.Exec.Valid.FullWitness in
/-- **`soundness_full` is false as stated**: its only validation hypothesis is `validOp`, which
leaves out Field Selection Merging.  `{ x: b { __typename } x: a { q } }` over
`Query { a: A b: B }`, `A { q: String }`, `B { q(r: Int!): String }` passes `validOp`; the key `x`
groups `b` and `a`, the merged sub-selections `{ __typename q }` are executed on `B`, where `q`
lacks its required argument: an argument coercion error over conforming data.  (`validate()`
rejects the document: "'b' and 'a' are different fields".)  The true statement is
`soundness_partial₄`, whose `specMergeable` is the missing rule. -/
theorem soundness_full_false : ¬ soundness_full := by
  intro h
  have h1 := (h exOps fS fDoc fOp none [] fRoot "Query" fHyps rfl fValid fVarsOk fVarsTyped fOpsV fExc
    rfl fConf).1
  have h2 := fErrors
  rw [h1] at h2
  simp at h2

open Gql.Exec.Valid.Example Gql.Exec.Valid.FullWitness in
/-- **`blame_full` is false as stated** (same request as `soundness_full_false`; the error is of
kind argument coercion).  The true statement is `blame_partial₄`. -/
theorem blame_full_false : ¬ blame_full := by
  intro h
  have h1 := h exOps fS fDoc fOp none [] fRoot "Query" fHyps rfl fValid fVarsOk fVarsTyped fOpsV fExc rfl
  have hm : ErrKind.argCoercion ∈ (Spec.executeRequest exOps fS fDoc none [] fRoot).errors.map (·.kind) := by
    rw [fErrors]; simp
  obtain ⟨e, he, hk⟩ := List.mem_map.1 hm
  exact (h1 e he).1 hk

open Gql.Exec.Valid.FullWitness in
/-- the request of `soundness_full_false` is not accepted by the static merge rule -/
example : specMergeable fS fDoc fOp = false := by decide

end Gql.Props.C13
