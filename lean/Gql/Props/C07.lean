import Gql.Proofs.Subscribe
/-!
# C07 — A subscription maps source events to responses one-to-one and in order

Property theorems only (lemmas: `Gql/Proofs/Subscribe.lean`).  Model:
`Gql.Async.Subscribe` — `subscribe`/`createSourceEventStream`/`executeSubscription` for the
creation phase; the transition system `step`/`run` over `push | pull | close` for
`map_source_to_response_event` = `map_async_iterable(source, callback)`; `execEvent` for
`build_per_event_executor` + `execute_subscription_event`.

All stream theorems are stated for `s = run exec (init src) ops` with `ops` an *arbitrary* list
of producer pushes, consumer pulls and closes: every interleaving, every source (any event
list, ending or raising after any number of events), every per-event execution function
`exec` (the executor is C02's model; here it is a parameter).
-/
namespace Gql.Props.C07
open Gql Gql.Async.Subscribe

variable {Ev R X : Type}

/-- C07-1a (one-to-one, in order, at every moment). Whatever the interleaving of producer and
consumer, the responses delivered so far are a prefix of `events.map exec`: response `i` is
`exec` of event `i`, none is skipped, duplicated or reordered. -/
theorem responses_prefix (exec : Ev → R) (src : Source Ev X) (ops : List Op) :
    responsesOf (run exec (init src) ops).out <+: src.events.map exec := by
  obtain ⟨⟨consumed, j, hsplit, hout, _, _⟩, _, _, _⟩ := inv_reach exec src ops
  rw [hout, responsesOf_append, responsesOf_replicate_done, List.append_nil,
    ← responsesOf_expected exec src, ← map_outOf_items, ← hsplit]
  rw [List.append_assoc, List.map_append, responsesOf_append]
  exact List.prefix_append _ _

/-- C07-1 (`responses = events.map exec`). For every event list and every interleaving: once
the stream has finished without the consumer closing it, what the consumer received is exactly
one response per event, in source order, each `exec` of that event, followed by how the source
finished, followed only by further "finished" answers to further pulls. -/
theorem responses_eq_map (exec : Ev → R) (src : Source Ev X) (ops : List Op)
    (hfin : (run exec (init src) ops).finished = true)
    (hnc : (run exec (init src) ops).closedEarly = false) :
    ∃ j, (run exec (init src) ops).out = expected exec src ++ List.replicate j Delivered.done := by
  obtain ⟨⟨consumed, j, hsplit, hout, _, hfc⟩, _, _, _⟩ := inv_reach exec src ops
  obtain ⟨hq, hp⟩ := hfc hfin hnc
  rw [hq, hp] at hsplit
  simp at hsplit
  exact ⟨j, by rw [hout, hsplit, map_outOf_items]⟩

/-- C07-1, as a statement about the responses alone. -/
theorem responses_eq_map' (exec : Ev → R) (src : Source Ev X) (ops : List Op)
    (hfin : (run exec (init src) ops).finished = true)
    (hnc : (run exec (init src) ops).closedEarly = false) :
    responsesOf (run exec (init src) ops).out = src.events.map exec := by
  obtain ⟨j, h⟩ := responses_eq_map exec src ops hfin hnc
  rw [h, responsesOf_append, responsesOf_replicate_done, List.append_nil, responsesOf_expected]

/-- C07-3 (a source raising after `k` events). The `k` responses for the earlier events come
first, then exactly that exception surfaces to the consumer. -/
theorem source_error_after_prefix (exec : Ev → R) (events : List Ev) (x : X) (ops : List Op)
    (hfin : (run exec (init ⟨events, .raise x⟩) ops).finished = true)
    (hnc : (run exec (init ⟨events, .raise x⟩) ops).closedEarly = false) :
    ∃ j, (run exec (init ⟨events, .raise x⟩) ops).out =
      events.map (fun e => Delivered.resp (exec e)) ++ [Delivered.exc x] ++
        List.replicate j Delivered.done := by
  obtain ⟨j, h⟩ := responses_eq_map exec ⟨events, .raise x⟩ ops hfin hnc
  exact ⟨j, by rw [h]; rfl⟩

/-- C07-4 (the stream ends when the source ends). After the responses for all events the
stream ends. -/
theorem ends_with_source (exec : Ev → R) (events : List Ev) (ops : List Op)
    (hfin : (run exec (init (⟨events, .finish⟩ : Source Ev X)) ops).finished = true)
    (hnc : (run exec (init (⟨events, .finish⟩ : Source Ev X)) ops).closedEarly = false) :
    ∃ j, (run exec (init (⟨events, .finish⟩ : Source Ev X)) ops).out =
      events.map (fun e => Delivered.resp (exec e)) ++ [Delivered.done] ++
        List.replicate j Delivered.done := by
  obtain ⟨j, h⟩ := responses_eq_map exec ⟨events, .finish⟩ ops hfin hnc
  exact ⟨j, by rw [h]; rfl⟩

/-- C07-4 (… and not before). If the consumer never closes and has been told "finished" or has
been handed an exception, then the source really had finished that way and every event's
response was delivered before. -/
theorem no_early_end (exec : Ev → R) (src : Source Ev X) (ops : List Op) (hops : Op.close ∉ ops)
    (d : Delivered R X) (hd : d ∈ (run exec (init src) ops).out) (hnr : ∀ r, d ≠ .resp r) :
    ∃ j, (run exec (init src) ops).out = expected exec src ++ List.replicate j Delivered.done := by
  have hnc := closedEarly_run exec ops (init src) hops rfl
  cases hfin : (run exec (init src) ops).finished with
  | true => exact responses_eq_map exec src ops hfin hnc
  | false =>
    exfalso
    obtain ⟨evs, -, hout, -⟩ := (inv_reach exec src ops).running hfin
    obtain ⟨e, -, he⟩ := List.mem_map.1 (hout ▸ hd)
    exact hnr (exec e) he.symm

/-- C07-5 (every interleaving completes; nothing is lost, nothing gets stuck). From the state
reached by *any* schedule, *any* continuation in which the producer only emits while it has
items and the consumer only pulls when its previous pull has returned, and which is at least
`fuel` long, finishes the stream — and then `responses_eq_map` applies. -/
theorem drain_finishes (exec : Ev → R) (src : Source Ev X) (ops more : List Op)
    (hen : EnabledRun exec (run exec (init src) ops) more)
    (hlen : fuel (run exec (init src) ops) ≤ more.length) :
    (run exec (run exec (init src) ops) more).finished = true :=
  enabled_run_finishes exec src more _ (inv_reach exec src ops) hen hlen

/-- The source is closed exactly once when the stream finishes after having been started, and
not at all if the consumer closes a stream it never pulled from (link to C06). -/
theorem source_closed_once (exec : Ev → R) (src : Source Ev X) (ops : List Op) :
    (run exec (init src) ops).srcClosed =
      if (run exec (init src) ops).finished && (run exec (init src) ops).started then 1 else 0 :=
  (inv_reach exec src ops).closed

/-- C07-2 (creation clause). Whatever goes wrong while creating the source — no subscription
type, no root field left, unknown field, argument coercion, the `subscribe` resolver raising,
returning an exception or returning something that is not an async iterable, synchronously or
through an awaitable — `subscribe` returns exactly one errors-only result with one error; not a
stream, not an exception. -/
theorem creation_failure_single_response (f : CreateFault) (awaited : Bool) :
    subscribe (.fault f awaited : Request Ev X) = .ok (.errorsOnly 1) := by
  cases f <;> rfl

/-- C07-2b. A request the executor cannot be built for (no operation, variable coercion errors)
gives one errors-only result carrying those errors; a working source gives the stream. -/
theorem build_failure_single_response (f : BuildFault) :
    ∃ n, 0 < n ∧ subscribe (.badBuild f : Request Ev X) = .ok (.errorsOnly n) := by
  cases f with
  | noOperation => exact ⟨1, by omega, rfl⟩
  | variableCoercion n => exact ⟨n + 1, by omega, rfl⟩

theorem working_source_gives_stream (s : Source Ev X) (awaited : Bool) :
    subscribe (.source s awaited) = .ok (.stream s) := rfl

/-- C07-6 (isolation). The response for an event carries exactly the errors executing *that*
event produces, whatever the parent executor had collected before — errors of event `i` never
appear in the response for event `j`. -/
theorem isolation {D E : Type} (runEv : Ev → D × List E) (parent : Executor Ev E) (ev : Ev) :
    (execEvent runEv parent ev).errors = (runEv ev).2 ∧ (execEvent runEv parent ev).data = (runEv ev).1 := by
  simp [execEvent, executeOperation, buildPerEventExecutor]

/-- C07-6 on the stream: in every interleaving the `i`-th delivered response has the errors of
the `i`-th event and of no other. -/
theorem isolation_stream {D E : Type} (runEv : Ev → D × List E) (parent : Executor Ev E)
    (src : Source Ev X) (ops : List Op) :
    (responsesOf (run (execEvent runEv parent) (init src) ops).out).map (·.errors) <+:
      src.events.map (fun ev => (runEv ev).2) := by
  obtain ⟨t, ht⟩ := responses_prefix (execEvent runEv parent) src ops
  refine ⟨t.map (·.errors), ?_⟩
  rw [← List.map_append, ht, List.map_map]
  apply List.map_congr_left
  intro ev _
  exact (isolation runEv parent ev).1

/-- three events, the second and third with field errors; exception `7` after them -/
private def exSrc : Source (Nat × Nat) Nat := ⟨[(10, 0), (11, 2), (12, 1)], .raise 7⟩
private def exRun (e : Nat × Nat) : Nat × List (Nat × Nat) :=
  (e.1, (List.range e.2).map (fun j => (e.1, j)))
private def exExec := execEvent exRun ⟨(0, 0), [(99, 99)]⟩

-- consumer first, producer bursts, consumer catches up: finished, not closed early, and the
-- output is the three responses, the exception, and one more "finished"
example :
    let s := run exExec (init exSrc) [.pull, .push, .push, .push, .pull, .push, .pull, .pull, .pull]
    s.finished = true ∧ s.closedEarly = false ∧
      s.out = [.resp ⟨10, []⟩, .resp ⟨11, [(11, 0), (11, 1)]⟩, .resp ⟨12, [(12, 0)]⟩, .exc 7, .done] ∧
      s.srcClosed = 1 := by decide

-- an unfinished schedule: two responses so far (a proper prefix), consumer blocked
example :
    let s := run exExec (init exSrc) [.push, .pull, .pull, .push, .pull]
    s.finished = false ∧ s.waiting = true ∧ responsesOf s.out = [⟨10, []⟩, ⟨11, [(11, 0), (11, 1)]⟩] := by
  decide

-- the continuation [push, push, pull, pull] is enabled and as long as `fuel`, hence finishes
example :
    let s := run exExec (init exSrc) [.push, .pull, .pull, .push, .pull]
    EnabledRun exExec s [.push, .push, .pull, .pull] ∧ fuel s ≤ 4 := by
  decide

-- closing before the first pull: no response, the source is not closed (it was never started)
example :
    let s := run exExec (init exSrc) [.push, .close, .pull]
    s.out = [.done] ∧ s.srcClosed = 0 ∧ s.closedEarly = true := by decide

-- isolation is not vacuous: threading one accumulator through the events leaks errors of
-- event 11 into the response for event 12
example : execEventsShared exRun [] [(11, 1), (12, 0)] = [⟨11, [(11, 0)]⟩, ⟨12, [(11, 0)]⟩] ∧
    [(11, 1), (12, 0)].map exExec = [⟨11, [(11, 0)]⟩, ⟨12, []⟩] := by decide

end Gql.Props.C07
