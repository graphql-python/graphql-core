import Gql.Proofs.VariablesTotal
import Gql.Proofs.Conforms
import Gql.Proofs.RoundTripMain
import Gql.Proofs.Scoping
/-!
# C15 — Input coercion and input validation agree on values, literals and variables

Property theorems only (lemmas: `Gql/Proofs/{Values,ScalarConforms,Coerce,CoerceValue,LiteralBasics,
CoerceLiteral,Conforms,RoundTrip*,Scoping,VariablesTotal}.lean`).
Models: `coerceValue`/`coerceLiteral` (coerce_input_value.py), `validateValue`/`validateLiteral`
(validate_input_value.py), `valueToLiteral` (value_to_literal.py), `getVariableValues`
(values.py), scalar and enum coercers (scalars.py, definition.py).

`coerce_default_value` is the parameter `D`.  The hypotheses are what schema validation and
Python itself guarantee, spelled out:
* `TmWF D tm`: defaults valid (`D` returns), OneOf fields nullable and without defaults, no enum
  with internal value `None`, field names of an input object pairwise different;
* `v.WF`: dict keys pairwise different (true of every Python dict);
* `l.Unique`: object literals have unique field names (`UniqueInputFieldNamesRule`);
* `VarOK vars l t`: a bare variable without runtime value at a nullable position is "no value"
  (callers test it first) — the one excluded case.
All clauses of the property are proved.
-/
namespace Gql.Props.C15
open Gql Gql.Values Gql.Generated.ScalarConsts

/-! ### coercion succeeds ⇔ validation reports nothing (values) -/

/-- C15-1 (values). For every well-formed type map — any nesting of list/non-null over the
built-in scalars, enums, recursive input objects with defaults **and OneOf input objects** —
every Python value and every type: `coerce_input_value` never raises, and it returns a value
other than `Undefined` exactly when `validate_input_value` reports no error. -/
theorem coerce_iff_valid_value (c : PyConv) (D : Field → R) (tm : TypeMap) (hW : TmWF D tm)
    (v : PyVal) (hv : v.WF) (t : InType) :
    (∃ cv, coerceValue c D tm v t = .ok cv ∧ cv ≠ .undefined) ↔ validateInputValue c tm v t = [] :=
  accepts_iff_of_agree (coerce_validate_value_full c D tm hW v t [] hv)

/-- The same without OneOf objects needs no hypothesis on enums, field names or dict keys. -/
theorem coerce_iff_valid_value_noOneOf (c : PyConv) (D : Field → R) (tm : TypeMap)
    (hD : DefaultsTotal D) (hO : NoOneOf tm) (v : PyVal) (t : InType) :
    (∃ cv, coerceValue c D tm v t = .ok cv ∧ cv ≠ .undefined) ↔ validateInputValue c tm v t = [] :=
  accepts_iff_of_agree (coerce_validate_value c D tm v t [] (.inl ⟨hD, hO⟩))

/-- C15-1b. `coerce_input_value` never raises when defaults are valid: every exception of a leaf
coercer is swallowed, and the only `TypeError` it can raise itself is that of an invalid default. -/
theorem coerce_value_no_crash (c : PyConv) (D : Field → R) (tm : TypeMap) (hW : TmWF D tm)
    (v : PyVal) (hv : v.WF) (t : InType) : ∃ cv, coerceValue c D tm v t = .ok cv :=
  let ⟨cv, h, _⟩ := coerce_validate_value_full c D tm hW v t [] hv
  ⟨cv, h⟩

/-- C15-1c (wrong containers). At an input-object position every non-null value that is not a
`dict` — a Mapping that is not a dict (MappingProxyType, ChainMap, UserDict …), a list, tuple,
set, generator, string, number or other object — is rejected by *both* functions:
`coerce_input_value` returns `Undefined` and `validate_input_value` reports exactly one error at
that position. Holds for every type map (OneOf included). -/
theorem non_dict_rejected_by_both (c : PyConv) (D : Field → R) (tm : TypeMap) (v : PyVal) (n : List Nat)
    (fields : List Field) (oneOf : Bool) (path : Path)
    (hf : tm.find n = some (.inputObject fields oneOf)) (hn : v.isNullish = false) (hd : v.asDict = none) :
    coerceValue c D tm v (.named n) = .ok .undefined ∧ validateValue c tm v (.named n) path = [path] :=
  ⟨coerceValue_notobj c D tm (by simp [hn]) hf hd, validateValue_notobj c tm (by simp [hn]) hf hd⟩

/-- … in particular for the non-dict mappings and the non-list iterables of the value zoo; and at
a list position a Mapping (like a str) is not iterated but taken as a list of one. -/
theorem wrong_containers_not_dict (kvs : List (List Nat × PyVal)) (xs : List PyVal) (s : List Nat) (o : PyObj) :
    (PyVal.mapping kvs).asDict = none ∧ (PyVal.iter xs).asDict = none ∧ (PyVal.list xs).asDict = none ∧
    (PyVal.tuple xs).asDict = none ∧ (PyVal.str s).asDict = none ∧ (PyVal.other o).asDict = none ∧
    (PyVal.mapping kvs).iterItems = none ∧ (PyVal.dict kvs).iterItems = none ∧ (PyVal.str s).iterItems = none ∧
    (PyVal.iter xs).iterItems = some xs ∧ (PyVal.tuple xs).iterItems = some xs :=
  ⟨rfl, rfl, rfl, rfl, rfl, rfl, rfl, rfl, rfl, rfl, rfl⟩

-- non-vacuity: `MappingProxyType({"x": 1})` at `P` (an input object of `exTm` below)
example : (PyVal.mapping [([120], .int 1)]).isNullish = false ∧ (PyVal.mapping [([120], .int 1)]).asDict = none :=
  ⟨rfl, rfl⟩

/-- The error paths do not matter for agreement: validation is silent at one path prefix iff it
is silent at any other. -/
theorem validate_silent_path_independent (c : PyConv) (D : Field → R) (tm : TypeMap) (hW : TmWF D tm)
    (v : PyVal) (hv : v.WF) (t : InType) (p q : Path) :
    validateValue c tm v t p = [] ↔ validateValue c tm v t q = [] := by
  obtain ⟨cv, hcv, hp⟩ := coerce_validate_value_full c D tm hW v t p hv
  obtain ⟨cv', hcv', hq⟩ := coerce_validate_value_full c D tm hW v t q hv
  rw [hcv] at hcv'
  simp only [Out.ok.injEq] at hcv'
  subst hcv'
  rw [hp, hq]

/-! ### coercion succeeds ⇔ validation reports nothing (literals) -/

/-- C15-1 (literals), static and with a variable map. For every well-formed type map (OneOf
included), every literal with unique field names — constant when validated statically
(`vars = none`), arbitrary with a variable map — at every type: `coerce_input_literal` never
raises, and returns a value other than `Undefined` exactly when `validate_input_literal` reports
no error. Lists (a missing variable in a list becomes null), objects (a missing variable counts
as an absent field), OneOf (exactly one field, not null, variable with a non-null runtime value)
and the leaf coercers are all covered. -/
theorem coerce_iff_valid_literal (c : PyConv) (D : Field → R) (tm : TypeMap) (hW : TmWF D tm)
    (vars : Option VarValues) (l : Lit) (t : InType)
    (hconst : vars = none → l.isConst = true) (hu : l.Unique) (hok : VarOK vars l t) :
    (∃ cv, coerceLiteral c D tm vars l t = .ok cv ∧ cv ≠ .undefined) ↔
      validateInputLiteral c tm vars l t = [] :=
  accepts_iff_of_agree (coerce_validate_literal_full c D tm hW vars l t [] hconst hu hok)

/-- C15-1 (fragment variables, the scoping rule). With experimental fragment arguments both
functions receive the operation's `VariableValues` and the fragment's `FragmentVariableValues`;
the variable a name refers to is `scopeVars vars fvars`: a name the fragment declares (a key of
`.sources` — with a value, with a default or *without any value*) is looked up in the fragment's
coerced values only, so it shadows an operation variable of the same name even when it has no
value; any other name is the operation's. -/
theorem fragment_scope_shadows (vars : Option VarValues) (fv : FragVarValues) (x : List Nat) :
    varGet (scopeVars vars (some fv)) x = if x ∈ fv.sources then fragLookup fv x else varGet vars x :=
  varGet_scopeVars vars fv x

/-- C15-1 (literals, with operation *and* fragment variables): coercion returns a value exactly
when validation is silent, both reading variables through the same scoping rule. "Static" means
that neither map is given (`scopeVars_isNone`). -/
theorem coerce_iff_valid_literal_scoped (c : PyConv) (D : Field → R) (tm : TypeMap) (hW : TmWF D tm)
    (vars : Option VarValues) (fvars : Option FragVarValues) (l : Lit) (t : InType)
    (hconst : vars = none → fvars = none → l.isConst = true) (hu : l.Unique)
    (hok : VarOK (scopeVars vars fvars) l t) :
    (∃ cv, coerceLiteral c D tm (scopeVars vars fvars) l t = .ok cv ∧ cv ≠ .undefined) ↔
      validateInputLiteral c tm (scopeVars vars fvars) l t = [] := by
  apply coerce_iff_valid_literal c D tm hW (scopeVars vars fvars) l t _ hu hok
  intro hnone
  have h := scopeVars_isNone vars fvars
  rw [hnone] at h
  simp only [Option.isNone_none, Bool.true_eq, Bool.and_eq_true, Option.isNone_iff_eq_none] at h
  exact hconst h.1 h.2

-- a fragment that declares `$x` without a value hides the operation's `$x = 5`
example : varGet (scopeVars (some ⟨[], [([120], .int 5)]⟩) (some ⟨[[120]], []⟩)) [120] = .undefined ∧
    varGet (scopeVars (some ⟨[], [([120], .int 5)]⟩) (some ⟨[[121]], []⟩)) [120] = .int 5 := by
  rw [varGet_scopeVars, varGet_scopeVars]
  simp [fragLookup, PyVal.dictGet, varGet]

/-- `coerce_input_literal` never raises on such literals. -/
theorem coerce_literal_no_crash (c : PyConv) (D : Field → R) (tm : TypeMap) (hW : TmWF D tm)
    (vars : Option VarValues) (l : Lit) (t : InType)
    (hconst : vars = none → l.isConst = true) (hu : l.Unique) (hok : VarOK vars l t) :
    ∃ cv, coerceLiteral c D tm vars l t = .ok cv :=
  let ⟨cv, h, _⟩ := coerce_validate_literal_full c D tm hW vars l t [] hconst hu hok
  ⟨cv, h⟩

/-- C15-4 `rule_iff_coerce`. `ValuesOfCorrectTypeRule` calls `validate_input_literal` statically
(no variable map) on the argument literal and reports each of its errors, so its verdict on a
constant argument is `validateInputLiteral … none`; it accepts the argument exactly when
`coerce_input_literal` returns a value. (That the rule is this call is checked on the
implementation by the correspondence `ValuesOfCorrectTypeRule` and the `rule-iff` oracle.) -/
theorem rule_iff_coerce (c : PyConv) (D : Field → R) (tm : TypeMap) (hW : TmWF D tm)
    (l : Lit) (t : InType) (hc : l.isConst = true) (hu : l.Unique) :
    validateInputLiteral c tm none l t = [] ↔
      (∃ cv, coerceLiteral c D tm none l t = .ok cv ∧ cv ≠ .undefined) := by
  exact (coerce_iff_valid_literal c D tm hW none l t (fun _ => hc) hu
    (VarOK_of_not_var (asVar_none_of_const hc))).symm

/-- The one excluded case is real: a bare variable without runtime value at a nullable type
coerces to `Undefined` ("no value") while validation is silent. -/
example : coerceLiteral ⟨fun _ => none, fun _ => none, fun _ => none, fun _ => [], fun _ => none⟩
      (fun _ => .ok .undefined) [] (some ⟨[], []⟩) (.var [120]) (.named [73]) = .ok .undefined ∧
    validateInputLiteral ⟨fun _ => none, fun _ => none, fun _ => none, fun _ => [], fun _ => none⟩
      [] (some ⟨[], []⟩) (.var [120]) (.named [73]) = [] := by
  constructor
  · rw [coerceLiteral]; simp [Lit.asVar, varGet, PyVal.dictGet, PyVal.isNullish, InType.isNonNull]
  · unfold validateInputLiteral; rw [validateLiteral]
    simp [Lit.asVar, varGet, PyVal.dictGet, PyVal.isNullish, InType.isNonNull]

/-! ### a result conforms to the type -/

abbrev ScalarConforms := Gql.Values.ScalarConforms

/-- C15-2 (leaf clause, values): whatever Python value is supplied, a built-in scalar's input
coercion yields a 32-bit Int / a finite Float (a `float`, also for an `int` input) / text / a
bool — or rejects. -/
theorem scalar_value_conforms (c : PyConv) (s : Scalar) (v r : PyVal)
    (h : s.coerceValue c v = .ok r) : ScalarConforms s r :=
  Scalar.coerceValue_conforms c s v r h

/-- C15-2 (leaf clause, literals): the same for literals. For Float this is the theorem that did
**not** hold on the code as found: `parse_float_literal` returned `float('1e1000') = inf`
(witness below); it holds for the repaired code (repo_patches/float_literal_finite.diff). -/
theorem scalar_literal_conforms (c : PyConv) (s : Scalar) (l : Lit) (r : PyVal)
    (h : s.coerceLiteral c l = .ok r) : ScalarConforms s r :=
  Scalar.coerceLiteral_conforms c s l r h

/-- the code as found: `return float(value_node.value)` without a finiteness test -/
def parseFloatLiteralAsFound (c : PyConv) : Lit → R
  | .float s | .int s =>
    match c.floatOfStr s with
    | Option.none => .crash "ValueError"
    | some f => .ok (.float f)
  | _ => .err ()

/-- Witness (replayed on the implementation by `checks/c15.py`, corpus W1): with CPython's
`float('1e1000') = inf`, the literal `1e1000` coerced to a non-finite Float. -/
example : ∃ c : PyConv, parseFloatLiteralAsFound c (.float [49, 101, 49, 48, 48, 48]) = .ok (.float (.inf false)) :=
  ⟨⟨fun _ => none, fun _ => some (.inf false), fun _ => none, fun _ => [], fun _ => none⟩, rfl⟩

/-- An enum's input coercion yields one of its internal values. -/
theorem enum_value_conforms (e : EnumType) (v r : PyVal) (h : e.coerceInputValue v = .ok r) :
    ∃ name, (name, r) ∈ e.values :=
  let ⟨s, _, hw⟩ := EnumType.coerceInputValue_ok h
  ⟨s, dictGet_mem hw⟩

/-- C15-2 `coerced_conforms` (values). Every value `coerce_input_value` returns conforms to the
type in the sense of `Gql.Values.Conforms`: 32-bit Int, finite Float, text, boolean, a declared
enum value; lists of conforming items; for input objects exactly the declared fields in declared
order, each conforming, with non-null and defaulted fields present; exactly one entry that is not
`None` for OneOf; and `None` only where the type is nullable. `DefaultsConform` asks of
`coerce_default_value` that its own results conform. -/
theorem coerced_conforms (c : PyConv) (D : Field → R) (tm : TypeMap) (hW : TmWF D tm)
    (hDC : DefaultsConform D tm) (v : PyVal) (t : InType) (cv : PyVal)
    (h : coerceValue c D tm v t = .ok cv) (hu : cv ≠ .undefined) : Conforms D tm t cv :=
  coerceValue_conforms c D tm hW hDC v t h hu

/-- C15-2 `coerced_conforms` (literals). The same for every value `coerce_input_literal` returns
for a constant literal with unique field names: it conforms to the type — in particular a Float
literal never yields a non-finite float (the defect of the code as found, see
`scalar_literal_conforms`). -/
theorem coerced_conforms_literal (c : PyConv) (D : Field → R) (tm : TypeMap) (hW : TmWF D tm)
    (hDC : DefaultsConform D tm) (l : Lit) (t : InType) (cv : PyVal) (hc : l.isConst = true) (hu : l.Unique)
    (h : coerceLiteral c D tm none l t = .ok cv) (hcu : cv ≠ .undefined) : Conforms D tm t cv :=
  coerceLiteral_conforms c D tm hW hDC l t hc hu h hcu

/-- C15-2 (non-null clause, direct form): a nullish input under a non-null type is rejected. -/
theorem nullish_under_nonNull_rejected (c : PyConv) (D : Field → R) (tm : TypeMap) (v : PyVal) (t : InType)
    (hv : v.isNullish = true) : coerceValue c D tm v (.nonNull t) = .ok .undefined := by
  rw [coerceValue]; simp [hv]

/-- … and under a nullable type `None`/`Undefined` coerce to `None` and validate silently. -/
theorem null_is_valid_nullable (c : PyConv) (D : Field → R) (tm : TypeMap) (v : PyVal) (t : InType)
    (hv : v.isNullish = true) (ht : t.isNonNull = false) :
    coerceValue c D tm v t = .ok .none ∧ validateInputValue c tm v t = [] := by
  unfold validateInputValue
  cases t with
  | nonNull t' => simp [InType.isNonNull] at ht
  | list t' => rw [coerceValue, validateValue]; simp [hv]
  | named n => rw [coerceValue, validateValue]; simp [hv]

/-! ### literal round trip -/

/-- C15-3 `literal_roundtrip` at leaf types (all five built-in scalars and enums), under the
CPython laws `RoundTripLaws` (`int(str(z)) = z`, `float(repr(f)) = f`, `float(str(z)) = float(z)`,
`str()` succeeds for every int that converts to float, `float()` succeeds for 32-bit ints):
whenever the leaf type's input coercion accepts a value, its `value_to_literal` yields a literal
and its `coerce_input_literal` reads that literal back as exactly the coerced value. -/
theorem literal_roundtrip_leaf (c : PyConv) (hL : RoundTripLaws c) (leaf : Leaf) (v : PyVal)
    (hu : leafValue c leaf v ≠ .undefined) :
    ∃ l, leafToLiteral c leaf v = some l ∧ leafLiteral c leaf l = leafValue c leaf v :=
  leaf_roundtrip c hL leaf v hu

/-- C15-3 `literal_roundtrip`. For every well-formed type map (OneOf included), every Python
value (dict keys unique) and every type: if `coerce_input_value` accepts the value with result
`cv`, then `value_to_literal` produces a literal (never a variable) and `coerce_input_literal`
— without variables — reads that literal back as exactly `cv`. Through lists (a non-iterable value
becomes a list of one on both routes), through input objects (omitted fields pick up the same
defaults on the way back), through OneOf, and at every leaf under the CPython laws
`RoundTripLaws`. -/
theorem literal_roundtrip (c : PyConv) (D : Field → R) (tm : TypeMap) (hL : RoundTripLaws c) (hW : TmWF D tm)
    (v : PyVal) (hv : v.WF) (t : InType) (cv : PyVal)
    (h : coerceValue c D tm v t = .ok cv) (hu : cv ≠ .undefined) :
    ∃ l, valueToLiteral c tm v t = some l ∧ l.asVar = none ∧ coerceLiteral c D tm none l t = .ok cv :=
  valueToLiteral_roundtrip c D tm hL hW v t hv h hu

/-! ### variables -/

/-- C15-5 `variables_total`. For every well-formed type map, every list of variable definitions
(default literals constant with unique field names — what the grammar and
`UniqueInputFieldNamesRule` give) and every input dict: `get_variable_values` never raises and
returns either a non-empty list of errors, or variable values that contain a coerced value for
every variable that is provided or has a default. A variable is never silently dropped. -/
theorem variables_total (c : PyConv) (D : Field → R) (tm : TypeMap) (hW : TmWF D tm)
    (defs : List VarDef) (inputs : List (List Nat × PyVal))
    (hin : InputsWF inputs) (hd : ∀ d ∈ defs, d.DefaultOK) :
    (∃ errs, getVariableValues c D tm defs inputs = .ok (.inl errs) ∧ errs ≠ []) ∨
    (∃ vv, getVariableValues c D tm defs inputs = .ok (.inr vv) ∧
      ∀ d ∈ defs, (dictGetDefined inputs d.name ≠ none ∨ d.default ≠ none) →
        ∃ cv, PyVal.dictGet vv.coerced d.name = some cv) :=
  getVariableValues_total c D tm hW defs inputs hin hd

/-! ### non-vacuity: a well-formed type map with a OneOf object exists -/

/-- `input P { x: Int!, y: [Float] }`, `input O @oneOf { a: Int, b: P }` -/
def exTm : TypeMap :=
  [([73], .scalar .int), ([70], .scalar .float),
   ([80], .inputObject [⟨[120], .nonNull (.named [73]), .none⟩, ⟨[121], .list (.named [70]), .none⟩] false),
   ([79], .inputObject [⟨[97], .named [73], .none⟩, ⟨[98], .named [80], .none⟩] true)]

def exD : Field → R := fun _ => .ok .undefined

example : TmWF exD exTm where
  defaults := fun _ => ⟨_, rfl⟩
  oneOfNoDefaults := fun _ _ _ _ _ => rfl
  oneOfNullable := by
    intro n fields h f hf
    have := TypeMap.find_mem h
    simp only [exTm, List.mem_cons, Prod.mk.injEq, reduceCtorEq, and_false, false_or, List.mem_nil_iff, or_false,
      NamedDef.inputObject.injEq, Bool.false_eq_true] at this
    obtain ⟨_, rfl, _⟩ := this
    simp only [List.mem_cons, List.mem_nil_iff, or_false] at hf
    rcases hf with rfl | rfl <;> rfl
  enumsNonNull := by
    intro n e h
    have := TypeMap.find_mem h
    simp [exTm] at this
  fieldsNodup := by
    intro n fields o h
    have := TypeMap.find_mem h
    simp only [exTm, List.mem_cons, Prod.mk.injEq, reduceCtorEq, and_false, false_or, List.mem_nil_iff, or_false,
      NamedDef.inputObject.injEq] at this
    rcases this with ⟨_, rfl, _⟩ | ⟨_, rfl, _⟩ <;> decide

-- a well-formed value for `O`, a literal with unique names, a variable definition with a default
example : (PyVal.dict [([97], .int 1)]).WF ∧ (Lit.obj [([97], .int [49])]).Unique ∧
    (VarDef.mk [118] (some (.named [79])) (some (.obj [([97], .int [49])]))).DefaultOK := by
  refine ⟨by simp [PyVal.WF, PyVal.WFDict], by simp [Lit.Unique, Lit.UniqueFields], ?_⟩
  intro dl h
  simp only [Option.some.injEq] at h
  subst h
  exact ⟨rfl, by simp [Lit.Unique, Lit.UniqueFields]⟩

example : parseFloatLiteral ⟨fun _ => none, fun _ => some (.inf false), fun _ => none, fun _ => [], fun _ => none⟩
    (.float [49, 101, 49, 48, 48, 48]) = .err () := rfl

end Gql.Props.C15
