import Gql.Proofs.SchemaBuildSchema
import Gql.Proofs.SchemaSortIdem
import Gql.Proofs.SchemaExtStage
import Gql.Proofs.SchemaExtAutopick
/-!
# C19 — Schema transformations preserve meaning: extend equals build, sort only reorders

Property theorems only (lemmas: `Gql/Proofs/SchemaDiff*`, `SchemaSort*`, `SchemaExt*`,
`SchemaBuild*`).  Models: `Gql.Types.extendDefs` (`extend_schema`: `extend_schema_args` +
`map_schema_config`), `Gql.Types.buildFromDefs` (`build_ast_schema`), `Gql.Types.sortSchema`
(`lexicographic_sort_schema`, `natural_comparison_key`), `Gql.Types.changes`
(`find_schema_changes`).  Same level as C17: schema content and the structured definition AST;
text ⇄ definitions is C08's layer, tied here by the correspondence run of `checks/c19.py`.
-/
namespace Gql.Props.C19
open Gql Gql.Types

/-- C19-4a. Comparing any well-formed schema with itself reports no changes. -/
theorem changes_refl (s : Schema) (h : WFSchema s = true) : changes s s = [] :=
  Gql.Types.changes_refl s h

/-- C19-3a. Sorting changes only ordering: no differences are detected against the original. -/
theorem sort_only_reorders (s : Schema) (h : WFSchema s = true) : changes s (sortSchema s) = [] :=
  Gql.Types.sort_only_reorders s h

/-- C19-3b. Sorting twice equals sorting once (for every schema, well-formed or not). -/
theorem sort_idem (s : Schema) : sortSchema (sortSchema s) = sortSchema s :=
  Gql.Types.sort_idem s

/-- C19-3c. Sorting keeps the roots and the description, and every sorted list is a permutation
of the original one with its entries sorted inside (types shown; the same holds for directives). -/
theorem sort_perm (s : Schema) :
    (sortSchema s).types.Perm (s.types.map sortType) ∧ (sortSchema s).directives.Perm (s.directives.map sortDirective) ∧
    (sortSchema s).query = s.query ∧ (sortSchema s).mutation = s.mutation ∧
    (sortSchema s).subscription = s.subscription ∧ (sortSchema s).desc = s.desc :=
  ⟨sortByName_perm _ _, sortByName_perm _ _, rfl, rfl, rfl, rfl⟩

/-- The sorted lists are in natural order (the order of `natural_comparison_key`). -/
theorem sort_sorted (s : Schema) :
    (sortSchema s).types.Pairwise (fun a b => natLe a.name b.name = true) :=
  sortByName_sorted _ _

/-- C19-2. Extending with a document that adds nothing (no type-system definition or extension
at all: `extend_schema_args` returns the same kwargs object) returns the original schema. -/
theorem extend_noop (s : Schema) (defs : List Def) (h : extendReturnsSame defs = true) :
    extendDefs s defs = .ok s := by
  unfold extendReturnsSame at h
  simp [extendDefs, extendCore, h]

/-- C19-4b. Each reported change corresponds to an actual difference in the printed forms:
schemas with the same printed definitions have no reported change (uses C17's injectivity of
printing). -/
theorem change_real (a b : Schema) (ha : WFSchema a = true) (hb : WFSchema b = true)
    (h : changes a b ≠ []) : schemaToDefs a ≠ schemaToDefs b := by
  intro heq
  have h1 := Gql.Types.build_schemaToDefs a ha
  rw [heq, Gql.Types.build_schemaToDefs b hb] at h1
  cases h1
  exact h (Gql.Types.changes_refl _ ha)

/-- C19-1 (per-kind merge law). For every type, applying extension nodes `e₁` and then `e₂`
(build, then extend) is applying `e₁ ++ e₂` at once (build together): fields, interfaces,
union members, enum values, input fields and the specifiedBy URL. -/
theorem extendType_append (t : TypeDef) (e1 e2 : List TypeNode) :
    extendType t (e1 ++ e2) = andThen (extendType t e1) (fun t' => extendType t' e2) :=
  Gql.Types.extendType_append t e1 e2

/-- C19-1 (new types). A type definition built together with later extensions equals the type
built first and extended afterwards. -/
theorem buildNamedType_append (desc : Option DescNode) (node : TypeNode) (e1 e2 : List TypeNode) :
    buildNamedType desc node (e1 ++ e2) = andThen (buildNamedType desc node e1) (fun t => extendType t e2) :=
  Gql.Types.buildNamedType_append desc node e1 e2

/-- C19-1 (directives). Directive extensions compose the same way. -/
theorem extendDirective_append (x1 x2 : List (Str × List DirApp)) (d : Directive) :
    extendDirective (x1 ++ x2) d = andThen (extendDirective x1 d) (extendDirective x2) :=
  Gql.Types.extendDirective_append x1 x2 d


/-- C19-1 (extend ∘ extend). Extending a schema with `A` and then with `B` is extending it once
with `A ++ B`, for every `B` valid against the result (`ValidExt`: no schema definition in `B`,
the types `A` defines are new and distinct, `A` extends nothing that only `B` defines). -/
theorem extend_extend (s a : Schema) (A B : List Def) (hA : A.all Def.isOther = false)
    (hB : B.all Def.isOther = false) (ha : extendDefs s A = .ok a)
    (v : ValidExt s (collect A) (collect B)) : extendDefs a B = extendDefs s (A ++ B) :=
  Gql.Types.extendCore_append s a A B hA hB ha v

/-- C19-1 read with `ValidExt` alone as "valid against it": extending the schema built from `A`
with `B` yields the same schema as building `A` and `B` together.  **False** as it stands
(`extend_eq_build_full_false`); true with `RootsStable` added (`extend_eq_build`), and only then
(`extend_eq_build_exact`). -/
def extend_eq_build_full : Prop :=
  ∀ (a : Schema) (A B : List Def), A.all Def.isOther = false → B.all Def.isOther = false →
    buildFromDefs A = .ok a → ValidExt Schema.empty (collect A) (collect B) →
    extendDefs a B = buildFromDefs (A ++ B)

/-- C19-1, first half: the full statement for every base document `A` that contains a schema
definition (`schema { … }`); no root stability needed there.  Base documents *without* a schema
definition — where `build_ast_schema` picks the roots by the names `Query`/`Mutation`/
`Subscription` over the whole of `A ++ B` while `extend_schema` keeps the roots of `build(A)`
(observation O2 of the report) — are `extend_eq_build_noschema`; both halves together are
`extend_eq_build`, and `extend_eq_build_exact` shows the added hypothesis is the weakest possible. -/
theorem extend_eq_build_partial (a : Schema) (A B : List Def) (hA : A.all Def.isOther = false)
    (hB : B.all Def.isOther = false) (hsd : (collect A).schemaDef.isSome = true)
    (ha : buildFromDefs A = .ok a) (v : ValidExt Schema.empty (collect A) (collect B)) :
    extendDefs a B = buildFromDefs (A ++ B) :=
  (Gql.Types.extend_eq_build_iff_rootsStable a A B hA hB ha v).mpr fun _ => by
    rw [rootsStable, hsd]; rfl

/-- The base document of the counterexample: `type T { a: Int }` (no `Query`, no schema definition). -/
def cexA : List Def := [.typeDef none ⟨[84], [], .object [] [⟨none, [97], [], .named [73, 110, 116], []⟩]⟩]
/-- The extension document of the counterexample: `type Query { q: Int }`. -/
def cexB : List Def :=
  [.typeDef none ⟨Gql.Generated.SchemaConsts.queryName, [], .object [] [⟨none, [113], [], .named [73, 110, 116], []⟩]⟩]

/-- C19-1, the full statement is **false** (observation O2, replayed on the implementation:
`build_schema("type T {a: Int}\ntype Query {q: Int}").query_type` is `Query`,
`extend_schema(build_schema("type T {a: Int}"), parse("type Query {q: Int}")).query_type` is
`None`; `validate_sdl(B, build A)` is empty).  `build_ast_schema` infers the roots by name over the
whole of `A ++ B`, `extend_schema` keeps the (absent) roots of `build(A)`; `ValidExt` holds. -/
theorem extend_eq_build_full_false : ¬ extend_eq_build_full := by
  intro h
  have h1 := h _ cexA cexB (by decide +kernel) (by decide +kernel) rfl
    ⟨by decide +kernel, by decide +kernel, by decide +kernel, by decide +kernel, by decide +kernel⟩
  revert h1
  decide

/-- **Root stability** of the extension document `B` over the base document `A`: what "an
extension document valid against it" has to mean beyond `ValidExt` for C19-1 to be meaningful.
`A` contains a schema definition, or for each conventional root name `c` ∈ {`Query`, `Mutation`,
`Subscription`}: when `B` has no `extend schema { op: … }` for that operation, `B` defines a
type called `c` only if `A` already does; when it has one (the last one names `n`), `n = c` or
neither document defines a type called `c`.  Decidable on the two documents
(`Gql.Types.rootsStable`).

Relation to the property text: the implementation's SDL validation (`validate_sdl(B, build A)`)
accepts `B = type Query {…}` over a base without `Query` — validity alone does not imply root
stability, and there `extend(build A, B) ≠ build(A ++ B)` (`extend_eq_build_full_false`,
`extend_eq_build_iff`).  The property is therefore read (DESIGN §0.5 O2) over root-stable
extension documents: `build_ast_schema`'s "look for types named Query, Mutation and
Subscription" is a rule about *documents without a schema definition*, `extend_schema` works
on a schema whose roots are already decided. -/
def RootsStable (A B : List Def) : Prop := rootsStable A B = true

instance (A B : List Def) : Decidable (RootsStable A B) := by unfold RootsStable; infer_instance

/-- C19-1 for base documents **without** a schema definition: under root stability (here in its
unfolded form, `rootsStableParts` over the type names `A` defines) extending the built schema
equals building the concatenated document. -/
theorem extend_eq_build_noschema (a : Schema) (A B : List Def) (hA : A.all Def.isOther = false)
    (hB : B.all Def.isOther = false) (hsd : (collect A).schemaDef = none)
    (ha : buildFromDefs A = .ok a) (v : ValidExt Schema.empty (collect A) (collect B))
    (hst : rootsStableParts (definesType (collect A)) (collect B) = true) :
    extendDefs a B = buildFromDefs (A ++ B) :=
  (Gql.Types.extend_eq_build_iff_rootsStable a A B hA hB ha v).mpr fun _ => by
    rw [rootsStable, hsd]; exact hst

/-- **C19-1.** Extending the schema built from `A` with an extension document `B` valid against
it (`ValidExt`) and root-stable over it (`RootsStable`) yields the same schema as building `A`
and `B` together — for every base document, with or without a schema definition; outcomes
compared include errors and crashes of `build(A ++ B)`. -/
theorem extend_eq_build (a : Schema) (A B : List Def) (hA : A.all Def.isOther = false)
    (hB : B.all Def.isOther = false) (ha : buildFromDefs A = .ok a)
    (v : ValidExt Schema.empty (collect A) (collect B)) (hst : RootsStable A B) :
    extendDefs a B = buildFromDefs (A ++ B) :=
  (Gql.Types.extend_eq_build_iff_rootsStable a A B hA hB ha v).mpr fun _ => hst

/-- **C19-1, exact characterisation.** For an extension document `B` valid against the schema
built from `A` (`ValidExt`) whose combined document builds, extending equals building together
**if and only if** `B` is root-stable over `A`: `RootsStable` is not merely sufficient, it is the
weakest condition under which the clause holds (so every valid, buildable pair outside it is a
pair on which `extend_schema` and `build_ast_schema` disagree about a root — observation O2). -/
theorem extend_eq_build_iff (a : Schema) (A B : List Def) (hA : A.all Def.isOther = false)
    (hB : B.all Def.isOther = false) (ha : buildFromDefs A = .ok a)
    (v : ValidExt Schema.empty (collect A) (collect B)) (hok : (buildFromDefs (A ++ B)).isOk = true) :
    extendDefs a B = buildFromDefs (A ++ B) ↔ RootsStable A B := by
  rw [Gql.Types.extend_eq_build_iff_rootsStable a A B hA hB ha v]
  exact ⟨fun h => h hok, fun h _ => h⟩

/-- **C19-1, exact characterisation without side condition.** For every extension document `B`
valid against the schema built from `A` (`ValidExt`): extending equals building together if and
only if `B` is root-stable over `A` or building `A ++ B` fails (then extending fails in the
same way: same error, same crash class). -/
theorem extend_eq_build_exact (a : Schema) (A B : List Def) (hA : A.all Def.isOther = false)
    (hB : B.all Def.isOther = false) (ha : buildFromDefs A = .ok a)
    (v : ValidExt Schema.empty (collect A) (collect B)) :
    extendDefs a B = buildFromDefs (A ++ B) ↔
      (RootsStable A B ∨ (buildFromDefs (A ++ B)).isOk = false) := by
  rw [Gql.Types.extend_eq_build_iff_rootsStable a A B hA hB ha v, RootsStable]
  cases (buildFromDefs (A ++ B)).isOk <;> simp

/-- `extend_schema_args` collects from `A ++ B` what it collects from `A` and from `B`. -/
theorem collect_append (A B : List Def) : collect (A ++ B) = Parts.merge (collect A) (collect B) :=
  Gql.Types.collect_append A B

-- Non-vacuity: a base document with a schema definition, an object and an enum; an extension
-- document that extends the object (new field, deprecated), extends the enum, adds a union, a
-- directive and a mutation root.
def exA : List Def := [
  .schemaDef none [] [(.query, [81])],
  .typeDef none ⟨[81], [], .object [] [⟨none, [102], [], .named [73, 110, 116], []⟩]⟩,
  .typeDef (some ⟨[100], true⟩) ⟨[69], [], .enum [⟨none, [65], []⟩]⟩]
def exB : List Def := [
  .typeExt ⟨[81], [], .object [] [⟨none, [103], [], .named [69],
    [⟨Gql.Generated.SchemaConsts.deprecatedName, []⟩]⟩]⟩,
  .typeExt ⟨[69], [], .enum [⟨none, [66], []⟩]⟩,
  .typeDef none ⟨[85], [], .union [[81], [77]]⟩,
  .typeDef none ⟨[77], [], .object [] [⟨none, [109], [], .named [85], []⟩]⟩,
  .directiveDef none [100] [] [] true [[70, 73, 69, 76, 68]],
  .schemaExt [] [(.mutation, [77])]]

example : ∃ a, buildFromDefs exA = .ok a ∧ extendDefs a exB = buildFromDefs (exA ++ exB) ∧
    (buildFromDefs (exA ++ exB)).isOk = true ∧ extendDefs a exB ≠ .ok a := by
  refine ⟨_, rfl, ?_, ?_, ?_⟩ <;> decide +kernel

example : ValidExt Schema.empty (collect exA) (collect exB) :=
  ⟨by decide +kernel, by decide +kernel, by decide +kernel, by decide +kernel, by decide +kernel⟩

-- Non-vacuity of `extend_eq_build` without a schema definition: base `type Query {f: Int}  enum E {A}`;
-- the extension document extends `Query`, adds `type Mutation {m: U}` together with
-- `extend schema { mutation: Mutation }` (root-stable: the schema extension names the
-- conventional type), a union and an object.
def exA2 : List Def := [
  .typeDef none ⟨[81, 117, 101, 114, 121], [], .object [] [⟨none, [102], [], .named [73, 110, 116], []⟩]⟩,
  .typeDef (some ⟨[100], true⟩) ⟨[69], [], .enum [⟨none, [65], []⟩]⟩]
def exB2 : List Def := [
  .typeExt ⟨[81, 117, 101, 114, 121], [], .object [] [⟨none, [103], [], .named [69], []⟩]⟩,
  .typeDef none ⟨[77, 117, 116, 97, 116, 105, 111, 110], [], .object [] [⟨none, [109], [], .named [85], []⟩]⟩,
  .typeDef none ⟨[85], [], .union [[81, 117, 101, 114, 121], [77, 117, 116, 97, 116, 105, 111, 110]]⟩,
  .schemaExt [] [(.mutation, [77, 117, 116, 97, 116, 105, 111, 110])]]

example : (collect exA2).schemaDef = none ∧ RootsStable exA2 exB2 ∧
    ValidExt Schema.empty (collect exA2) (collect exB2) :=
  ⟨rfl, by decide +kernel, ⟨by decide +kernel, by decide +kernel, by decide +kernel, by decide +kernel, by decide +kernel⟩⟩

example : ∃ a, buildFromDefs exA2 = .ok a ∧ extendDefs a exB2 = buildFromDefs (exA2 ++ exB2) ∧
    (buildFromDefs (exA2 ++ exB2)).isOk = true ∧ extendDefs a exB2 ≠ .ok a :=
  ⟨_, rfl, extend_eq_build _ exA2 exB2 (by decide +kernel) (by decide +kernel) rfl
    ⟨by decide +kernel, by decide +kernel, by decide +kernel, by decide +kernel, by decide +kernel⟩ (by decide +kernel), by decide +kernel, by decide +kernel⟩

-- the counterexample is on the other side of the condition; the documents of the first example are stable
example : ¬ RootsStable cexA cexB := by decide +kernel
example : RootsStable exA exB := by decide +kernel

-- both sides of `extend_eq_build_iff` are inhabited: the combined documents build in both examples
example : (buildFromDefs (cexA ++ cexB)).isOk = true ∧ (buildFromDefs (exA2 ++ exB2)).isOk = true := by decide +kernel

-- the failing side of `extend_eq_build_exact`: `B` extends `Query` with a field of an unknown type
-- (outside `RootsStable`-relevance: `build(A ++ B)` crashes, and so does `extend(build A, B)`)
def exB3 : List Def := [.typeExt ⟨[81, 117, 101, 114, 121], [], .object [] [⟨none, [103], [], .named [90], []⟩]⟩]
example : (buildFromDefs (exA2 ++ exB3)).isOk = false ∧
    ValidExt Schema.empty (collect exA2) (collect exB3) :=
  ⟨by decide +kernel, ⟨by decide +kernel, by decide +kernel, by decide +kernel, by decide +kernel, by decide +kernel⟩⟩

-- the hypotheses of the sort / self-comparison theorems hold for the extended schema
example : ∃ a, buildFromDefs (exA ++ exB) = .ok a ∧ WFSchema a = true ∧
    changes a (sortSchema a) = [] ∧ changes a a = [] := by
  refine ⟨_, rfl, by decide +kernel, ?_, ?_⟩
  · exact sort_only_reorders _ (by decide +kernel)
  · exact changes_refl _ (by decide +kernel)

end Gql.Props.C19
