import Gql.Proofs.Sys
import Gql.Proofs.Complete
import Gql.Proofs.AnnounceRun
import Gql.Proofs.Fuel
import Gql.Proofs.RootNodes
import Gql.Proofs.StreamOrder
import Gql.Proofs.PayloadNest
import Gql.Proofs.StreamQueue
import Gql.Proofs.ProtoRelabel
import Gql.Async.EnvOk
/-!
# C05 — The incremental payload stream obeys the delivery protocol

Property theorems only.  Models: `Gql.Async.WorkQueue` (work_queue.py), `Gql.Async.Publisher`
(incremental_publisher.py), `Gql.Async.StreamQueue` (stream_item_queue.py `batches()`); the
pipeline over an environment history is `Gql.Async.payloads σ π fuel work history`
(`Sys.start` / `Sys.tick` / `Sys.run`).  Spec: `Gql.Spec.Protocol` (clause predicates and
the decision procedure `check` / `protocolOk`).  Helper lemmas: `Gql/Proofs/{Publisher,
WorkQueue,Sys,StreamQueue}.lean`; for the whole validator `Gql/Proofs/{ProtoAccept,ProtoPub,
ProtoFinal,PayloadNest}.lean`.

All theorems quantify over *every* static environment (groups, parents, task modes, paths),
*every* initial work, *every* history (list of ticks of graph events) and *every* fuel value;
the publisher-level ones hold for arbitrary streams of work-queue events, so they need no
`EnvOk` hypothesis at all.
-/
namespace Gql.Props.C05
open Gql.Async Gql.Spec.Protocol

/-- **P2 (ids are strictly fresh; never reused after deletion).**  In the payload stream of
every history, no payload announces an id that an earlier payload completed. -/
theorem ids_never_reused (σ : Static) (π : PubStatic) (fuel : Nat) (work : Option Work)
    (h : List Tick) : NoReuse [] (payloads σ π fuel work h) :=
  (payloads_eq σ π fuel work h).1 ▸ (initial_ids π _ _ _).2.1

/-- **P3a, the part about completion (no data after completion).**  In the payload stream of
every history, no incremental entry (deferred data or stream items) targets an id that an
earlier payload completed; the id an entry carries is in the publisher's table at that moment
(`BatchInv.step`). -/
theorem no_data_after_completion (σ : Static) (π : PubStatic) (fuel : Nat) (work : Option Work)
    (h : List Tick) : NoLateData [] (payloads σ π fuel work h) :=
  (payloads_eq σ π fuel work h).1 ▸ (initial_ids π _ _ _).2.2

/-- **P4a (an id is completed at most once).**  In the payload stream of every history the ids
of all `completed` entries are pairwise distinct. -/
theorem completed_at_most_once (σ : Static) (π : PubStatic) (fuel : Nat) (work : Option Work)
    (h : List Tick) : CompletedOnce (payloads σ π fuel work h) :=
  (payloads_eq σ π fuel work h).1 ▸ (initial_ids π _ _ _).1

/-- **P2/P4a at the publisher, for arbitrary event streams.**  Whatever batches of work-queue
events the publisher is fed (well-formed scheduler or not), starting from any consistent id
table: completed ids are pairwise distinct and distinct from the already retired ones, and no
announced id was retired before. -/
theorem publisher_ids_fresh (π : PubStatic) (batches : List (List WQEvent)) (p : Pub) (R : List Nat)
    (hp : PubInv p) (hr : Ret p R) (hn : R.Nodup) :
    (R ++ completedIds (publish π p batches).2).Nodup ∧ NoReuse R (publish π p batches).2 :=
  have h := publish_ids π batches ⟨hp, hr, hn⟩
  ⟨h.1.nodup, h.2.1⟩

/-- `nextId` is monotone and every id in the table is below it (supporting invariant of P2). -/
theorem nextId_monotone (π : PubStatic) (p : Pub) (c : PCtx) (e : WQEvent) (hp : PubInv p) :
    p.nextId ≤ (handleEvent π p c e).1.nextId ∧ PubInv (handleEvent π p c e).1 :=
  ⟨(handleEvent_inv π p c e hp).2.mono, (handleEvent_inv π p c e hp).1⟩

/-- **P7 (`hasNext` is true on every payload except the last; nothing follows).**  In the
payload stream of every history every payload but the last carries `hasNext = true`. -/
theorem hasNext_only_last_false (σ : Static) (π : PubStatic) (fuel : Nat) (work : Option Work)
    (h : List Tick) : HasNextOk (payloads σ π fuel work h) :=
  outShape_hasNextOk _ _ (run_outShape σ π fuel h _ (start_outShape σ π fuel work))

/-- **P7, second half.**  If some payload carries `hasNext = false` then the scheduler is
stopped (so no later tick can emit anything: `settle` returns no batch for a stopped queue)
and that payload is the last one. -/
theorem hasNext_false_is_final (σ : Static) (π : PubStatic) (fuel : Nat) (work : Option Work)
    (h : List Tick) (p : Payload) (hp : p ∈ payloads σ π fuel work h) (hn : p.hasNext = false) :
    (Sys.run σ π fuel (Sys.start σ π fuel work).1 h).wq.stopped = true ∧
    (payloads σ π fuel work h).getLast? = some p := by
  have hs := run_outShape σ π fuel h _ (start_outShape σ π fuel work)
  rcases hs with hall | ⟨hst, pre, last, e1, e2, e3⟩
  · have := hall p hp; rw [hn] at this; cases this
  · refine ⟨hst, ?_⟩
    unfold payloads at hp ⊢
    rw [e1] at hp ⊢
    rcases List.mem_append.mp hp with h1 | h1
    · have := e2 p h1; rw [hn] at this; cases this
    · simp at h1; subst h1; simp

/-- **P4b (every announced id is completed — with P4a: exactly once — in a complete stream).**
For every well-formed environment history: once the scheduler has stopped (it emitted the
termination event, i.e. the stream ended with `hasNext = false`), every id that was ever
announced appears in a `completed` entry. -/
theorem announced_all_completed (σ : Static) (π : PubStatic) (fuel : Nat) (work : Option Work)
    (h : List Tick) (hok : envOk σ fuel work h = true)
    (hst : (Sys.run σ π fuel (Sys.start σ π fuel work).1 h).wq.stopped = true) :
    ∀ i ∈ announcedIds (payloads σ π fuel work h), i ∈ completedIds (payloads σ π fuel work h) := by
  obtain ⟨hout, hwq⟩ := payloads_eq σ π fuel work h
  obtain ⟨_, e, inv⟩ := schedInv_final σ fuel work h hok
  rw [hwq] at hst
  obtain ⟨hg, hs⟩ := inv.stop hst
  rw [hout]
  apply initial_all_completed
  intro n hn
  have hr := (inv.tracks n).mp hn
  cases n with
  | group g => simp [isRoot, hg] at hr
  | stream s => simp [isRoot, hs] at hr

/-- P4b for a stream that ended: if some payload carries `hasNext = false`, every announced id
is completed. -/
theorem complete_stream_all_completed (σ : Static) (π : PubStatic) (fuel : Nat) (work : Option Work)
    (h : List Tick) (hok : envOk σ fuel work h = true) (p : Payload)
    (hp : p ∈ payloads σ π fuel work h) (hn : p.hasNext = false) :
    ∀ i ∈ announcedIds (payloads σ π fuel work h), i ∈ completedIds (payloads σ π fuel work h) :=
  announced_all_completed σ π fuel work h hok (hasNext_false_is_final σ π fuel work h p hp hn).1

/-- After the termination batch nothing more is ever emitted: a stopped scheduler yields no
batch, whatever the environment still does. -/
theorem stopped_emits_nothing (σ : Static) (π : PubStatic) (fuel : Nat) (s : Sys) (t : Tick)
    (hs : s.wq.stopped = true) : (Sys.tick σ π fuel s t).1.out = s.out := by
  unfold Sys.tick
  simp only
  obtain ⟨_, h3⟩ := settle_spec σ fuel fuel (t.foldl push s.wq) [] (Or.inl nofun)
  rw [foldl_push_stopped] at h3
  rw [(h3 hs).1]; simp [publish]

/-- The graph-event handlers never emit the termination event themselves (supporting lemma of
P7: only the `events()` loop does, as the last event of a batch). -/
theorem handlers_never_terminate (σ : Static) (q : WQ) (e : GraphEvent) :
    ∀ ev ∈ (handleGraphEvent σ q e).2, ev.isTerm = false :=
  handleGraphEvent_noTerm σ q e

/-- **P6 at the stream queue (items in list order, no gaps, no repeats).**  Whatever is buffered
in a `StreamItemQueue` — settled items, pending / fulfilled / rejected item futures, the end
or error entry, in any order — the concatenation of all batches `batches()` delivers is a
prefix, in queue order, of the queue's item values up to the first failure. -/
theorem stream_queue_in_order (n : Nat) (held : Option SQEntry) (entries : List SQEntry) :
    sqDelivered (sqRun n held entries) <+: sqFinal (heldList held ++ entries) :=
  sqRun_prefix n held entries

/-! ## The whole validator: the original full statement

`protocol_prefix_full` is the statement as it was first written down.  It is *false* as stated
(`protocol_prefix_full_fails` below: it forgets to constrain the labels of the streams); with
that hypothesis added it is proved (`protocol_prefix`, `protocol_prefix_unlabelled`). -/

/-- P1–P7 without the data-dependent halves, for every well-formed environment history: the
validator accepts the emitted stream as a legal prefix (labels = group numbers, nesting = the
parent relation).  Kept as written; see `protocol_prefix_full_fails` and `protocol_prefix`. -/
def protocol_prefix_full : Prop :=
  ∀ (σ : Static) (π : PubStatic) (parents : List (Nat × Nat)) (fuel : Nat) (work : Option Work)
    (h : List Tick),
    envOk σ fuel work h = true →
    (∀ g p, σ.parent g = some p ↔ (g, p) ∈ parents) → (∀ g, π.glabel g = some g) →
    checkPrefix false (enclByLabels parents) .null (payloads σ π fuel work h) = none

/-- **P1 (each pending id is announced at most once) — and P2 in full: ids are handed out in
strictly increasing order.**  For every well-formed environment history the ids announced by
the whole payload stream (initial result included) are strictly increasing, hence pairwise
distinct.  Behind it: the scheduler-graph invariant `Good` (group nodes form a forest along
`parent`, children are listed once and are not roots, child streams wait in one task node)
and `AnnFresh` — a node is announced only when it is not in the publisher's table. -/
theorem announced_increasing (σ : Static) (π : PubStatic) (fuel : Nat) (work : Option Work)
    (h : List Tick) (hok : envOk σ fuel work h = true) :
    (announcedIds (payloads σ π fuel work h)).Pairwise (· < ·) := by
  obtain ⟨hnd, e, inv⟩ := schedInv_final σ fuel work h hok
  rw [(payloads_eq σ π fuel work h).1]
  exact initial_ann π _ _ _ hnd inv.fresh

theorem announced_once (σ : Static) (π : PubStatic) (fuel : Nat) (work : Option Work)
    (h : List Tick) (hok : envOk σ fuel work h = true) : AnnouncedOnce (payloads σ π fuel work h) := by
  have hp := announced_increasing σ π fuel work h hok
  unfold AnnouncedOnce
  exact hp.imp (fun hab => Nat.ne_of_lt hab)

/-- The scheduler-graph invariant itself, at the end of every well-formed history: the group
nodes form a forest along `σ.parent` (a child is listed only in its parent's node, once, and
is not a root), and child streams wait in exactly one task node and are not roots. -/
theorem scheduler_graph_invariant (σ : Static) (fuel : Nat) (work : Option Work) (h : List Tick)
    (hok : envOk σ fuel work h = true) :
    Forest σ (wqRun σ fuel (wqStart σ fuel work) h).1 ∧ SForest (wqRun σ fuel (wqStart σ fuel work) h).1 := by
  obtain ⟨_, e, inv⟩ := schedInv_final σ fuel work h hok
  exact ⟨inv.sched.good.forest, inv.sched.good.sforest⟩

/-- What holds of P1/P2 *without* any hypothesis on the environment: an announced id never
equals an id completed by an earlier payload, and completed ids never repeat — together "an id
is never reused once its entry was deleted". -/
theorem ids_no_hypothesis (σ : Static) (π : PubStatic) (fuel : Nat) (work : Option Work)
    (h : List Tick) :
    NoReuse [] (payloads σ π fuel work h) ∧ CompletedOnce (payloads σ π fuel work h) :=
  ⟨ids_never_reused σ π fuel work h, completed_at_most_once σ π fuel work h⟩

/-- **P5 (a nested fragment is never announced while an announced enclosing fragment is still
pending), as a state invariant.**  At the end of every well-formed history (hence at every
quiescent point), no proper ancestor (along `parent`) of a root group — an announced, still
pending fragment — has a node in the graph: the enclosing fragments are all finished or
pruned. -/
theorem root_ancestors_gone (σ : Static) (π : PubStatic) (fuel : Nat) (work : Option Work)
    (h : List Tick) (hok : envOk σ fuel work h = true) :
    ∀ r ∈ (Sys.run σ π fuel (Sys.start σ π fuel work).1 h).wq.rootGroups, ∀ a, Anc σ a r →
      ¬ hasNode (Sys.run σ π fuel (Sys.start σ π fuel work).1 h).wq a := by
  rw [(payloads_eq σ π fuel work h).2]
  obtain ⟨_, e, inv⟩ := schedInv_final σ fuel work h hok
  exact inv.sched.anti

/-- **P5: the pending fragments form an antichain of the nesting order** — no root group is a
proper ancestor of another root group (every root has its node, no root's ancestor has one). -/
theorem roots_antichain (σ : Static) (π : PubStatic) (fuel : Nat) (work : Option Work)
    (h : List Tick) (hok : envOk σ fuel work h = true) :
    ∀ r ∈ (Sys.run σ π fuel (Sys.start σ π fuel work).1 h).wq.rootGroups,
    ∀ a ∈ (Sys.run σ π fuel (Sys.start σ π fuel work).1 h).wq.rootGroups, ¬ Anc σ a r := by
  rw [(payloads_eq σ π fuel work h).2]
  obtain ⟨_, e, inv⟩ := schedInv_final σ fuel work h hok
  intro r hr a har hanc
  exact inv.sched.anti r hr a hanc (inv.sched.nodes a har)

/-- **P5 at the payload level.**  Groups labelled by their own number (`Labels π`).  At every
payload boundary of every well-formed history: if `a` and `b` are `pending` entries announced
so far and `a` has not been completed yet (its id is in no `completed` list so far), then the
fragment of `a` does not enclose the fragment of `b` — a nested fragment's id is never in a
`pending` list while the id of an announced enclosing fragment is still pending.  (The
publisher's id table ties the entries to `_root_groups`: an uncompleted entry's id is still in
the table under its group, the table holds only roots, roots have nodes, and every group ever
announced keeps all its ancestors out of the graph.) -/
theorem nested_never_pending_with_enclosing (σ : Static) (π : PubStatic) (L : Labels π) (fuel : Nat)
    (work : Option Work) (h : List Tick) (hok : envOk σ fuel work h = true) (k : Nat)
    (hk : k < (payloads σ π fuel work h).length) :
    ∀ a ∈ annEntries ((payloads σ π fuel work h).take (k + 1)),
    ∀ b ∈ annEntries ((payloads σ π fuel work h).take (k + 1)),
    ∀ ga gb, a.label = some ga → b.label = some gb →
      a.id ∉ completedIds ((payloads σ π fuel work h).take (k + 1)) → ¬ Anc σ ga gb :=
  payload_nesting σ π L fuel work h hok k hk

/-- **P6 at the model level (stream items arrive in list order without gaps or repeats).**  For
every well-formed environment history:
* the stream entries of the payload stream are, entry for entry and item for item, the batches
  the scheduler handled (`streamValues` events), in handling order — nothing is dropped,
  duplicated or reordered between `_stream_items` and the payloads;
* per stream, the source indices of the delivered items are their positions: `0, 1, 2, …`
  (E3: the batches come from `batches()` in queue order — `stream_queue_in_order` — one at a
  time, the pump waits for `handled`). -/
theorem stream_items_in_order (σ : Static) (π : PubStatic) (fuel : Nat) (work : Option Work)
    (h : List Tick) (hok : envOk σ fuel work h = true) :
    payloadStreams (payloads σ π fuel work h) = svAll (wqRun σ fuel (wqStart σ fuel work) h).2.flatten ∧
    ∀ s, InOrder (svIdx s (wqRun σ fuel (wqStart σ fuel work) h).2.flatten) := by
  constructor
  · rw [(payloads_eq σ π fuel work h).1]
    have := publish_streams π (wqRun σ fuel (wqStart σ fuel work) h).2
      (initialPayload π (init σ work).2.1 (init σ work).2.2).1
    simp only [payloadStreams, List.flatMap_cons] at this ⊢
    rw [this]
    simp [initialPayload, incrStreams]
  · obtain ⟨e, he⟩ := ((orderInv_run σ).envOk fuel work h
      (by intro s
          refine ⟨by intro j i hj; simp [svIdx] at hj, ?_⟩
          cases work <;> simp [svIdx, EnvSt.intro, alookup]) hok).1
    exact fun s => (he s).1

/-! ## Fuel bounds

The model's recursions through the graph are by fuel.  The fuel the model passes is never
exhausted: any larger amount gives the same result.  (`drain`'s fuel — how many graph events
one batch can handle — depends on the environment and stays a parameter of every theorem.) -/

/-- `_prune_empty_groups`: `|group nodes| + 1` units are enough. -/
theorem prune_fuel_adequate (q : WQ) (gs : List Nat) (k : Nat) :
    pruneEmpty q gs = prune (q.groupNodes.length + 1 + k) gs (q, []) :=
  Unmarked.stable (fun i => prune i gs (q, [])) _ (fun i => prune_fuel i gs (q, [])) k

/-- `_remove_group` (called on a group that has a node, as `_finish_group_failure` does):
`|group nodes| + 1` units are enough. -/
theorem removeGroup_fuel_adequate (σ : Static) (q : WQ) (g : Nat) (n : GroupNode)
    (hn : alookup q.groupNodes g = some n) (k : Nat) :
    removeGroup σ (q.groupNodes.length + 1) q g n = removeGroup σ (q.groupNodes.length + 1 + k) q g n :=
  Unmarked.stable (fun i => removeGroup σ i q g n) _ (fun i => removeGroup_fuel σ i q g n hn) k

/-- `_add_group` (called on a group of the list, as `_add_groups` does): `len(groups) + 1` units
are enough, whatever has been visited. -/
theorem addGroup_fuel_adequate (σ : Static) (gs : List Nat) (hpt : Bool) (g : Nat)
    (acc : WQ × List Nat × List Nat) (hg : g ∈ gs) (k : Nat) :
    addGroup σ gs hpt (gs.length + 1) g acc = addGroup σ gs hpt (gs.length + 1 + k) g acc :=
  Unmarked.stable (fun i => addGroup σ gs hpt i g acc) _
    (fun i hi => addGroup_fuel σ gs hpt i g acc hg (Nat.lt_of_le_of_lt (Unmarked.count_le gs acc.2.2) hi)) k

/-! ## P3b and the known finding `workqueue-prunes-promoted-group-with-undelivered-shared-task` -/

/-- **P3b for deferred fragments, full statement.**  For every well-formed environment that carries
well-formed data (`DataOk`: a fragment introduced by a task's result lies inside that result's
data), no incremental entry of the emitted stream targets a path that does not resolve to an
object of the data assembled so far. -/
def p3b_defer_full : Prop :=
  ∀ (σ : Static) (π : PubStatic) (initData : J) (fuel : Nat) (work : Option Work) (h : List Tick),
    envOk σ fuel work h = true → DataOk σ π initData work h →
    ∀ v, checkPrefix true (fun _ _ => false) initData (payloads σ π fuel work h) = some v →
      v.clause ≠ .P3b

/-- The witness (keys: hero = 1, friend = 3, name = 5, slow = 7, i = 9).  Fragments L1 = 0 and
L3 = 1 are roots at `hero`; F2 = 2 is nested in L3; N = 3 is nested in F2 at `hero.friend`.
Task 0 (`slow`) ∈ {L1}; task 1 (`friend`) ∈ {L1, F2} — its result introduces N with task 3
(`i`, synchronous); task 2 (`name`) ∈ {L3}. -/
def kfStatic : Static where
  parent g := if g = 2 then some 1 else if g = 3 then some 2 else none
  tgroups t := if t = 0 then [0] else if t = 1 then [0, 2] else if t = 2 then [1] else [3]
  mode t := if t = 3 then .sync { value := { groups := [3], path := [1, 3], data := .obj [(9, .leaf 0)] } }
            else .async

def kfPub : PubStatic where
  gpath g := if g = 3 then [1, 3] else [1]
  glabel g := some g
  spath _ := []
  slabel _ := none

def kfInit : J := .obj [(1, .obj [])]
def kfWork : Option Work := some { groups := [0, 1, 2], tasks := [0, 1, 2] }
def kfFriend : TResult :=
  { value := { groups := [0, 2], path := [1], data := .obj [(3, .obj [])] },
    work := some { groups := [3], tasks := [3] } }
def kfName : TResult := { value := { groups := [1], path := [1], data := .obj [(5, .leaf 1)] } }
/-- `friend` completes first (L1 still waits for `slow`), then `name` completes L3. -/
def kfHistory : List Tick := [[.taskSuccess 1 kfFriend], [.taskSuccess 2 kfName]]

/-- On the model, exactly as on the code: when L3 finishes, F2 is pruned as empty although its
task `friend` has not been delivered (it is shared with the still pending L1); N is announced
at `hero.friend` and its data delivered while the client only has `{hero: {}}`. -/
example :
    ((payloads kfStatic kfPub 8 kfWork kfHistory).map
      (fun p => (p.pending.map (fun a => (a.id, a.path)), p.incremental.map (·.id), p.completed.map (·.id)))) =
      [([(0, [1]), (1, [1])], [], []), ([(2, [1, 3])], [1, 2], [1, 2])] ∧
    checkPrefix true (fun _ _ => false) kfInit (payloads kfStatic kfPub 8 kfWork kfHistory) =
      some ⟨.P3b, 1, 2⟩ := by
  decide

theorem kf_envOk : envOk kfStatic 8 kfWork kfHistory = true := by decide

theorem kf_dataOk : DataOk kfStatic kfPub kfInit kfWork kfHistory := by
  refine ⟨?_, ?_, ?_⟩
  · intro w hw
    cases hw
    refine ⟨rfl, ?_⟩
    intro g hg
    simp at hg
    rcases hg with rfl | rfl | rfl <;> decide
  · intro t r hm
    have h3 : t = 3 := by
      by_cases h : t = 3
      · exact h
      · simp [kfStatic, h] at hm
    subst h3
    have hr : r = { value := { groups := [3], path := [1, 3], data := .obj [(9, .leaf 0)] } } := by
      simp [kfStatic] at hm; exact hm.symm
    subst hr
    refine ⟨rfl, ?_, rfl, ?_⟩
    · intro g hg; simp [kfStatic] at hg; subst hg; rfl
    · intro w hw; cases hw
  · intro tick ht ev hev
    simp [kfHistory] at ht
    rcases ht with rfl | rfl <;> simp at hev <;> subst hev
    · refine ⟨rfl, ?_, rfl, ?_⟩
      · intro g hg; simp [kfStatic] at hg; rcases hg with rfl | rfl <;> rfl
      · intro w hw
        cases hw
        refine ⟨rfl, ?_⟩
        intro g hg
        simp at hg; subst hg
        exact ⟨[3], rfl, rfl⟩
    · refine ⟨rfl, ?_, rfl, ?_⟩
      · intro g hg; simp [kfStatic] at hg; subst hg; rfl
      · intro w hw; cases hw

/-- **The known finding refutes P3b on the faithful model**: the full statement is false. -/
theorem p3b_defer_full_fails : ¬ p3b_defer_full := by
  intro h
  have := h kfStatic kfPub kfInit 8 kfWork kfHistory kf_envOk kf_dataOk ⟨.P3b, 1, 2⟩ (by decide)
  exact this rfl

/-! ## The whole validator accepts every well-formed history -/

/-- **P1, second half (an id is announced before any data for it) and the O1 shape of
`completed`.**  For every well-formed environment history: every `incremental` entry carries an
id that this or an earlier payload announced, and every `completed` entry carries such an id or
is a *failed* completion (observation O1).  Behind it: the roots of the scheduler are exactly
the tracked domain of the publisher's id table (`Tracks`), every event that reports values or
success concerns a root (`SchedInv.pre`), so `_ensure_id` finds the id
instead of minting one, and every id in the table is an announced id (`TableAnn`). -/
theorem data_only_for_announced (σ : Static) (π : PubStatic) (fuel : Nat) (work : Option Work)
    (h : List Tick) (hok : envOk σ fuel work h = true) :
    ∀ pre pl post, payloads σ π fuel work h = pre ++ pl :: post →
      (∀ x ∈ pl.incremental, x.id ∈ announcedIds (pre ++ [pl])) ∧
      (∀ c ∈ pl.completed, c.id ∈ announcedIds (pre ++ [pl]) ∨ c.failed = true) := by
  intro pre pl post e
  have := (payloads_dataAnnounced σ π fuel work h hok).split pre pl post e
  simpa using this

/-- **P5 at the payload level, streams labelled.**  `nested_never_pending_with_enclosing` for
environments whose streams carry labels too, as long as a stream's label does not occur in the
nesting relation (`LabelsS σ π`: groups are labelled by their own number; a stream label is
neither a nested group nor the parent of one).  A label that occurs in the nesting relation is
then the label of the group of that number (`LabelsS.node`), so the two entries compared are
group entries and the argument is the one described there. -/
theorem nested_never_pending_labelled_streams (σ : Static) (π : PubStatic) (L : LabelsS σ π) (fuel : Nat)
    (work : Option Work) (h : List Tick) (hok : envOk σ fuel work h = true) (k : Nat)
    (hk : k < (payloads σ π fuel work h).length) :
    ∀ a ∈ pendEntries ((payloads σ π fuel work h).take (k + 1)),
    ∀ b ∈ pendEntries ((payloads σ π fuel work h).take (k + 1)),
    ∀ ga gb, a.label = some ga → b.label = some gb →
      a.id ∉ completedIds ((payloads σ π fuel work h).take (k + 1)) → ¬ Anc σ ga gb :=
  payload_nesting_S σ π L fuel work h hok k hk

/-- **P1–P7 without the data-dependent halves: the executable validator accepts the payload
stream of every well-formed history as a legal prefix** (`checkPrefix false … = none`; labels =
group numbers, nesting = the parent relation, stream labels outside the nesting relation:
`LabelsS σ π` — in particular unlabelled streams, `Labels π`, and the direct harness' `100 + s`).
This is `protocol_prefix_full` with the one hypothesis it lacks (see
`protocol_prefix_full_fails`), for any initial data.  Every clause of `checkPrefix false` is
reached: P7 (`hasNext_only_last_false`), P1/P2 in `announce` (`announced_increasing`,
`ids_never_reused`), P1/P3a in `applyIncr` (`data_only_for_announced`,
`no_data_after_completion`), P4a/P1 in `complete` (`completed_at_most_once`,
`data_only_for_announced`), P5 in `nestingOk` (`nested_never_pending_labelled_streams`; the
validator's `ancestorLabel` is the scheduler's `Anc` — `ancestorLabel_anc`), P4b at the last
payload (`complete_stream_all_completed`).  The assembly is `streamOk_of_facts` (the per-clause
facts give `StreamOk`) and `checkPrefix_of_streamOk` (an invariant `VInv` of the validator state
— open entries = announced and not completed, `used` = announced ∪ completed — is kept by every
payload that satisfies `PayloadOk`, and implies no rejection).  What `checkPrefix false` skips
and this theorem therefore does not cover: P3b (refuted on the model, `p3b_defer_full_fails`)
and the data-level half of P6 (model-level P6 is `stream_items_in_order`). -/
theorem protocol_prefix (σ : Static) (π : PubStatic) (parents : List (Nat × Nat)) (fuel : Nat)
    (work : Option Work) (h : List Tick) (initData : J)
    (hok : envOk σ fuel work h = true)
    (hpar : ∀ g p, σ.parent g = some p ↔ (g, p) ∈ parents) (L : LabelsS σ π) :
    checkPrefix false (enclByLabels parents) initData (payloads σ π fuel work h) = none := by
  apply checkPrefix_of_streamOk
  apply streamOk_of_facts
  · exact (announced_once σ π fuel work h hok)
  · exact ids_never_reused σ π fuel work h
  · exact no_data_after_completion σ π fuel work h
  · exact completed_at_most_once σ π fuel work h
  · exact payloads_dataAnnounced σ π fuel work h hok
  · exact hasNext_only_last_false σ π fuel work h
  · intro k hk a ha b hb hnc
    cases henc : enclByLabels parents a b with
    | false => rfl
    | true =>
      obtain ⟨ga, gb, hla, hlb, hanc⟩ := enclByLabels_anc σ parents hpar a b henc
      exact absurd hanc
        (payload_nesting_S σ π L fuel work h hok k hk a ha b hb ga gb hla hlb hnc)
  · intro p hp hn
    exact complete_stream_all_completed σ π fuel work h hok p hp hn

/-- **Complete streams.**  For every well-formed history whose stream ended (some payload carries
`hasNext = false`), the validator for *complete* streams — `check false`, the data-free part of
the oracle `protocolOk` that the end-to-end runs use — accepts the payload stream: in addition to
`protocol_prefix`, the last payload carries `hasNext = false` and leaves nothing pending. -/
theorem protocol_complete (σ : Static) (π : PubStatic) (parents : List (Nat × Nat)) (fuel : Nat)
    (work : Option Work) (h : List Tick) (initData : J)
    (hok : envOk σ fuel work h = true)
    (hpar : ∀ g p, σ.parent g = some p ↔ (g, p) ∈ parents) (L : LabelsS σ π)
    (p : Payload) (hp : p ∈ payloads σ π fuel work h) (hn : p.hasNext = false) :
    check false (enclByLabels parents) initData (payloads σ π fuel work h) = none := by
  exact check_of_checkPrefix false _ _ _ (protocol_prefix σ π parents fuel work h initData hok hpar L)
    ⟨p, (hasNext_false_is_final σ π fuel work h p hp hn).2, hn⟩

/-- `protocol_prefix` for unlabelled streams, in the shape of `protocol_prefix_full`. -/
theorem protocol_prefix_unlabelled (σ : Static) (π : PubStatic) (parents : List (Nat × Nat)) (fuel : Nat)
    (work : Option Work) (h : List Tick)
    (hok : envOk σ fuel work h = true)
    (hpar : ∀ g p, σ.parent g = some p ↔ (g, p) ∈ parents) (hg : ∀ g, π.glabel g = some g)
    (hs : ∀ s, π.slabel s = none) :
    checkPrefix false (enclByLabels parents) .null (payloads σ π fuel work h) = none :=
  protocol_prefix σ π parents fuel work h .null hok hpar (Labels.toS ⟨hg, hs⟩ σ)

/-- `protocol_prefix_full` as stated is **false**, for a reason that has nothing to do with the
code: it constrains the labels of the groups (`π.glabel g = some g`) but not those of the
streams.  Witness: group 1 nested in group 0 (`parents = [(1, 0)]`); the initial work is the
root group 0 and a root stream whose label is `1`.  The initial result announces both; the
validator's label-based nesting test takes the stream entry (label 1) for the fragment nested
in group 0 and reports P5.  In a validated document this cannot happen (rule "defer/stream
labels are unique": a stream's label is never the label of a deferred fragment); the direct
harness labels stream `s` with `100 + s`.  `protocol_prefix` is the statement with the missing
hypothesis (`LabelsS`: a stream's label does not occur in the nesting relation). -/
theorem protocol_prefix_full_fails : ¬ protocol_prefix_full := by
  intro hfull
  have := hfull
    { parent := fun g => if g = 1 then some 0 else none, tgroups := fun _ => [0], mode := fun _ => .async }
    { gpath := fun _ => [], glabel := fun g => some g, spath := fun _ => [], slabel := fun _ => some 1 }
    [(1, 0)] 8 (some { groups := [0], tasks := [0], streams := [5] }) [] (by decide)
    (by
      intro g p
      constructor
      · intro hp
        by_cases hg : g = 1
        · subst hg; simp at hp; subst hp; simp
        · simp [hg] at hp
      · intro hm
        simp at hm
        obtain ⟨rfl, rfl⟩ := hm
        simp)
    (fun _ => rfl)
  revert this
  decide

/-! ## Non-vacuity -/

/-- A three-level nested history: group 0 (root) ← 1 ← 2; task `k` belongs to group `k` and its
result introduces group `k+1` with task `k+1`; all three tasks are asynchronous and settle in
order, one per tick. -/
def exParent : Nat → Option Nat
  | 1 => some 0
  | 2 => some 1
  | _ => none

def exResult (k : Nat) (w : Option Work) : TResult :=
  { value := { groups := [k], path := [], data := .leaf k }, work := w }

def exStatic : Static where
  parent := exParent
  tgroups t := [t]
  mode _ := .async

def exPub : PubStatic where
  gpath g := List.replicate g 1
  glabel g := some g
  spath _ := []
  slabel _ := none

def exWork : Option Work := some { groups := [0], tasks := [0] }

def exHistory : List Tick :=
  [ [.taskSuccess 0 (exResult 0 (some { groups := [1], tasks := [1] }))],
    [.taskSuccess 1 (exResult 1 (some { groups := [2], tasks := [2] }))],
    [.taskSuccess 2 (exResult 2 none)] ]

example : Labels exPub := ⟨fun _ => rfl, fun _ => rfl⟩
example : LabelsS exStatic exPub := Labels.toS ⟨fun _ => rfl, fun _ => rfl⟩ exStatic
/-- `LabelsS` with labelled streams (the harness convention `100 + s`). -/
example : LabelsS exStatic { exPub with slabel := fun s => some (100 + s) } := by
  refine ⟨fun _ => rfl, ?_⟩
  intro s l hl
  simp only [Option.some.injEq] at hl
  subst hl
  refine ⟨?_, ?_⟩
  · show exParent (100 + s) = none
    unfold exParent
    split <;> first | rfl | omega
  intro x hx
  simp only [exStatic] at hx
  unfold exParent at hx
  split at hx <;> simp at hx <;> omega

/-- The example history is a well-formed environment … -/
example : envOk exStatic 8 exWork exHistory = true := by decide

/-- … its payload stream has 4 payloads, is accepted by the protocol validator as a *complete*
stream (so the hypotheses of the theorems above are met by a non-trivial run, and the `_full`
statement holds on it), and ends with `hasNext = false`. -/
example : (payloads exStatic exPub 8 exWork exHistory).length = 4 ∧
    check false (enclByLabels [(1, 0), (2, 1)]) .null (payloads exStatic exPub 8 exWork exHistory) = none ∧
    ((payloads exStatic exPub 8 exWork exHistory).map (·.hasNext)) = [true, true, true, false] := by
  decide

/-- `protocol_prefix` is not vacuous: the example history meets all its hypotheses (`envOk`
above, `Labels exPub` above, the parent list below), and so does the O1 history below. -/
example : ∀ g p, exStatic.parent g = some p ↔ (g, p) ∈ [(1, 0), (2, 1)] := by
  intro g p
  match g with
  | 0 => simp [exStatic, exParent]
  | 1 => simp [exStatic, exParent]; exact eq_comm
  | 2 => simp [exStatic, exParent]; exact eq_comm
  | (n + 3) => simp [exStatic, exParent]

/-- O1 (DESIGN §7) as a lemma about the model: a task shared by a root group and a nested,
not yet announced group fails; the publisher emits `completed` for id 1, which was never
announced.  No stated clause forbids it; the validator accepts the stream. -/
example :
    let σ : Static := { parent := fun g => if g = 1 then some 0 else none,
                        tgroups := fun t => if t = 0 then [0] else [1, 2], mode := fun _ => .async }
    let π : PubStatic := { gpath := fun _ => [], glabel := fun g => some g, spath := fun _ => [], slabel := fun _ => none }
    let out := payloads σ π 8 (some { groups := [0, 1, 2], tasks := [0, 1] }) [[.taskFailure 1]]
    (out.map (fun p => (p.pending.map (·.id), p.completed.map (fun c => (c.id, c.failed))))) =
      [([0, 1], []), ([], [(2, true), (1, true)])] ∧
    checkPrefix false (enclByLabels [(1, 0)]) .null out = none := by
  decide

/-- The validator is not vacuous: a stream that announces a nested fragment while its
enclosing fragment stays pending is rejected with P5, one that completes an id twice with P4a. -/
example :
    check false (enclByLabels [(1, 0)]) .null
      [{ pending := [⟨0, [], some 0⟩, ⟨1, [], some 1⟩] }, { completed := [⟨0, false⟩, ⟨1, false⟩], hasNext := false }]
      = some ⟨.P5, 0, 1⟩ ∧
    check false (fun _ _ => false) .null
      [{ pending := [⟨0, [], none⟩] }, { completed := [⟨0, false⟩] }, { completed := [⟨0, false⟩], hasNext := false }]
      = some ⟨.P4a, 2, 0⟩ := by
  decide

end Gql.Props.C05
