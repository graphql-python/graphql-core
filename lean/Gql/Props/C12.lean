import Gql.Proofs.ValidationOrder
import Gql.Proofs.ValidationSingle
import Gql.Proofs.ValidationLimit
import Gql.Proofs.ValidationMemo
import Gql.Generated.ValidationTables
import Gql.Proofs.RuleReturnsFacts
import Gql.Proofs.RulesCycles
import Gql.Proofs.RulesKnownFrags
import Gql.Proofs.RulesKeyed
import Gql.Proofs.RulesUnusedVars
import Gql.Proofs.RulesLone
import Gql.Proofs.RulesUniqueOps
import Gql.Proofs.RulesUniqueFrags
import Gql.Proofs.RulesUnusedFrags
import Gql.Proofs.RulesInputFields
import Gql.Proofs.RulesUndefinedVars
/-!
# C12 — Validation is a deterministic, compositional function of document and schema

Property theorems only (lemmas: `Gql/Proofs/Validation*.lean`).  Model: `Gql/Validation/Framework.lean`
(`validate` = `visit(doc, TypeInfoVisitor(TypeInfo, ParallelVisitor(rules)))` with `on_error` and the error
limit; rules are arbitrary state-passing non-editing visitors that may read the TypeInfo) and
`Gql/Validation/Context.lean` (the memoised context getters).  Eleven document-only concrete rules are modelled as
such visitors in `Gql/Validation/Rules.lean` (section C12-7 below; each is run alone through the real `validate()`
against the model by `checks/c12.py`); for the other rules `checks/c12.py` checks on the implementation that they
behave as such visitors.

All statements are for every tree, every list of rules (any private state type `σ`, any error type `ε`), every
lookup functions `L` and — where the TypeInfo table matters — every balanced table, instantiated with the
table generated from type_info.py.
-/
namespace Gql.Props.C12
open Gql.Validation Gql.Generated

variable {τ σ ε : Type}

/-! ## C12-1 `parallel_alone` — "exactly … what each rule reports when run alone", as call sequences -/

/-- C12-1 (members are independent).  Inside `TypeInfoVisitor(ParallelVisitor(members))` without error limit,
from any TypeInfo, any members (whatever their current `skipping` entries) and any subtree: the traversal is
never stopped, the TypeInfo ends as `tiTrav` — a function of the subtree alone — and every member ends as
`Member.trav`, a function of *that member* (state, `skipping`, received calls with the TypeInfo snapshots it
could read, reported errors) and of the subtree alone: no dependence on the other members, whichever subset of
them skips or breaks. -/
theorem parallel_members (D : Driver τ) (t : Tree) (ti : TI τ) (ms : List (Member τ σ ε)) (snk : Sink ε)
    (h : snk.aborted = false) (hw : ∀ m ∈ ms, m.WF) :
    ∃ es, run0 (tiVisitor D (parallel none)) (ti, ⟨ms, snk⟩) t =
      ((tiTrav D ti t, ⟨ms.map (fun m => Member.trav D ti m t), ⟨snk.errs ++ es, false⟩⟩), false) :=
  ⟨_, (par_run D).1 t ti ms snk h hw⟩

/-- C12-1 `parallel_alone`.  The final record of every rule (private state, `skipping` entry, the sequence of
`enter`/`leave` calls it received *including the TypeInfo it could read at each call*, the errors it reported)
in `validate(rules)` is the one it has in `validate([rule])`: the member list of the parallel run is the
concatenation of the member lists of the single-rule runs. -/
theorem parallel_alone (tbl : TITable) (L : Lookups τ) (rules : List (Rule τ σ ε × σ)) (doc : Tree) :
    (validateRun tbl L none rules doc).1.2.members =
      rules.flatMap (fun r => (validateRun tbl L none [r] doc).1.2.members) := by
  simp only [validateRun, run_closed, startMembers, List.map_map, List.map_cons, List.map_nil]
  exact List.map_eq_flatMap

/-- C12-1, direct form (C11-5 for non-editing visitors, any TypeInfo driver).  A rule used *directly* as the
visitor of `visit(doc, TypeInfoVisitor(type_info, rule))` — no `ParallelVisitor`; SKIP and BREAK are answered to
`visit()` itself, which then does not descend / stops — ends with exactly the record (`Member.trav`) it ends
with as a member of a `ParallelVisitor`: same private state, same sequence of calls with the same TypeInfo at
every call, same reported errors; `skipping = BREAK` iff the direct run stopped.  Hypotheses: no node is its own
descendant (`noSelfNest`; what makes `skipping[i] is node` identify the skipped node), and the driver's frame
`F` (the TypeInfo the skipped children would have been traversed from is restored by them). -/
theorem parallel_alone_single_full (D : Driver τ) (F : Frame D) (t : Tree) (ti : TI τ) (m : Member τ σ ε)
    (hF : F.P ti t) (hN : t.noSelfNest = true) (hm : m.skipping = .none) :
    Member.trav D ti m t =
      asMember (run0 (tiVisitor D single) (ti, m) t).1.2 (run0 (tiVisitor D single) (ti, m) t).2 :=
  ((single_sim D F).1 t ti m hF hN hm).1

/-- C12-1, direct form, for `validate()`: on a document without self-nesting and without register nesting
(checked on every generated document by the driver), the members of `validate(rules)` are, rule by rule, the
records of `visit(doc, TypeInfoVisitor(TypeInfo(schema), rule))` run directly from a fresh TypeInfo.  Together
with `parallel_alone` this closes the gap "consistently wrong in both `validate([r])` and `validate(rules)`":
the reference is the rule under plain `visit()`. -/
theorem parallel_alone_direct (tbl : TITable) (hb : tbl.Balanced) (hr : tbl.RegsReset) (L : Lookups τ)
    (rules : List (Rule τ σ ε × σ)) (doc : Tree) (h1 : doc.noSelfNest = true) (h2 : doc.noRegNest tbl = true) :
    (validateRun tbl L none rules doc).1.2.members =
      rules.map (fun r =>
        asMember (run0 (tiVisitor (realDriver tbl L) single) (TI.init, Member.start r.1 r.2) doc).1.2
                 (run0 (tiVisitor (realDriver tbl L) single) (TI.init, Member.start r.1 r.2) doc).2) := by
  unfold validateRun
  rw [run_closed]
  simp only [startMembers, List.map_map, Function.comp_def]
  apply List.map_congr_left
  intro r _
  exact parallel_alone_single_full (realDriver tbl L) (Frame.real tbl hb hr L) doc TI.init _
    ⟨Quiet.init tbl _, h2⟩ h1 rfl

/-- C12-1, direct form, for `validate_sdl()` (no TypeInfo): the members of `visit(doc, ParallelVisitor(rules))`
are the records of `visit(doc, rule)`. -/
theorem parallel_alone_direct_sdl (ti0 : TI τ) (rules : List (Rule τ σ ε × σ)) (doc : Tree) (h1 : doc.noSelfNest = true) :
    (run0 (plainVisitor ti0 (parallel none)) (PState.start rules) doc).1.members =
      rules.map (fun r =>
        asMember (run0 (plainVisitor ti0 single) (Member.start r.1 r.2) doc).1
                 (run0 (plainVisitor ti0 single) (Member.start r.1 r.2) doc).2) := by
  rw [run_closed_plain]
  simp only [startMembers, List.map_map, Function.comp_def]
  apply List.map_congr_left
  intro r _
  have hs := parallel_alone_single_full idDriver Frame.id doc ti0 (Member.start r.1 r.2) trivial h1 rfl
  rw [(run0_plain ti0 single).1] at hs
  exact hs

-- non-vacuity: two rules, the first skips the subtree of node 1, the second breaks at node 2
private def exRule (skipAt brkAt : Nat) : Rule Nat Nat Nat where
  hEnter := fun _ => true
  hLeave := fun k => k == "b"
  step := fun s ph i _ =>
    (if ph = .enter ∧ i.id = skipAt then .skip else if ph = .enter ∧ i.id = brkAt then .brk else .idle, s + 1, [10 * i.id + s])
private def exDoc : Tree := .node ⟨0, "a"⟩ [.node ⟨1, "b"⟩ [.node ⟨2, "field"⟩ []], .node ⟨3, "b"⟩ []]
private def exL : Lookups Nat := ⟨fun _ i _ => some i.id, fun _ i _ => some i.id⟩

example : ((validateRun tiTable exL none [(exRule 1 9, 0), (exRule 9 2, 0)] exDoc).1.2.members.map (fun m => m.calls.length)) = [4, 3] := by
  decide +kernel

-- the hypotheses of the direct form hold for that document, and the direct runs skip / stop for real
example : exDoc.noSelfNest = true ∧ exDoc.noRegNest tiTable = true ∧
    (run0 (tiVisitor (realDriver tiTable exL) single) (TI.init, Member.start (exRule 9 2) 0) exDoc).2 = true ∧
    (run0 (tiVisitor (realDriver tiTable exL) single) (TI.init, Member.start (exRule 1 9) 0) exDoc).1.2.calls.length = 4 := by
  decide +kernel

-- `noSelfNest` is needed: if the node being skipped reappears below itself, `skipping[i]` is reset early
-- (cannot happen with Python object identity in a finite tree)
private def exBad : Tree := .node ⟨1, "b"⟩ [.node ⟨1, "b"⟩ [], .node ⟨2, "b"⟩ []]
example : exBad.noSelfNest = false ∧
    (Member.trav (realDriver tiTable exL) TI.init (Member.start (exRule 1 9) 0) exBad).calls.length = 4 ∧
    (run0 (tiVisitor (realDriver tiTable exL) single) (TI.init, Member.start (exRule 1 9) 0) exBad).1.2.calls.length = 1 := by
  decide +kernel

/-! ## C12-2 `rules_union` -/

/-- C12-2 `rules_union`.  Without limit, what `validate(rules)` returns is, as a multiset, exactly the union of
what `validate([r])` returns for each `r` of `rules` (order of rules and of errors between rules irrelevant). -/
theorem rules_union (tbl : TITable) (L : Lookups τ) (rules : List (Rule τ σ ε × σ)) (doc : Tree) :
    (validate tbl L none rules doc).Perm (rules.flatMap (fun r => validate tbl L none [r] doc)) := by
  simp only [validate_closed]
  exact errsTrav_union (realDriver tbl L) TI.init rules doc

/-- C12-2 (order).  Without limit, `validate(rules)` returns exactly `errsTrav`: the enter/leave events of the
complete traversal in depth-first order (enter of a node, its children left to right, its leave); within one
event the rules in the order of `rules`; and what a rule reports at an event is what its own independent
evolution (`Member.trav`, the one of its single run) reports there. -/
theorem rules_order (tbl : TITable) (L : Lookups τ) (rules : List (Rule τ σ ε × σ)) (doc : Tree) :
    validate tbl L none rules doc =
      (errsTrav (realDriver tbl L) TI.init (startMembers rules) doc).map Reported.error :=
  validate_closed tbl L rules doc

/-- C12-2 `rules_order_full`.  The errors of every single-rule run appear in the combined run in the same
relative order (a subsequence): errors are reported in traversal order, ties in rule order, and no rule's
sequence is reordered by the presence of the others. -/
theorem rules_order_full (tbl : TITable) (L : Lookups τ) (rules : List (Rule τ σ ε × σ)) (doc : Tree)
    (r : Rule τ σ ε × σ) (hr : r ∈ rules) :
    (validate tbl L none [r] doc).Sublist (validate tbl L none rules doc) :=
  validate_single_sublist tbl L rules doc r hr

/-- C12-2 for `validate_sdl()`: same union law without TypeInfo. -/
theorem rules_union_sdl (ti0 : TI τ) (rules : List (Rule τ σ ε × σ)) (doc : Tree) :
    (validateSdl ti0 rules doc).Perm (rules.flatMap (fun r => validateSdl ti0 [r] doc)) := by
  simp only [validateSdl_closed]
  exact errsTrav_union idDriver ti0 rules doc

/-- C12-2 (order, per rule).  Inside the parallel run every rule reports exactly the error sequence of its
single run, in the same order (from `parallel_alone`); how the sequences interleave is `rules_order`. -/
theorem rules_order_partial (tbl : TITable) (L : Lookups τ) (rules : List (Rule τ σ ε × σ)) (doc : Tree) :
    (validateRun tbl L none rules doc).1.2.members.map (fun m => m.errs) =
      rules.flatMap (fun r => (validateRun tbl L none [r] doc).1.2.members.map (fun m => m.errs)) := by
  rw [parallel_alone, List.map_flatMap]

example : (validate tiTable exL none [(exRule 1 9, 0), (exRule 9 2, 0)] exDoc) =
    [.error 0, .error 0, .error 11, .error 11, .error 22, .error 32, .error 33] := by decide +kernel

example : (validate tiTable exL none [(exRule 1 9, 0), (exRule 9 2, 0)] exDoc).length = 7 ∧
    (validate tiTable exL none [(exRule 1 9, 0)] exDoc).length = 4 ∧ (validate tiTable exL none [(exRule 9 2, 0)] exDoc).length = 3 := by
  decide +kernel

/-! ## C12-3 `typeinfo_balanced` -/

/-- The table generated from type_info.py is balanced: every `leave_<kind>` pops each stack exactly as often
as `enter_<kind>` pushes it … -/
theorem tiTable_balanced : tiTable.Balanced := TITable.balanced_of_balancedB _ (by decide +kernel)

/-- … and resets to `None` every register `enter_<kind>` assigns. -/
theorem tiTable_regsReset : tiTable.RegsReset := by
  unfold TITable.RegsReset
  decide +kernel

/-- C12-3 `typeinfo_balanced`.  Under `TypeInfoVisitor`, for *every* inner visitor (descending, answering SKIP
— where `TypeInfoVisitor` calls `type_info.leave(node)` at once — at any nodes) and every subtree whose
traversal was not stopped by BREAK: every TypeInfo stack is restored to what it was before the sub-traversal,
and every register is unchanged or `None`.  (`tbl` any balanced table; instantiated below.) -/
theorem typeinfo_balanced (tbl : TITable) (hb : tbl.Balanced) (hr : tbl.RegsReset) (L : Lookups τ) {σ' : Type}
    (v : V τ σ') (t : Tree) (ti : TI τ) (s : σ')
    (hns : (run0 (tiVisitor (realDriver tbl L) v) (ti, s) t).2 = false) :
    (run0 (tiVisitor (realDriver tbl L) v) (ti, s) t).1.1.stacks = ti.stacks ∧
    ∀ r, (run0 (tiVisitor (realDriver tbl L) v) (ti, s) t).1.1.regs r = ti.regs r ∨
         (run0 (tiVisitor (realDriver tbl L) v) (ti, s) t).1.1.regs r = none :=
  (ti_balanced tbl hb hr L v).1 t (ti, s) hns

/-- C12-3, the form used for the nested `get_variable_usages` visit on the *shared* TypeInfo: started where all
registers are `None` (between definitions / at `leave_operation_definition`), a nested
`visit(node, TypeInfoVisitor(type_info, usage_visitor))` — the usage visitor skips variable definitions —
leaves the TypeInfo exactly as it found it, so a rule reading the TypeInfo after calling a context getter
reads what it would have read without the call. -/
theorem typeinfo_restored_nested (L : Lookups τ) {σ' : Type} (v : V τ σ') (t : Tree) (ti : TI τ) (s : σ')
    (hregs : ∀ r, ti.regs r = none)
    (hns : (run0 (tiVisitor (realDriver tiTable L) v) (ti, s) t).2 = false) :
    (run0 (tiVisitor (realDriver tiTable L) v) (ti, s) t).1.1 = ti :=
  Restored.eq_of (typeinfo_balanced tiTable tiTable_balanced tiTable_regsReset L v t ti s hns)
    (fun r hn => absurd (hregs r) hn)

-- non-vacuity: a skipping inner visitor over a tree with argument / list_value / field nodes
private def exSkipper : V Nat Unit where
  hEnter := fun _ _ => true
  hLeave := fun _ _ => false
  enter := fun s _ i => (if i.kind = "argument" then .skip else .idle, s)
  leave := fun s _ _ => (.idle, s)
private def exDoc2 : Tree :=
  .node ⟨0, "operation_definition"⟩ [.node ⟨1, "selection_set"⟩ [.node ⟨2, "field"⟩ [.node ⟨3, "argument"⟩ [.node ⟨4, "list_value"⟩ []], .node ⟨5, "directive"⟩ []]]]
example : (run0 (tiVisitor (realDriver tiTable exL) exSkipper) (TI.init, ()) exDoc2).2 = false ∧
    ((run0 (tiVisitor (realDriver tiTable exL) exSkipper) (TI.init, ()) exDoc2).1.1.depths tiStackNames) = [0, 0, 0, 0, 0] := by
  decide +kernel

/-! ## C12-4 `limit_prefix` -/

/-- C12-4 `limit_prefix`.  `validate(max_errors = n)` returns the first `n` errors of the unlimited run followed
by the abort notice iff the unlimited run has more than `n` errors, and otherwise exactly the unlimited list —
for every `n` (including 0), every rule list, every tree. -/
theorem limit_prefix (tbl : TITable) (L : Lookups τ) (n : Nat) (rules : List (Rule τ σ ε × σ)) (doc : Tree) :
    validate tbl L (some n) rules doc =
      if n < (validate tbl L none rules doc).length then (validate tbl L none rules doc).take n ++ [Reported.aborted]
      else validate tbl L none rules doc := by
  rw [validate_eq_cut, validate_eq_cut]
  exact Sink.cut_result n _

/-- At most `n` errors plus one final abort notice. -/
theorem limit_length (tbl : TITable) (L : Lookups τ) (n : Nat) (rules : List (Rule τ σ ε × σ)) (doc : Tree) :
    (validate tbl L (some n) rules doc).length ≤ n + 1 := by
  rw [limit_prefix]
  split
  · simp; omega
  · omega

example : validate tiTable exL (some 2) [(exRule 1 9, 0), (exRule 9 2, 0)] exDoc =
    (validate tiTable exL none [(exRule 1 9, 0), (exRule 9 2, 0)] exDoc).take 2 ++ [Reported.aborted] := by decide +kernel

/-- `validate()` without an explicit limit uses the default extracted from validate.py (a parameter of the
theorem above; a different constant breaks nothing). -/
theorem max_errors_default_pos : 0 < maxErrorsDefault := by decide

/-! ## C12-5 `loc_blind` — generated-table facts

The model's `validate` is by construction a function of the tree of *traversed* fields; these theorems say
which fields the implementation traverses.  Precisely, from the source as it is now: `QUERY_DOCUMENT_KEYS`
never lists `loc`, and it **does** list `description` (for operation, fragment and variable definitions and
for the type-system definitions); `validate()` passes `query_document_keys_to_validate`, built from
`QUERY_DOCUMENT_KEYS` by dropping exactly the key `"description"`; `validate_sdl()` and the nested visit of
`get_variable_usages` use the default keys (descriptions are traversed there — as `StringValue` leaves no
specified rule has a handler for; checked by oracle iii on SDL documents). -/

def keysToValidate : List (String × List String) :=
  queryDocumentKeys.map (fun kv => (kv.1, kv.2.filter (fun k => !validateExcludedKeys.contains k)))

/-- No traversal key is `loc`. -/
theorem loc_blind_no_loc : queryDocumentKeys.all (fun kv => !kv.2.contains "loc") = true := by decide +kernel

/-- `validate()` visits with the filtered map, which is built from `QUERY_DOCUMENT_KEYS` by excluding exactly
`description`; the filtered map contains neither `loc` nor `description`. -/
theorem loc_blind_validate_keys :
    validateVisitKeys = "query_document_keys_to_validate" ∧ validateFilteredFrom = "QUERY_DOCUMENT_KEYS" ∧
    validateExcludedKeys = ["description"] ∧
    keysToValidate.all (fun kv => !kv.2.contains "loc" && !kv.2.contains "description") = true := by
  -- filtering adds no key and drops `description`; `loc` is not there to begin with
  refine ⟨rfl, rfl, rfl, ?_⟩
  have h := loc_blind_no_loc
  simp only [keysToValidate, List.all_map, List.all_eq_true, Function.comp_def] at h ⊢
  intro kv hkv
  have := h kv hkv
  simp_all [show validateExcludedKeys = ["description"] from rfl]

/-- The unfiltered map does traverse descriptions (of operation, fragment and variable definitions and of the
type-system definitions), and `validate_sdl` / the nested usages visit use it. -/
theorem description_traversed_elsewhere :
    (["operation_definition", "fragment_definition", "variable_definition", "object_type_definition"].all
      (fun k => queryDocumentKeys.any (fun kv => kv.1 == k && kv.2.contains "description"))) = true ∧
    validateSdlVisitKeys = "<default>" ∧ nestedUsagesVisitKeys = "<default>" := by decide +kernel

/-- Filtering removes nothing but `description`: every other key of every kind is still traversed, in order. -/
theorem filter_only_description :
    (queryDocumentKeys.zip keysToValidate).all (fun p => p.1.1 == p.2.1 && p.1.2.filter (· != "description") == p.2.2) = true :=
  -- `keysToValidate` is `queryDocumentKeys` mapped, and the two filters are the same function
  all_zip_map_self _ _ _ fun kv => by
    simp only [BEq.rfl, Bool.true_and, beq_iff_eq]
    congr 1
    funext k
    show (k != "description") = !["description"].contains k
    cases h : k == "description" <;> simp_all [bne]

/-- The ordered rule lists (names) the check iterates over; `specified_rules` ends with the recommended rule. -/
theorem rule_lists : specifiedRules ≠ [] ∧ specifiedSdlRules ≠ [] ∧ specifiedRules.Nodup ∧
    specifiedSdlRules.Nodup ∧ recommendedRules.all (fun r => specifiedRules.contains r) = true := by decide +kernel

/-! ## C12-7 the modelled concrete rules (`Gql/Validation/Rules.lean`)

LoneAnonymousOperation, UniqueOperationNames, UniqueFragmentNames, UniqueVariableNames, UniqueArgumentNames,
UniqueInputFieldNames, KnownFragmentNames, NoUnusedFragments, NoFragmentCycles, NoUndefinedVariables,
NoUnusedVariables are *values of the rule type the theorems above quantify over* (`Rule τ RS RErr`, private state
`RS`, reading the document through the closure), so every framework theorem applies to them as it stands. -/

section Modelled
open Gql.Validation.Rules

/-- C12-7 (non-editing).  Every handler of every modelled rule answers `None` or `SKIP` — never BREAK; the
`Action` type has no edit, so "never edits" is by construction. -/
theorem modelled_rules_never_edit (doc : ATree) (r : CRule τ) (hr : r ∈ modelledRules doc)
    (s : RS) (ph : Phase) (i : Info) (ti : TI τ) :
    (r.step s ph i ti).1 = Action.idle ∨ (r.step s ph i ti).1 = Action.skip := by
  have h := modelled_nb doc r hr s ph i ti
  cases hx : (r.step s ph i ti).1 with
  | idle => exact Or.inl rfl
  | skip => exact Or.inr rfl
  | brk => exact absurd hx h

/-- C12-7 `modelled_rules_compositional`.  For any list `rs` of modelled rules (any sub-list of the eleven, any
order, repetitions allowed), each started from its `__init__` state, on any tree: (1) what `validate(rs)` returns is,
as a multiset, the union of the single-rule runs; (2) every single-rule run is a subsequence of it (errors in
traversal order, ties in rule order); (3) every rule's member record (state, calls, errors) is the one of its single
run; (4) `validate(max_errors = n)` is the `n`-prefix law of the unlimited run. -/
theorem modelled_rules_compositional (tbl : TITable) (L : Lookups τ) (doc : ATree) (rs : List (CRule τ))
    (hrs : ∀ r ∈ rs, r ∈ modelledRules doc) (t : Tree) :
    (∀ r ∈ rs, NeverBreaks r) ∧
    (validate tbl L none (rs.map (fun r => (r, RS.init))) t).Perm
      ((rs.map (fun r => (r, RS.init))).flatMap (fun r => validate tbl L none [r] t)) ∧
    (∀ r ∈ rs, (validate tbl L none [(r, RS.init)] t).Sublist (validate tbl L none (rs.map (fun r => (r, RS.init))) t)) ∧
    (validateRun tbl L none (rs.map (fun r => (r, RS.init))) t).1.2.members =
      (rs.map (fun r => (r, RS.init))).flatMap (fun r => (validateRun tbl L none [r] t).1.2.members) ∧
    (∀ n, validate tbl L (some n) (rs.map (fun r => (r, RS.init))) t =
      if n < (validate tbl L none (rs.map (fun r => (r, RS.init))) t).length
      then (validate tbl L none (rs.map (fun r => (r, RS.init))) t).take n ++ [Reported.aborted]
      else validate tbl L none (rs.map (fun r => (r, RS.init))) t) :=
  ⟨fun r hr => modelled_nb doc r (hrs r hr),
   rules_union tbl L _ t,
   fun r hr => rules_order_full tbl L _ t (r, RS.init) (List.mem_map_of_mem (f := fun r => (r, RS.init)) hr),
   parallel_alone tbl L _ t,
   fun n => limit_prefix tbl L n _ t⟩

-- non-vacuity: `{ ...A }  fragment B on T { ...B }` — an unknown fragment, an unused fragment, a self-cycle
private def exADoc : ATree :=
  .node ⟨0, "document"⟩ "" "" [
    .node ⟨1, "operation_definition"⟩ "definitions" "" [
      .node ⟨2, "selection_set"⟩ "selection_set" "" [
        .node ⟨3, "fragment_spread"⟩ "selections" "" [.node ⟨4, "name"⟩ "name" "A" []]]],
    .node ⟨5, "fragment_definition"⟩ "definitions" "" [
      .node ⟨6, "name"⟩ "name" "B" [],
      .node ⟨7, "selection_set"⟩ "selection_set" "" [
        .node ⟨8, "fragment_spread"⟩ "selections" "" [.node ⟨9, "name"⟩ "name" "B" []]]]]

example : validate tiTable exL none ((modelledRules exADoc).map (fun r => (r, RS.init))) exADoc.erase =
    [.error ⟨"KnownFragmentNamesRule", "A", [4]⟩, .error ⟨"NoFragmentCyclesRule", "B", [8]⟩,
     .error ⟨"NoUnusedFragmentsRule", "B", [5]⟩] := by decide +kernel

/-- C12-7 `rule_iff_spec`, KnownFragmentNames.  On a document whose nodes are distinct objects, `validate([KnownFragmentNamesRule])`
reports nothing iff every fragment spread (anywhere in the document, also inside fragments that are never used and
inside skipped directives' neighbours) has a name, and that name is the name of a fragment definition of the
document.  (`uniqueIds`: Python object identity; checked on every encoded document by the driver, `|u 1`.) -/
theorem knownFragmentNames_iff_spec (tbl : TITable) (L : Lookups τ) (doc : ATree) (hu : doc.uniqueIds) :
    validate tbl L none [(knownFragmentNames doc, RS.init)] doc.erase = [] ↔ Spec.knownFragmentNames doc :=
  knownFragmentNames_iff tbl L doc hu

example : exADoc.uniqueIds ∧ ¬ Spec.knownFragmentNames exADoc := by
  refine ⟨by unfold ATree.uniqueIds; decide +kernel, ?_⟩
  intro h
  have := (knownFragmentNames_iff_spec tiTable exL exADoc (by unfold ATree.uniqueIds; decide +kernel)).mpr h
  exact absurd this (by decide +kernel)

-- `query Q($a: Int, $a: Int) { f(x: 1, x: 2) }`: duplicate variable, duplicate argument, unused variable
private def exBDoc : ATree :=
  .node ⟨0, "document"⟩ "" "" [
    .node ⟨1, "operation_definition"⟩ "definitions" "" [
      .node ⟨2, "name"⟩ "name" "Q" [],
      .node ⟨3, "variable_definition"⟩ "variable_definitions" "" [
        .node ⟨4, "variable"⟩ "variable" "" [.node ⟨5, "name"⟩ "name" "a" []], .node ⟨6, "named_type"⟩ "type" "" [.node ⟨7, "name"⟩ "name" "Int" []]],
      .node ⟨8, "variable_definition"⟩ "variable_definitions" "" [
        .node ⟨9, "variable"⟩ "variable" "" [.node ⟨10, "name"⟩ "name" "a" []], .node ⟨11, "named_type"⟩ "type" "" [.node ⟨12, "name"⟩ "name" "Int" []]],
      .node ⟨13, "selection_set"⟩ "selection_set" "" [
        .node ⟨14, "field"⟩ "selections" "" [
          .node ⟨15, "name"⟩ "name" "f" [],
          .node ⟨16, "argument"⟩ "arguments" "" [.node ⟨17, "name"⟩ "name" "x" [], .node ⟨18, "int_value"⟩ "value" "" []],
          .node ⟨19, "argument"⟩ "arguments" "" [.node ⟨20, "name"⟩ "name" "x" [], .node ⟨21, "int_value"⟩ "value" "" []]]]]]

-- `query Q($a: Int) { f(x: $a) ...B }  fragment B on T { g }`: nothing to report
private def exCDoc : ATree :=
  .node ⟨0, "document"⟩ "" "" [
    .node ⟨1, "operation_definition"⟩ "definitions" "" [
      .node ⟨2, "name"⟩ "name" "Q" [],
      .node ⟨3, "variable_definition"⟩ "variable_definitions" "" [
        .node ⟨4, "variable"⟩ "variable" "" [.node ⟨5, "name"⟩ "name" "a" []], .node ⟨6, "named_type"⟩ "type" "" [.node ⟨7, "name"⟩ "name" "Int" []]],
      .node ⟨8, "selection_set"⟩ "selection_set" "" [
        .node ⟨9, "field"⟩ "selections" "" [
          .node ⟨10, "name"⟩ "name" "f" [],
          .node ⟨11, "argument"⟩ "arguments" "" [.node ⟨12, "name"⟩ "name" "x" [], .node ⟨13, "variable"⟩ "value" "" [.node ⟨14, "name"⟩ "name" "a" []]]],
        .node ⟨15, "fragment_spread"⟩ "selections" "" [.node ⟨16, "name"⟩ "name" "B" []]]],
    .node ⟨17, "fragment_definition"⟩ "definitions" "" [
      .node ⟨18, "name"⟩ "name" "B" [],
      .node ⟨19, "named_type"⟩ "type_condition" "" [.node ⟨20, "name"⟩ "name" "T" []],
      .node ⟨21, "selection_set"⟩ "selection_set" "" [.node ⟨22, "field"⟩ "selections" "" [.node ⟨23, "name"⟩ "name" "g" []]]]]

example : validate tiTable exL none ((modelledRules exBDoc).map (fun r => (r, RS.init))) exBDoc.erase =
    [.error ⟨"UniqueVariableNamesRule", "a", [5, 10]⟩, .error ⟨"UniqueArgumentNamesRule", "x", [17, 20]⟩,
     .error ⟨"NoUnusedVariablesRule", "a", [3]⟩, .error ⟨"NoUnusedVariablesRule", "a", [8]⟩] := by decide +kernel

example : validate tiTable exL none ((modelledRules exCDoc).map (fun r => (r, RS.init))) exCDoc.erase = [] := by
  decide +kernel

set_option linter.defProp false in
private def exB_unique : exBDoc.uniqueIds := by unfold ATree.uniqueIds; decide +kernel
set_option linter.defProp false in
private def exC_unique : exCDoc.uniqueIds := by unfold ATree.uniqueIds; decide +kernel

-- the predicate holds of a document with spreads, and fails where the rule reports
example : Spec.knownFragmentNames exCDoc :=
  (knownFragmentNames_iff_spec tiTable exL exCDoc exC_unique).mp (by decide +kernel)

/-- C12-7 `rule_iff_spec`, UniqueArgumentNames: `validate([UniqueArgumentNamesRule])` reports nothing iff in every
field and every directive of the document (wherever it occurs) every argument has a name and the names are pairwise
distinct. -/
theorem uniqueArgumentNames_iff_spec (tbl : TITable) (L : Lookups τ) (doc : ATree) (hu : doc.uniqueIds) :
    validate tbl L none [(uniqueArgumentNames doc, RS.init)] doc.erase = [] ↔ Spec.uniqueArgumentNames doc :=
  uniqueArgumentNames_iff tbl L doc hu

/-- C12-7 `rule_iff_spec`, UniqueVariableNames: `validate([UniqueVariableNamesRule])` reports nothing iff in every
operation the defined variables have names and these are pairwise distinct. -/
theorem uniqueVariableNames_iff_spec (tbl : TITable) (L : Lookups τ) (doc : ATree) (hu : doc.uniqueIds) :
    validate tbl L none [(uniqueVariableNames doc, RS.init)] doc.erase = [] ↔ Spec.uniqueVariableNames doc :=
  uniqueVariableNames_iff tbl L doc hu

/-- C12-7 `rule_iff_spec`, NoUnusedVariables, stated through the context getters (the fully declarative form, with
the spread graph in place of the getters, is `noUnusedVariables_iff_spec` below).
`validate([NoUnusedVariablesRule])` reports nothing iff every variable an operation defines occurs among the names
of `get_recursive_variable_usages(operation)` that are not fragment variables, and every variable a fragment
definition defines occurs among the names of `get_variable_usages(fragment)`. -/
theorem noUnusedVariables_iff_spec_partial (tbl : TITable) (L : Lookups τ) (doc : ATree) (hu : doc.uniqueIds) :
    validate tbl L none [(noUnusedVariables doc, RS.init)] doc.erase = [] ↔ Spec.noUnusedVariables doc :=
  noUnusedVariables_iff tbl L doc hu

example : Spec.uniqueArgumentNames exCDoc ∧ Spec.uniqueVariableNames exCDoc ∧ Spec.noUnusedVariables exCDoc :=
  ⟨(uniqueArgumentNames_iff_spec tiTable exL exCDoc exC_unique).mp (by decide +kernel),
   (uniqueVariableNames_iff_spec tiTable exL exCDoc exC_unique).mp (by decide +kernel),
   (noUnusedVariables_iff_spec_partial tiTable exL exCDoc exC_unique).mp (by decide +kernel)⟩

example : ¬ Spec.uniqueArgumentNames exBDoc ∧ ¬ Spec.uniqueVariableNames exBDoc ∧ ¬ Spec.noUnusedVariables exBDoc :=
  ⟨mt (uniqueArgumentNames_iff_spec tiTable exL exBDoc exB_unique).mpr (by decide +kernel),
   mt (uniqueVariableNames_iff_spec tiTable exL exBDoc exB_unique).mpr (by decide +kernel),
   mt (noUnusedVariables_iff_spec_partial tiTable exL exBDoc exB_unique).mpr (by decide +kernel)⟩

/-- C12-7 (termination, partial).  The worklist loop of `context.get_fragment_spreads` terminates on every selection
set: the model's fuel (the number of nodes below the selection set) is never exhausted.  The other two fuelled loops
(`get_recursively_referenced_fragments`, `detect_cycle_recursive`) are `rec_frags_terminates` and
`detect_cycle_terminates` below; with them no fuelled loop of the modelled rules is left unproved. -/
theorem fragment_spreads_terminates_partial (selSet : ATree) : (getSpreads selSet).2 = false :=
  spreads_fuel_enough selSet

example : (getSpreads (.node ⟨0, "selection_set"⟩ "" "" [
    .node ⟨1, "field"⟩ "selections" "" [.node ⟨2, "selection_set"⟩ "selection_set" "" [.node ⟨3, "fragment_spread"⟩ "selections" "" []]],
    .node ⟨4, "fragment_spread"⟩ "selections" "" []])).1.map (·.id) = [4, 3] := by decide +kernel

/-- C12-7 (termination) `rec_frags_terminates`.  The `while nodes_to_visit:` loop of
`context.get_recursively_referenced_fragments(operation)` terminates on every document and every operation node: the
model's fuel (number of fragment definitions of the document + 1) is never exhausted, so the list the model returns is
never a truncated one.  No hypothesis on the document (duplicate fragment names, spreads of undefined fragments,
cycles, missing names and selection sets included).  Argument: a selection set is pushed only together with a newly
collected name for which `get_fragment` answers, and there are at most as many such names as fragment definitions. -/
theorem rec_frags_terminates (doc op : ATree) : (getRecFrags doc op).2 = false :=
  recFrags_fuel_enough doc op

-- `{ ...A }  fragment A on T { ...B ...A }  fragment B on T { ...A ...C }`: a cycle, a self-spread, an unknown name
private def exGSs : ATree :=
  .node ⟨2, "selection_set"⟩ "selection_set" "" [
    .node ⟨3, "fragment_spread"⟩ "selections" "" [.node ⟨4, "name"⟩ "name" "A" []]]
private def exGOp : ATree := .node ⟨1, "operation_definition"⟩ "definitions" "" [exGSs]
private def exGDoc : ATree :=
  .node ⟨0, "document"⟩ "" "" [
    exGOp,
    .node ⟨5, "fragment_definition"⟩ "definitions" "" [
      .node ⟨6, "name"⟩ "name" "A" [],
      .node ⟨7, "selection_set"⟩ "selection_set" "" [
        .node ⟨8, "fragment_spread"⟩ "selections" "" [.node ⟨9, "name"⟩ "name" "B" []],
        .node ⟨10, "fragment_spread"⟩ "selections" "" [.node ⟨11, "name"⟩ "name" "A" []]]],
    .node ⟨12, "fragment_definition"⟩ "definitions" "" [
      .node ⟨13, "name"⟩ "name" "B" [],
      .node ⟨14, "selection_set"⟩ "selection_set" "" [
        .node ⟨15, "fragment_spread"⟩ "selections" "" [.node ⟨16, "name"⟩ "name" "A" []],
        .node ⟨17, "fragment_spread"⟩ "selections" "" [.node ⟨18, "name"⟩ "name" "C" []]]]]

-- the loop really runs (two rounds beyond the operation's own set) and the fuel `2 + 1` is used up exactly
example : (opDefs exGDoc).map (fun op => ((getRecFrags exGDoc op).1.map (·.id), (getRecFrags exGDoc op).2)) =
    [([5, 12], false)] ∧ (fragDefs exGDoc).length = 2 := by decide +kernel

-- one unit of fuel less and the flag is set: the bound is tight on this document
example : (refsLoop exGDoc 2 [exGSs] [] []).2 = true := by decide +kernel

/-- C12-7 (termination) `detect_cycle_terminates`.  `NoFragmentCyclesRule.detect_cycle_recursive(fragment)` terminates:
started by the rule (fuel = number of fragment definitions + 2) on any fragment node, with any `visited_frags`, any
`spread_path` and `spread_path_index_by_name`, the recursion never exhausts the model's fuel — so the rule never
reports the `<fuel>` marker, on any document (no well-formedness assumed).  Argument: every recursive call is for the
fragment `get_fragment` returns for the spread's name; it either finds that name in `visited_frags` and returns, or
adds it — and at most #definitions distinct names have a definition.  The `+ 2`: one call that finds its name
visited, and the first call's fragment may be a definition that `get_fragment` does not return (shadowed by a later
one of the same name).  Also states that `visited_frags` only grows. -/
theorem detect_cycle_terminates (doc fragment : ATree) (visited : List String) (path : List ATree)
    (index : List (String × Nat)) :
    (detectCycle doc (cycleFuel doc) fragment visited path index).ranOut = false ∧
    ∀ n ∈ visited, n ∈ (detectCycle doc (cycleFuel doc) fragment visited path index).visited :=
  detectCycle_ok doc (cycleFuel doc) fragment visited path index (fragNames doc) (cover_fragNames doc visited)
    (Or.inr (by have := fragNames_length_le doc; unfold cycleFuel; omega))

/-- Consequence for the rule: what `NoFragmentCyclesRule.enter_fragment_definition` reports is exactly what
`detect_cycle_recursive` reports (no `<fuel>` marker is ever appended). -/
theorem noFragmentCycles_no_fuel_marker (doc n : ATree) (s : RS) :
    (let r := detectCycle doc (cycleFuel doc) n s.visited [] []
     r.errs ++ (if r.ranOut then [(⟨"NoFragmentCyclesRule", "<fuel>", []⟩ : RErr)] else [])) =
    (detectCycle doc (cycleFuel doc) n s.visited [] []).errs := by
  simp [(detect_cycle_terminates doc n s.visited [] []).1]

-- the recursion really descends (A → B → A closes a cycle, A → A another) and comes back without the flag
example : (fragDefs exGDoc).map (fun f =>
      let r := detectCycle exGDoc (cycleFuel exGDoc) f [] [] []
      (r.visited, r.errs.map (fun e => (e.name, e.nodes)), r.ranOut)) =
    [(["A", "B"], [("A", [8, 15]), ("A", [10])], false), (["B", "A"], [("B", [15, 8]), ("A", [10])], false)] := by
  decide +kernel

-- the flag is not constant: with fuel 1 instead of `cycleFuel` (= 4) it is set on this document
example : (detectCycle exGDoc 1 (.node ⟨5, "fragment_definition"⟩ "definitions" "" [
      .node ⟨6, "name"⟩ "name" "A" [],
      .node ⟨7, "selection_set"⟩ "selection_set" "" [
        .node ⟨8, "fragment_spread"⟩ "selections" "" [.node ⟨9, "name"⟩ "name" "B" []],
        .node ⟨10, "fragment_spread"⟩ "selections" "" [.node ⟨11, "name"⟩ "name" "A" []]]]) [] [] []).ranOut = true := by
  decide +kernel

/-- C12-7 (getter = spec) `fragment_spreads_iff_spec`.  `context.get_fragment_spreads(selection_set)` returns exactly
the fragment spreads of the selection set (`Spec.SpreadIn`: a selection of kind fragment spread, or — recursively — a
spread of the selection set of a selection that is not a fragment spread: field, inline fragment).  It does not look
into the fragments the spreads name.  Any tree; no hypothesis. -/
theorem fragment_spreads_iff_spec (selSet sp : ATree) : sp ∈ (getSpreads selSet).1 ↔ Spec.SpreadIn selSet sp :=
  getSpreads_mem_iff selSet sp

/-- C12-7 (getter = spec) `rec_frags_iff_reachable`.  `context.get_recursively_referenced_fragments(operation)` is
reachability in the spread graph: a fragment definition is in the returned list iff it is what `get_fragment` returns
for a name reachable (`Spec.Reaches`: inductively, a spread of the operation's selection set, or a spread of the
selection set of the fragment of a reachable name) from the operation's selection set.  Any document (duplicate
fragment names: edges leave only the *last* definition of a name, as `get_fragment` resolves it; undefined names have no
outgoing edges; cycles allowed); an operation without selection set gets the empty list
(`getRecFrags_mem_iff`, which has no hypothesis on the selection set). -/
theorem rec_frags_iff_reachable (doc op ss : ATree) (hss : op.kid "selection_set" = some ss) (f : ATree) :
    f ∈ (getRecFrags doc op).1 ↔ ∃ n, Spec.Reaches doc ss n ∧ getFragment doc n = some f := by
  simp only [getRecFrags_mem_iff, hss, Option.some.injEq, exists_eq_left']

-- non-vacuity: in `exGDoc` fragment B (node 12) is reached from the operation (through A), a spread (node 3) is found
example : (∃ sp, sp.id = 3 ∧ Spec.SpreadIn exGSs sp) ∧
    ∃ f n, f.id = 12 ∧ Spec.Reaches exGDoc exGSs n ∧ getFragment exGDoc n = some f := by
  constructor
  · have h : 3 ∈ (getSpreads exGSs).1.map (·.id) := by decide +kernel
    obtain ⟨sp, hsp, hid⟩ := List.mem_map.mp h
    exact ⟨sp, hid, (fragment_spreads_iff_spec exGSs sp).mp hsp⟩
  · have h : 12 ∈ (getRecFrags exGDoc exGOp).1.map (·.id) := by decide +kernel
    obtain ⟨f, hf, hid⟩ := List.mem_map.mp h
    obtain ⟨n, hr, hg⟩ := (rec_frags_iff_reachable exGDoc exGOp exGSs (by rfl) f).mp hf
    exact ⟨f, n, hid, hr, hg⟩

-- and in `exADoc` (`{ ...A }  fragment B on T { ...B }`) no defined fragment is reachable from the operation
example : ¬ ∃ n f, Spec.Reaches exADoc exGSs n ∧ getFragment exADoc n = some f := by
  rintro ⟨n, f, hr, hg⟩
  have := (rec_frags_iff_reachable exADoc exGOp exGSs (by rfl) f).mpr ⟨n, hr, hg⟩
  have h0 : (getRecFrags exADoc exGOp).1.length = 0 := by decide +kernel
  rw [List.length_eq_zero_iff] at h0
  rw [h0] at this
  simp at this

/-- C12-7 `rule_iff_spec`, NoUnusedFragments (private state `operation_defs` / `fragment_defs`, SKIP at every
definition, the report at `leave_document`).  On a document — root of kind `document`, no other node of that kind,
nodes distinct objects; all guaranteed by the parser and decidable — `validate([NoUnusedFragmentsRule])` reports nothing
iff every fragment definition has a name that is reachable in the spread graph (`Spec.Reaches`) from the selection set
of some operation definition (and is resolved by `get_fragment`, i.e. the definition is in `document.definitions` —
automatic for parsed documents).  Purely declarative: no context getter occurs in `Spec.noUnusedFragments`. -/
theorem noUnusedFragments_iff_spec (tbl : TITable) (L : Lookups τ) (doc : ATree) (hk : doc.kind = "document")
    (hu : doc.uniqueIds) (hnd : ∀ n ∈ ATree.nodesList doc.children, n.kind ≠ "document") :
    validate tbl L none [(noUnusedFragments doc, RS.init)] doc.erase = [] ↔ Spec.noUnusedFragments doc :=
  noUnusedFragments_iff tbl L doc hk hu hnd

example : validate tiTable exL none [(noUnusedFragments exADoc, RS.init)] exADoc.erase =
    [.error ⟨"NoUnusedFragmentsRule", "B", [5]⟩] := by decide +kernel

-- fails where the rule reports (B is only reachable from itself), holds on a document with a used fragment
example : ¬ Spec.noUnusedFragments exADoc ∧ Spec.noUnusedFragments exCDoc :=
  ⟨mt (noUnusedFragments_iff_spec tiTable exL exADoc (by decide +kernel)
      (by unfold ATree.uniqueIds; decide +kernel) (by decide +kernel)).mpr (by decide +kernel),
   (noUnusedFragments_iff_spec tiTable exL exCDoc (by decide +kernel) exC_unique (by decide +kernel)).mp (by decide +kernel)⟩

/-- C12-7 `rule_iff_spec`, NoUnusedVariables — full.  `validate([NoUnusedVariablesRule])` reports nothing iff every
variable an operation defines occurs (as a `VariableNode` outside variable definitions) in the operation itself or in
a fragment reachable from it in the spread graph where it is not shadowed by a fragment variable of that fragment's
signature, and every variable a fragment definition defines occurs in that fragment.  `Spec.noUnusedVariablesFull`
mentions only the document (`Spec.Reaches`, the structural `variablesIn`, `get_fragment` as name resolution); the
context getters `get_recursively_referenced_fragments` / `get_recursive_variable_usages` are gone. -/
theorem noUnusedVariables_iff_spec (tbl : TITable) (L : Lookups τ) (doc : ATree) (hu : doc.uniqueIds) :
    validate tbl L none [(noUnusedVariables doc, RS.init)] doc.erase = [] ↔ Spec.noUnusedVariablesFull doc :=
  noUnusedVariables_iff_full tbl L doc hu

example : Spec.noUnusedVariablesFull exCDoc ∧ ¬ Spec.noUnusedVariablesFull exBDoc :=
  ⟨(noUnusedVariables_iff_spec tiTable exL exCDoc exC_unique).mp (by decide +kernel),
   mt (noUnusedVariables_iff_spec tiTable exL exBDoc exB_unique).mpr (by decide +kernel)⟩

-- `query Q($a: Int) { ...B }  fragment B on T { f(x: $a) }`: `$a` is used only in the fragment the operation reaches
private def exHOp : ATree :=
  .node ⟨1, "operation_definition"⟩ "definitions" "" [
    .node ⟨2, "name"⟩ "name" "Q" [],
    .node ⟨3, "variable_definition"⟩ "variable_definitions" "" [
      .node ⟨4, "variable"⟩ "variable" "" [.node ⟨5, "name"⟩ "name" "a" []], .node ⟨6, "named_type"⟩ "type" "" [.node ⟨7, "name"⟩ "name" "Int" []]],
    .node ⟨8, "selection_set"⟩ "selection_set" "" [
      .node ⟨9, "fragment_spread"⟩ "selections" "" [.node ⟨10, "name"⟩ "name" "B" []]]]
private def exHDoc : ATree :=
  .node ⟨0, "document"⟩ "" "" [
    exHOp,
    .node ⟨11, "fragment_definition"⟩ "definitions" "" [
      .node ⟨12, "name"⟩ "name" "B" [],
      .node ⟨13, "named_type"⟩ "type_condition" "" [.node ⟨14, "name"⟩ "name" "T" []],
      .node ⟨15, "selection_set"⟩ "selection_set" "" [
        .node ⟨16, "field"⟩ "selections" "" [
          .node ⟨17, "name"⟩ "name" "f" [],
          .node ⟨18, "argument"⟩ "arguments" "" [.node ⟨19, "name"⟩ "name" "x" [],
            .node ⟨20, "variable"⟩ "value" "" [.node ⟨21, "name"⟩ "name" "a" []]]]]]]

-- the spec holds there, and only through the spread graph: the operation itself does not mention `$a`
example : Spec.noUnusedVariablesFull exHDoc ∧ (variablesIn exHOp).length = 0 :=
  ⟨(noUnusedVariables_iff_spec tiTable exL exHDoc (by unfold ATree.uniqueIds; decide +kernel)).mp (by decide +kernel),
   by decide +kernel⟩

/-- C12-7 `rule_iff_spec`, NoUndefinedVariables (private state `defined_variable_names`: reset at every operation,
extended at every variable definition, read at `leave_operation_definition`).  On a document whose nodes are distinct
objects and in which no operation definition is nested in another one (`hno`; the parser only produces operations in
`document.definitions`; decidable) `validate([NoUndefinedVariablesRule])` reports nothing iff every variable definition
has a name and, for every operation, every variable occurring in the operation or in a fragment it reaches in the
spread graph (`Spec.Reaches`) — unless it is one of that fragment's own fragment variables — is defined by one of the
operation's variable definitions.  Declarative: no context getter, no rule state in `Spec.noUndefinedVariables`. -/
theorem noUndefinedVariables_iff_spec (tbl : TITable) (L : Lookups τ) (doc : ATree) (hu : doc.uniqueIds)
    (hno : ∀ n ∈ doc.nodes, n.kind = "operation_definition" →
      ∀ m ∈ ATree.nodesList n.children, m.kind ≠ "operation_definition") :
    validate tbl L none [(noUndefinedVariables doc, RS.init)] doc.erase = [] ↔ Spec.noUndefinedVariables doc :=
  noUndefinedVariables_iff tbl L doc hu hno

-- `{ ...B }  fragment B on T { f(x: $a) }`: `$a` is undefined, found through the spread graph only
private def exKDoc : ATree :=
  .node ⟨0, "document"⟩ "" "" [
    .node ⟨1, "operation_definition"⟩ "definitions" "" [
      .node ⟨8, "selection_set"⟩ "selection_set" "" [
        .node ⟨9, "fragment_spread"⟩ "selections" "" [.node ⟨10, "name"⟩ "name" "B" []]]],
    .node ⟨11, "fragment_definition"⟩ "definitions" "" [
      .node ⟨12, "name"⟩ "name" "B" [],
      .node ⟨13, "named_type"⟩ "type_condition" "" [.node ⟨14, "name"⟩ "name" "T" []],
      .node ⟨15, "selection_set"⟩ "selection_set" "" [
        .node ⟨16, "field"⟩ "selections" "" [
          .node ⟨17, "name"⟩ "name" "f" [],
          .node ⟨18, "argument"⟩ "arguments" "" [.node ⟨19, "name"⟩ "name" "x" [],
            .node ⟨20, "variable"⟩ "value" "" [.node ⟨21, "name"⟩ "name" "a" []]]]]]]

example : validate tiTable exL none [(noUndefinedVariables exKDoc, RS.init)] exKDoc.erase =
    [.error ⟨"NoUndefinedVariablesRule", "a", [20, 1]⟩] := by decide +kernel

example : ¬ Spec.noUndefinedVariables exKDoc ∧ Spec.noUndefinedVariables exHDoc ∧ Spec.noUndefinedVariables exCDoc :=
  ⟨mt (noUndefinedVariables_iff_spec tiTable exL exKDoc (by unfold ATree.uniqueIds; decide +kernel)
      (by decide +kernel)).mpr (by decide +kernel),
   (noUndefinedVariables_iff_spec tiTable exL exHDoc (by unfold ATree.uniqueIds; decide +kernel) (by decide +kernel)).mp (by decide +kernel),
   (noUndefinedVariables_iff_spec tiTable exL exCDoc exC_unique (by decide +kernel)).mp (by decide +kernel)⟩

/-- C12-7 `rule_iff_spec`, UniqueInputFieldNames (private state: `known_names` and the stack `known_names_stack`
pushed at `enter_object_value`, popped at `leave_object_value`).  On a document whose nodes are distinct objects,
`validate([UniqueInputFieldNamesRule])` reports nothing iff in every object value the object fields in its scope (not
below a deeper object value) have names and these are pairwise distinct — the same name may recur in a nested or a
sibling object.  In particular the pop never hits an empty stack (no crash marker). -/
theorem uniqueInputFieldNames_iff_spec (tbl : TITable) (L : Lookups τ) (doc : ATree) (hu : doc.uniqueIds) :
    validate tbl L none [(uniqueInputFieldNames doc, RS.init)] doc.erase = [] ↔ Spec.uniqueInputFieldNames doc :=
  uniqueInputFieldNames_iff tbl L doc hu

-- `{ f(x: {a: 1, b: {a: 2}, a: 3}) }`: the nested `a` is fine, the second `a` of the outer object is reported
private def exIDoc (dup : String) : ATree :=
  .node ⟨0, "document"⟩ "" "" [
    .node ⟨1, "operation_definition"⟩ "definitions" "" [
      .node ⟨2, "selection_set"⟩ "selection_set" "" [
        .node ⟨3, "field"⟩ "selections" "" [
          .node ⟨4, "name"⟩ "name" "f" [],
          .node ⟨5, "argument"⟩ "arguments" "" [
            .node ⟨6, "name"⟩ "name" "x" [],
            .node ⟨7, "object_value"⟩ "value" "" [
              .node ⟨8, "object_field"⟩ "fields" "" [.node ⟨9, "name"⟩ "name" "a" [], .node ⟨10, "int_value"⟩ "value" "" []],
              .node ⟨11, "object_field"⟩ "fields" "" [.node ⟨12, "name"⟩ "name" "b" [],
                .node ⟨13, "object_value"⟩ "value" "" [
                  .node ⟨14, "object_field"⟩ "fields" "" [.node ⟨15, "name"⟩ "name" "a" [], .node ⟨16, "int_value"⟩ "value" "" []]]],
              .node ⟨17, "object_field"⟩ "fields" "" [.node ⟨18, "name"⟩ "name" dup [], .node ⟨19, "int_value"⟩ "value" "" []]]]]]]]

example : validate tiTable exL none [(uniqueInputFieldNames (exIDoc "a"), RS.init)] (exIDoc "a").erase =
    [.error ⟨"UniqueInputFieldNamesRule", "a", [9, 18]⟩] := by decide +kernel

example : ¬ Spec.uniqueInputFieldNames (exIDoc "a") ∧ Spec.uniqueInputFieldNames (exIDoc "c") :=
  ⟨mt (uniqueInputFieldNames_iff_spec tiTable exL (exIDoc "a") (by unfold ATree.uniqueIds; decide +kernel)).mpr (by decide +kernel),
   (uniqueInputFieldNames_iff_spec tiTable exL (exIDoc "c") (by unfold ATree.uniqueIds; decide +kernel)).mp (by decide +kernel)⟩

/-- C12-7 `rule_iff_spec`, LoneAnonymousOperation (a rule with private state: `operation_count` is set at the
document node and read at every operation).  On a document — root of kind `document`, no other node of that kind,
nodes distinct objects; all guaranteed by the parser and decidable — `validate([LoneAnonymousOperationRule])` reports
nothing iff: if the document defines more than one operation, then every operation definition has a name. -/
theorem loneAnonymousOperation_iff_spec (tbl : TITable) (L : Lookups τ) (doc : ATree) (hk : doc.kind = "document")
    (hu : doc.uniqueIds) (hnd : ∀ n ∈ ATree.nodesList doc.children, n.kind ≠ "document") :
    validate tbl L none [(loneAnonymousOperation doc, RS.init)] doc.erase = [] ↔ Spec.loneAnonymousOperation doc :=
  loneAnonymousOperation_iff tbl L doc hk hu hnd

-- `{ a }  query Q { b }`
private def exDDoc : ATree :=
  .node ⟨0, "document"⟩ "" "" [
    .node ⟨1, "operation_definition"⟩ "definitions" "" [
      .node ⟨2, "selection_set"⟩ "selection_set" "" [.node ⟨3, "field"⟩ "selections" "" [.node ⟨4, "name"⟩ "name" "a" []]]],
    .node ⟨5, "operation_definition"⟩ "definitions" "" [
      .node ⟨6, "name"⟩ "name" "Q" [],
      .node ⟨7, "selection_set"⟩ "selection_set" "" [.node ⟨8, "field"⟩ "selections" "" [.node ⟨9, "name"⟩ "name" "b" []]]]]

example : validate tiTable exL none [(loneAnonymousOperation exDDoc, RS.init)] exDDoc.erase =
    [.error ⟨"LoneAnonymousOperationRule", "", [1]⟩] := by decide +kernel

example : ¬ Spec.loneAnonymousOperation exDDoc ∧ Spec.loneAnonymousOperation exCDoc :=
  ⟨mt (loneAnonymousOperation_iff_spec tiTable exL exDDoc (by decide +kernel)
      (by unfold ATree.uniqueIds; decide +kernel) (by decide +kernel)).mpr (by decide +kernel),
   (loneAnonymousOperation_iff_spec tiTable exL exCDoc (by decide +kernel) exC_unique (by decide +kernel)).mp (by decide +kernel)⟩

/-- C12-7 `rule_iff_spec`, UniqueOperationNames (a rule with private state that answers SKIP at every operation and
fragment definition; the proof goes through `ParallelVisitor`'s `skipping` entry being set to the definition node,
its subtree being ignored, and the entry being reset when the node is left).  On a document whose nodes are distinct
objects, `validate([UniqueOperationNamesRule])` reports nothing iff the names of the named operation definitions
(`outer doc`: the operation / fragment definitions not nested in another one — for a parsed document,
`document.definitions`) are pairwise distinct. -/
theorem uniqueOperationNames_iff_spec (tbl : TITable) (L : Lookups τ) (doc : ATree) (hu : doc.uniqueIds) :
    validate tbl L none [(uniqueOperationNames doc, RS.init)] doc.erase = [] ↔ Spec.uniqueOperationNames doc :=
  uniqueOperationNames_iff tbl L doc hu

-- `query Q { a }  query Q { b }`
private def exEDoc : ATree :=
  .node ⟨0, "document"⟩ "" "" [
    .node ⟨1, "operation_definition"⟩ "definitions" "" [
      .node ⟨2, "name"⟩ "name" "Q" [],
      .node ⟨3, "selection_set"⟩ "selection_set" "" [.node ⟨4, "field"⟩ "selections" "" [.node ⟨5, "name"⟩ "name" "a" []]]],
    .node ⟨6, "operation_definition"⟩ "definitions" "" [
      .node ⟨7, "name"⟩ "name" "Q" [],
      .node ⟨8, "selection_set"⟩ "selection_set" "" [.node ⟨9, "field"⟩ "selections" "" [.node ⟨10, "name"⟩ "name" "b" []]]]]

example : validate tiTable exL none [(uniqueOperationNames exEDoc, RS.init)] exEDoc.erase =
    [.error ⟨"UniqueOperationNamesRule", "Q", [2, 7]⟩] := by decide +kernel

example : opNames (outer exEDoc) = ["Q", "Q"] ∧ ¬ Spec.uniqueOperationNames exEDoc ∧ Spec.uniqueOperationNames exDDoc :=
  ⟨by decide +kernel,
   mt (uniqueOperationNames_iff_spec tiTable exL exEDoc (by unfold ATree.uniqueIds; decide +kernel)).mpr (by decide +kernel),
   (uniqueOperationNames_iff_spec tiTable exL exDDoc (by unfold ATree.uniqueIds; decide +kernel)).mp (by decide +kernel)⟩

/-- C12-7 `rule_iff_spec`, UniqueFragmentNames (private state, SKIP at every definition).  On a document whose nodes
are distinct objects, `validate([UniqueFragmentNamesRule])` reports nothing iff every fragment definition has a name
and these names are pairwise distinct. -/
theorem uniqueFragmentNames_iff_spec (tbl : TITable) (L : Lookups τ) (doc : ATree) (hu : doc.uniqueIds) :
    validate tbl L none [(uniqueFragmentNames doc, RS.init)] doc.erase = [] ↔ Spec.uniqueFragmentNames doc :=
  uniqueFragmentNames_iff tbl L doc hu

-- `fragment A on T { f }  fragment A on T { g }`
private def exFDoc : ATree :=
  .node ⟨0, "document"⟩ "" "" [
    .node ⟨1, "fragment_definition"⟩ "definitions" "" [
      .node ⟨2, "name"⟩ "name" "A" [],
      .node ⟨3, "selection_set"⟩ "selection_set" "" [.node ⟨4, "field"⟩ "selections" "" [.node ⟨5, "name"⟩ "name" "f" []]]],
    .node ⟨6, "fragment_definition"⟩ "definitions" "" [
      .node ⟨7, "name"⟩ "name" "A" [],
      .node ⟨8, "selection_set"⟩ "selection_set" "" [.node ⟨9, "field"⟩ "selections" "" [.node ⟨10, "name"⟩ "name" "g" []]]]]

example : validate tiTable exL none [(uniqueFragmentNames exFDoc, RS.init)] exFDoc.erase =
    [.error ⟨"UniqueFragmentNamesRule", "A", [2, 7]⟩] := by decide +kernel

example : ¬ Spec.uniqueFragmentNames exFDoc ∧ Spec.uniqueFragmentNames exCDoc :=
  ⟨mt (uniqueFragmentNames_iff_spec tiTable exL exFDoc (by unfold ATree.uniqueIds; decide +kernel)).mpr (by decide +kernel),
   (uniqueFragmentNames_iff_spec tiTable exL exCDoc exC_unique).mp (by decide +kernel)⟩

/-- C12-7 (T1).  The modelled rules carry the class names of eleven members of `specified_rules` (the list
regenerated from specified_rules.py), in the order of that list. -/
theorem modelled_rules_are_specified (doc : ATree) :
    ((modelled (τ := τ) doc).map (·.1)).isSublist specifiedRules = true ∧ ((modelled (τ := τ) doc).map (·.1)).length = 11 := by
  simp only [modelled, List.map_cons, List.map_nil]
  decide +kernel

end Modelled

/-! ## C12-6 `memo_pure` -/

open Gql.Validation.Context in
/-- Full statement: on every request sequence every getter returns what recomputation returns. -/
def memo_pure_full : Prop :=
  ∀ (υ : Type) (P : Pure υ) (qs : List Req) (q : Req) (r : Resp υ),
    (q, r) ∈ qs.zip (runReqs P Ctx.empty qs).1 → r = specResp P q

open Gql.Validation.Context in
/-- C12-6 (exact characterisation).  From the empty context, on every request sequence, every response equals
recomputation — except that `get_variable_usages(operation)` may return the *recursive* usages of that
operation (own + all reachable fragments'): `get_recursive_variable_usages` extends the cached list in place. -/
theorem memo_responses {υ : Type} (P : Pure υ) (qs : List Req) (q : Req) (r : Resp υ)
    (h : (q, r) ∈ qs.zip (runReqs P Ctx.empty qs).1) :
    r = specResp P q ∨ ∃ o, q = .usages (.op o) ∧ r = .us (specRecUsages P o) :=
  run_ok P qs Ctx.empty (Inv.empty P) q r h

open Gql.Validation.Context in
/-- C12-6 `memo_pure_partial`.  On request sequences that never ask `get_variable_usages` for an *operation*
— the pattern of every specified rule: `get_variable_usages` is only called by `NoUnusedVariablesRule` with a
fragment definition; operations go through `get_recursive_variable_usages` — every getter returns exactly what
recomputation returns.  Missing for the full statement: see `memo_pure_full_false`. -/
theorem memo_pure_partial {υ : Type} (P : Pure υ) (qs : List Req) (hqs : ∀ o, Req.usages (.op o) ∉ qs)
    (q : Req) (r : Resp υ) (h : (q, r) ∈ qs.zip (runReqs P Ctx.empty qs).1) : r = specResp P q := by
  rcases memo_responses P qs q r h with h1 | ⟨o, ho, _⟩
  · exact h1
  · exact absurd (ho ▸ (List.of_mem_zip h).1) (hqs o)

open Gql.Validation.Context in
private def exP : Pure Nat where
  fragment := fun n => if n = 0 then some 0 else none
  spreads := fun _ => [0]
  recFrags := fun _ => [0]
  usages := fun r => match r with | .op k => [100 + k] | .frag f => [200 + f]

open Gql.Validation.Context in
/-- The aliasing is observable through the public getters, as the code is written: after
`get_recursive_variable_usages(op)`, `get_variable_usages(op)` returns the extended list.  (Witness replayed on
the implementation by the `memo` correspondence cases; not reachable with the specified rules.) -/
theorem memo_pure_full_false : ¬ memo_pure_full := by
  intro h
  have := h Nat exP [.recUsages 0, .usages (.op 0)] (.usages (.op 0)) (.us [100, 200]) (by decide)
  exact absurd this (by decide)

open Gql.Validation.Context in
example : (runReqs exP Ctx.empty [.usages (.op 0), .recUsages 0, .usages (.op 0), .usages (.frag 0)]).1 =
    [.us [100], .us [100, 200], .us [100, 200], .us [200]] := by decide +kernel

/-- **The concrete rules are non-editing visitors (T1, regenerated from the source on every run).**  The
framework theorems above (`rules_union`, `parallel_alone`, `rules_order`, `limit_prefix`) quantify over
*non-editing* rules.  For the ~40 concrete rule classes this is decided here on a table extracted from
`src/graphql/validation/rules/**.py` with Python's `ast` module: every `return` of every `enter*` / `leave*`
method (following `return self.helper(…)` into the helper) yields `None`, `SKIP`/`False` or `BREAK`/`True` —
never a node or `REMOVE`; and every rule listed in `specified_rules` / `specified_sdl_rules` is in the table.
A rule that starts returning a replacement node breaks this `decide`. -/
theorem rules_never_edit :
    Gql.Validation.Static.neverEdit Gql.Generated.ruleReturns = true ∧
    Gql.Validation.Static.covers Gql.Generated.ruleReturns
      (Gql.Generated.specifiedRules ++ Gql.Generated.specifiedSdlRules) = true :=
  ⟨Gql.Validation.Static.ruleReturns_neverEdit, Gql.Validation.Static.ruleReturns_covers⟩

-- the predicate is not vacuous: a method returning a node is rejected
example : Gql.Validation.Static.neverEdit [("R", "enter_field", ["none", "other:node"])] = false := by decide +kernel

end Gql.Props.C12
