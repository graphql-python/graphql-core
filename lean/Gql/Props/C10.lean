import Gql.Proofs.Location
import Gql.Proofs.LexerLines
/-!
# C10 — Every reported source location is the true line and column

Property theorems only (helper lemmas live in `Gql/Proofs/Location.lean`).
Model: `Gql.Text.getLocation` (`Source.get_location`), `Gql.Text.excerptLine`
(`print_source_location`'s `lines[line_index]`), `Gql.Text.renderedLineCol`.
Spec: `Gql.Text.Spec.lineCol` — line = 1 + number of LF / CR LF / CR terminators that end at
or before the offset, column = 1 + distance from the end of the last one.
-/
namespace Gql.Props.C10
open Gql Gql.Text Gql.Text.Spec

/-- C10-1. For every source text and every offset `0..len` not strictly inside a CR LF pair,
the reported location is exactly the specification's line and column. -/
theorem getLocation_eq_spec (body : List Nat) (p : Nat) (hp : p ≤ body.length)
    (hin : ¬ insideCRLF body p) : getLocation body p = .ok (lineCol body p) :=
  Gql.Text.getLocation_eq_spec body p hp hin

/-- C10-1b. `get_location` never raises, for any offset at all (also inside CR LF and
beyond the end). -/
theorem getLocation_no_crash (body : List Nat) (p : Nat) : ¬ (getLocation body p).isCrash :=
  Gql.Text.getLocation_no_crash body p

/-- C10-2. Token line/column fields: every token the lexer returns (for every source text that
lexes, through every lexer branch — ignored characters, comments, strings with escapes, numbers,
names, punctuators, block strings with LF / CR / CR LF inside) carries exactly the specification's
line and column of its start offset. -/
theorem token_linecol (body : List Nat) (ts : List Token) (h : lexAll body = .ok ts) :
    ∀ t ∈ ts, (t.line, t.column) = lineCol body t.start :=
  Gql.Text.lexAll_line body ts h

/-- C10-2b. The same for a single `read_next_token` step from any state that satisfies the
line invariant — in particular for the tokens lexed before a later syntax error. -/
theorem next_token_linecol (body : List Nat) (st st' : LexState) (pos : Nat) (t : Token)
    (hp : pos ≤ body.length) (hi : LineInv body st pos) (hin : ¬ insideCRLF body pos)
    (h : readNextToken body st pos = .ok (t, st')) :
    (t.line, t.column) = lineCol body t.start ∧ LineInv body st' t.stop ∧ ¬ insideCRLF body t.stop :=
  let r := (Gql.Text.readNextToken_line body st pos hp ⟨hi, hin⟩).of_ok h
  ⟨r.1, r.2.1.1, r.2.1.2⟩

/-- C10-5. Rendering a location obtained from the same source never fails: the excerpt
subscript is in range for every column offset. -/
theorem excerpt_no_crash (body : List Nat) (p colOffset : Nat) (loc : Nat × Nat)
    (h : getLocation body p = .ok loc) : (excerptLine body colOffset loc.1).isOk :=
  Gql.Text.excerpt_no_crash body p colOffset loc h

/-- C10-5b. The excerpted line is the line the location names: `print_source_location` shows
the `line`-th stretch of text between consecutive line terminators of the specification
(`Spec.lines`: LF, CR LF, CR and nothing else), for every source text and every line number. -/
theorem excerpt_is_named_line (body : List Nat) (line : Nat) (h : 1 ≤ line) :
    excerptLine body 0 line = Out.index (Spec.lines body) (line - 1) := by
  unfold excerptLine
  simp only [List.replicate_zero, List.nil_append]
  rw [if_neg (by omega), splitNL_eq_lines]

/-- C10-4. With a configured `location_offset (l, c)` the rendered line is `line + l − 1` and
the rendered column is `column + (c − 1)` on the first line only. -/
theorem rendered_offset (l c line col : Nat) (hl : 1 ≤ l) (hc : 1 ≤ c) :
    renderedLineCol l c (line, col) =
      (line + l - 1, if line = 1 then col + c - 1 else col) := by
  unfold renderedLineCol
  simp only
  split <;> simp <;> omega

/-- The line number is at least 1 and the column at least 1, always. -/
theorem lineCol_pos (body : List Nat) (p : Nat) : 1 ≤ (lineCol body p).1 ∧ 1 ≤ (lineCol body p).2 := by
  unfold lineCol; simp

-- Non-vacuity: the hypotheses are met by a concrete non-trivial input
-- (`a CR LF b FF LF c`, offset 6, after one CR LF and one LF, with a form feed that must not count).
example : (6 : Nat) ≤ [97, 13, 10, 98, 12, 10, 99].length ∧ ¬ insideCRLF [97, 13, 10, 98, 12, 10, 99] 6 ∧
    getLocation [97, 13, 10, 98, 12, 10, 99] 6 = .ok (3, 1) ∧ lineCol [97, 13, 10, 98, 12, 10, 99] 6 = (3, 1) := by
  decide

example : Spec.lines [97, 13, 10, 98, 12, 10, 99] = [[97], [98, 12], [99]] := by decide

-- token_linecol is not vacuous: a source with a CR LF inside a block string followed by a token
-- on the closing line (`"""` CR LF `"""` SP `a`) lexes, and the name token sits at 2:5.
example : (match lexAll [34, 34, 34, 13, 10, 34, 34, 34, 32, 97] with
    | .ok ts => some (ts.map (fun t => (t.line, t.column)))
    | _ => none) = some [(1, 1), (2, 5), (2, 6)] := by
  decide +kernel

-- The excluded offsets exist and are exactly the CR|LF interiors.
example : insideCRLF [97, 13, 10] 2 ∧ ¬ insideCRLF [97, 13, 10] 1 ∧ ¬ insideCRLF [97, 13, 10] 3 := by decide

end Gql.Props.C10
