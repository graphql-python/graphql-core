import Gql.Proofs.LexerBasic
import Gql.Proofs.ParserTotal
import Gql.Proofs.ParserSource
import Gql.Proofs.ParserTablesOk
import Gql.Proofs.RequestPipeline
/-!
# C01 — The request pipeline is total: bad input becomes errors, never a crash

Property theorems only.  Models: `Gql/Text/Lexer.lean`, `Gql/Text/CoordLexer.lean`,
`Gql/Syntax/Parser.lean`, `Gql/Request/Pipeline.lean`; spec: `Gql/Spec/ResponseFormat.lean`;
tables regenerated from the source on every run: `Gql/Generated/ParserTables.lean`.
-/
namespace Gql.Props.C01
open Gql Gql.Text Gql.Syntax Gql.Request Gql.Spec
open Gql.Generated.ParserTables

/-- *"the only exception the parsing entry points may raise is the library's syntax error"*, lexer
part (proved in `Gql/Proofs/LexerBasic.lean`, shared with C09): `read_next_token` never raises
anything but `GraphQLSyntaxError`, from any position, in any string (unpaired surrogates, text cut
off anywhere). -/
theorem lex_no_crash (body : List Nat) (st : LexState) (pos : Nat) :
    ¬ (readNextToken body st pos).isCrash :=
  Gql.Text.lex_no_crash body st pos

/-- the whole token stream of every string ends in `<EOF>` or in a syntax error; the fuel
`|body| + 2` is never exhausted -/
theorem lexAll_no_crash (body : List Nat) : ¬ (lexAll body).isCrash :=
  Gql.Text.lexAll_no_crash body

example : ¬ (readNextToken [34, 92] {} 0).isCrash := lex_no_crash _ _ _   -- the F1 witness `"\`

/-- the same for the schema-coordinate lexer (`SchemaCoordinateLexer.read_next_token`): from any
position of any string it returns a token or raises `GraphQLSyntaxError` -/
theorem coordLex_no_crash (body : List Nat) (pos : Nat) : ¬ (coordReadNextToken body pos).isCrash :=
  (coordReadNextToken_post body pos).noCrash

example : ¬ (coordReadNextToken [65, 46, 0xD83D] 2).isCrash := coordLex_no_crash _ _

/-- a four-token stream `{ a }` `<EOF>` as the lexer hands it to the parser -/
def exStream : Stream :=
  .cons ⟨.braceL, 0, 1, 1, 1, none⟩ (.cons ⟨.name, 1, 2, 1, 2, some [97]⟩
    (.cons ⟨.braceR, 2, 3, 1, 3, none⟩ (.eof 3 1 4)))

/-- *"the only exception the parsing entry points (document, value, type, schema coordinate) may
raise is the library's syntax error"*: for **every** token stream the lexer can hand over (any
tokens, ending in `<EOF>` or in a lexical error — only a *crashing* lexer is excluded, which
`lex_no_crash`/`coordLex_no_crash` rule out), every entry point and every combination of
`max_tokens`, `experimental_fragment_arguments`, `experimental_directives_on_directive_definitions`,
the parser returns a node or a syntax error and never crashes — no `AttributeError` out of the
`getattr` dispatch in particular — given fuel above the stream length. -/
theorem parse_no_crash (e : Entry) (cfg : Cfg) (strm : Stream) (fuel : Nat)
    (hs : strm.NoCrash) (hf : strm.length + 2 ≤ fuel) :
    ¬ (parseStreamWith e cfg strm fuel).isCrash = true :=
  parseStreamWith_total e cfg strm fuel hs hf

example : exStream.NoCrash ∧ exStream.length + 2 ≤ parseFuel exStream :=
  ⟨by simp [exStream, Stream.NoCrash], by decide⟩
example : (parseStream .document {} exStream).isOk = true := by decide +kernel

/-- *"nesting depth bounded … because the recursive-descent parser is bounded by the interpreter
recursion limit"*: in the model the recursion limit is the fuel, and fuel `|tokens| + 3`
(`parseFuel`) is never exhausted — every loop iteration and every recursive descent consumes a token,
so the parser terminates on every input and the only depth limit of the real code is CPython's. -/
theorem parse_fuel_sufficient (e : Entry) (cfg : Cfg) (strm : Stream) (hs : strm.NoCrash) :
    parseStream e cfg strm ≠ .crash "OutOfFuel" := by
  intro h
  have := parse_no_crash e cfg strm (parseFuel strm) hs (by unfold parseFuel; omega)
  unfold parseStream at h
  rw [h] at this
  exact this rfl

/-- and above that bound the amount of fuel does not matter: every entry point returns the same outcome
for every fuel `≥ |tokens| + 2` — the fuel is a device of the model, not part of the answer. -/
theorem parse_fuel_irrelevant (e : Entry) (cfg : Cfg) (strm : Stream) (f1 f2 : Nat)
    (hs : strm.NoCrash) (h1 : strm.length + 2 ≤ f1) (h2 : strm.length + 2 ≤ f2) :
    parseStreamWith e cfg strm f1 = parseStreamWith e cfg strm f2 :=
  parseStreamWith_fuel_irrelevant e cfg strm f1 f2 hs h1 h2

example : parseStreamWith .document {} exStream 5 = parseStreamWith .document {} exStream 1000 :=
  parse_fuel_irrelevant _ _ _ _ _ (by simp [exStream, Stream.NoCrash]) (by decide) (by decide)

/-- progress of the lexer (proved in `Gql/Proofs/LexerBasic.lean`, shared with C09): a token read at
`pos ≤ |body|` starts at or after `pos`; a non-EOF token is non-empty and inside the text — so the
token stream of every string is finite and `|body| + 2` lexer steps always suffice. -/
theorem lex_progress (body : List Nat) (st st' : LexState) (pos : Nat) (t : Token)
    (hp : pos ≤ body.length) (h : readNextToken body st pos = .ok (t, st')) :
    pos ≤ t.start ∧ (t.kind ≠ .eof → t.start < t.stop ∧ t.stop ≤ body.length) ∧
      (t.kind = .eof → t.start = body.length ∧ t.stop = body.length) :=
  Gql.Text.lex_progress body st st' pos t hp h

/-- the composition with the lexer theorems: **every string** through **every entry point** with
**every flag combination** gives a node or a syntax error -/
theorem parse_source_total (e : Entry) (cfg : Cfg) (body : List Nat) :
    ¬ (parseSource e cfg body).isCrash = true :=
  parseSource_total e cfg body

example : ¬ (parseSource .value { fragArgs := true, maxTokens := some 2 } [91, 34, 92]).isCrash = true :=
  parse_source_total _ _ _

/-- T1, re-checked against the source on every run: every method name a `getattr` dispatch table of
the parser can produce (1) is a method defined on class `Parser` under the `parse_` prefix the
f-strings use and (2) is known to the model's dispatcher, whose only other branch is
`crash "AttributeError"`. -/
theorem dispatch_total :
    getattrPrefixes = ["parse_"] ∧
    (∀ m ∈ (typeSystemDefinitionMethods ++ executableDefinitionMethods ++ otherDefinitionMethods).map (·.2),
      ("parse_" ++ m) ∈ parserMethods ∧ m ∈ knownDefinitionMethods) ∧
    (∀ m ∈ typeExtensionMethods.map (·.2), ("parse_" ++ m) ∈ parserMethods ∧ m ∈ knownExtensionMethods) ∧
    (∀ m ∈ valueLiteralMethods.map (·.2), ("parse_" ++ m) ∈ parserMethods ∧ m ∈ knownValueMethods) ∧
    (∀ k : TokKind, valueMethodOk k = true) := by
  exact ⟨getattrPrefixes_ok, definitionTables_ok, extensionTable_ok, valueTable_ok, valueMethodOk_all⟩

/-- T1: every node constructor call in parser.py passes only keywords that are fields of the
(keyword-only) dataclass it constructs, passes every field that has no default, and none twice — no
`TypeError` out of a constructor. -/
theorem ctor_calls_wellformed : nodeCtorCalls.all ctorCallOk = true :=
  ctorCalls_ok

example : ctorCallOk ("FieldNode", ["alias", "name", "arguments", "directives", "selection_set", "loc"]) = true := by
  decide +kernel

/-- what the other properties establish about the stages of `graphql_impl` (C20: `validate_schema`
returns a list; this property: `parse` returns or raises `GraphQLError`; C12: `validate` returns a
list; C02/C13: `execute` returns a well-formed response), and that the library's own errors are
well-formed and, before execution, path-less -/
structure StagesOk (st : Stages) : Prop where
  schemaErrors : ∀ e ∈ st.schemaErrors, e.WF ∧ e.path = none
  parse : (st.parse = .ret ()) ∨ (∃ e, st.parse = .raiseGql e ∧ e.WF ∧ e.path = none)
  validate : ∃ errs, st.validate = .ret errs ∧ ∀ e ∈ errs, e.WF ∧ e.path = none
  execute : ∃ r, st.execute = .ret r ∧ wfResponse false r.formatted = true

/-- *"running a request against a schema returns a result object whose data and errors follow the
response format"*: given only that every stage returns normally or raises `GraphQLError` (as above),
`graphql_impl` returns a result — it never raises — and the formatted result satisfies the
specification's response-format predicate: `errors` non-empty when present, `data` absent/null only
together with errors, every error has a `str` message, 1-based locations, a well-typed path. -/
theorem response_wf (st : Stages) (h : StagesOk st) :
    ∃ r, graphqlImpl st = .result r ∧ wfResponse false r.formatted = true :=
  let ⟨r, h1, h2, _⟩ := graphqlImpl_wf st h.1 h.2 h.3 h.4
  ⟨r, h1, h2⟩

/-- and when the request fails *before* execution (schema invalid, syntax error, validation errors)
the result is `data = None` with path-less errors (the stricter request-error reading of the spec) -/
theorem response_wf_request_errors (st : Stages) (h : StagesOk st)
    (hpre : st.schemaErrors ≠ [] ∨ (∃ e, st.parse = .raiseGql e) ∨ (∃ errs, st.validate = .ret errs ∧ errs ≠ [])) :
    ∃ r, graphqlImpl st = .result r ∧ r.dataIsMap = false ∧ wfResponse true r.formatted = true :=
  let ⟨r, h1, _, h3⟩ := graphqlImpl_wf st h.1 h.2 h.3 h.4
  ⟨r, h1, h3 hpre⟩

example : StagesOk { schemaErrors := [], parse := .raiseGql { locations := some [(1, 3)] },
                     validate := .ret [], execute := .ret ⟨true, none⟩ } :=
  ⟨by simp, Or.inr ⟨_, rfl, by simp [GErr.WF], rfl⟩, ⟨[], rfl, by simp⟩, ⟨_, rfl, by decide⟩⟩

/-- *"Resolver exceptions of any class likewise surface as located errors in the result, never as an
exception out of execution"*, for exceptions whose duck-typed attributes (`message`/`__str__`,
`source`, `positions`, `nodes`, `extensions`) are absent or of the documented type: whatever the
nullability of the field and of its ancestors (`chain`), `located_error` + `handle_field_error` +
the enclosing `except Exception` handlers + the root's `except GraphQLError` end with the error
*collected* under the path of the field whose resolver raised (or under the error's own path when it
is an already located `GraphQLError`); nothing escapes.  Holds with and without the F7 hardening. -/
theorem resolver_raise_located (hardened : Bool) (e : Exn) (he : e.WellTyped) (nn : Bool)
    (outer : List Bool) (path : List PathSeg) (hpath : path ≠ []) :
    ∃ g, handleFieldErrorChain hardened (nn :: outer) e path = .collected g ∧
      g.path = some (surfacePath e path) :=
  chain_collects hardened e nn outer path hpath (Or.inr he)

example : ({ message := .good, extensions := .good } : Exn).WellTyped := by simp [Exn.WellTyped]

/-- the same for **every** exception object — attributes that raise or are ill-typed included —
for `located_error` with the F7 hardening (`repo_patches/F7_located_error_hostile_attrs.diff`) -/
theorem resolver_raise_located_hostile (e : Exn) (nn : Bool) (outer : List Bool)
    (path : List PathSeg) (hpath : path ≠ []) :
    ∃ g, handleFieldErrorChain true (nn :: outer) e path = .collected g ∧
      g.path = some (surfacePath e path) :=
  chain_collects true e nn outer path hpath (Or.inl rfl)

/-- F7 witness: without the hardening an exception whose `__str__` raises, raised by a nullable root
field, escapes `execute` (replays on the unpatched code: `class E(Exception): __str__ = <raises>`). -/
example : handleFieldErrorChain false [false] { strOk := false } [.key] = .escaped "Exception" := by
  decide

end Gql.Props.C01
