import Gql.Proofs.SchemaBuildSchema
import Gql.Proofs.SchemaDiffSim
import Gql.Proofs.SchemaTextTrees
import Gql.Proofs.SchemaTextDecidable
import Gql.Proofs.ExecDoc3
/-!
# C17 — A schema survives printing to SDL and rebuilding

Property theorems only (lemmas: `Gql/Proofs/SchemaBuild*.lean`, `SchemaDiff*.lean`).
Model: `Gql.Types.schemaToDefs` (the definitions `print_schema` emits), `Gql.Types.buildFromDefs`
(`build_ast_schema` + the builders of `extend_schema`), `Gql.Types.changes`
(`find_schema_changes`), `Gql.Types.WFSchema` (decidable well-formedness).

Level: C17-1 … C17-5 are about schema *content* and the structured definition AST.  The text
layer is the section "SDL text" at the end: `Gql.Types.PrintSchema.printSchemaText` models
print_schema.py down to the code points (tied to the code by the `text` stream of `checks/c17.py`:
model text = `print_schema(s)` for every generated schema), and `text_lexes` / `text_roundtrip` /
`text_build_roundtrip` prove, with C08's lexer and parser models, that this text parses to the
definitions and builds to the same schema (lemmas: `Gql/Proofs/SchemaText*.lean`; the decidable domain `textWFb`:
`Gql/Types/PrintSchemaTextWF.lean`).
-/
namespace Gql.Props.C17
open Gql Gql.Types

/-- C17-1 (build ∘ print = id, same order). For every well-formed schema, building the
definitions `print_schema` emits succeeds and yields exactly the same content: same types,
fields, arguments, default values, descriptions (any text), deprecations, directives with
locations and repeatability, interfaces, union members, enum values, OneOf and specifiedBy
markers and root operation types, in the same order. -/
theorem build_schemaToDefs (s : Schema) (h : WFSchema s = true) :
    buildFromDefs (schemaToDefs s) = .ok s :=
  Gql.Types.build_schemaToDefs s h

/-- C17-2 (identical reprint). Whatever the rebuild returns prints to the identical definitions. -/
theorem print_fixed_point (s r : Schema) (h : WFSchema s = true)
    (hr : buildFromDefs (schemaToDefs s) = .ok r) : schemaToDefs r = schemaToDefs s := by
  rw [Gql.Types.build_schemaToDefs s h] at hr
  cases hr; rfl

/-- C17-3 (the rebuilt schema is valid, as far as `WFSchema` states validity). -/
theorem rebuilt_wf (s r : Schema) (h : WFSchema s = true)
    (hr : buildFromDefs (schemaToDefs s) = .ok r) : WFSchema r = true := by
  rw [Gql.Types.build_schemaToDefs s h] at hr
  cases hr; exact h

/-- C17-4 (no differences). `find_schema_changes` between a schema and its rebuild is empty,
in both directions. -/
theorem changes_roundtrip (s r : Schema) (h : WFSchema s = true)
    (hr : buildFromDefs (schemaToDefs s) = .ok r) : changes s r = [] ∧ changes r s = [] := by
  rw [Gql.Types.build_schemaToDefs s h] at hr
  cases hr
  exact ⟨Gql.Types.changes_refl s h, Gql.Types.changes_refl s h⟩

/-- Comparing a well-formed schema with itself reports no change. -/
theorem changes_refl (s : Schema) (h : WFSchema s = true) : changes s s = [] :=
  Gql.Types.changes_refl s h

/-- C17-5 (the schema block). `print_schema` emits no `schema { … }` definition exactly when
there is no schema description and every root is the type with the conventional name (or is
absent together with that type); otherwise it emits one that lists exactly the roots. -/
theorem schema_block_rule (s : Schema) (h : s.query.isSome = true) :
    (schemaDefOf s = [] ∧ s.desc = none ∧ hasDefaultRoots s = true) ∨
    schemaDefOf s = [.schemaDef (descNode s.desc) [] (opsOf s)] :=
  Gql.Types.schemaDefOf_cases s h

/-- Printing is injective on well-formed schemas: equal printed definitions, equal schemas. -/
theorem schemaToDefs_injective (a b : Schema) (ha : WFSchema a = true) (hb : WFSchema b = true)
    (h : schemaToDefs a = schemaToDefs b) : a = b := by
  have h1 := Gql.Types.build_schemaToDefs a ha
  rw [h, Gql.Types.build_schemaToDefs b hb] at h1
  cases h1; rfl

/-- Round trip of a description through its definition node (`print_description` chooses the
block form iff `is_printable_as_block_string`; the builder reads the value back). -/
theorem description_roundtrip (d : Option Str) : descValue (descNode d) = d :=
  Gql.Types.descValue_descNode d

/-- Round trip of a deprecation reason (`print_deprecated` / `get_deprecation_reason`),
including the default reason printed as a bare `@deprecated`. -/
theorem deprecation_roundtrip (r : Option Str) : deprecationOf (deprDirs r) = .ok r :=
  Gql.Types.deprecationOf_deprDirs r

-- Non-vacuity: a concrete schema with non-default root names, a type called `Query` that is
-- not the query root, a custom repeatable deprecated directive, a recursive input object with a
-- default, an interface hierarchy and adversarial descriptions satisfies `WFSchema`.
def exampleSchema : Schema :=
  { desc := some [34, 34, 34, 10, 92]
    query := some [82]                      -- R
    mutation := none
    subscription := none
    directives := [
      { name := [100], desc := some [32], repeatable := true, locations := [[70, 73, 69, 76, 68]],
        depr := some Gql.Generated.SchemaConsts.defaultDeprecationReason,
        args := [{ name := [97], desc := none, type := .list (.nonNull (.named [73, 110])),
                   default := some (.list (.lcons (.obj (.fcons [120] (.int [49]) .vnil)) .vnil)),
                   depr := some [] }] }]
    types := [
      .interface [78] none [] [{ name := [102], desc := none, args := [], type := .named [83, 116, 114, 105, 110, 103], depr := none }],
      .object [82] (some [13]) [[78]] [{ name := [102], desc := some [8232], args := [], type := .nonNull (.named [83, 116, 114, 105, 110, 103]), depr := none }],
      .object [81, 117, 101, 114, 121] none [] [{ name := [103], desc := none, args := [], type := .named [85], depr := some [120] }],
      .union [85] none [[82], [81, 117, 101, 114, 121]],
      .enum [69] none [{ name := [65], desc := none, depr := some Gql.Generated.SchemaConsts.defaultDeprecationReason }],
      .scalar [83] none (some []),
      .input [73, 110] (some []) false [
        { name := [120], desc := none, type := .named [73, 110, 116], default := some (.int [48]), depr := none },
        { name := [114], desc := none, type := .list (.named [73, 110]), default := none, depr := none }] ] }

example : WFSchema exampleSchema = true := by decide +kernel
example : buildFromDefs (schemaToDefs exampleSchema) = .ok exampleSchema :=
  build_schemaToDefs exampleSchema (by decide +kernel)
-- the schema block is needed here (non-default root name), and is omitted for conventional names
example : (schemaDefOf exampleSchema).length = 1 := by decide +kernel
example : schemaDefOf { exampleSchema with desc := none, query := some [81, 117, 101, 114, 121] } = [] := by decide +kernel

/-! ## SDL text

`print_schema` does not print through `print_ast`: it has its own layout (a blank line before
every described item of a block but the first, argument lists broken into lines exactly when an
argument has a description, default values printed by `print_ast` but not re-indented).  The
theorems below are therefore proved on `print_schema`'s own text, token by token, and then use
C08's parser theorem, which only sees tokens. -/

open Gql.Text Gql.Syntax Gql.Types.PrintSchema

/-- The hypothesis of the text theorems: the definitions `print_schema` emits, translated to C08's
typed document trees (`defsToGDefs`), are well formed in C08's sense (`Exec.gdefsWf`) — names are
lexically Names, descriptions / deprecation reasons / specifiedBy URLs / string defaults are
sequences of Unicode scalar values (the lexer rejects lone surrogates: assumption of the check),
block descriptions are block-representable (C08 `printable_representable`: implied by
`is_printable_as_block_string`), default values are well-formed const literals (they come from
the parser or from `value_to_literal`), type references are parser-shaped (no `T!!`), enum values
are not `true`/`false`/`null` (`assert_enum_value_name`), directive locations are in the parser's
table, and a deprecated directive definition needs `dd` = `experimental_directives_on_directive_definitions`
(the rebuild in the check parses with that flag).  `fa` is irrelevant here (no fragments). -/
abbrev TextWF (fa dd : Bool) (s : Schema) : Prop := Gql.Types.PrintSchema.TextWF fa dd s

/-- **C17-6 (`render_lex` for print_schema).**  For every schema whose printed definitions are
well formed (`TextWF`), all widths with `object ≥ 4`: the text `print_schema` prints lexes to
exactly the tokens of the definitions `schemaToDefs s` (as C08 document trees) — every layout
`print_schema` chooses, all six type kinds, directive definitions, the schema block; no token is
merged, split or lost, every string token carries its value. -/
theorem text_lexes (w : Widths) (hw : 4 ≤ w.object) (fa dd : Bool) (s : Schema) (h : TextWF fa dd s) :
    Lexes true (printSchemaText w s) (Exec.gdefsKvs true (defsToGDefs (schemaToDefs s))) :=
  Gql.Types.PrintSchema.text_lexes w hw (by decide +kernel)
    (by decide +kernel) fa dd s h

/-- **C17-7 (`text_roundtrip`: parse ∘ print_schema).**  For every well-formed schema (`WFSchema`)
whose printed definitions are well formed (`TextWF`), with the real parser model (C01's
`parseSource`, any flags, no `max_tokens`): parsing the text `print_schema` prints succeeds and
gives exactly the document of the definitions `schemaToDefs s`. -/
theorem text_roundtrip (w : Widths) (hw : 4 ≤ w.object) (cfg : Cfg) (hm : cfg.maxTokens = none)
    (s : Schema) (hs : WFSchema s = true) (h : TextWF cfg.fragArgs cfg.dirOnDir s) :
    parseSource .document cfg (printSchemaText w s) =
      .ok (Exec.gdocAst cfg.fragArgs cfg.dirOnDir (defsToGDefs (schemaToDefs s))) :=
  parseSource_gdoc_of_lexes cfg hm _ _ (gdefs_ne_nil s hs) h
    (Gql.Types.PrintSchema.text_lexes w hw (by decide +kernel) (by decide +kernel) _ _ s h)

/-- **C17-8 (build ∘ parse ∘ print_schema = id).**  Composition of C17-7 with C17-1: the printed
text parses to the document of some definitions `defs`, and building `defs` gives back exactly
the schema. -/
theorem text_build_roundtrip (w : Widths) (hw : 4 ≤ w.object) (cfg : Cfg) (hm : cfg.maxTokens = none)
    (s : Schema) (hs : WFSchema s = true) (h : TextWF cfg.fragArgs cfg.dirOnDir s) :
    ∃ defs : List Gql.Types.Def,
      parseSource .document cfg (printSchemaText w s) =
        .ok (Exec.gdocAst cfg.fragArgs cfg.dirOnDir (defsToGDefs defs)) ∧
      buildFromDefs defs = .ok s :=
  ⟨schemaToDefs s, text_roundtrip w hw cfg hm s hs h, build_schemaToDefs s hs⟩

/-- **C17-9 (parse ∘ print_schema gives the definitions; build gives the schema).**  `gdefsToDefs`
reads a parsed document (C08's typed trees) as C17's definition AST, as the harness does with the
real parse result.  For every well-formed schema whose printed definitions are well formed and
whose default values are proper literals (`schemaShaped`, decidable: list items and object fields
are `… vnil`-terminated chains — what the parser and `value_to_literal` produce): the printed text
parses to a document `gdefs` that reads back as exactly the definitions `schemaToDefs s`, and
building what was read gives back exactly the schema `s`. -/
theorem text_roundtrip_defs (w : Widths) (hw : 4 ≤ w.object) (cfg : Cfg) (hm : cfg.maxTokens = none)
    (s : Schema) (hs : WFSchema s = true) (h : TextWF cfg.fragArgs cfg.dirOnDir s)
    (hsh : schemaShaped s = true) :
    ∃ gdefs : List GDef,
      parseSource .document cfg (printSchemaText w s) = .ok (Exec.gdocAst cfg.fragArgs cfg.dirOnDir gdefs) ∧
      gdefsToDefs gdefs = schemaToDefs s ∧
      buildFromDefs (gdefsToDefs gdefs) = .ok s := by
  refine ⟨defsToGDefs (schemaToDefs s), text_roundtrip w hw cfg hm s hs h, gdefsToDefs_schemaToDefs s hsh, ?_⟩
  rw [gdefsToDefs_schemaToDefs s hsh]
  exact build_schemaToDefs s hs

-- Non-vacuity: a schema with a described schema block, a deprecated repeatable directive with an
-- argument, an object type whose second field and whose argument carry descriptions (multi-line
-- argument layout, blank line before the described item), list / object / enum / boolean / string
-- defaults, an interface, a union, an enum with a deprecated value, a OneOf input object and a
-- scalar with a specifiedBy URL satisfies both hypotheses.
def exampleText : Schema :=
  { desc := some [115]
    query := some [81]
    mutation := none
    subscription := none
    directives := [
      { name := [100], desc := some [97, 10, 98], repeatable := true, locations := [S "FIELD", S "QUERY"],
        depr := some [111],
        args := [{ name := [97], desc := none, type := .named [73, 110], default := none, depr := none }] }]
    types := [
      .interface [78] none [] [{ name := [102], desc := none, args := [], type := .named (S "String"), depr := none }],
      .object [81] (some [113, 34]) [[78]] [
        { name := [102], desc := none,
          args := [{ name := [97], desc := some [120, 10, 121], type := .list (.nonNull (.named [73, 110])),
                     default := some (.list (.lcons (.obj (.fcons [120] (.enum [65]) .vnil)) .vnil)), depr := none },
                   { name := [98], desc := none, type := .named (S "String"), default := some (.str [122] false),
                     depr := some Gql.Generated.SchemaConsts.defaultDeprecationReason }],
          type := .nonNull (.named (S "String")), depr := some [111] },
        { name := [103], desc := some [34], args := [], type := .named [69],
          depr := some Gql.Generated.SchemaConsts.defaultDeprecationReason }],
      .union [85] none [[81]],
      .enum [69] none [{ name := [65], desc := some [100], depr := none }, { name := [66], desc := none, depr := some [] }],
      .scalar [83] none (some [117]),
      .input [73, 110] (some []) true [
        { name := [120], desc := none, type := .named [69], default := some (.bool true), depr := none }] ] }

example : WFSchema exampleText = true := by decide +kernel
example : schemaShaped exampleText = true := by decide +kernel

example : TextWF false true exampleText :=
  Gql.Types.PrintSchema.textWF_of_textWFb (by decide +kernel)


/-! ### The decidable domain `textWFb`

`TextWF` is C08's (undecidable-looking: number texts and block strings are given by existentials)
well-formedness of the translated definitions.  `textWFb` (`Gql/Types/PrintSchemaTextWF.lean`) is a
`Bool` function of the schema content alone; the driver evaluates it (`textwf <schema>`) and
`checks/c17.py` asserts that it is `true` on every generated / corpus schema that
`validate_schema` accepts, so the hypothesis of the theorems below is observed on every explored
valid schema. -/

/-- **C17-10 (the decidable predicate is sufficient).**  `textWFb fa dd s = true` — names are
lexically Names; descriptions, deprecation reasons, specifiedBy URLs and string defaults are
sequences of Unicode scalar values; a description printed in block form is block-representable;
default values are proper const literals (number texts accepted by the specification's number
grammar, enum literals other than `true`/`false`/`null`); type references have no `T!!`; enum
values are not `true`/`false`/`null`; directive locations are non-empty and from the parser's
table; a deprecated directive definition only with `dd` — implies `TextWF fa dd s`. -/
theorem textWF_of_textWFb (fa dd : Bool) (s : Schema) (h : textWFb fa dd s = true) : TextWF fa dd s :=
  Gql.Types.PrintSchema.textWF_of_textWFb h

/-- The number clause of `textWFb` is exact: `numOk fl s` (the specification's number grammar of
`Gql/Spec/Lex.lean` consumes the whole text as an IntValue, `fl = false`, or a FloatValue,
`fl = true`) holds iff the text is a number text in C08's sense (`IsNum`: sign, integer part,
optional fraction, optional exponent).  So this clause excludes no default value the parser could
have produced. -/
theorem numOk_iff_isNum (fl : Bool) (s : List Nat) : numOk fl s = true ↔ IsNum fl s :=
  Gql.Types.PrintSchema.numOk_iff_isNum fl s

example : IsNum true (S "-1.50e+3") := (numOk_iff_isNum _ _).mp (by decide +kernel)
example : ¬ IsNum false (S "01") := fun h => absurd ((numOk_iff_isNum _ _).mpr h) (by decide +kernel)

/-- C17-6 with the decidable hypothesis. -/
theorem text_lexes_b (w : Widths) (hw : 4 ≤ w.object) (fa dd : Bool) (s : Schema)
    (h : textWFb fa dd s = true) :
    Lexes true (printSchemaText w s) (Exec.gdefsKvs true (defsToGDefs (schemaToDefs s))) :=
  text_lexes w hw fa dd s (textWF_of_textWFb fa dd s h)

/-- C17-7 with the decidable hypotheses `WFSchema s = true` and `textWFb … s = true`. -/
theorem text_roundtrip_b (w : Widths) (hw : 4 ≤ w.object) (cfg : Cfg) (hm : cfg.maxTokens = none)
    (s : Schema) (hs : WFSchema s = true) (h : textWFb cfg.fragArgs cfg.dirOnDir s = true) :
    parseSource .document cfg (printSchemaText w s) =
      .ok (Exec.gdocAst cfg.fragArgs cfg.dirOnDir (defsToGDefs (schemaToDefs s))) :=
  text_roundtrip w hw cfg hm s hs (textWF_of_textWFb _ _ s h)

/-- C17-8 with the decidable hypotheses. -/
theorem text_build_roundtrip_b (w : Widths) (hw : 4 ≤ w.object) (cfg : Cfg) (hm : cfg.maxTokens = none)
    (s : Schema) (hs : WFSchema s = true) (h : textWFb cfg.fragArgs cfg.dirOnDir s = true) :
    ∃ defs : List Gql.Types.Def,
      parseSource .document cfg (printSchemaText w s) =
        .ok (Exec.gdocAst cfg.fragArgs cfg.dirOnDir (defsToGDefs defs)) ∧
      buildFromDefs defs = .ok s :=
  text_build_roundtrip w hw cfg hm s hs (textWF_of_textWFb _ _ s h)

/-- `textWFb` contains the shape hypothesis of C17-9: default values are `… vnil`-terminated chains. -/
theorem schemaShaped_of_textWFb (fa dd : Bool) (s : Schema) (h : textWFb fa dd s = true) :
    schemaShaped s = true :=
  Gql.Types.PrintSchema.schemaShaped_of_textWFb h

/-- C17-9 with the decidable hypotheses only (`WFSchema`, `textWFb`: two `Bool` computations on the
schema; the shape hypothesis `schemaShaped` follows from `textWFb`): the printed text parses to a
document that reads back as exactly the definitions `schemaToDefs s`, and building what was read
gives back exactly the schema. -/
theorem text_roundtrip_defs_b (w : Widths) (hw : 4 ≤ w.object) (cfg : Cfg) (hm : cfg.maxTokens = none)
    (s : Schema) (hs : WFSchema s = true) (h : textWFb cfg.fragArgs cfg.dirOnDir s = true) :
    ∃ gdefs : List GDef,
      parseSource .document cfg (printSchemaText w s) = .ok (Exec.gdocAst cfg.fragArgs cfg.dirOnDir gdefs) ∧
      gdefsToDefs gdefs = schemaToDefs s ∧
      buildFromDefs (gdefsToDefs gdefs) = .ok s :=
  text_roundtrip_defs w hw cfg hm s hs (textWF_of_textWFb _ _ s h) (schemaShaped_of_textWFb _ _ s h)

-- Non-vacuity: the example schema satisfies the decidable predicate (with `dd`: its directive is
-- deprecated), and does not without `dd`.
example : textWFb false true exampleText = true := by decide +kernel
example : textWFb false false exampleText = false := by decide +kernel
example : TextWF false true exampleText := textWF_of_textWFb _ _ _ (by decide +kernel)
-- number, block-string and nested list / object defaults inside a schema
example : textWFb false false
    { exampleText with
      directives := []
      types := exampleText.types ++ [
        .input [74] none false [
          { name := [105], desc := none, type := .nonNull (.list (.nonNull (.named (S "Int")))),
            default := some (.list (.lcons (.int (S "-12")) (.lcons (.int (S "0")) .vnil))), depr := none },
          { name := [102], desc := some (S "  indented\nblock"), type := .named (S "Float"),
            default := some (.float (S "6.02e+23")), depr := some (S "x\"y") },
          { name := [111], desc := none, type := .named [74],
            default := some (.obj (.fcons [102] (.float (S "1E9")) (.fcons [115] (.str (S "a\nb") true) .vnil))),
            depr := none }] ] } = true := by decide +kernel
-- the number recogniser: the grammar of IntValue / FloatValue, whole text
example : numOk false (S "-120") = true ∧ numOk true (S "-1.50e+3") = true ∧ numOk true (S "0E0") = true ∧
    numOk false (S "01") = false ∧ numOk false (S "1.0") = false ∧ numOk true (S "1.") = false ∧
    numOk true (S "1") = false ∧ numOk false (S "-") = false ∧ numOk false [] = false ∧
    numOk true (S "1e") = false ∧ numOk false (S "1a") = false := by decide +kernel
-- what the predicate rejects: a lone surrogate in a description, an enum value `true`, `T!!`,
-- an ill-formed number text, an unknown location
example : descOk (some [0xD800]) = false ∧ enumValOk ⟨S "true", none, none⟩ = false ∧
    typeOk (.nonNull (.nonNull (.named [84]))) = false ∧ valueOk (.int (S "007")) = false ∧
    valueOk (.list (.lcons (.int (S "7")) .vnil)) = true ∧ valueOk (.list (.int (S "7"))) = false ∧
    valueOk (.lcons (.int (S "7")) .vnil) = false ∧ locationOk (S "NOWHERE") = false := by decide +kernel

-- the model's text for one of its definitions (a described first item, a deprecated value)
example : printTypeDef Widths.generated
    (.enum [69] none [{ name := [65], desc := some [100], depr := none }, { name := [66], desc := none, depr := some [] }]) =
    S "enum E {\n  \"\"\"d\"\"\"\n  A\n  B @deprecated(reason: \"\")\n}" := by decide +kernel

end Gql.Props.C17
