import Gql.Proofs.Lifecycle
/-!
# C06 — Stopping early never hangs or leaks: work settles and sources are closed

Property theorems only (lemmas: `Gql/Proofs/Lifecycle.lean`).  Model: `Gql.Async.Lifecycle`
— the *bookkeeping* of tasks and sources around a stop (see the model's header for what the
one bit `registered` stands for in the code).

**Partial.**  The theorems are about the bookkeeping logic only: asyncio's delivery of
cancellations, async-generator finalisation and queue wake-ups are runtime behaviour the
model cannot exhibit; they are covered by the exploration in `checks/c06.py`.  The
hypothesis `AllRegistered` ("every task the execution creates is reachable from a collection
that the stop procedure walks and awaits") is precisely what the known findings of C06
violate in the code; `unregistered_task_leaks` shows the hypothesis is necessary.
-/
namespace Gql.Props.C06
open Gql.Async.Lifecycle

/-- C06 (L1–L4), safety half.  Take any history of the execution (`pre`: tasks created —
hanging or not, with or without sources — sources started, tasks finished, in any enabled
order), stop it in that state with any stop kind, and let any schedule of enabled actions run
afterwards (`post`).  If nothing more can happen in the state reached, then: no task is
pending, every started source has been closed exactly once and no unstarted one has been
closed, the hook has fired exactly once, and the caller has been released. -/
theorem stop_quiescent_good (pre post : List Action) (k : StopKind)
    (hreg : AllRegistered pre) (hpre : EnabledRun init pre)
    (hstop : enabled (run init pre) (.stop k) = true)
    (hregp : AllRegistered post) (hpost : EnabledRun (step (run init pre) (.stop k)) post)
    (hq : Quiescent (run (step (run init pre) (.stop k)) post)) :
    Good (run (step (run init pre) (.stop k)) post) :=
  quiescent_good _ (inv_run post _ (inv_stop pre k hreg hpre hstop) hregp hpost)
    (phase_run post _ (by simp [step])) hq

/-- C06, termination half ("never hangs").  After the stop no schedule of enabled actions is
longer than the number of pending tasks plus one: every run ends, and (by the theorem above)
it can only end in a good state.  `fuel` is the well-founded measure on live tasks. -/
theorem stop_runs_bounded (pre post : List Action) (k : StopKind)
    (hreg : AllRegistered pre) (hpre : EnabledRun init pre)
    (hstop : enabled (run init pre) (.stop k) = true)
    (hregp : AllRegistered post) (hpost : EnabledRun (step (run init pre) (.stop k)) post) :
    post.length ≤ fuel (step (run init pre) (.stop k)) :=
  run_bounded post _ (inv_stop pre k hreg hpre hstop) (by simp [step]) hregp hpost

/-- C06, progress: after the stop, a state in which something is still pending or the hook has
not fired is not quiescent — some action is enabled (no deadlock). -/
theorem stop_not_stuck (s : St) (h : Inv s) (hph : s.phase ≠ .running) (hbad : ¬ Good s) :
    ∃ a, enabled s a = true := by
  apply Classical.byContradiction
  intro hne
  apply hbad
  apply quiescent_good s h hph
  intro a
  cases hen : enabled s a with
  | false => rfl
  | true => exact absurd ⟨a, hen⟩ hne

/-- C06 (L3).  The hook can only fire when no registered task is pending, and it takes the
machine to `finished`, where it cannot fire again. -/
theorem hook_only_when_settled (s : St) (h : enabled s .fireHook = true) :
    (∀ t ∈ s.tasks, t.registered = true → t.isPending = false) ∧
      enabled (step s .fireHook) .fireHook = false := by
  simp [enabled] at h
  refine ⟨?_, by simp [enabled, step]⟩
  intro t ht hr
  rcases h.2 t ht with h1 | h1
  · exact h1
  · rw [hr] at h1; cases h1

/-- The hypothesis is necessary: one *unregistered* hanging task (what the known findings of
C06 amount to in the code) survives every stop — the machine becomes quiescent with the hook
fired and the caller released, but the task is pending for ever (L1 fails). -/
theorem unregistered_task_leaks :
    let s := run init [.spawn false true true, .startSrc 0, .stop .aclose, .fireHook]
    EnabledRun init [.spawn false true true, .startSrc 0, .stop .aclose, .fireHook] ∧
      Quiescent s ∧ ¬ Good s := by
  refine ⟨by decide, ?_, ?_⟩
  · intro a
    cases a with
    | spawn r h w => rfl
    | stop k => rfl
    | fireHook => rfl
    | startSrc i => cases i with
      | zero => rfl
      | succ i => simp [enabled, run, step, init, modifyAt, requestCancel, Task.isPending]
    | finish i => cases i with
      | zero => rfl
      | succ i => simp [enabled, run, step, init, modifyAt, requestCancel, Task.isPending]
    | deliverCancel i => cases i with
      | zero => rfl
      | succ i => simp [enabled, run, step, init, modifyAt, requestCancel, Task.isPending]
  · intro hg
    have := hg.1 _ (List.mem_cons_self ..)
    revert this
    decide

-- Non-vacuity: a history with two registered tasks owning sources (one started and hanging, one
-- never started), one finished task whose source was exhausted; abort; then cancellations are
-- delivered in reverse order and the hook fires.  The run is enabled, the end state quiescent
-- and good; the unstarted source stays unstarted, the started ones are closed exactly once.
example :
    let pre : List Action := [.spawn true true true, .spawn true false true, .spawn true false true,
                              .startSrc 0, .startSrc 2, .finish 2]
    let post : List Action := [.deliverCancel 1, .deliverCancel 0, .fireHook]
    AllRegistered pre ∧ EnabledRun init pre ∧ enabled (run init pre) (.stop .abort) = true ∧
      EnabledRun (step (run init pre) (.stop .abort)) post ∧
      (run (step (run init pre) (.stop .abort)) post).tasks.map (·.src) =
        [some (.closed 1), some .notStarted, some (.closed 1)] ∧
      (run (step (run init pre) (.stop .abort)) post).hookFired = 1 ∧
      fuel (step (run init pre) (.stop .abort)) = 3 := by
  decide

end Gql.Props.C06
