import Gql.Proofs.Proc
import Gql.Proofs.Monitor
/-!
# C03 — The response does not depend on when resolvers complete

Property theorems only (lemmas: `Gql/Proofs/Proc.lean`).  Model: `Gql/Async/Proc.lean` — the
asynchronous executor as a labelled transition system `Step` over an arbitrary finite field
tree (`Cfg`); `SStep` is the serial (mutation) root.  Any enabled transition may fire, which is
a superset of the schedules of asyncio.  `gather_with_cancel` is modelled as documented and as
repaired on the tree (cancel the rest: `fail`; await them, bottom-up: `unwound`; re-raise:
`failDone`); work that is abandoned WITHOUT cancellation (`settle_in_background`, `bg = true`)
is the separate path.  The synchronous denotation `denF`/`dataOf` is the
response of fully synchronous execution; it does not look at `gates` (which results are
awaitable) nor at process states.

A query is `initQuery F` for a forest `F` of root fields that have not been started
(`allIdle F`); position `[0]` is `data`, `0 :: p` is response position `p`.
-/
namespace Gql.Props.C03
open Gql.Async

/-- C03-1 `async_invariant`. Inductive over transitions: in every configuration reachable
from a query, at every position: a `done v` node carries its synchronous denotation
(`denN = some v`), a nulled position (`doneErr`) is a nullable position whose completion fails
in the synchronous denotation too, a `failed` node is a non-null position whose denotation
raises, a node that has not been resumed has untouched children, the children of a running
node are all alive (started, not cancelled) — `InvN` spells the clauses out. -/
theorem async_invariant (F c : Cfg) (ls : List Label) (hF : allIdle F = true)
    (hrun : Run Step (initQuery F) ls c)
    (p : Path) (nn : Bool) (res : Res) (st : NodeSt) (ch : Cfg)
    (hp : nodeAt c p = some (nn, res, st, ch)) : InvN nn res st ch :=
  (inv_nodeAt c p nn res st ch (run_inv hrun (initQuery_inv F hF)).1 hp).1

/-- C03-1a. Every completed node carries the value of the synchronous denotation. -/
theorem done_is_denotation (F c : Cfg) (ls : List Label) (hF : allIdle F = true)
    (hrun : Run Step (initQuery F) ls c)
    (p : Path) (nn : Bool) (res : Res) (v : Val) (ch : Cfg)
    (hp : nodeAt c p = some (nn, res, .done v, ch)) : denN nn res ch = some v := by
  have h := async_invariant F c ls hF hrun p nn res (.done v) ch hp
  exact denN_of_done h.1 h.2.1

/-- C03-1b. Every error recorded (position nulled) or raised to the parent is one the
synchronous denotation predicts: a nulled position is nullable and its completion fails
synchronously; a node that raised is non-null and its denotation raises. -/
theorem errors_are_predicted (F c : Cfg) (ls : List Label) (hF : allIdle F = true)
    (hrun : Run Step (initQuery F) ls c)
    (p : Path) (nn : Bool) (res : Res) (st : NodeSt) (ch : Cfg)
    (hp : nodeAt c p = some (nn, res, st, ch)) :
    (∀ b, st = .doneErr b → nn = false ∧ innerDen res ch = none) ∧
    (∀ b, st = .failed b → nn = true ∧ denN nn res ch = none) := by
  have h := async_invariant F c ls hF hrun p nn res st ch hp
  constructor
  · intro b hs; subst hs; exact ⟨h.1, h.2.1⟩
  · intro b hs; subst hs; exact ⟨h.1, h.2.1⟩

/-- C03-1c. Cancellation only occurs below an error: the parent of a cancelled task (finished
or still unwinding) is a gather one of whose children raised (`failing`, later `doneErr` /
`failed`), or a cancelled task itself. -/
theorem cancellation_only_below_error (F c : Cfg) (ls : List Label) (hF : allIdle F = true)
    (hrun : Run Step (initQuery F) ls c)
    (p : Path) (nn : Bool) (res : Res) (st : NodeSt) (ch : Cfg)
    (hp : nodeAt c p = some (nn, res, st, ch)) (hc : hasCancelled ch = true) :
    st = .failing ∨ (∃ b, st = .doneErr b) ∨ (∃ b, st = .failed b) ∨ st = .unwinding ∨ st = .cancelled :=
  cancelled_parent nn res st ch (async_invariant F c ls hF hrun p nn res st ch hp) hc

/-- C03-2 `schedule_independent`. Every maximal run of a query (no transition enabled at the
end) — whatever results are awaitable, in whatever order they complete, however the
continuations and cancellations interleave — ends with `data` equal to the synchronous `data`
and with exactly the nulled positions the tree predicts (`specNulledF`, a function of the tree
alone: the nullable positions whose completion fails and which exist in `data`). -/
theorem schedule_independent (F c : Cfg) (ls : List Label) (hF : allIdle F = true)
    (hrun : Run Step (initQuery F) ls c) (hfin : Final Step c) :
    rootData c = some (dataOf F) ∧ nulledF [] 0 c = specNulledF [] 0 (initQuery F) := by
  obtain ⟨hinv, hsh, hv⟩ := final_root_vals hF hrun hfin
  refine ⟨?_, by rw [nulled_eq_spec c [] 0 _ hinv hv, specNulledF_congr hsh]⟩
  cases c with
  | nil => cases hv
  | cons =>
    obtain ⟨w, vs, _, he, hst⟩ := forestVals_cons hv
    rw [(Val.cons.inj he).1]
    rcases hst with rfl | ⟨_, rfl, rfl⟩ <;> rfl

/-- C03-2a. Two executions of the same request (same tree up to which results are awaitable:
`shape`), under any two schedules, give the same `data` and the same nulled positions; in
particular an arbitrary run agrees with the fully synchronous one (`syncOf F`). -/
theorem assignment_independent (F₁ F₂ c₁ c₂ : Cfg) (ls₁ ls₂ : List Label)
    (h₁ : allIdle F₁ = true) (h₂ : allIdle F₂ = true) (hsame : shape F₁ = shape F₂)
    (r₁ : Run Step (initQuery F₁) ls₁ c₁) (f₁ : Final Step c₁)
    (r₂ : Run Step (initQuery F₂) ls₂ c₂) (f₂ : Final Step c₂) :
    rootData c₁ = rootData c₂ ∧ nulledF [] 0 c₁ = nulledF [] 0 c₂ := by
  obtain ⟨d₁, n₁⟩ := schedule_independent F₁ c₁ ls₁ h₁ r₁ f₁
  obtain ⟨d₂, n₂⟩ := schedule_independent F₂ c₂ ls₂ h₂ r₂ f₂
  have hd : dataOf F₁ = dataOf F₂ := by simp [dataOf, denF_congr hsame]
  have hn : specNulledF [] 0 (initQuery F₁) = specNulledF [] 0 (initQuery F₂) :=
    specNulledF_congr (by simp [initQuery, shape, hsame]) [] 0
  exact ⟨by rw [d₁, d₂, hd], by rw [n₁, n₂, hn]⟩

theorem agrees_with_synchronous (F c c' : Cfg) (ls ls' : List Label) (hF : allIdle F = true)
    (r : Run Step (initQuery F) ls c) (f : Final Step c)
    (r' : Run Step (initQuery (syncOf F)) ls' c') (f' : Final Step c') :
    rootData c = rootData c' ∧ nulledF [] 0 c = nulledF [] 0 c' :=
  assignment_independent F (syncOf F) c c' ls ls' hF (allIdle_syncOf F hF) (shape_syncOf F).symm r f r' f'

/-- C03-3 `async_wf`. In every final response: (a) no `null` sits at a non-null position
(`wfVals`), (b) every nulled position holds `null` in `data`, (c) `data` is `null` only if an
error reached the root through non-null positions only, and then the root is the one nulled
position. (The model records the positions where errors are handled, not the paths where they
originate; an error path is at or below its handling position by construction, and a handling
position that is not in `data` lies below one that is — that last step is `async_wf_error_paths` below.) -/
theorem async_wf (F c : Cfg) (ls : List Label) (hF : allIdle F = true)
    (hrun : Run Step (initQuery F) ls c) (hfin : Final Step c) :
    (∀ v, rootData c = some v → v ≠ .null → wfVals F v) ∧
    (∀ p ∈ nulledF [] 0 c, ∃ q, p = 0 :: q ∧
      ((q = [] ∧ rootData c = some .null) ∨ ∃ v, rootData c = some v ∧ v.at q = some .null)) ∧
    (rootData c = some .null → reachesParent F = true ∧ nulledF [] 0 c = [[0]]) := by
  obtain ⟨hd, hn⟩ := schedule_independent F c ls hF hrun hfin
  rw [hd, hn]
  -- `data` is the one member of the root forest `initQuery F`: the facts about forests apply to it
  have hden := denF_initQuery F
  refine ⟨fun v hv hne => ?_, fun p hp => ?_, fun h => ?_⟩
  · cases hv
    exact (den_wf _ _ hden).2.1 .obj rfl hne
  · obtain ⟨k, q, rfl, hq⟩ := nulled_is_null _ [] 0 _ hden p hp
    cases k with
    | zero => exact ⟨q, by simp, .inr ⟨_, rfl, hq⟩⟩
    | succ k => simp [Val.at, Val.get] at hq
  · cases hF' : denF F with
    | none => exact ⟨(den_none_iff F).mp hF', by simp [initQuery, specNulledF, innerDen, hF']⟩
    | some w =>
      rw [dataOf, hF'] at h
      exact absurd (Option.some.inj h) (denF_ne_null F _ hF')

/-- C03-3d `async_wf_error_paths`. Every error path ends at or below a `null` in `data`: in
a final configuration, for *every* position at which an error originated, was raised to the
parent (`failed`) or was handled (`doneErr`) — also those that are not in `data` because they
lie below another nulled position — some prefix of the position holds `null` in `data`.
(An error path of the response is the position of the node where the error originated; such a
node is `failed` or `doneErr`.) -/
theorem async_wf_error_paths (F c : Cfg) (ls : List Label) (hF : allIdle F = true)
    (hrun : Run Step (initQuery F) ls c) (hfin : Final Step c)
    (q : Path) (nn : Bool) (res : Res) (st : NodeSt) (ch : Cfg)
    (hp : nodeAt c (0 :: q) = some (nn, res, st, ch)) (hst : (∃ b, st = .doneErr b) ∨ (∃ b, st = .failed b)) :
    ∃ q' v, q' <+: q ∧ rootData c = some v ∧ v.at q' = some .null := by
  -- `errpos_null` on the root forest, whose one member is `data`
  obtain ⟨hinv, _, hv⟩ := final_root_vals hF hrun hfin
  obtain ⟨k, q', hr1, hr2⟩ := errpos_null c (0 :: q) _ nn res st ch hinv hv hp hst
  obtain ⟨rfl, hq'⟩ := List.cons_prefix_cons.mp hr1
  exact ⟨q', _, hq', (schedule_independent F c ls hF hrun hfin).1, hr2⟩

/-- C03-4 `mutation_serial` (state form). In every configuration reachable by a serial root:
completed root fields come first, then at most one root field that is in progress or has
failed, then root fields that have not been started (`serialOK`); the tree invariant holds. -/
theorem mutation_serial (F c : Cfg) (ls : List Label) (hF : allIdle F = true)
    (hrun : Run SStep F ls c) : serialOK c = true ∧ Inv c := by
  obtain ⟨⟨hi, hs⟩, _⟩ := srun_inv hrun (allIdle_sinv F hF)
  exact ⟨hs, hi⟩

/-- C03-4a `mutation_serial_strict` (event form, strict reading). Root field `j` is started
only by a `start [j]` transition; inner transitions never start a root field. `start [j]` fires
only when every root field `i < j` has completed (`done` / `doneErr`) AND nothing in its subtree
is running or still unwinding from a cancellation - with the one exception of work below a
position that completed while its children were still running (`bg = true`): work abandoned
WITHOUT being cancelled (`settle_in_background`: a synchronous failure in a selection-set / list
loop, an aborted async iteration) - `strictBefore`.  In particular every task that
`gather_with_cancel` cancelled in subtree `i` has finished (`cancelled`) before `j` starts:
`Step.failDone` waits for them. -/
theorem mutation_serial_strict (F c c' : Cfg) (ls : List Label) (l : Label) (hF : allIdle F = true)
    (hrun : Run SStep F ls c) (h : SStep c l c') :
    (∀ j, l = .start [j] → j = firstIdle c ∧ strictBefore j c = true) ∧
    ((∀ p, l ≠ .start p) → Step c l c') := by
  obtain ⟨⟨hi, _⟩, _⟩ := srun_inv hrun (allIdle_sinv F hF)
  match h with
  | .inner _ _ _ hs =>
    exact ⟨fun j hj => absurd hj (step_no_start hs [j]), fun _ => hs⟩
  | .start _ hp _ =>
    refine ⟨fun j hj => ?_, fun hne => absurd rfl (hne _)⟩
    simp at hj
    subst hj
    exact ⟨rfl, prefixDone_strictBefore c hi hp⟩

/-- C03-4b. A completed forest of fields is quiet in that strict sense, stays completed with
the same values and stays quiet under every later transition (which can only happen inside
abandoned, never cancelled work). -/
theorem completed_field_is_quiet (f : Cfg) (v : Val) (hi : Inv f) (hv : forestVals f = some v) :
    QuietF f = true ∧ ∀ l f', Step f l f' → forestVals f' = some v ∧ QuietF f' = true :=
  have hq := notPending_quiet f hi (forestVals_not_pending f v hv)
  ⟨hq, fun _ _ hs => ⟨(step_frame hs).vals v hv, (step_frame hs).quiet hq⟩⟩

/-- C03-4c. A maximal run of a serial root ends with the synchronous `data`. -/
theorem mutation_schedule_independent (F c : Cfg) (ls : List Label) (hF : allIdle F = true)
    (hrun : Run SStep F ls c) (hfin : Final SStep c) : dataCfg c = dataOf F := by
  obtain ⟨⟨hi, hs⟩, hsh, _⟩ := srun_inv hrun (allIdle_sinv F hF)
  have hq := stuck_notPending c hi (fun l c' hst => hfin l c' (SStep.inner c l c' hst))
  have hidle : hasIdle c = true → prefixDone c = false := fun h1 =>
    eq_false_of_ne_true fun hp => hfin _ _ (SStep.start c hp h1)
  rw [dataCfg, dataOf, settled_vals hi (serial_settled c hs hq hidle), denF_congr hsh]

/-- C03-5 `run_terminates`. Every transition strictly decreases `measure`; a run from a query
has at most `measure (initQuery F)` transitions, a run of a serial root at most `measure F`. -/
theorem run_terminates (F c : Cfg) (ls : List Label) (hF : allIdle F = true)
    (hrun : Run Step (initQuery F) ls c) : ls.length ≤ measure (initQuery F) := by
  have := (run_inv hrun (initQuery_inv F hF)).2.2.2
  omega

theorem serial_run_terminates (F c : Cfg) (ls : List Label) (hF : allIdle F = true)
    (hrun : Run SStep F ls c) : ls.length ≤ measure F := by
  have := (srun_inv hrun (allIdle_sinv F hF)).2.2
  omega

/-- C03-6 `monitor_sound`. Every operation the trace monitor of the correspondence check
applies to the model, at any position - completion of an awaitable, resumption, completion of a
running node, a gather cancelling its awaitables, abort of an async iteration, a gather
re-raising after its cancelled awaitables finished, a cancelled task finishing - is a transition
of `Step`; and its serial `start` move on the root wrapper is the `start` transition of `SStep`
on the root fields: a trace accepted by the monitor is a run of the transition systems the
theorems above are about. -/
theorem monitor_sound (c c' : Cfg) (p : Path) :
    (modifyAt opResolve c p = some c' → ∃ l, Step c l c') ∧
    (modifyAt opFire c p = some c' → ∃ l, Step c l c') ∧
    (modifyAt opComplete c p = some c' → ∃ l, Step c l c') ∧
    (modifyAt opFail c p = some c' → ∃ l, Step c l c') ∧
    (modifyAt opAbort c p = some c' → ∃ l, Step c l c') ∧
    (modifyAt opFailDone c p = some c' → ∃ l, Step c l c') ∧
    (modifyAt opUnwound c p = some c' → ∃ l, Step c l c') :=
  ⟨modifyAt_sound _ opResolve_sound c p c', modifyAt_sound _ opFire_sound c p c',
   modifyAt_sound _ opComplete_sound c p c', modifyAt_sound _ opFail_sound c p c',
   modifyAt_sound _ opAbort_sound c p c', modifyAt_sound _ opFailDone_sound c p c',
   modifyAt_sound _ opUnwound_sound c p c'⟩

theorem monitor_serial_start_sound (j : Nat) (nn : Bool) (g : Nat) (res : Res) (ch rest c' : Cfg)
    (h : opStartSerial j (.cons nn g res .run ch rest) = some c') :
    ∃ ch', c' = .cons nn g res .run ch' rest ∧ SStep ch (.start [j]) ch' := by
  simp only [opStartSerial] at h
  split at h <;> cases h
  rename_i hc
  simp only [Bool.and_eq_true, beq_iff_eq] at hc
  obtain ⟨⟨hp, hi⟩, rfl⟩ := hc
  exact ⟨startNext ch, rfl, SStep.start ch hp hi⟩

/-! ## Non-vacuity: a concrete request and a complete run

`{ a { x y } }` with `a` nullable and awaitable, `x : String!` awaitable and raising,
`y : String` awaitable.  The run resolves `a`, then `x` (which raises); the gather of `a` cancels
`y` (`failing`, `y` unwinding), `y` finishes (`cancelled`), only then `a` handles the error
(nulled position `a`); the final `data` is `{a: null}` and the nulled positions are `[a]`. -/

def exKids : Cfg :=
  .cons true 1 .raise .idle .nil (.cons false 1 (.leaf 5) .idle .nil .nil)
def exF : Cfg := .cons false 1 (.comp .obj) .idle exKids .nil

def exFinal : Cfg :=
  .cons false 0 (.comp .obj) (.done (.cons .null .nil))
    (.cons false 1 (.comp .obj) (.doneErr false)
      (.cons true 1 .raise (.failed false) .nil (.cons false 1 (.leaf 5) .cancelled .nil .nil)) .nil) .nil

example : allIdle exF = true := by decide
example : dataOf exF = .cons .null .nil ∧ specNulledF [] 0 (initQuery exF) = [[0, 0]] := by decide

theorem exRun : Run Step (initQuery exF)
    [.continue [0], .resolve [0, 0], .continue [0, 0], .resolve [0, 0, 0], .continue [0, 0, 0],
     .continue [0, 0], .deliverCancel [0, 0, 1], .continue [0, 0], .continue [0]] exFinal := by
  refine .step _ _ _ _ _ (Step.fire false 0 (.comp .obj) exF .nil) ?_
  refine .step _ _ _ _ _ (Step.child false 0 (.comp .obj) .run _ .nil _ _ rfl
    (Step.resolve false 1 (.comp .obj) 0 exKids .nil)) ?_
  refine .step _ _ _ _ _ (Step.child false 0 (.comp .obj) .run _ .nil _ _ rfl
    (Step.fire false 1 (.comp .obj) exKids .nil)) ?_
  refine .step _ _ _ _ _ (Step.child false 0 (.comp .obj) .run _ .nil _ _ rfl
    (Step.child false 1 (.comp .obj) .run _ .nil _ _ rfl
      (Step.resolve true 1 .raise 0 .nil _))) ?_
  refine .step _ _ _ _ _ (Step.child false 0 (.comp .obj) .run _ .nil _ _ rfl
    (Step.child false 1 (.comp .obj) .run _ .nil _ _ rfl
      (Step.fire true 1 .raise .nil _))) ?_
  -- the gather of `a` catches the failure of `x` and cancels `y`
  refine .step _ _ _ _ _ (Step.child false 0 (.comp .obj) .run _ .nil _ _ rfl
    (Step.fail false 1 (.comp .obj) _ .nil rfl)) ?_
  -- `y` finishes its cancellation
  refine .step _ _ _ _ _ (Step.child false 0 (.comp .obj) .run _ .nil _ _ rfl
    (Step.child false 1 (.comp .obj) .failing _ .nil _ _ rfl
      (Step.sibling true 1 .raise (.failed false) .nil _ _ _
        (Step.unwound false 1 (.leaf 5) .nil .nil rfl)))) ?_
  -- only now the gather re-raises: `a` is nulled
  refine .step _ _ _ _ _ (Step.child false 0 (.comp .obj) .run _ .nil _ _ rfl
    (Step.failDone false 1 (.comp .obj) _ .nil rfl)) ?_
  refine .step _ _ _ _ _ (Step.complete false 0 (.comp .obj) _ .nil (.cons .null .nil) rfl) ?_
  exact .refl _

theorem exFinal_final : Final Step exFinal := by
  intro l c' h
  have hm := (step_inv h (run_inv exRun (initQuery_inv exF (by decide))).1).2
  have : Gql.Async.measure exFinal = 0 := by decide
  omega

/-- `async_wf_error_paths` on the example: the error originates at `a.x` (position `[0,0,0]`,
state `failed`), which is not in `data`; its prefix `a` holds `null`. -/
example : ∃ q' v, q' <+: [0, 0] ∧ rootData exFinal = some v ∧ v.at q' = some .null :=
  async_wf_error_paths exF exFinal _ (by decide) exRun exFinal_final [0, 0] true .raise (.failed false) .nil
    (by decide) (Or.inr ⟨false, rfl⟩)

/-- the hypotheses of `schedule_independent`, `async_wf`, `async_invariant` hold for
this run, and the conclusion is the non-trivial response `{a: null}` with `a` nulled -/
example : rootData exFinal = some (.cons .null .nil) ∧ nulledF [] 0 exFinal = [[0, 0]] :=
  schedule_independent exF exFinal _ (by decide) exRun exFinal_final |>.imp (fun h => by rw [h]; decide) (fun h => by rw [h]; decide)

/-- a serial root with two fields: the second starts only after the first completed -/
def exM : Cfg := .cons false 1 (.leaf 1) .idle .nil (.cons false 0 (.leaf 2) .idle .nil .nil)

def exMFinal : Cfg :=
  .cons false 1 (.leaf 1) (.done (.leaf 1)) .nil (.cons false 0 (.leaf 2) (.done (.leaf 2)) .nil .nil)

example : Run SStep exM [.start [0], .resolve [0], .continue [0], .start [1]] exMFinal ∧
    dataCfg exMFinal = dataOf exM ∧ serialOK exMFinal = true := by
  refine ⟨?_, ?_⟩
  · refine .step _ _ _ _ _ (SStep.start exM rfl rfl) ?_
    refine .step _ _ _ _ _ (SStep.inner _ _ _ (Step.resolve false 1 (.leaf 1) 0 .nil _)) ?_
    refine .step _ _ _ _ _ (SStep.inner _ _ _ (Step.fire false 1 (.leaf 1) .nil _)) ?_
    refine .step _ _ _ _ _ (SStep.start _ rfl rfl) ?_
    exact .refl _
  · decide

/-- `monitor_sound` is not vacuous: the monitor's first move on the example request -/
example : ∃ c', modifyAt opFire (initQuery exF) [0] = some c' := ⟨_, rfl⟩

end Gql.Props.C03
