import Gql.Proofs.Plan
import Gql.Proofs.Assemble
import Gql.Proofs.Filtered
import Gql.Proofs.Cut
import Gql.Proofs.Order
import Gql.Proofs.Collect
import Gql.Proofs.Bridge
import Gql.Proofs.IncExec
import Gql.Proofs.IncExecDefer
import Gql.Proofs.IncExecRef
import Gql.Proofs.IncExecRef2
import Gql.Proofs.ExecProps
import Gql.Exec.Values
/-!
# C04 — Incremental delivery reassembles to the non-incremental response

Property theorems (lemmas: the imported `Gql/Proofs` modules).

* Model: `Gql.Async.Plan.buildExecutionPlan` / `getFilteredDeferUsageSet`
  (build_execution_plan.py), tied to the code by direct correspondence.
* Spec: `Gql.Async.apply` — the delivery format's merge — and `Gql.Async.Spec.exact` /
  `Spec.approx`, the two clauses of the property; they are the oracle run on every payload stream
  the implementation produces.  `Gql.Async.Cut` is the abstract denotational model of the
  incremental executor (a reference tree cut at defer/stream points).
-/
namespace Gql.Props.C04
open Gql.Async Gql.Async.Plan

/-! ## 1. The execution plan partitions the grouped field set -/

/-- C04-1 `plan_partition`.  For every grouped field set with distinct response keys, every parent
defer-usage set and every defer-usage forest: the planned grouped field set and the new grouped
field sets (`parts`) partition the original —
* each part is a sublist of the original: its entries are original `(key, field-details list)`
  pairs, *intact*, in their original order, and nothing is invented;
* the concatenation of the parts is a permutation of the original: every entry lands in exactly
  one part. -/
theorem plan_partition {κ : Type} [DecidableEq κ] (parentOf : Nat → Option Nat) (fuel : Nat)
    (parent : DeferUsageSet) (orig : GroupedFieldSet κ) (hnd : (orig.map Prod.fst).Nodup) :
    let plan := buildExecutionPlan parentOf fuel orig parent
    (∀ part ∈ parts plan, part.Sublist orig) ∧ orig.Perm (parts plan).flatten := by
  have inv := build_inv parentOf fuel parent orig hnd
  refine ⟨?_, ?_⟩
  · intro part hpart
    simp only [parts, List.mem_cons, List.mem_map] at hpart
    rcases hpart with rfl | ⟨sg, hsg, rfl⟩
    · exact inv.sub_planned
    · exact inv.sub_new sg hsg
  · simpa [parts] using inv.perm

/-- C04-1b `plan_parts_characterised`.  Which part an entry lands in is decided by its filtered
defer-usage set alone: the planned part holds exactly entries whose set equals the parent's; every
new part is non-empty, is keyed by a set equal to the filtered set of each of its entries and
different from the parent's; and no two new parts have equal key sets. -/
theorem plan_parts_characterised {κ : Type} [DecidableEq κ] (parentOf : Nat → Option Nat)
    (fuel : Nat) (parent : DeferUsageSet) (orig : GroupedFieldSet κ)
    (hnd : (orig.map Prod.fst).Nodup) :
    let plan := buildExecutionPlan parentOf fuel orig parent
    let filt := getFilteredDeferUsageSet parentOf fuel
    (∀ e ∈ plan.groupedFieldSet, setEq (filt e.2) parent = true) ∧
    (∀ sg ∈ plan.newGroupedFieldSets, sg.2 ≠ [] ∧
        ∀ e ∈ sg.2, setEq sg.1 (filt e.2) = true ∧ setEq (filt e.2) parent = false) ∧
    plan.newGroupedFieldSets.Pairwise (fun a b => setEq a.1 b.1 = false) := by
  have inv := build_inv parentOf fuel parent orig hnd
  exact ⟨inv.planned_iff, inv.new_spec, inv.distinct⟩

-- Non-vacuity: three keys, usages 0 ⊃ 1 (1 is a child of 0) and 2; key 10 is deferred under {1},
-- key 11 under {0,1} (filtered to {0}), key 12 not deferred.  Planned: [12]; new: {1} ↦ [10], {0} ↦ [11].
example :
    let parentOf : Nat → Option Nat := fun d => if d = 1 then some 0 else none
    let orig : GroupedFieldSet Nat :=
      [(10, [⟨0, some 1⟩]), (11, [⟨1, some 0⟩, ⟨2, some 1⟩]), (12, [⟨3, none⟩, ⟨4, some 2⟩])]
    let plan := buildExecutionPlan parentOf 4 orig []
    (orig.map Prod.fst).Nodup ∧ plan.groupedFieldSet.map Prod.fst = [12] ∧
      plan.newGroupedFieldSets.map (fun sg => (sg.1, sg.2.map Prod.fst)) = [([1], [10]), ([0], [11])] := by
  decide

/-- C04-1c `filtered_set_spec`.  `get_filtered_defer_usage_set` on a field-details list whose
fields are all deferred returns exactly the defer usages of the fields that have no proper ancestor
(along `parent_defer_usage`) among them — for every defer-usage forest in which parents are older
than children (construction order) and any fuel above the serials (so the modelled `while` loop
never runs out: it is the real loop). -/
theorem filtered_set_spec (parentOf : Nat → Option Nat) (fuel : Nat) (fdl : FieldDetailsList)
    (hwf : ∀ d p, parentOf d = some p → p < d)
    (hall : ∀ fd ∈ fdl, fd.deferUsage.isSome)
    (hfuel : ∀ fd ∈ fdl, ∀ d, fd.deferUsage = some d → d < fuel) (d : Nat) :
    d ∈ getFilteredDeferUsageSet parentOf fuel fdl ↔
      d ∈ fdl.filterMap (·.deferUsage) ∧
        ¬ ∃ a ∈ fdl.filterMap (·.deferUsage), Ancestor parentOf a d :=
  filtered_spec parentOf hwf fuel fdl hall hfuel d

/-- C04-1d `filtered_set_nondeferred`: a field-details list containing a non-deferred field has the
empty filtered set (so its key stays with the parent's part when the parent set is empty). -/
theorem filtered_set_nondeferred (parentOf : Nat → Option Nat) (fuel : Nat) (fdl : FieldDetailsList)
    (h : ∃ fd ∈ fdl, fd.deferUsage = none) : getFilteredDeferUsageSet parentOf fuel fdl = [] :=
  filtered_nondeferred parentOf fuel fdl h

example : getFilteredDeferUsageSet (fun d => if d = 1 then some 0 else none) 4
    [⟨1, some 0⟩, ⟨2, some 1⟩, ⟨3, some 2⟩] = [0, 2] := by decide

/-! ## 2. Assembling is independent of the order of the pieces -/

/-- C04-2 `assemble_order_independent`.  Take any state of a client (data assembled so far and
the pending ids) and any list `es` of incremental entries, and any reordering `es'` of it in which
the batches of each stream keep their relative order (`streamsOf … p`: the stream entries whose id
is pending at `p`, see `isStreamAt_incE`; the format delivers the items of one stream in index order).  If both orders can be folded into the data by `Assemble.apply` — in
particular whenever both are parent-before-child — the two results are the same JSON value
(`SameValue`: every path resolves in one iff it resolves in the other, to the same scalar / an
object / a list of the same length; i.e. equality with object key order ignored).  No bound on the
number of entries, on nesting, or on how targets overlap. -/
theorem assemble_order_independent (st a b : State) (es es' : List IncE)
    (hperm : es.Perm es')
    (hstreams : ∀ p, streamsOf (IncE.act st.pending) p es = streamsOf (IncE.act st.pending) p es')
    (ha : applyAll st es = .ok a) (hb : applyAll st es' = .ok b) :
    SameValue a.data b.data :=
  runD_perm es' es st.data a.data b.data hperm hstreams (applyAll_runD ha) (applyAll_runD hb)

/-- What `SameValue` means: the same kind of value at the root (same scalar, both objects, or
lists of the same length) and, child by child (object key or list index), either both absent or
both present and again the same value — JSON equality with objects read as unordered maps. -/
theorem same_value_characterised (a b : J) :
    SameValue a b ↔ tag a = tag b ∧ ∀ seg,
      (childAt seg a = none ∧ childAt seg b = none) ∨
      (∃ c c', childAt seg a = some c ∧ childAt seg b = some c' ∧ SameValue c c') :=
  sameValue_iff a b

/-- `Assemble.apply` is a congruence for "the same JSON value": the key order in which earlier
entries left an object never influences whether or how a later entry applies. -/
theorem apply_respects_same_value (st st' s : State) (e : IncE)
    (hd : SameValue st.data st'.data) (hp : st'.pending = st.pending) (h : apply st e = .ok s) :
    ∃ s', apply st' e = .ok s' ∧ SameValue s.data s'.data ∧ s'.pending = s.pending :=
  apply_congr hd hp h

-- Non-vacuity: three entries — a defer entry on the root, a defer entry on the same root object,
-- and a stream batch — in two different orders.
example :
    let st : State := { initState (.obj [([97], .int 1), ([108], .arr [.int 1])]) [] with
      pending := [([48], []), ([49], []), ([50], [.key [108]])] }
    let e1 : IncE := .defer [48] [] (.obj [([98], .int 2)]) []
    let e2 : IncE := .defer [49] [] (.obj [([99], .obj [])]) []
    let e3 : IncE := .stream [50] [.int 2] []
    ([e1, e2, e3] : List IncE).length = 3 ∧
    (∀ p ∈ [[], [Seg.key [108]]], (streamsOf (IncE.act st.pending) p [e1, e2, e3]).length = (streamsOf (IncE.act st.pending) p [e3, e2, e1]).length) ∧
    (match applyAll st [e1, e2, e3], applyAll st [e3, e2, e1] with
     | .ok a, .ok b => J.eqv a.data b.data && !(J.eqv a.data st.data)
     | _, _ => false) = true := by
  decide

/-- C04-2 `assemble_order_independent_partial`.  Two entries whose targets are disjoint
(`pending[id].path ++ subPath` diverge before either ends — the situation of any two pieces that
are not nested in each other and do not target the same object/list): if they can be applied one
way round they can be applied the other way round, and the assembled data is *identical*
(not merely equal up to key order) — the exact-equality refinement of
`assemble_order_independent` for this case. -/
theorem assemble_order_independent_partial (st s1 s12 : State) (e1 e2 : IncE)
    (p q : Path) (f g : J → Except Fail J)
    (ha1 : e1.action st.pending = some (p, f)) (ha2 : e2.action st.pending = some (q, g))
    (hdis : disjointPaths p q = true)
    (h1 : apply st e1 = .ok s1) (h2 : apply s1 e2 = .ok s12) :
    ∃ s2 s21, apply st e2 = .ok s2 ∧ apply s2 e1 = .ok s21 ∧ s21.data = s12.data :=
  apply_swap ha1 ha2 (updateAt_comm f g p q st.data hdis) h1 h2

/-- C04-2c `assemble_order_independent_nested`.  Two entries one of which (`e2`) targets a
position strictly below the target of the other (`e1`), through a child that is present in the
data before either is applied (so `e2` does not depend on `e1`): applying `e1` then `e2` succeeds
iff applying `e2` then `e1` does, and the assembled data is identical.  Together with
`assemble_order_independent_partial` (disjoint targets) the only pair of entries not covered is
two defer entries with the *same* target, whose results agree up to the order of the added keys
(`merge_same_target_perm`). -/
theorem assemble_order_independent_nested (st : State) (e1 e2 : IncE)
    (p r : Path) (seg : Seg) (f g : J → Except Fail J)
    (ha1 : e1.action st.pending = some (p, f))
    (ha2 : e2.action st.pending = some (p ++ seg :: r, g))
    (hex : ∃ t, Spec.getAt p st.data = some t ∧ (childAt seg t).isSome) :
    (∀ s1 s12, apply st e1 = .ok s1 → apply s1 e2 = .ok s12 →
        ∃ s2 s21, apply st e2 = .ok s2 ∧ apply s2 e1 = .ok s21 ∧ s21.data = s12.data) ∧
    (∀ s2 s21, apply st e2 = .ok s2 → apply s2 e1 = .ok s21 →
        ∃ s1 s12, apply st e1 = .ok s1 ∧ apply s1 e2 = .ok s12 ∧ s12.data = s21.data) := by
  obtain ⟨a, _, rfl⟩ := action_some ha1
  exact ⟨fun s1 s12 => apply_swap ha1 ha2 (updateAt_comm_below a g r p hex),
    fun s2 s21 => apply_swap ha2 ha1 (updateAt_comm_above a g r p st.data)⟩

/-- C04-2d `merge_same_target_perm`.  Two defer entries merged into the same object, in either
order: both orders succeed together, and the resulting field lists are permutations of each other
(the same JSON object). -/
theorem merge_same_target_perm (tgt a b r1 r12 : List (List Nat × J))
    (h1 : mergeKeys tgt a = .ok r1) (h2 : mergeKeys r1 b = .ok r12) :
    ∃ r2 r21, mergeKeys tgt b = .ok r2 ∧ mergeKeys r2 a = .ok r21 ∧ r21.Perm r12 := by
  obtain ⟨rfl, hb, hba, _⟩ := mergeKeys_swap h1 h2
  refine ⟨tgt ++ b, tgt ++ b ++ a, hb, hba, ?_⟩
  simp only [List.append_assoc]
  exact List.Perm.append_left tgt List.perm_append_comm

/-- C04-2b `apply_never_overwrites`.  A defer entry that `apply` accepts added only keys that the
target object did not have, appended in order; nothing else in the target object changed.  (An
existing key is the explicit failure `overwrite` / `duplicate`, never a silent replacement.) -/
theorem apply_never_overwrites (tgt add r : List (List Nat × J))
    (h : mergeInto add (.obj tgt) = .ok (.obj r)) :
    r = tgt ++ add ∧ (∀ kv ∈ add, lookup kv.1 tgt = none) ∧ keysNodup add = true := by
  obtain ⟨_, he, he', hf⟩ := mergeInto_eq_ok.mp h
  cases he
  cases he'
  exact ⟨rfl, hf⟩

-- Non-vacuity: defer entry for id "0" at path ["a"] and stream entry for id "1" at path ["l"]
-- commute on {a: {x: 1}, l: [1]}.
example :
    let st : State := { initState (.obj [([97], .obj [([120], .int 1)]), ([108], .arr [.int 1])]) [] with
      pending := [([48], [.key [97]]), ([49], [.key [108]])] }
    let e1 : IncE := .defer [48] [] (.obj [([121], .int 2)]) []
    let e2 : IncE := .stream [49] [.int 2] []
    (e1.action st.pending).map (·.1) = some [.key [97]] ∧ (e2.action st.pending).map (·.1) = some [.key [108]] ∧
    disjointPaths [.key [97]] [.key [108]] = true ∧
    (match applyAll st [e1, e2], applyAll st [e2, e1] with
     | .ok a, .ok b => J.eqv a.data b.data && J.eqv b.data
         (.obj [([97], .obj [([120], .int 1), ([121], .int 2)]), ([108], .arr [.int 1, .int 2])])
     | _, _ => false) = true := by
  decide

/-! ## 3. Assembling the pieces of a cut gives back the reference -/

/-- C04-3 `assemble_eq_reference`.  For every well-formed cut of a reference tree — deferred
fragments and stream batches nested to any depth, several fragments per object, several batches
per list — folding its pieces into the initial data in the canonical parent-before-child order
succeeds, i.e. no `apply` on the way overwrites a key (`overwrite`/`duplicate`), targets a missing
object/list (`targetMissing`) or a value of the wrong kind, and the result is *exactly* the
reference.  (Every other order in which the pieces can be folded gives the same
JSON value by `assemble_order_independent`; see `assemble_eq_reference_any_order`.) -/
theorem assemble_eq_reference (c : Cut) (h : c.wf = true) :
    foldPieces c.initial c.pieces = .ok c.ref :=
  cut_reassembles c h

/-- The pieces of the abstract model are instances of the format's `apply`: a piece with target
`p ++ sub` is what `apply` does for a defer entry `{id, subPath: sub, data}` / a stream entry
`{id, items}` whose id is pending at `p`. -/
theorem piece_is_apply (st : State) (id : List Nat) (p sub : Path) (add : List (List Nat × J))
    (items : List J) (errs : List Path) (hp : pendingPath id st.pending = some p) :
    (apply st (.defer id sub (.obj add) errs)).map (·.data) = (Piece.merge (p ++ sub) add).apply st.data ∧
    (apply st (.stream id items errs)).map (·.data) = (Piece.append p items).apply st.data := by
  constructor
  · simp only [apply, hp, Piece.apply]
    cases updateAt (mergeInto add) (p ++ sub) st.data <;> rfl
  · simp only [apply, hp, Piece.apply]
    cases updateAt (appendInto items) p st.data <;> rfl

/-- C04-3c `assemble_eq_reference_any_order`.  The pieces of a well-formed cut, folded in *any*
order that keeps the batches of each list in order and can be folded at all (every
parent-before-child order can), give the reference as a JSON value. -/
theorem assemble_eq_reference_any_order (c : Cut) (hwf : c.wf = true) (ps : List Piece) (b : J)
    (hperm : c.pieces.Perm ps)
    (hstreams : ∀ p, streamsOf Piece.act p c.pieces = streamsOf Piece.act p ps)
    (hb : foldPieces c.initial ps = .ok b) : SameValue c.ref b :=
  cut_reassembles_any_order c hwf ps b hperm hstreams hb

/-- C04-3b `assemble_one_level`: an object whose fields `later` are cut out as one deferred
fragment, and a list whose tail is cut out as one stream batch, reassemble exactly (the base case
of `assemble_eq_reference`, stated on plain JSON). -/
theorem assemble_one_level (now later : List (List Nat × J)) (xs ys : List J)
    (hnd : keysNodup (now ++ later) = true) :
    mergeInto later (.obj now) = .ok (.obj (now ++ later)) ∧
    appendInto ys (.arr xs) = .ok (.arr (xs ++ ys)) :=
  ⟨mergeInto_fresh (keysNodup_iff.mp hnd), rfl⟩

-- Non-vacuity of `assemble_eq_reference` on a three-level cut: a deferred fragment inside a
-- streamed item inside a deferred fragment, plus two sibling fragments on the root object.
example :
    let leaf (n : Int) : Cut := .leaf (.int n)
    let inner : Cut := .obj [([120], leaf 1)] [[([121], leaf 2)], [([122], .arr [leaf 3] [[leaf 4], [leaf 5]])]]
    let c : Cut := .obj [([97], leaf 0)] [[([98], .arr [inner] [[inner]])], [([99], leaf 9)]]
    c.wf = true ∧ c.pieces.length = 11 ∧ c.reassembles = true := by
  decide

/-! ## 4. Collecting fields with live `@defer` -/

open Gql.Async.Collect in
/-- C04-4 `collect_defer_same_keys`.  For every selection set of a document without fragment cycles
(given unfolded: `Consistent`, `Acyclic`), whatever `@skip`/`@include`/type conditions evaluate to:
`collect_fields` with live `@defer` (tri-state visited-fragment map) yields the same response keys
and, per key, the same set of field nodes as `collect_fields` on the same selections with every
`@defer` disabled.  Entries may be duplicated (a fragment visited as deferred is visited again by a
non-deferred spread); nothing is lost and nothing is invented. -/
theorem collect_defer_same_keys (table : Nat → List Sel) (base base' : Nat) (sels : List Sel)
    (hc : Consistent table sels) (ha : Acyclic sels) :
    (∀ k, k ∈ (collectFields base sels).grouped.map Prod.fst ↔
          k ∈ (collectFields base' (stripSels sels)).grouped.map Prod.fst) ∧
    (∀ k n, Has (collectFields base sels).grouped k n ↔
            Has (collectFields base' (stripSels sels)).grouped k n) :=
  ⟨collect_same_keys table base base' sels hc ha, collect_same table base base' sels hc ha⟩

open Gql.Async.Collect in
/-- C04-4b `collect_exactly_unfolded_fields`.  Both are in fact the same fixed set: the included
field nodes of the fully unfolded selection tree (`allFields`), each under its response key. -/
theorem collect_exactly_unfolded_fields (table : Nat → List Sel) (base : Nat) (sels : List Sel)
    (hc : Consistent table sels) (ha : Acyclic sels) (k n : Nat) :
    Has (collectFields base sels).grouped k n ↔ (k, n) ∈ allFields sels :=
  collect_spec table base sels hc ha k n

open Gql.Async.Collect in
/-- C04-4c `collect_subfields_defer_same_keys`.  The same for `collect_subfields`: the selection
sets of all field nodes of one field-details list, each collected under the defer usage of its
field details with one shared visited map. -/
theorem collect_subfields_defer_same_keys (table : Nat → List Sel) (base base' : Nat)
    (parts : List (Option Nat × List Sel)) (h : ∀ p ∈ parts, Consistent table p.2 ∧ Acyclic p.2)
    (k n : Nat) :
    Has (collectSubfields base parts).grouped k n ↔
      Has (collectSubfields base' (stripParts parts)).grouped k n :=
  collectSub_same table base base' parts h k n

-- Non-vacuity: fragment 0 = { k1: node 11 } spread deferred (label 5), then non-deferred (visited
-- again: node 11 is duplicated), then deferred again (skipped).
open Gql.Async.Collect in
example :
    let body : List Sel := [.field 1 11 true]
    let sels : List Sel :=
      [.spread true true 0 (some (some 5)) body, .field 0 10 true,
       .spread true true 0 none body, .spread true true 0 (some none) body]
    Consistent (fun _ => body) sels ∧ Acyclic sels ∧
    (collectFields 100 sels).grouped = [(1, [⟨11, some 100⟩, ⟨11, none⟩]), (0, [⟨10, none⟩])] ∧
    (collectFields 100 sels).newUsages = [(some 5, none)] ∧
    (collectFields 100 (stripSels sels)).grouped = [(1, [⟨11, none⟩]), (0, [⟨10, none⟩])] := by
  refine ⟨⟨⟨rfl, trivial, trivial⟩, trivial, ⟨rfl, trivial, trivial⟩, ⟨rfl, trivial, trivial⟩, trivial⟩,
    ⟨⟨by decide, trivial, trivial⟩, trivial, ⟨by decide, trivial, trivial⟩, ⟨by decide, trivial, trivial⟩, trivial⟩,
    by decide, by decide, by decide⟩

/-! ## 5. From the collected fields through the plan to the cut -/

open Gql.Async.Collect in
/-- C04-5 `collect_plan_cut`.  The bridge between `plan_partition` and `assemble_eq_reference`, for
one object: collect its selection set with live defer usages, split the grouped field set with
`build_execution_plan`, and read the result as a cut (`cutOfPlan`: the planned part is delivered
with the enclosing piece, every new grouped field set by one deferred piece; `sub k` stands for
the cut of the value of key `k`).  Then the cut is well formed, its pieces reassemble exactly to
its reference object, and that object has exactly the response keys of the *non-incremental*
collection of the same selection set, each exactly once.  (The recursion into the values
`sub k` — i.e. the executor itself — is not modelled; see LEVEL_NOTE.) -/
theorem collect_plan_cut (table : Nat → List Sel) (base base' : Nat) (sels : List Sel)
    (hc : Consistent table sels) (ha : Acyclic sels)
    (parentOf : Nat → Option Nat) (fuel : Nat) (parent : DeferUsageSet)
    (sub : Nat → Cut) (hsub : ∀ k, (sub k).wf = true) :
    let plan := buildExecutionPlan parentOf fuel (toPlan (collectFields base sels).grouped) parent
    let c := cutOfPlan sub plan
    c.wf = true ∧ foldPieces c.initial c.pieces = .ok c.ref ∧
    ∃ kvs, c.ref = .obj kvs ∧ (kvs.map Prod.fst).Nodup ∧
      ∀ k, keyOf k ∈ kvs.map Prod.fst ↔
        k ∈ (collectFields base' (stripSels sels)).grouped.map Prod.fst :=
  Gql.Async.collect_plan_cut table base base' sels hc ha parentOf fuel parent sub hsub

/-! ## 6. The incremental executor itself (error-free, `@defer` only) -/

open Gql.Exec Gql.Async.IncExec in
/-- C04-6 `incExec_assemble` — *full statement* (open).  For every schema, document (with `@defer`
on inline fragments and fragment spreads), variables and synchronous data graph on which the
executor model stays inside its class (`incExec … = some …`: no field or request error is raised,
no float leaf): folding the delivered pieces into the initial data succeeds and gives, as a JSON
value, the specification's response data (GraphQL §6, `Spec.executeRequest`) to the same document
with every `@defer` removed, and that response has no errors. -/
def incExec_assemble_full : Prop :=
  ∀ (ops : Ops) (s : Schema) (doc : Doc) (opName : Option Name) (vars : Vars) (root : RVal)
    (init : J) (pieces : List Piece),
    incExec ops s doc opName vars root = some (init, pieces) →
    (Spec.executeRequest ops s (stripDefer doc) opName vars root).errors = [] ∧
    ∃ r ref, foldPieces init pieces = .ok r ∧
      toJ (Spec.executeRequest ops s (stripDefer doc) opName vars root).data = some ref ∧
      SameValue ref r

open Gql.Exec Gql.Async.IncExec in
/-- C04-6a `incExec_assemble_partial`.  The proved part of `incExec_assemble_full`, for **every**
request (any schema, any document — nested, labelled, `if:`-switched, overlapping `@defer` on
inline fragments and named spreads, `@skip`/`@include`, variables, interfaces/unions —, any pure
synchronous resolvers): whenever the executor model `incExec` (collect with live defer usages →
`build_execution_plan` per object with the defer-usage set of the running (sub-)executor →
planned part into the enclosing piece, one execution group per new defer-usage set → recursion into
every field value and list item) answers, its answer is a *well-formed cut* `c` of one response
tree: `init = c.initial`, `pieces = c.pieces`, and folding the pieces into the initial data in
delivery (parent-before-child) order never overwrites a key, never targets a missing or
non-object value and gives exactly `c.ref` — the tree the same recursion builds with nothing cut
out (planned keys first, then each execution group's keys).

What is missing for the full statement: `c.ref` is the *specification's* response to the document
without `@defer` (same keys by `collect_defer_same_keys`, and each key's value equal because the
field-details list of a key has the same first node and the same set of nodes).  That last step is
checked on every generated case by the driver (`ref=1`: `c.ref` equals
`Spec.executeRequest (stripDefer doc)` as a JSON value, `specerrs=0`), not proved. -/
theorem incExec_assemble_partial (ops : Ops) (s : Schema) (doc : Doc) (opName : Option Name)
    (vars : Vars) (root : RVal) (init : J) (pieces : List Piece)
    (h : incExec ops s doc opName vars root = some (init, pieces)) :
    ∃ c : Cut, incCut ops s doc opName vars root = some c ∧ c.wf = true ∧
      init = c.initial ∧ pieces = c.pieces ∧ foldPieces init pieces = .ok c.ref := by
  unfold incExec at h
  cases hc : incCut ops s doc opName vars root with
  | none => simp [hc] at h
  | some c =>
    simp only [hc, Option.map_some, Option.some.injEq, Prod.mk.injEq] at h
    obtain ⟨h1, h2⟩ := h
    subst h1; subst h2
    exact ⟨c, rfl, incCut_wf hc, rfl, rfl, cut_reassembles c (incCut_wf hc)⟩

open Gql.Exec Gql.Async.IncExec in
/-- C04-6b `incExec_assemble_any_order`.  The same for **every** order in which the pieces can be
folded at all (every parent-before-child order can): the result is the same JSON value `c.ref`.
No side condition on the order is needed: the model's cuts contain no stream batches
(`incCut_deferOnly`), so every piece is a merge. -/
theorem incExec_assemble_any_order (ops : Ops) (s : Schema) (doc : Doc) (opName : Option Name)
    (vars : Vars) (root : RVal) (init : J) (pieces ps : List Piece) (b : J)
    (h : incExec ops s doc opName vars root = some (init, pieces))
    (hperm : pieces.Perm ps)
    (hb : foldPieces init ps = .ok b) :
    ∃ c : Cut, incCut ops s doc opName vars root = some c ∧ SameValue c.ref b := by
  obtain ⟨c, hc, hwf, hi, hp, _⟩ := incExec_assemble_partial ops s doc opName vars root init pieces h
  subst hi; subst hp
  exact ⟨c, hc, cut_reassembles_any_order c hwf ps b hperm (incCut_streams hc ps hperm) hb⟩

open Gql.Exec Gql.Async.IncExec in
/-- C04-6c `incCut_wellformed`: the invariant behind 6a — no response key is delivered twice
anywhere in the tree: per object the planned part and the execution groups have pairwise distinct
keys (collection keeps response keys distinct, `plan_partition` splits them), recursively. -/
theorem incCut_wellformed (ops : Ops) (s : Schema) (doc : Doc) (opName : Option Name)
    (vars : Vars) (root : RVal) (c : Cut) (h : incCut ops s doc opName vars root = some c) :
    c.wf = true := incCut_wf h

-- Non-vacuity of 6a–6c: `{ a ... @defer(label: "L") { b o { ... @defer { x } y } } }` over
-- `type Query { a: Int b: Int o: T } type T { x: Int y: Int }`: the initial data is `{a}`, the
-- group L delivers `{b, o: {y}}` at `[]`, the nested anonymous group `{x}` at `[o]`.
open Gql.Exec Gql.Async.IncExec in
example :
    let sch : Schema := { types := [.object "Query" [] [⟨"a", [], .named "Int" false⟩, ⟨"b", [], .named "Int" false⟩, ⟨"o", [], .named "T" false⟩],
                                    .object "T" [] [⟨"x", [], .named "Int" false⟩, ⟨"y", [], .named "Int" false⟩]],
                          query := "Query", mutation := none }
    let f (n : Name) : Selection := .field none n [] [] []
    let doc : Doc := { ops := [{ kind := .query, name := none, vars := [], sels :=
        [f "a", .inline none [⟨"defer", [("label", .str [76])]⟩]
          [f "b", .field none "o" [] [] [.inline none [⟨"defer", []⟩] [f "x"], f "y"]]] }], frags := [] }
    let t : RVal := .obj (.name "T") (fun n _ => if n = "x" then .leaf (.int 3) else .leaf (.int 4))
    let root : RVal := .obj (.name "Query") (fun n _ => if n = "o" then t else if n = "a" then .leaf (.int 1) else .leaf (.int 2))
    (match incExec Concrete.ops sch doc none [] root with
     | some (i, ps) =>
       J.eqv i (.obj [([97], .int 1)]) && ps.length == 2 &&
       (match ps with
        | [.merge [] d1, .merge [.key [111]] d2] =>
          J.eqv (.obj d1) (.obj [([98], .int 2), ([111], .obj [([121], .int 4)])]) &&
          J.eqv (.obj d2) (.obj [([120], .int 3)])
        | _ => false) &&
       (match foldPieces i ps with
        | .ok r => J.eqv r (.obj [([97], .int 1), ([98], .int 2),
                                   ([111], .obj [([121], .int 4), ([120], .int 3)])])
        | .error _ => false)
     | none => false) = true := by
  decide +kernel

open Gql.Exec Gql.Async.IncExec in
/-- C04-6d `incExec_assemble_ref_partial`.  The open step of `incExec_assemble_full` (the tree
the pieces fold to **is the specification's response**), proved for the document class
`refClassDoc` (decidable):

* `noDeferDoc`: no inline fragment and no fragment spread of the document — in the operations and
  in every fragment definition — carries a `@defer` directive.  Everything else is inside the
  class: inline fragments with and without type condition, named fragment spreads (nested,
  repeated, cyclic, unknown), `@skip`/`@include` on fields, inline fragments and spreads, aliases,
  overlapping response keys merged across fragments, arguments, variables, lists, interfaces and
  unions; or
* `fieldsOnlyDoc`: every operation selects fields only, at every depth (fragment definitions are
  then unreachable and may contain anything, also `@defer`).

For every schema, every such document, all variables and every synchronous data graph: whenever
the executor model answers (`incExec … = some (init, pieces)`), folding the pieces into the initial
data succeeds and gives **exactly** (same keys, same key order, same values — `=`, not only
`SameValue`) the JSON of the `data` of `Spec.executeRequest` (GraphQL §6) on the document with
`@defer` removed, and that response has no errors.

This pins the whole recursion skeleton shared with the `@defer` case: field collection into the
shared grouped field set with the tri-state visited map of `collect_fields_impl` (simulated by C02's
model of `collect_fields`, then C02's refinement to CollectFields), `collect_subfields` over the
field-details list, `build_execution_plan` of a grouped field set without defer usages (planned
part = the whole set in its order, no new sets), `execute_fields` in key order with `Undefined`
fields left out, `__typename`, argument coercion, `complete_value` on `null` / leaves / lists /
objects / abstract types (`ensure_valid_runtime_type` = ResolveAbstractType).

Hypothesis `hops : OpsOk ops` is C02's one law of the value layer (a variable without a run-time
value is not coercible at a Non-Null type — `coerce_input_literal` returns `Undefined`); it is what
makes the implementation's `should_include_node` agree with the specification's reading of
`@skip`/`@include`; the concrete value layer satisfies it (`concrete_ops_ok`).

What is missing for the full statement: documents in which some reachable inline fragment or
spread carries `@defer`.  There the collected field-details lists carry live defer usages (and a
fragment visited first as deferred is collected a second time), the plan cuts execution groups out,
and `c.ref` lists an object's keys planned-part-first (`SameValue`, not `=`).  What remains to be
shown is that the grouped field set collected with live defer usages has the keys of the one
collected on the stripped document and, per key, a field-details list with the same first node and
the same merged sub-selections up to repetition.  Checked per case by the driver
(`ref=1 specerrs=0`), not proved. -/
theorem incExec_assemble_ref_partial (ops : Ops) (s : Schema) (doc : Doc) (opName : Option Name)
    (vars : Vars) (root : RVal) (init : J) (pieces : List Piece)
    (hops : Gql.Exec.Refine.OpsOk ops) (hdoc : refClassDoc doc = true)
    (h : incExec ops s doc opName vars root = some (init, pieces)) :
    (Spec.executeRequest ops s (stripDefer doc) opName vars root).errors = [] ∧
    ∃ ref, foldPieces init pieces = .ok ref ∧
      toJ (Spec.executeRequest ops s (stripDefer doc) opName vars root).data = some ref := by
  obtain ⟨c, hc, _, _, _, hfold⟩ := incExec_assemble_partial ops s doc opName vars root init pieces h
  obtain ⟨h1, h2⟩ := incCut_ref_class hops hdoc hc
  exact ⟨h1, c.ref, hfold, h2⟩

-- Non-vacuity of 6d: `{ a ... on Query { o { y ...F } } ...F2 l { ... { x } } }` with
-- `fragment F on T { z: x y }`, `fragment F2 on Query { a o { x } }` (overlapping keys merged across
-- an inline fragment and two named fragments, a list of objects) is in the class (not fields only),
-- the executor model answers on it with no pieces, and the value layer is lawful.
open Gql.Exec Gql.Async.IncExec in
example :
    let sch : Schema := { types := [.object "Query" [] [⟨"a", [], .named "Int" false⟩, ⟨"o", [], .named "T" false⟩,
                                        ⟨"l", [], .list (.named "T" false) false⟩],
                                    .object "T" [] [⟨"x", [], .named "Int" false⟩, ⟨"y", [], .named "Int" false⟩]],
                          query := "Query", mutation := none }
    let f (n : Name) : Selection := .field none n [] [] []
    let doc : Doc := {
      ops := [{ kind := .query, name := none, vars := [], sels :=
        [f "a", .inline (some "Query") [] [.field none "o" [] [] [f "y", .spread "F" []]],
         .spread "F2" [], .field none "l" [] [] [.inline none [] [f "x"]]] }],
      frags := [⟨"F", "T", [.field (some "z") "x" [] [] [], f "y"]⟩,
                ⟨"F2", "Query", [f "a", .field none "o" [] [] [f "x"]]⟩] }
    let t : RVal := .obj (.name "T") (fun n _ => if n = "x" then .leaf (.int 3) else .leaf (.int 4))
    let root : RVal := .obj (.name "Query") (fun n _ =>
      if n = "o" then t else if n = "l" then .list [t, t] else .leaf (.int 1))
    Gql.Exec.Refine.OpsOk Concrete.ops ∧ refClassDoc doc = true ∧ fieldsOnlyDoc doc = false ∧
    (match incExec Concrete.ops sch doc none [] root with
     | some (i, ps) =>
       J.eqv i (.obj [([97], .int 1),
                      ([111], .obj [([121], .int 4), ([122], .int 3), ([120], .int 3)]),
                      ([108], .arr [.obj [([120], .int 3)], .obj [([120], .int 3)]])]) && ps.length == 0
     | none => false) = true := by
  refine ⟨Gql.Exec.Refine.concrete_ops_ok, by decide, by decide, by decide +kernel⟩

-- and a fields-only document whose (unreachable) fragment definition carries `@defer`
open Gql.Exec Gql.Async.IncExec in
example :
    let doc : Doc := {
      ops := [{ kind := .query, name := none, vars := [], sels :=
        [.field none "a" [] [] [.field none "b" [] [] []]] }],
      frags := [⟨"F", "T", [.inline none [⟨"defer", []⟩] [.field none "x" [] [] []]]⟩] }
    refClassDoc doc = true ∧ noDeferDoc doc = false := by decide

end Gql.Props.C04
