import Gql.Proofs.ScalarConforms
/-!
# C16 — Leaf results are serialised within the specification's value domains

Property theorems only (lemmas: `Gql/Proofs/Values.lean`, `Gql/Proofs/ScalarConforms.lean`).
Model: `Gql.Values.serialize{Int,Float,String,Boolean,ID}`, `coerce*` (scalars.py),
`EnumType.coerceOutputValue / coerceInputValue` (definition.py), `completeLeafValue`
(executor.py).  Spec: `Gql.Values.Spec.*Domain` (GraphQL spec §3.5, §3.9).
CPython's `int(str)`, `float(str)`, `float(int)`, `str(float)`, `str(int)` are the parameter
`c : PyConv`; the only laws used are the three of `PyConv.Laws`, as explicit hypotheses.
`Out.ok` = a value, `Out.err` = `GraphQLError`, `Out.crash` = another exception (the executor
turns both into a field error).
-/
namespace Gql.Props.C16
open Gql Gql.Values Gql.Values.Spec Gql.Generated.ScalarConsts

/-- T1 obligation: the constants of scalars.py are the 32-bit bounds of the specification. -/
theorem consts_are_int32 : graphqlMinInt = -(2 ^ 31) ∧ graphqlMaxInt = 2 ^ 31 - 1 := by decide

/-- T1 obligation: the integer-string pattern is the one `isIntegerString` implements, in both
files that carry a copy. -/
theorem integer_regex_text :
    reIntegerString = [94, 45, 63, 40, 63, 58, 48, 124, 91, 49, 45, 57, 93, 91, 48, 45, 57, 93, 42, 41, 36]
    ∧ reIntegerStringV2L = reIntegerString := by decide

/-- C16-1. For every Python value and every built-in scalar, output coercion yields a value of
the type's domain (Int: integer within 32 bits; Float: finite number; String/ID: text;
Boolean: a boolean) whenever it yields a value at all. No law about CPython is needed. -/
theorem serialize_domain (c : PyConv) (s : Scalar) (v r : PyVal)
    (h : s.serialize c v = .ok r) : ScalarDomain s r := by
  rcases Scalar.serialize_ok h with hc | ⟨rfl, b, _, rfl⟩
  · cases s
    case float => exact .inl hc
    all_goals exact hc
  · exact .inr ⟨_, rfl, by cases b <;> decide⟩

/-- C16-1 (enum). Whatever value a resolver returns — hashable (dict lookup, with Python's
`True == 1 == 1.0` collisions) or unhashable (scan) — the result is one of the enum's value
names, or an error. -/
theorem enum_domain (e : EnumType) (v r : PyVal) (h : e.coerceOutputValue v = .ok r) :
    EnumDomain e r := by
  obtain ⟨name, w, hr, hm, _⟩ := EnumType.coerceOutputValue_ok h
  exact ⟨name, hr, by simp only [EnumType.names, List.mem_map]; exact ⟨(name, w), hm, rfl⟩⟩

/-- C16-1 at `complete_leaf_value`: a completed leaf lies in its type's domain … -/
theorem complete_leaf_domain (c : PyConv) (t : Leaf) (v r : PyVal)
    (h : completeLeafValue c t v = .ok r) : LeafDomain t r := by
  rw [completeLeafValue_eq] at h
  cases t with
  | scalar s => exact serialize_domain c s v _ h
  | enum e => exact enum_domain e v _ h

/-- … and its `TypeError` branch ("coerce_output_value returned None/Undefined") is dead code
for built-in scalars and enums: every exception of `complete_leaf_value` is the coercer's own. -/
theorem complete_leaf_crash_is_coercers (c : PyConv) (t : Leaf) (v : PyVal) (k : String)
    (h : completeLeafValue c t v = .crash k) : t.coerceOutputValue c v = .crash k :=
  completeLeafValue_eq c t v ▸ h

/-- C16-2. Int never loses precision silently: an emitted integer is exactly the number the
resolver returned (bool as 0/1, int, integral float), or exactly what `int(str)` read. -/
theorem serializeInt_exact (c : PyConv) (v : PyVal) (n : Int)
    (h : serializeInt c v = .ok (.int n)) :
    numEqInt v n ∨ ∃ s, v = .str s ∧ c.intOfStr s = some n := by
  cases v <;> simp only [serializeInt] at h
  case bool b => cases h; exact .inl rfl
  case int z => exact .inl (PyVal.int.inj (coerceIntFromInt_ok h).1).symm
  case float f =>
    obtain ⟨hn, hf, hi, _⟩ := coerceIntFromFloat_ok h
    exact .inl (by simp [numEqInt, PyFloat.eqInt, hf, hi, PyVal.int.inj hn])
  case str s =>
    obtain ⟨m, hm, hn, _⟩ := coerceIntFromString_ok h
    exact .inr ⟨s, rfl, by rw [hm, PyVal.int.inj hn]⟩
  all_goals cases h

/-- C16-2. Float of an `int`: by the code's own `int(num) != value` test, for *any* behaviour
of `float(int)`, an emitted float is finite and truncates back to the integer … -/
theorem serializeFloat_int_exact (c : PyConv) (z : Int) (r : PyVal)
    (h : serializeFloat c (.int z) = .ok r) :
    ∃ f, r = .float f ∧ f.isFinite = true ∧ f.truncInt = z :=
  let ⟨f, _, hr, hf, ht⟩ := coerceFloatFromInt_ok h
  ⟨f, hr, hf, ht⟩

/-- … and, `float(int)` being a whole number (law `floatOfInt_integral`), it *is* the integer:
integers beyond 2^53 that a double cannot hold are refused, not rounded. -/
theorem serializeFloat_int_lossless (c : PyConv) (hc : c.Laws) (z : Int) (r : PyVal)
    (h : serializeFloat c (.int z) = .ok r) : ∃ f, r = .float f ∧ f.eqInt z = true := by
  obtain ⟨f, hnum, hr, hfin, htr⟩ := coerceFloatFromInt_ok h
  exact ⟨f, hr, by simp [PyFloat.eqInt, hfin, hc.floatOfInt_integral z f hnum, htr]⟩

/-- C16-2. A float is emitted as Float unchanged; as Int/ID only when it is a whole number;
as Boolean by comparison with zero; an int is emitted as String/ID by `str(int)` in full. -/
theorem float_and_int_faithful (c : PyConv) (f : PyFloat) (z : Int) (r : PyVal) :
    (serializeFloat c (.float f) = .ok r → r = .float f) ∧
    (serializeID c (.float f) = .ok r → f.isIntegral = true ∧ c.strOfInt f.truncInt = some (match r with | .str s => s | _ => [])) ∧
    (serializeBoolean (.int z) = .ok r → r = .bool (z ≠ 0)) ∧
    (serializeString c (.int z) = .ok r → ∃ s, c.strOfInt z = some s ∧ r = .str s) ∧
    (serializeID c (.int z) = .ok r → ∃ s, c.strOfInt z = some s ∧ r = .str s) := by
  refine ⟨fun h => (coerceFloatFromFloat_ok h).1, fun h => ?_, fun h => ?_, fun h => ?_, fun h => ?_⟩
  · obtain ⟨_, hi, s, hs, rfl⟩ := coerceIdFromFloat_ok h
    exact ⟨hi, hs⟩
  · simpa [serializeBoolean, eq_comm] using h
  · obtain ⟨s, hs, rfl⟩ := strOfIntPy_ok h; exact ⟨s, hs, rfl⟩
  · obtain ⟨s, hs, rfl⟩ := strOfIntPy_ok h; exact ⟨s, hs, rfl⟩

/-- C16-3. serialize-then-parse: a value a built-in scalar emits is accepted by the same
type's input coercion, and coerces to a value Python-equal to it (identical except for the
`1`/`0` that Float emits for a bool, which comes back as `1.0`/`0.0`). -/
theorem serialize_then_parse (c : PyConv) (hc : c.Laws) (s : Scalar) (v r : PyVal)
    (h : s.serialize c v = .ok r) :
    ∃ r', s.coerceValue c r = .ok r' ∧ PyVal.pyEq r r' = true ∧ (s ≠ .float → r' = r) := by
  rcases Scalar.serialize_ok h with hd | ⟨rfl, b, _, rfl⟩
  · cases s <;> simp only [ScalarConforms] at hd
    · obtain ⟨n, rfl, hn⟩ := hd
      refine ⟨.int n, ?_, by simp [PyVal.pyEq], fun _ => rfl⟩
      have : inIntRange n = true := (inIntRange_iff n).2 hn
      simp [Scalar.coerceValue, coerceInt, coerceIntFromInt, this]
    · obtain ⟨neg, m, e, rfl⟩ := hd
      refine ⟨.float (.fin neg m e), by simp [Scalar.coerceValue, coerceFloat, coerceFloatFromFloat, PyFloat.isFinite], ?_, by simp⟩
      simp only [PyVal.pyEq, PyFloat.eqFloat]
      split <;> simp_all
    · obtain ⟨t, rfl⟩ := hd
      exact ⟨.str t, by simp [Scalar.coerceValue, coerceString], by simp [PyVal.pyEq], fun _ => rfl⟩
    · obtain ⟨b, rfl⟩ := hd
      exact ⟨.bool b, by simp [Scalar.coerceValue, coerceBoolean], by simp [PyVal.pyEq], fun _ => rfl⟩
    · obtain ⟨t, rfl⟩ := hd
      exact ⟨.str t, by simp [Scalar.coerceValue, coerceID], by simp [PyVal.pyEq], fun _ => rfl⟩
  · -- Float emits an int only for a bool: `1`/`0`, which `float(int)` converts exactly
    have h0 : c.floatOfInt 0 = some (.fin false 0 0) := hc.floatOfInt_small 0 (by decide) (by decide)
    have h1 : c.floatOfInt 1 = some (.fin false 1 0) := hc.floatOfInt_small 1 (by decide) (by decide)
    cases b
    · exact ⟨.float (.fin false 0 0), by simp [Scalar.coerceValue, coerceFloat, coerceFloatFromInt, PyVal.boolInt,
        h0, PyFloat.toIntPy, PyFloat.truncInt, PyFloat.truncMag, PyFloat.signed], by decide, by simp⟩
    · exact ⟨.float (.fin false 1 0), by simp [Scalar.coerceValue, coerceFloat, coerceFloatFromInt, PyVal.boolInt,
        h1, PyFloat.toIntPy, PyFloat.truncInt, PyFloat.truncMag, PyFloat.signed], by decide, by simp⟩

/-- C16-3 (enum). The emitted name is accepted by the enum's input coercion and gives back an
internal value that is `==` the value the resolver returned (or, for a value defined as
`None`/`Undefined`, whose name is `==` it — such values are looked up by name). -/
theorem enum_serialize_then_parse (e : EnumType) (hnd : e.names.Nodup) (v r : PyVal)
    (h : e.coerceOutputValue v = .ok r) :
    ∃ name w, r = .str name ∧ e.coerceInputValue r = .ok w ∧
      (PyVal.pyEq w v = true ∨ (w.isNullish = true ∧ PyVal.pyEq (.str name) v = true)) := by
  obtain ⟨name, w, hr, hm, hq⟩ := EnumType.coerceOutputValue_ok h
  have hg : e.valueOf name = some w := EnumType.dictGet_of_mem_nodup hnd hm
  refine ⟨name, w, hr, by subst hr; simp [EnumType.coerceInputValue, hg], ?_⟩
  rcases hq with hq | hq
  · unfold EnumType.norm at hq
    split at hq
    · rename_i hn; exact Or.inr ⟨hn, hq⟩
    · exact Or.inl hq
  · exact Or.inl hq

/-- C16-4. Where an exception other than `GraphQLError` can come from: never from Int or
Boolean; from Float only if `float(int)` returned inf/nan (excluded by law
`floatOfInt_finite`); from String/ID only out of `str(int)` (CPython's digit limit) or out of
the object's own `__str__`. -/
theorem crash_sources (c : PyConv) (s : Scalar) (v : PyVal) (k : String)
    (h : s.serialize c v = .crash k) :
    (s = .float ∧ ∃ z f, v = .int z ∧ c.floatOfInt z = some f ∧ f.isFinite = false) ∨
    ((s = .string ∨ s = .id) ∧
      ((∃ z, c.strOfInt z = none ∧ (v = .int z ∨ ∃ f, v = .float f ∧ f.truncInt = z)) ∨
       ∃ o, v = .other o ∧ o.builtin = false ∧ o.strResult = none)) := by
  cases s <;> simp only [Scalar.serialize] at h
  · exfalso
    cases v <;> simp only [serializeInt, coerceIntFromInt, coerceIntFromFloat, coerceIntFromString] at h
    all_goals repeat' split at h
    all_goals cases h
  · left
    cases v <;> simp only [serializeFloat, coerceFloatFromFloat, coerceFloatFromString] at h
    case int z => obtain ⟨f, hf, hfin⟩ := coerceFloatFromInt_crash h; exact ⟨rfl, z, f, rfl, hf, hfin⟩
    all_goals repeat' split at h
    all_goals cases h
  · right
    refine ⟨Or.inl rfl, ?_⟩
    cases v <;> simp only [serializeString, coerceStringFromFloat] at h
    case int z => exact .inl ⟨z, strOfIntPy_crash h, .inl rfl⟩
    case other o => exact .inr ⟨o, rfl, strOfObj_crash h⟩
    all_goals repeat' split at h
    all_goals cases h
  · exfalso
    cases v <;> simp only [serializeBoolean, coerceBooleanFromFloat] at h
    all_goals repeat' split at h
    all_goals cases h
  · right
    refine ⟨Or.inr rfl, ?_⟩
    cases v <;> simp only [serializeID, coerceIdFromFloat] at h
    case int z => exact .inl ⟨z, strOfIntPy_crash h, .inl rfl⟩
    case float f =>
      repeat' split at h
      all_goals first | cases h | exact .inl ⟨_, strOfIntPy_crash h, .inr ⟨f, rfl, rfl⟩⟩
    case other o => exact .inr ⟨o, rfl, strOfObj_crash h⟩
    all_goals cases h

/-- C16-4. The enum coercer never raises anything but `GraphQLError`. -/
theorem enum_no_crash (e : EnumType) (v : PyVal) : ¬ (e.coerceOutputValue v).isCrash := by
  unfold EnumType.coerceOutputValue
  repeat' split
  all_goals simp [Out.isCrash]

/-! ### Non-vacuity: concrete inputs on every interesting branch -/

/-- a conversion table good enough for the examples below -/
def exConv : PyConv where
  intOfStr := fun s => if s = [49, 95, 48] then some 10 else none          -- int('1_0') = 10
  floatOfStr := fun s => if s = [49, 101, 52, 48, 48] then some (.inf false) else none  -- float('1e400') = inf
  floatOfInt := fun z => if z.natAbs ≤ 2 ^ 53 then some (PyFloat.ofInt z)
    else if z = 2 ^ 53 + 1 then some (.fin false 1 53) else none
  strOfFloat := fun _ => [48, 46, 53]
  strOfInt := fun z => if z = 7 then some [55] else none

-- Int: 2^31 refused, -2^31 kept, 1.5 refused, 3.0 = fin 3·2^0 kept as 3, '1_0' read as 10, True is 1
example : serializeInt exConv (.int (2 ^ 31)) = .err () ∧ serializeInt exConv (.int (-(2 ^ 31))) = .ok (.int (-(2 ^ 31)))
    ∧ serializeInt exConv (.float (.fin false 3 (-1))) = .err ()
    ∧ serializeInt exConv (.float (.fin false 3 0)) = .ok (.int 3)
    ∧ serializeInt exConv (.str [49, 95, 48]) = .ok (.int 10)
    ∧ serializeInt exConv (.bool true) = .ok (.int 1) := by
  repeat' apply And.intro
  all_goals first | rfl | decide
-- Float: 2^53+1 rounds to 2^53 and is refused (precision), '1e400' overflows to inf and is refused
example : serializeFloat exConv (.int (2 ^ 53 + 1)) = .err ()
    ∧ serializeFloat exConv (.int (2 ^ 53)) = .ok (.float (.fin false (2 ^ 53) 0))
    ∧ serializeFloat exConv (.str [49, 101, 52, 48, 48]) = .err ()
    ∧ serializeFloat exConv (.float .nan) = .err () := by
  repeat' apply And.intro
  all_goals first | rfl | decide
-- the hypotheses of `serialize_then_parse` hold for Float on `True`
example : Scalar.float.serialize exConv (.bool true) = .ok (.int 1) ∧
    Scalar.float.coerceValue exConv (.int 1) = .ok (.float (.fin false 1 0)) := by
  repeat' apply And.intro
  all_goals first | rfl | decide
-- enum with the `True`/`1`/`1.0` collision, a `None` value and an unhashable value
def exEnum : EnumType :=
  ⟨[([65], .int 1), ([66], .bool true), ([67], .none), ([68], .list [.int 1])]⟩
example : exEnum.coerceOutputValue (.bool true) = .ok (.str [65])
    ∧ exEnum.coerceOutputValue (.float (.fin false 1 0)) = .ok (.str [65])
    ∧ exEnum.coerceOutputValue (.str [67]) = .ok (.str [67])
    ∧ exEnum.coerceOutputValue (.list [.bool true]) = .ok (.str [68])
    ∧ exEnum.coerceOutputValue (.list []) = .err ()
    ∧ exEnum.coerceOutputValue (.int 2) = .err ()
    ∧ exEnum.names.Nodup := by
  repeat' apply And.intro
  all_goals first | rfl | decide
-- the crash sources exist: `str()` of an object whose `__str__` raises
example : serializeString exConv (.other ⟨0, false, none⟩) = .crash "Exception"
    ∧ serializeString exConv (.int 8) = .crash "ValueError" := by
  repeat' apply And.intro
  all_goals first | rfl | decide

end Gql.Props.C16
