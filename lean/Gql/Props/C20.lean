import Gql.Proofs.SchemaValidate
import Gql.Proofs.SchemaIff
import Gql.Proofs.SchemaDefaults
import Gql.Proofs.SchemaInterfaces
import Gql.Proofs.SchemaAssemble
import Gql.Proofs.SchemaDfs
import Gql.Proofs.SchemaDcThread
/-!
# C20 — Schema validation reports every type-system violation and never crashes

Property theorems only (lemmas: `Gql/Proofs/SchemaValidate.lean`, `SchemaIff.lean`, the
cycle validators over `SchemaGraph.lean`).
Model: `Gql.Types.validateSchema` (type/validate.py with type_comparators.py,
`validate_input_literal`, both circular-reference validators, the `_validation_errors` cache,
`graphql_impl`'s early return) over `Gql.Types.RawSchema`, for the code repaired by
`repo_patches/F6_default_value_non_input_type.diff`; `Gql.Types.Pinned.validateSchema` is the
pinned code.  Spec: `Gql.Types.Spec.TypeSystemValid` (Gql/Spec/TypeSystem.lean).

Status: everything is proved.  `validate_iff_spec` holds for every raw schema with well-formed
names (`NamesWF`: no `.` in a type name, input field names of a type pairwise different — what
`assert_name` and Python dicts guarantee for any constructed schema; a `decide`d example shows the
hypothesis is needed); the per-family statements about defaults / interfaces carry the side
conditions `WellTypedInputs` / `UnionsOk`, which the whole statement derives from either side.
-/
namespace Gql.Props.C20
open Gql Gql.Types

/-! ## never raises -/

/-- C20-1. `validate_schema` returns a list of errors for every raw schema: it never raises
(repaired code). -/
theorem validateSchema_no_crash (s : RawSchema) : ¬ (validateSchema s).isCrash := by
  obtain ⟨es, h⟩ := validateSchema_isOk s
  simp [h, Out.isCrash]

/-- C20-1, stronger form: the outcome is always `ok errs`. -/
theorem validateSchema_returns (s : RawSchema) : ∃ errs, validateSchema s = .ok errs :=
  validateSchema_isOk s

/-- `Query` = [81], `I` = [73], `g` = [103], `x` = [120], `f` = [102] -/
def witnessF6 : RawSchema :=
  ⟨some [81], none, none,
   [⟨[81], .object [] [⟨[103], .named [73], [⟨[120], .named [81], some (.int 1), false, false⟩], false⟩]⟩,
    ⟨[73], .scalar .int⟩], []⟩

/-- `input I { f: Query }  type Query { g(x: I = {f: 1}): Int }` (Int = [78]) -/
def witnessF6Nested : RawSchema :=
  ⟨some [81], none, none,
   [⟨[73], .input [⟨[102], .named [81], none, false, false⟩] false⟩,
    ⟨[81], .object [] [⟨[103], .named [78],
        [⟨[120], .named [73], some (.obj [([102], .int 1)]), false, false⟩], false⟩]⟩,
    ⟨[78], .scalar .int⟩], []⟩

/-- F6: on the pinned code the theorem is false — `type Query { g(x: Query = 1): I }` (and the
nested form, where the offending type sits behind an input object) make `validate_schema`
raise `TypeError` out of `assert_leaf_type`. -/
example : Pinned.validateSchema witnessF6 = .crash "TypeError" ∧
    Pinned.validateSchema witnessF6Nested = .crash "TypeError" := by decide +kernel

-- non-vacuity: on the repaired code the same schemas yield exactly the type-position error
example : validateSchema witnessF6 = .ok [⟨.notInputType, [81, 46, 103, 40, 120, 58, 41]⟩] ∧
    validateSchema witnessF6Nested = .ok [⟨.notInputType, [73, 46, 102]⟩] ∧
    Spec.TypeSystemValid witnessF6 = false := by decide +kernel

/-! ## errors = [] ⇔ the specification's rules, family by family -/

/- `WellTypedInputs s` (Gql/Proofs/SchemaDefaults.lean): every input object field has an input
type.  It is implied by either side of `validate_iff_spec`; the per-family statements that
involve default values need it, because the repaired validator *skips* a provided field of
non-input type while the specification's coercion simply fails there. -/

/-- C20-2 roots (full): no root error ⇔ query root present, every provided root an Object type,
all different. -/
theorem validate_iff_spec_roots (s : RawSchema) :
    validateRootTypes s = [] ↔ Spec.rootsOk s = true :=
  validateRootTypes_nil s

example : validateRootTypes ⟨some [81], some [81], none, [⟨[81], .object [] []⟩], []⟩
    = [⟨.rootsNotDistinct, [81]⟩] := by decide +kernel

/-- C20-2 names (full): `validate_name` reports exactly the names beginning with `__`. -/
theorem validate_iff_spec_names (n : Str) : validateName n = [] ↔ Spec.nameOk n = true :=
  validateName_nil n

example : validateName [95, 95, 97] ≠ [] ∧ validateName [95, 97, 95, 95] = [] := by decide +kernel

/-- C20-2 unions (full): no error ⇔ at least one member, members unique, all Object types. -/
theorem validate_iff_spec_unions (s : RawSchema) (un : Str) (ms : List Str) :
    validateUnion s un ms = [] ↔ (!ms.isEmpty && decide ms.Nodup && ms.all s.isObject) = true :=
  validateUnion_nil s un ms

example : validateUnion witnessF6 [85] [[81], [81], [73]] =
    [⟨.unionDup, [85, 124, 81]⟩, ⟨.unionNonObject, [85, 124, 73]⟩] := by decide +kernel

/-- C20-2 enums (full): no error ⇔ at least one value and no reserved value name. -/
theorem validate_iff_spec_enums (en : Str) (vs : List Str) :
    validateEnum en vs = [] ↔ (!vs.isEmpty && vs.all Spec.nameOk) = true :=
  validateEnum_nil en vs

example : validateEnum [69] [] = [⟨.enumEmpty, [69]⟩] := by decide +kernel

/-- C20-2 default values (full). In a schema whose input object fields all have input types:
at an input type, `validate_default_value` reports nothing exactly when the default (if any)
coerces to the declared type by the specification's input coercion rules — through Non-Null,
lists (incl. the list-of-one promotion), input objects (unknown / missing / repeated keys, OneOf),
enums and the built-in and custom scalars. -/
theorem validate_iff_spec_defaults (s : RawSchema) (hw : WellTypedInputs s) (a : InputValue)
    (c : Str) (hi : s.isInputType a.type = true) :
    validateDefault s a c = .ok [] ↔ Spec.defaultOk s a = true :=
  defaultsAgree s hw a c hi

/-- the literal level of the same family -/
theorem validate_iff_spec_defaults_literal (s : RawSchema) (hw : WellTypedInputs s) (v : Lit)
    (t : TRef) (hi : s.isInputType t = true) :
    vLit s true v t = .ok [] ↔ Spec.coercible s v t = true :=
  vLit_nil s hw v t hi

/-- Without `WellTypedInputs` the statement is false: `input I { f: Query }` with the default
`{f: 1}` at type `I` is skipped by the (repaired) validator and rejected by the specification's
coercion — the schema is invalid either way, through the input-fields family. -/
example : vLit witnessF6Nested true (.obj [([102], .int 1)]) (.named [73]) = .ok [] ∧
    Spec.coercible witnessF6Nested (.obj [([102], .int 1)]) (.named [73]) = false := by decide +kernel

example : scalarAccepts .int (Lit.shape (.int 2147483648)) = false ∧
    Spec.scalarCoerces .int (.int (-2147483648)) = true := by decide +kernel

/-- C20-2 fields (full): non-empty, no reserved field or argument name, output type in field
position, input type in argument position, no deprecated required argument, defaults coerce. -/
theorem validate_iff_spec_fields (s : RawSchema) (hw : WellTypedInputs s) (tn : Str)
    (fs : List Field) :
    validateFields s validateDefault tn fs = .ok [] ↔ Spec.fieldsOk s fs = true :=
  validateFields_nil s validateDefault (defaultsAgree s hw) tn fs

/-- C20-2 directives (full): names, at least one location, argument rules, defaults coerce. -/
theorem validate_iff_spec_directives (s : RawSchema) (hw : WellTypedInputs s) :
    validateDirectives s validateDefault = .ok [] ↔ s.directives.all (Spec.directiveOk s) = true :=
  validateDirectives_nil s validateDefault (defaultsAgree s hw)

/-- C20-2 input objects (full; cycles are separate families): non-empty, names, input types, no
deprecated required field, defaults coerce, OneOf fields nullable and without default. -/
theorem validate_iff_spec_inputs (s : RawSchema) (hw : WellTypedInputs s) (tn : Str)
    (fs : List InputValue) (o : Bool) :
    validateInputFields s validateDefault tn fs o = .ok [] ↔
      (!fs.isEmpty && fs.all (Spec.inputFieldOk s o)) = true :=
  validateInputFields_nil s validateDefault (defaultsAgree s hw) tn fs o

-- a concrete field list
example : validateFields witnessF6 validateDefault [81]
    [⟨[95, 95, 103], .named [73], [], false⟩] = .ok [⟨.reservedName, [95, 95, 103]⟩] := by decide +kernel

/-- C20-2 interfaces (full), in a schema whose union members are all Object types (`UnionsOk`,
what the unions family checks and either side of `validate_iff_spec` implies;
`is_type_sub_type_of` lets an interface listed in a union pass as a sub-type of the union).
No error ⇔ only interface types, each once, never itself, every transitive interface declared,
and IsValidImplementation for each: every field present with a covariant type
(`is_type_sub_type_of` = IsValidImplementationFieldType), every argument present with the same
type, additional arguments not required, no deprecated implementation of a non-deprecated field. -/
theorem validate_iff_spec_interfaces (s : RawSchema) (hu : UnionsOk s) (tn : Str)
    (ifaces : List Str) (fields : List Field) :
    validateInterfaces s tn ifaces fields = [] ↔ Spec.implementsOk s tn ifaces fields = true :=
  validateInterfaces_nil s hu tn ifaces fields

/-- the comparators on their own: `is_equal_type` is equality, `is_type_sub_type_of` is the
specification's covariance check -/
theorem type_comparators_eq_spec (s : RawSchema) (hu : UnionsOk s) (a b : TRef) :
    (isEqualType a b = true ↔ a = b) ∧
    isTypeSubTypeOf s a b = Spec.validImplementationFieldType s a b :=
  ⟨isEqualType_iff a b, isTypeSubTypeOf_eq s hu a b⟩

/-- `interface A {a}  interface B implements A {a}  type Q implements B {a}`: the missing
transitive interface is reported (A=[65], B=[66], Q=[81], a=[97], Int=[78]). -/
def witnessTransitive : RawSchema :=
  ⟨some [81], none, none,
   [⟨[65], .interface [] [⟨[97], .named [78], [], false⟩]⟩,
    ⟨[66], .interface [[65]] [⟨[97], .named [78], [], false⟩]⟩,
    ⟨[81], .object [[66]] [⟨[97], .named [78], [], false⟩]⟩,
    ⟨[78], .scalar .int⟩], []⟩

example : validateSchema witnessTransitive = .ok [⟨.missingTransitive, [81, 124, 65, 124, 66]⟩] ∧
    Spec.TypeSystemValid witnessTransitive = false := by decide +kernel

/-- C20-2 unbreakable input cycles (full). `InputObjectNonNullCircularRefsValidator`, run over
the type map in order with its visited set shared between the calls (`nnThread`), reports nothing
exactly when no input object type of the schema can reach itself through fields whose type is
Non-Null of an input object (not a list) — the specification's rule, whose bounded search is
proved to decide reachability (`noUnbreakableCycle_reach`). -/
theorem validate_iff_spec_inputCycles (s : RawSchema) :
    nnThread s s.types [] = [] ↔
      ∀ t ∈ s.types, ∀ fs o, t.defn = .input fs o → Spec.noUnbreakableCycle s t.name = true :=
  nnThread_iff s

/-- the specification's rule is about genuine reachability: its search bounded by the number of
types finds `tn` among what its unbreakable references reach iff a non-empty chain of unbreakable
references leads from `tn` back to `tn` -/
theorem noUnbreakableCycle_reach (s : RawSchema) (tn : Str) :
    Spec.noUnbreakableCycle s tn = true ↔ ¬ ReachPlus s tn tn :=
  noUnbreakableCycle_iff s tn

/-- every error of that validator names an input object that really reaches itself -/
theorem inputCycle_errors_sound (s : RawSchema) (e : Err) (h : e ∈ nnThread s s.types []) :
    e.kind = .nonNullCycle ∧ ReachPlus s e.subj e.subj ∧ s.isInputObject e.subj = true := by
  obtain ⟨hk, n, _, hl, rfl, hc⟩ := (nnThread_spec s s.types []).1 e h
  exact ⟨hk, reachPlus_iff.mpr hc, hl⟩

/-- `input A { b: B! }  input B { a: A! }` is reported once; `[B!]!` breaks the cycle. -/
def witnessCycle (viaList : Bool) : RawSchema :=
  ⟨some [81], none, none,
   [⟨[65], .input [⟨[98], if viaList then .nonNull (.list (.nonNull (.named [66]))) else .nonNull (.named [66]),
        none, false, false⟩] false⟩,
    ⟨[66], .input [⟨[97], .nonNull (.named [65]), none, false, false⟩] false⟩,
    ⟨[81], .object [] [⟨[97], .named [78], [], false⟩]⟩, ⟨[78], .scalar .int⟩], []⟩

example : validateSchema (witnessCycle false) = .ok [⟨.nonNullCycle, [65]⟩] ∧
    Spec.TypeSystemValid (witnessCycle false) = false ∧
    validateSchema (witnessCycle true) = .ok [] ∧ Spec.TypeSystemValid (witnessCycle true) = true := by
  decide +kernel

/-- C20-2 default-value cycles (full, for well-formed names).
`InputObjectDefaultValueCircularRefsValidator`, run over the type map with its visited fields
shared (`dcThread`), reports nothing exactly when the specification's
InputObjectDefaultValueHasCycle is false for every input object type.  Both are shown to decide
the same graph property (`defaultCycle_graph`): no field reached from the object — through the
fields whose own default applies when a default literal is coerced — reaches itself. -/
theorem validate_iff_spec_defaultCycles (s : RawSchema) (hwf : NamesWF s) :
    dcThread s s.types [] = [] ↔
      ∀ t ∈ s.types, ∀ fs o, t.defn = .input fs o → Spec.defaultValueHasCycle s t.name = false :=
  dcThread_iff s hwf

/-- the specification's algorithm (path-based, budgeted) is about genuine reachability -/
theorem defaultCycle_graph (s : RawSchema) (hwf : NamesWF s) (tn : Str) :
    Spec.defaultValueHasCycle s tn = true ↔ ∃ x ∈ needObject s tn [], ReachesCycle s x :=
  defaultValueHasCycle_iff s hwf tn

/-- C20-2 (whole, full). For every raw schema with well-formed names, `validate_schema` returns
the empty list exactly when the schema satisfies the specification's type-system rules: root
types, directives, reserved names, fields and arguments (input / output positions, deprecated
required arguments), default values, interface implementation (transitive interfaces, covariant
field types, invariant argument types, optional extra arguments, deprecation), unions, enums,
input objects incl. OneOf, unbreakable input cycles and default-value cycles. -/
theorem validate_iff_spec (s : RawSchema) (hwf : NamesWF s) :
    validateSchema s = .ok [] ↔ Spec.TypeSystemValid s = true :=
  validateSchema_iff_of_cycles s (nnThread_iff s) (dcThread_iff s hwf)

/-- `NamesWF` is needed: with two fields of the same name in one input object
(`input A { x: B = {}, x: A = {} }  input B { y: Int }`, impossible for a Python dict) the
validator, which keys its visited set on the coordinate `A.x`, skips the second field, whose
default `{}` at type `A` applies itself again. -/
def witnessDuplicateField : RawSchema :=
  ⟨some [81], none, none,
   [⟨[65], .input [⟨[120], .named [66], some (.obj []), false, false⟩,
                   ⟨[120], .named [65], some (.obj []), false, false⟩] false⟩,
    ⟨[66], .input [⟨[121], .named [78], none, false, false⟩] false⟩,
    ⟨[81], .object [] [⟨[97], .named [78], [], false⟩]⟩, ⟨[78], .scalar .int⟩], []⟩

example : validateSchema witnessDuplicateField = .ok [] ∧
    Spec.TypeSystemValid witnessDuplicateField = false := by decide +kernel

-- default-value cycles on concrete schemas: `input A { b: B = {} }  input B { a: A = {} }`
def witnessDefaultCycle (broken : Bool) : RawSchema :=
  ⟨some [81], none, none,
   [⟨[65], .input [⟨[98], .named [66], some (if broken then .obj [([97], .null)] else .obj []), false, false⟩] false⟩,
    ⟨[66], .input [⟨[97], .named [65], some (.obj []), false, false⟩] false⟩,
    ⟨[81], .object [] [⟨[97], .named [78], [], false⟩]⟩, ⟨[78], .scalar .int⟩], []⟩

example : validateSchema (witnessDefaultCycle false) = .ok [⟨.defaultCycle, [65, 46, 98]⟩] ∧
    Spec.TypeSystemValid (witnessDefaultCycle false) = false ∧
    validateSchema (witnessDefaultCycle true) = .ok [] ∧
    Spec.TypeSystemValid (witnessDefaultCycle true) = true := by decide +kernel

/-- A gap of the transcribed specification revision, not of the proof: `input A @oneOf { a: A }`
satisfies every transcribed rule (and `validate_schema` reports nothing), yet `A` has no finite
value — exactly one field of a OneOf object must be non-null.  `Spec.uninhabited` (newer
specification text, deliberately not part of `TypeSystemValid`) is the check's oracle for it. -/
def witnessOneOfCycle : RawSchema :=
  ⟨some [81], none, none,
   [⟨[65], .input [⟨[97], .named [65], none, false, false⟩] true⟩,
    ⟨[81], .object [] [⟨[102], .named [78], [⟨[97], .named [65], none, false, false⟩], false⟩]⟩,
    ⟨[78], .scalar .int⟩], []⟩

example : validateSchema witnessOneOfCycle = .ok [] ∧ Spec.TypeSystemValid witnessOneOfCycle = true ∧
    Spec.uninhabited witnessOneOfCycle = [[65]] ∧ Spec.uninhabited (witnessCycle true) = [] := by decide +kernel

/-! ## termination of the circular-reference validators -/

/-- C20-3 (full). Neither circular-reference validator ever exhausts its recursion budget, on
any raw schema: every nested call of `InputObjectNonNullCircularRefsValidator` marks a type of the
schema visited for the first time (`nnFuel s = |types| + 1`), every nested call of
`InputObjectDefaultValueCircularRefsValidator.detect_field_default_value_cycle` a field coordinate
(`dcFuel s` = number of input fields + 1); the traversal of default literals in between is
structural. -/
theorem cycle_validators_terminate (s : RawSchema) : validateSchemaOutOfFuel s = false :=
  validateSchemaOutOfFuel_false s

/-- C20-3, per validator and for any start type and any memory. -/
theorem cycle_validators_terminate_each (s : RawSchema) (tn : Str) (st : VState)
    (h : st.outOfFuel = false) :
    (runNN s tn st).2.outOfFuel = false ∧ (runDC s tn st).2.outOfFuel = false :=
  ⟨runNN_terminates s tn st h, runDC_terminates s tn st h⟩

example : validateSchemaOutOfFuel (witnessCycle false) = false ∧
    validateSchemaOutOfFuel witnessF6Nested = false := by decide +kernel

/-! ## a request against an invalid schema -/

/-- C20-4. When the schema is invalid, `graphql_impl` returns exactly the schema's validation
errors (`data=None`) whatever parsing / validation / execution would have done: the rest of
the pipeline is not consulted. -/
theorem invalid_schema_response {ρ : Type} (s : RawSchema) (errs : List Err)
    (h : validateSchema s = .ok errs) (hne : errs ≠ []) (rest : Unit → Out Unit ρ) :
    graphqlImpl s rest = .ok (.schemaErrors errs) := by
  unfold graphqlImpl
  rw [h]
  cases errs with
  | nil => exact absurd rfl hne
  | cons e es => rfl

/-- C20-4b. `graphql_impl` never raises because of the schema: it raises only if the rest of the
pipeline does (and then the schema was valid). -/
theorem graphqlImpl_no_crash {ρ : Type} (s : RawSchema) (rest : Unit → Out Unit ρ)
    (hrest : ¬ (rest ()).isCrash) : ¬ (graphqlImpl s rest).isCrash := by
  obtain ⟨errs, h⟩ := validateSchema_isOk s
  unfold graphqlImpl
  rw [h]
  cases errs with
  | nil =>
    cases hr : rest () with
    | ok a => simp [Out.mapOk, Out.isCrash]
    | err u => simp [Out.mapOk, Out.isCrash]
    | crash c => simp [hr, Out.isCrash] at hrest
  | cons e es => simp [Out.isCrash]

example : graphqlImpl witnessF6 (fun _ => (Out.crash "would have executed" : Out Unit Nat)) =
    .ok (.schemaErrors [⟨.notInputType, [81, 46, 103, 40, 120, 58, 41]⟩]) :=
  invalid_schema_response witnessF6 _ (by decide +kernel) (by decide +kernel) _

/-- C20-5. The cache: a second `validate_schema` call returns the first call's list. -/
theorem validate_cached_same (s : RawSchema) :
    (validateSchemaCached s (validateSchemaCached s none).2).1 = (validateSchemaCached s none).1 := by
  obtain ⟨errs, h⟩ := validateSchema_isOk s
  simp [validateSchemaCached, h]

end Gql.Props.C20
