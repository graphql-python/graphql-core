import Gql.Proofs.Parallel
import Gql.Proofs.AstKeysComplete
import Gql.Proofs.SpecBound
import Gql.Proofs.VisitorEdit
/-!
# C11 — AST traversal visits every node once, in order, and edits without mutating

Property theorems only (lemmas: `Gql/Proofs/Visitor.lean` equations of the machine and of the contract,
`VisitorEdit.lean` simulation of the contract by the stack machine (no-crash included), `EditApply.lean` edits vs
documented effect, `SpecTotal.lean`, `SpecKeep.lean`, `SpecBound.lean`, `Parallel.lean` facts about the contract,
`AstKeysComplete.lean` generated table).

Model: `Gql.Syntax.visitFuel root vk v s fuel` — `visit(root, visitor, visitor_keys)` as the
iterative stack machine of visitor.py (after repairs F5, F9, F10), run for at most `fuel` loop
iterations; `Gql.Syntax.parallel` — `ParallelVisitor`.  Visitors are arbitrary state-passing
functions returning idle / skip / break / remove / replace-by-a-node.
Contract: `Gql.Syntax.Spec.specVisit vk v d root s` — enter a node, then its children in key order,
then leave it, with the documented meaning of each return value (`d` bounds the nesting depth: a
visitor may replace a node by an arbitrarily deep one, so the traversal of an *editing* visitor need
not terminate — neither in Python nor here).
-/
namespace Gql.Props.C11
open Gql Gql.Syntax Gql.Syntax.Spec Gql.Generated

variable {σ : Type}

/-- `{ a: b }` as parsed: document › operation_definition › selection_set › field › alias, name -/
def exDoc : Node :=
  .mk "document" 1 "_" [("definitions", .many [
    .mk "operation_definition" 2 "q" [("description", .absent), ("name", .absent), ("variable_definitions", .absent),
      ("directives", .absent), ("selection_set", .one (
        .mk "selection_set" 3 "_" [("selections", .many [
          .mk "field" 4 "_" [("alias", .one (.mk "name" 5 "a" [])), ("name", .one (.mk "name" 6 "b" [])),
            ("arguments", .absent), ("directives", .absent), ("selection_set", .absent)]])]))]])]

/-- a visitor that records `(serial, entering?)` of every call and answers `act serial entering?` -/
def scriptV (act : Nat → Bool → Action) : Visitor (List (Nat × Bool)) := fun log c =>
  let e := decide (c.phase = .enter)
  (act c.node.serial e, log ++ [(c.node.serial, e)])

/-- observable summary of a run: `none` = still running -/
def summary : Option (O (Option Val × List (Nat × Bool))) → Option (String × List (Nat × Bool))
  | none => none
  | some (.crash c) => some ("crash " ++ c, [])
  | some (.err _) => some ("err", [])
  | some (.ok (none, l)) => some ("None", l)
  | some (.ok (some (.node n), l)) => some ("node " ++ toString n.serial, l)
  | some (.ok (some (.arr _), l)) => some ("tuple", l)

/-- C11-1 `visit_no_crash`. For every tree, every `visitor_keys` map, every visitor (any mixture of
idle / skip / break / remove / replace on enter and on leave — on the root as well), and any
number of loop iterations: `visit` is either still running or has returned; it never raises. -/
theorem visit_no_crash (root : Node) (vk : String → List String) (v : Visitor σ) (s : σ) (fuel : Nat) :
    visitFuel root vk v s fuel = none ∨ ∃ r s', visitFuel root vk v s fuel = some (.ok (r, s')) := by
  -- read at nesting bound `fuel`, the contract is undefined only if the machine is still running after `fuel`
  -- iterations, and a machine that follows a defined contract to its end has raised nothing on the way
  have h := sim_root root vk v s fuel
  unfold visitFuel
  generalize specNode vk v fuel ⟨s, 0, false⟩ root .none none [] [] = x at h
  rcases x with _ | res
  · obtain ⟨T', hT⟩ := h
    rw [hT]; exact Or.inl rfl
  · obtain ⟨r, hrun, -⟩ := h
    rcases Nat.le_total fuel res.w.iters with hle | hle
    · obtain ⟨b, hb⟩ := Nat.exists_eq_add_of_le hle
      rcases iter_prefix (hb ▸ hrun) with ⟨T', hT⟩ | hT <;> rw [hT]
      · exact Or.inl rfl
      · exact Or.inr ⟨r, _, rfl⟩
    · rw [iter_stop_le hrun hle]; exact Or.inr ⟨r, _, rfl⟩

-- before repair F5 (`pinnedF5 := true`): SKIP / REMOVE from `enter` on the root is `path.pop()` on `[]`
example : summary (visitFuel exDoc keysFor (scriptV fun n e => if n = 1 ∧ e then .skip else .idle) [] 5 (pinnedF5 := true))
    = some ("crash IndexError", []) := by decide +kernel
example : summary (visitFuel exDoc keysFor (scriptV fun n e => if n = 1 ∧ e then .remove else .idle) [] 5 (pinnedF5 := true))
    = some ("crash IndexError", []) := by decide +kernel
-- the repaired code: the tree comes back unchanged / `None`
example : summary (visitFuel exDoc keysFor (scriptV fun n e => if n = 1 ∧ e then .skip else .idle) [] 5)
    = some ("node 1", [(1, true)]) := by decide +kernel
example : summary (visitFuel exDoc keysFor (scriptV fun n e => if n = 1 ∧ e then .remove else .idle) [] 5)
    = some ("None", [(1, true)]) := by decide +kernel
example : summary (visitFuel exDoc keysFor (scriptV fun n e => if n = 1 ∧ !e then .remove else .idle) [] 40)
    = some ("None", [(1, true), (2, true), (3, true), (4, true), (5, true), (5, false), (6, true), (6, false),
        (4, false), (3, false), (2, false), (1, false)]) := by decide +kernel

/-- C11-2 for visitors that never edit: the instance of `visit_eq_spec` below (for such a visitor
the value returned is the root itself, see `identity`).
Whenever the documented traversal is defined (`specVisit … = some out`; it always is, see
`spec_defined`), `visit` performs exactly its calls — `out.state` is the state of the visitor
after the documented call sequence `enter node, children in key order, leave node` with the
documented `(node, key, parent, path, ancestors)` arguments, cut short by skip and break as
documented —, needs exactly `out.iters` loop iterations, and returns what the contract demands. -/
theorem visit_eq_spec_partial (vk : String → List String) (v : Visitor σ) (hv : NonEditing v) (d : Nat)
    (root : Node) (s : σ) (out : Outcome σ) (h : specVisit vk v d root s = some out) :
    ∀ fuel, out.iters ≤ fuel →
      ∃ r, visitFuel root vk v s fuel = some (.ok (r, out.state)) ∧ ∀ x, out.result = some x → r = x :=
  visit_of_spec_full d root s out h

/-- the contract is defined for every tree when the visitor does not edit (nesting ≤ size) -/
theorem spec_defined (vk : String → List String) (v : Visitor σ) (hv : NonEditing v) (root : Node) (s : σ) :
    ∃ out, specVisit vk v (root.size + 1) root s = some out :=
  spec_terminates hv root s (root.size + 1) (Nat.lt_succ_self _)

/-- full statement of C11-2 (editing visitors included): wherever the contract is defined, `visit`
terminates within the contract's iteration count, makes the same calls (same final visitor state)
and returns the documented value. -/
def visit_eq_spec_full : Prop :=
  ∀ (σ : Type) (vk : String → List String) (v : Visitor σ) (d : Nat) (root : Node) (s : σ) (out : Outcome σ),
    specVisit vk v d root s = some out →
    ∀ fuel, out.iters ≤ fuel →
      ∃ r, visitFuel root vk v s fuel = some (.ok (r, out.state)) ∧ ∀ x, out.result = some x → r = x

/-- C11-2 `visit_eq_spec`, proved in full: for **every** visitor — idle / skip / break / remove /
replace on enter and on leave, root included — the stack machine refines the documented
recursion.  The per-level `edits` lists of the machine are related to the documented effect per
position (`SlotEdits`, `ArrEdits`, `FieldEdits` in `Proofs/EditApply.lean`): applying them with
the running index offset (`applyArr`) resp. attribute by attribute (`applyNode`) yields exactly
the tuple / node the contract rebuilds, bottom-up.  The one undocumented case (BREAK after an
edit) is exactly where `out.result = none` leaves the returned value free. -/
theorem visit_eq_spec : visit_eq_spec_full := by
  intro σ vk v d root s out h
  exact visit_of_spec_full d root s out h

/-- each reachable node is entered exactly once in document order and left after its children:
the contract's call sequence for the visitor that never interferes is the pre/post-order walk.
(Concrete instance; the general shape is the definition of `Spec.specNode` itself.) -/
example : (specVisit keysFor (scriptV fun _ _ => .idle) 10 exDoc []).map (·.state) =
    some [(1, true), (2, true), (3, true), (4, true), (5, true), (5, false), (6, true), (6, false),
      (4, false), (3, false), (2, false), (1, false)] := by decide +kernel
-- hypotheses of `visit_eq_spec_partial` are met by a non-trivial visitor (skip the field, break on leaving 3)
example : NonEditing (scriptV fun n e => if n = 4 ∧ e then .skip else if n = 3 ∧ !e then .brk else .idle) := by
  intro s c
  simp only [scriptV]
  split
  · rfl
  · split <;> rfl
example : summary (visitFuel exDoc keysFor
      (scriptV fun n e => if n = 4 ∧ e then .skip else if n = 3 ∧ !e then .brk else .idle) [] 12)
    = some ("node 1", [(1, true), (2, true), (3, true), (4, true), (3, false)]) := by decide +kernel

/-- C11-3 `identity`. A visitor that edits nothing gets the identical tree object back (same
allocation serial, same structure), whatever it skips or wherever it breaks; and this happens within
`out.iters ≤ …` iterations (termination).  `input_unchanged` holds by construction in the model
(values are immutable) and is checked on the frozen dataclasses by the correspondence run. -/
theorem identity (vk : String → List String) (v : Visitor σ) (hv : NonEditing v) (root : Node) (s : σ) :
    ∃ n s', ∀ fuel, n ≤ fuel → visitFuel root vk v s fuel = some (.ok (some (.node root), s')) := by
  obtain ⟨out, -, h⟩ := visit_nonEditing vk hv root s
  exact ⟨out.iters, out.state, h⟩

/-- C11-2/3 termination bound. On a tree whose nodes carry exactly the attributes `visitor_keys`
lists for their kind (`Node.keyed`, what the serialiser of the harness produces and what
`keys_complete` guarantees for real ASTs), a non-editing traversal is over after at most
`2 * size` iterations of the `while True:` loop (`size` = nodes + tuples + absent attributes), with
the identical root as result. -/
theorem visit_fuel_bound (vk : String → List String) (v : Visitor σ) (hv : NonEditing v) (root : Node)
    (hk : root.keyed vk = true) (s : σ) :
    ∃ s', visitFuel root vk v s (2 * root.size) = some (.ok (some (.node root), s')) := by
  obtain ⟨out, h, h3⟩ := visit_nonEditing vk hv root s
  exact ⟨out.state, h3 _ (spec_iters_bound hv _ root hk s out h)⟩

example : exDoc.keyed keysFor = true ∧ exDoc.size = 15 := by decide +kernel
-- the bound is not slack by more than the absent slots: 23 of the 30 allowed iterations are used
example : summary (visitFuel exDoc keysFor (scriptV fun _ _ => .idle) [] 22) = none := by decide +kernel

example : summary (visitFuel exDoc keysFor (scriptV fun _ _ => .idle) [] 23) =
    some ("node 1", [(1, true), (2, true), (3, true), (4, true), (5, true), (5, false), (6, true), (6, false),
      (4, false), (3, false), (2, false), (1, false)]) := by decide +kernel

/-- C11-4 `edit_semantics`, full statement: the effect of skip / break / remove / replace is the
one `Spec.specNode` spells out —
* `specItems`: a removed tuple item disappears, a replaced one is replaced in place, later items
  keep their relative order (the machine's index offset);
* `specKeys`: a removed single-valued child becomes `absent` (`None`), a replaced one the new
  node, an edited tuple the rebuilt tuple;
* `specBody`: a node any of whose children changed is handed to `leave` (and recorded) as a fresh
  copy `Node.mk kind 0 payload (withFields …)`; the original is never touched;
* `specNode`: a replacement returned by `enter` is traversed instead of the original and is what
  `leave` receives; `leave` may remove or replace again; `leave` answering SKIP is "no action";
* `specVisit`: the value returned is the root, `None` (root removed) or the node now standing for
  the root — never a sentinel or a tuple. -/
def edit_semantics_full : Prop := visit_eq_spec_full

/-- C11-4 `edit_semantics`, proved: it is `visit_eq_spec` read on the result component. -/
theorem edit_semantics : edit_semantics_full := visit_eq_spec

/-- wherever the contract determines the returned value it is `None` or a node -/
theorem result_only_nodes (vk : String → List String) (v : Visitor σ) (d : Nat) (root : Node) (s : σ)
    (out : Outcome σ) (h : specVisit vk v d root s = some out) (x : Option Val) (hx : out.result = some x) :
    x = none ∨ ∃ n, x = some (.node n) := by
  obtain ⟨res, -, rfl⟩ := specVisit_out h
  exact resultOf_node hx

/-- `{ a: b }` with the alias removed: the rebuilt field has no alias (`absent`), all rebuilt
nodes are fresh objects (serial 0), untouched nodes keep their identity -/
def exDocNoAlias : Node :=
  .mk "document" 0 "_" [("definitions", .many [
    .mk "operation_definition" 0 "q" [("description", .absent), ("name", .absent), ("variable_definitions", .absent),
      ("directives", .absent), ("selection_set", .one (
        .mk "selection_set" 0 "_" [("selections", .many [
          .mk "field" 0 "_" [("alias", .absent), ("name", .one (.mk "name" 6 "b" [])),
            ("arguments", .absent), ("directives", .absent), ("selection_set", .absent)]])]))]])]

def resultIs (r : Option (O (Option Val × List (Nat × Bool)))) (expected : Node) : Bool :=
  match r with
  | some (.ok (some (.node n), _)) => n.beq expected
  | _ => false

-- F9 (repaired): REMOVE for a single-valued child makes it absent in the rebuilt parent
example : resultIs (visitFuel exDoc keysFor (scriptV fun n e => if n = 5 ∧ e then .remove else .idle) [] 40)
    exDocNoAlias = true := by decide +kernel
-- F10 (repaired): `leave` answering SKIP on the parent ("no action") does not drop that edit
example : resultIs (visitFuel exDoc keysFor
      (scriptV fun n e => if n = 5 ∧ e then .remove else if n = 4 ∧ !e then .skip else .idle) [] 40)
    exDocNoAlias = true := by decide +kernel
-- and the contract says the same
example : (specVisit keysFor (scriptV fun n e => if n = 5 ∧ e then .remove else if n = 4 ∧ !e then .skip else .idle)
      10 exDoc []).map (fun o => match o.result with | some (some (.node n)) => n.beq exDocNoAlias | _ => false)
    = some true := by decide +kernel

/-- `{ a b c }`-like selection set with three fields (serials 11, 12, 13) -/
def exSel : Node :=
  .mk "selection_set" 10 "_" [("selections", .many [
    .mk "field" 11 "a" [("alias", .absent), ("name", .absent), ("arguments", .absent), ("directives", .absent), ("selection_set", .absent)],
    .mk "field" 12 "b" [("alias", .absent), ("name", .absent), ("arguments", .absent), ("directives", .absent), ("selection_set", .absent)],
    .mk "field" 13 "c" [("alias", .absent), ("name", .absent), ("arguments", .absent), ("directives", .absent), ("selection_set", .absent)]])]

def resultSerials (r : Option (O (Option Val × List (Nat × Bool)))) : Option (List Nat) :=
  match r with
  | some (.ok (some (.node n), _)) => some n.serials
  | _ => none

-- two removals in one tuple (index offset): items 11 (on enter) and 13 (on leave) go, 12 stays
example : resultSerials (visitFuel exSel keysFor
      (scriptV fun n e => if (n = 11 ∧ e) ∨ (n = 13 ∧ !e) then .remove else .idle) [] 60) = some [0, 12] := by decide +kernel
-- replacement on enter is traversed instead of the original, and is what `leave` receives:
-- field 12 is replaced by a field (serial 20) with a name child (serial 21)
example : summary (visitFuel exSel keysFor
      (scriptV fun n e => if n = 12 ∧ e then
        .replace (.mk "field" 20 "x" [("alias", .absent), ("name", .one (.mk "name" 21 "n" [])), ("arguments", .absent),
          ("directives", .absent), ("selection_set", .absent)]) else .idle) [] 60) =
    some ("node 0", [(10, true), (11, true), (11, false), (12, true), (21, true), (21, false), (20, false),
      (13, true), (13, false), (0, false)]) := by decide +kernel
-- replacement on leave
example : resultSerials (visitFuel exSel keysFor
      (scriptV fun n e => if n = 12 ∧ !e then .replace (.mk "field" 20 "x" []) else .idle) [] 60) =
    some [0, 11, 20, 13] := by decide +kernel

/-- C11-5 `parallel_alone`. In `ParallelVisitor(vs)` with non-editing members, member `i` ends in
exactly the state it reaches when it visits the tree alone — i.e. it has seen the same sequence
of calls with the same arguments —, whichever members skip or break where. (`root.idsOK`: no
node carries the serial of one of its descendants — true of any tree of Python objects.) -/
theorem parallel_alone (vk : String → List String) (vs : List (Visitor σ)) (hvs : ∀ v ∈ vs, NonEditing v)
    (ss : List σ) (i : Nat) (v : Visitor σ) (s : σ) (hv : vs[i]? = some v) (hs : ss[i]? = some s)
    (root : Node) (hok : root.idsOK = true) :
    ∃ n ps s', ∀ fuel, n ≤ fuel →
      visitFuel root vk (parallel vs) (parallelInit ss) fuel = some (.ok (some (.node root), ps)) ∧
      visitFuel root vk v s fuel = some (.ok (some (.node root), s')) ∧
      (ps[i]?).map Prod.fst = some s' := by
  have hV : NonEditing (parallel vs) := (parallel_alwaysIdle vs hvs).nonEditing
  have hvi : NonEditing v := hvs v (List.mem_of_getElem? hv)
  obtain ⟨P, hP, hP3⟩ := visit_nonEditing vk hV root (parallelInit ss)
  obtain ⟨a, ha, ha3⟩ := visit_nonEditing vk hvi root s
  exact ⟨max P.iters a.iters, P.state, a.state, fun fuel hf => ⟨hP3 fuel (by omega), ha3 fuel (by omega),
    parallel_alone_spec vs hvs ss i v s hv hs root hok _ P a hP ha⟩⟩

/-- wrapping a single non-editing visitor in a `ParallelVisitor` changes nothing -/
theorem parallel_singleton (vk : String → List String) (v : Visitor σ) (hv : NonEditing v) (s : σ)
    (root : Node) (hok : root.idsOK = true) :
    ∃ n ps s', ∀ fuel, n ≤ fuel →
      visitFuel root vk (parallel [v]) (parallelInit [s]) fuel = some (.ok (some (.node root), ps)) ∧
      visitFuel root vk v s fuel = some (.ok (some (.node root), s')) ∧
      (ps[0]?).map Prod.fst = some s' :=
  parallel_alone vk [v] (by intro v' hv'; simp at hv'; subst hv'; exact hv) [s] 0 v s rfl rfl root hok

example : exDoc.idsOK = true := by decide +kernel
-- member 0 skips the field, member 1 breaks when leaving the alias, member 2 watches
example :
    (match visitFuel exDoc keysFor (parallel [scriptV fun n e => if n = 4 ∧ e then .skip else .idle,
          scriptV fun n e => if n = 5 ∧ !e then .brk else .idle, scriptV fun _ _ => .idle])
        (parallelInit [[], [], []]) 40 with
      | some (.ok (_, ps)) => ps.map Prod.fst
      | _ => []) =
    [[(1, true), (2, true), (3, true), (4, true), (3, false), (2, false), (1, false)],
     [(1, true), (2, true), (3, true), (4, true), (5, true), (5, false)],
     [(1, true), (2, true), (3, true), (4, true), (5, true), (5, false), (6, true), (6, false),
      (4, false), (3, false), (2, false), (1, false)]] := by decide +kernel

/-- C11-6 `keys_complete` (generated table, re-proved on every change of ast.py): for every
concrete node class a dataclass field is node-valued (node / tuple of nodes, optional or not) iff
`QUERY_DOCUMENT_KEYS` lists it for the class's kind; the table has an entry only for kinds of
concrete classes, no kind twice and no key twice. -/
theorem keys_complete :
    classesCovered = true ∧ tableTight = true ∧ (queryDocumentKeys.map Prod.fst).Nodup :=
  astKeys_complete

example : keysFor "field" = ["alias", "name", "arguments", "directives", "selection_set"] := by decide +kernel

end Gql.Props.C11
