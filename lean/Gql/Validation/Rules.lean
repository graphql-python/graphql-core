import Gql.Validation.Framework
/-!
C12 — the *document-only* concrete rules of graphql-core (validation/rules/*.py), as visitors of the
framework model (`Gql.Validation.Rule`): LoneAnonymousOperation, UniqueOperationNames, UniqueFragmentNames,
UniqueVariableNames, UniqueArgumentNames, UniqueInputFieldNames, KnownFragmentNames, NoUnusedFragments,
NoFragmentCycles, NoUndefinedVariables, NoUnusedVariables, and the context getters they call
(validation_context.py: `get_fragment`, `get_fragment_spreads`, `get_recursively_referenced_fragments`,
`get_variable_usages`, `get_recursive_variable_usages`).

How a rule sees the document.  The framework hands a rule only `Info` (object identity + kind); a Python rule
receives the node object and reads its attributes.  Here the rule is a closure over the annotated document
`ATree` (every node: identity, kind, the name of the parent attribute it hangs under, the `.value` of a `NameNode`,
children along the traversal keys of `validate()`), and `doc.find i.id` is "the node object".  `ATree.erase` is the
tree the framework traverses.

What is mirrored: which `enter_*`/`leave_*` methods exist (`hEnter`/`hLeave`), what each returns (`None` = `idle`,
`SKIP` = `skip`; no rule returns BREAK or edits), the private attributes (`RS`), the order in which errors are
reported and the nodes each error carries (`RErr.nodes`, in the order of `GraphQLError.nodes`), the name quoted in
the message.  Message wording is not modelled.

Crash convention.  A required attribute that is missing (`node.name` of a fragment definition, …) is an
`AttributeError` in Python; the framework's rule type has no crash channel, so the rule reports the marker
`RErr.crash rule` at that point and goes on idle.  The parser never produces such nodes (`ATree.wf`), and
`rules_no_crash_marker` (Props/C12) is checked on every generated document by the driver.

The caches of the context are modelled by `Gql.Validation.Context`; with the call pattern of these rules
(`get_variable_usages` only on fragments) every getter returns what recomputation returns (`memo_pure_partial`), so
the getters below are the recomputations.
-/
namespace Gql.Validation.Rules
open Gql.Validation

/-- A node of the document with what the rules read of it.  `field`: the attribute of the parent this node hangs
under (`"definitions"`, `"name"`, `"alias"`, `"arguments"`, …; `""` for the root).  `value`: `NameNode.value`
(`""` for other kinds). -/
inductive ATree where
  | node (info : Info) (field : String) (value : String) (children : List ATree)
  deriving Repr, Inhabited

namespace ATree
def info : ATree → Info
  | node i _ _ _ => i
def field : ATree → String
  | node _ f _ _ => f
def value : ATree → String
  | node _ _ v _ => v
def children : ATree → List ATree
  | node _ _ _ cs => cs
def id (t : ATree) : Nat := t.info.id
def kind (t : ATree) : String := t.info.kind

mutual
  def size : ATree → Nat
    | node _ _ _ cs => 1 + sizeList cs
  def sizeList : List ATree → Nat
    | [] => 0
    | t :: ts => size t + sizeList ts
end

mutual
  /-- The tree `visit()` traverses. -/
  def erase : ATree → Tree
    | node i _ _ cs => .node i (eraseList cs)
  def eraseList : List ATree → List Tree
    | [] => []
    | t :: ts => erase t :: eraseList ts
end

mutual
  /-- The node object with identity `n` (first in preorder; identities are unique: `uniqueIds`). -/
  def find : ATree → Nat → Option ATree
    | node i f v cs, n => if i.id = n then some (node i f v cs) else findList cs n
  def findList : List ATree → Nat → Option ATree
    | [], _ => none
    | t :: ts, n =>
      match find t n with
      | some r => some r
      | none => findList ts n
end

mutual
  def ids : ATree → List Nat
    | node i _ _ cs => i.id :: idsList cs
  def idsList : List ATree → List Nat
    | [] => []
    | t :: ts => ids t ++ idsList ts
end

/-- Python object identity: no two nodes of the document are the same object. -/
def uniqueIds (t : ATree) : Prop := t.ids.Nodup

/-- `node.<f>` for a tuple-valued attribute (absent / `None` / empty tuple all give `[]`; the rules always write
`node.<f> or ()`). -/
def kids (t : ATree) (f : String) : List ATree := t.children.filter (fun c => c.field == f)

/-- `node.<f>` for a node-valued attribute (`none` = `None`). -/
def kid (t : ATree) (f : String) : Option ATree := (t.kids f).head?

/-- `node.name.value` (`none`: `node.name` is `None`). -/
def nameValue (t : ATree) : Option String := (t.kid "name").map (fun n => n.value)
end ATree

/-- One reported `GraphQLError`: the reporting rule, the name quoted in its message (`""` if none), the identities
of `error.nodes` in order. -/
structure RErr where
  rule : String
  name : String
  nodes : List Nat
  deriving DecidableEq, Repr

/-- Marker for "Python raises `AttributeError`/`IndexError` here" (see the file header). -/
def RErr.crash (rule : String) : RErr := ⟨rule, "<crash>", []⟩

def RErr.isCrash (e : RErr) : Bool := e.name == "<crash>"

/-- The private attributes of the rules (each rule uses its own; one record so that rule lists are homogeneous). -/
structure RS where
  /-- `LoneAnonymousOperationRule.operation_count` -/
  count : Nat := 0
  /-- `known_operation_names` / `known_fragment_names` / `known_names`: name ↦ `NameNode` (insertion order) -/
  known : List (String × Nat) := []
  /-- `UniqueInputFieldNamesRule.known_names_stack` (head = top) -/
  stack : List (List (String × Nat)) := []
  /-- `NoUnusedFragmentsRule.operation_defs` -/
  ops : List ATree := []
  /-- `NoUnusedFragmentsRule.fragment_defs` -/
  frags : List ATree := []
  /-- `NoFragmentCyclesRule.visited_frags` -/
  visited : List String := []
  /-- `NoUndefinedVariablesRule.defined_variable_names` -/
  defined : List String := []
  deriving Inhabited

def RS.init : RS := {}

def lookupName (k : String) : List (String × Nat) → Option Nat
  | [] => none
  | (k', v) :: rest => if k' = k then some v else lookupName k rest

/-! ## The context getters -/

/-- the `FragmentDefinitionNode`s of `document.definitions` -/
def fragDefs (doc : ATree) : List ATree :=
  (doc.kids "definitions").filter (fun d => d.kind == "fragment_definition")

def opDefs (doc : ATree) : List ATree :=
  (doc.kids "definitions").filter (fun d => d.kind == "operation_definition")

/-- `context.get_fragment(name)`: the dict comprehension keeps the *last* definition of a name. -/
def getFragment (doc : ATree) (name : String) : Option ATree :=
  (fragDefs doc).reverse.find? (fun f => f.nameValue == some name)

/-- the `while sets_to_visit:` loop of `get_fragment_spreads`: `stack` (head = top = end of the Python list),
`acc` = `spreads`.  One selection set is popped per round; fuel = number of nodes in the stack (proved sufficient:
`spreads_fuel_enough` in Proofs/RulesSpreads.lean). -/
def spreadsLoop : Nat → List ATree → List ATree → List ATree × Bool
  | 0, [], acc => (acc, false)
  | 0, _ :: _, acc => (acc, true)
  | _ + 1, [], acc => (acc, false)
  | fuel + 1, s :: stack, acc =>
    let sels := s.kids "selections"
    let direct := sels.filter (fun x => x.kind == "fragment_spread")
    -- `append_set` in selection order; the last appended is popped first
    let pushed := (sels.filter (fun x => x.kind != "fragment_spread")).filterMap (fun x => x.kid "selection_set")
    spreadsLoop fuel (pushed.reverse ++ stack) (acc ++ direct)

/-- `context.get_fragment_spreads(selection_set)`; the flag says the fuel ran out (never: `spreads_fuel_enough`). -/
def getSpreads (selSet : ATree) : List ATree × Bool := spreadsLoop selSet.size [selSet] []

/-- the `for spread in get_fragment_spreads(visited_node)` loop of `get_recursively_referenced_fragments`:
returns (collected names, fragments appended, selection sets appended, fuel flag). -/
def refsInner (doc : ATree) : List ATree → List String → List ATree → List ATree → List String × List ATree × List ATree
  | [], names, frs, sets => (names, frs, sets)
  | sp :: rest, names, frs, sets =>
    match sp.nameValue with
    | none => refsInner doc rest names frs sets
    | some n =>
      if names.contains n then refsInner doc rest names frs sets
      else
        match getFragment doc n with
        | some f =>
          match f.kid "selection_set" with
          | some ss => refsInner doc rest (names ++ [n]) (frs ++ [f]) (sets ++ [ss])
          | none => refsInner doc rest (names ++ [n]) (frs ++ [f]) sets
        | none => refsInner doc rest (names ++ [n]) frs sets

/-- the `while nodes_to_visit:` loop: `stack` head = top.  A selection set is pushed only together with a newly
collected name of a defined fragment, so fuel `#fragment definitions + 1` suffices (argued, not proved; running out
would truncate the list and show as a disagreement with the implementation in the correspondence runs). -/
def refsLoop (doc : ATree) : Nat → List ATree → List String → List ATree → List ATree × Bool
  | 0, [], _, frs => (frs, false)
  | 0, _ :: _, _, frs => (frs, true)
  | _ + 1, [], _, frs => (frs, false)
  | fuel + 1, s :: stack, names, frs =>
    let sp := getSpreads s
    let r := refsInner doc sp.1 names frs []
    let rest := refsLoop doc fuel (r.2.2.reverse ++ stack) r.1 r.2.1
    (rest.1, rest.2 || sp.2)

/-- `context.get_recursively_referenced_fragments(operation)` -/
def getRecFrags (doc : ATree) (op : ATree) : List ATree × Bool :=
  match op.kid "selection_set" with
  | some ss => refsLoop doc ((fragDefs doc).length + 1) [ss] [] []
  | none => ([], false)

mutual
  /-- `VariableUsageVisitor` under `visit(node, …)`: every `VariableNode` of the subtree in preorder, not below a
  `VariableDefinitionNode` (`enter_variable_definition` answers SKIP). -/
  def variablesIn : ATree → List ATree
    | .node i f v cs =>
      if i.kind == "variable_definition" then []
      else if i.kind == "variable" then .node i f v cs :: variablesInList cs
      else variablesInList cs
  def variablesInList : List ATree → List ATree
    | [] => []
    | t :: ts => variablesIn t ++ variablesInList ts
end

/-- A `VariableUsage` as far as these rules read it: the `VariableNode`, its name, and whether
`fragment_variable_definition` is set. -/
structure Usage where
  node : ATree
  name : Option String
  fragVar : Bool

/-- `fragment_signature.variable_definitions.get(name)` for the signature registered under the fragment's *name*
(`get_fragment_signatures`: the last definition of that name). -/
def fragVarDefined (doc : ATree) (fragName : Option String) (var : Option String) : Bool :=
  match fragName, var with
  | some fn, some v =>
    match getFragment doc fn with
    | some sig => (sig.kids "variable_definitions").any (fun vd => ((vd.kid "variable").bind (·.nameValue)) == some v)
    | none => false
  | _, _ => false

/-- `context.get_variable_usages(node)` for an operation (`isFrag = false`) or a fragment definition. -/
def getUsages (doc : ATree) (n : ATree) : List Usage :=
  let isFrag := n.kind == "fragment_definition"
  (variablesIn n).map (fun v => ⟨v, v.nameValue, isFrag && fragVarDefined doc n.nameValue v.nameValue⟩)

/-- `context.get_recursive_variable_usages(operation)` -/
def getRecUsages (doc : ATree) (op : ATree) : List Usage :=
  getUsages doc op ++ (getRecFrags doc op).1.flatMap (getUsages doc)

/-! ## The rules -/

abbrev CRule (τ : Type) := Rule τ RS RErr

/-- boilerplate: look the node object up; a call with a node that is not in the document does nothing -/
def withNode (doc : ATree) (i : Info) (s : RS) (f : ATree → Action × RS × List RErr) : Action × RS × List RErr :=
  match doc.find i.id with
  | some n => f n
  | none => (.idle, s, [])

/-- `if name in known: report([known[name], node]) else: known[name] = node` -/
def uniqueStep (rule : String) (known : List (String × Nat)) (nm : ATree) : List (String × Nat) × List RErr :=
  match lookupName nm.value known with
  | some prev => (known, [⟨rule, nm.value, [prev, nm.id]⟩])
  | none => (known ++ [(nm.value, nm.id)], [])

def loneAnonymousOperation {τ : Type} (doc : ATree) : CRule τ where
  hEnter := fun k => k == "document" || k == "operation_definition"
  hLeave := fun _ => false
  step := fun s ph i _ => withNode doc i s fun n =>
    match ph with
    | .leave => (.idle, s, [])
    | .enter =>
      if i.kind == "document" then
        (.idle, { s with count := ((n.kids "definitions").filter (fun d => d.kind == "operation_definition")).length }, [])
      else if (n.kid "name").isNone && s.count > 1 then
        (.idle, s, [⟨"LoneAnonymousOperationRule", "", [n.id]⟩])
      else (.idle, s, [])

def uniqueOperationNames {τ : Type} (doc : ATree) : CRule τ where
  hEnter := fun k => k == "operation_definition" || k == "fragment_definition"
  hLeave := fun _ => false
  step := fun s ph i _ => withNode doc i s fun n =>
    match ph with
    | .leave => (.idle, s, [])
    | .enter =>
      if i.kind == "operation_definition" then
        match n.kid "name" with
        | some nm =>
          let r := uniqueStep "UniqueOperationNamesRule" s.known nm
          (.skip, { s with known := r.1 }, r.2)
        | none => (.skip, s, [])
      else (.skip, s, [])

def uniqueFragmentNames {τ : Type} (doc : ATree) : CRule τ where
  hEnter := fun k => k == "operation_definition" || k == "fragment_definition"
  hLeave := fun _ => false
  step := fun s ph i _ => withNode doc i s fun n =>
    match ph with
    | .leave => (.idle, s, [])
    | .enter =>
      if i.kind == "fragment_definition" then
        match n.kid "name" with
        | some nm =>
          let r := uniqueStep "UniqueFragmentNamesRule" s.known nm
          (.skip, { s with known := r.1 }, r.2)
        | none => (.skip, s, [RErr.crash "UniqueFragmentNamesRule"])
      else (.skip, s, [])

/-- `group_by(items, key)`: keys in order of first occurrence, each with its items in order. -/
def groupBy (items : List (String × Nat)) : List (String × List Nat) :=
  items.foldl (fun acc kv =>
    if acc.any (fun g => g.1 == kv.1) then acc.map (fun g => if g.1 == kv.1 then (g.1, g.2 ++ [kv.2]) else g)
    else acc ++ [(kv.1, [kv.2])]) []

/-- `for name, nodes in group_by(...).items(): if len(nodes) > 1: report(nodes)` -/
def dupErrors (rule : String) (items : List (String × Nat)) : List RErr :=
  (groupBy items).filterMap (fun g => if g.2.length > 1 then some ⟨rule, g.1, g.2⟩ else none)

/-- the keyed items, or `none` if some key attribute is missing (`attrgetter` raises) -/
def keyed (nodes : List ATree) (nameOf : ATree → Option ATree) : Option (List (String × Nat)) :=
  nodes.mapM (fun a => (nameOf a).map (fun nm => (nm.value, nm.id)))

def uniqueVariableNames {τ : Type} (doc : ATree) : CRule τ where
  hEnter := fun k => k == "operation_definition"
  hLeave := fun _ => false
  step := fun s ph i _ => withNode doc i s fun n =>
    match ph with
    | .leave => (.idle, s, [])
    | .enter =>
      match keyed (n.kids "variable_definitions") (fun vd => (vd.kid "variable").bind (·.kid "name")) with
      | some items => (.idle, s, dupErrors "UniqueVariableNamesRule" items)
      | none => (.idle, s, [RErr.crash "UniqueVariableNamesRule"])

def uniqueArgumentNames {τ : Type} (doc : ATree) : CRule τ where
  hEnter := fun k => k == "field" || k == "directive"
  hLeave := fun _ => false
  step := fun s ph i _ => withNode doc i s fun n =>
    match ph with
    | .leave => (.idle, s, [])
    | .enter =>
      match keyed (n.kids "arguments") (fun a => a.kid "name") with
      | some items => (.idle, s, dupErrors "UniqueArgumentNamesRule" items)
      | none => (.idle, s, [RErr.crash "UniqueArgumentNamesRule"])

def uniqueInputFieldNames {τ : Type} (doc : ATree) : CRule τ where
  hEnter := fun k => k == "object_value" || k == "object_field"
  hLeave := fun k => k == "object_value"
  step := fun s ph i _ => withNode doc i s fun n =>
    match ph with
    | .enter =>
      if i.kind == "object_value" then (.idle, { s with stack := s.known :: s.stack, known := [] }, [])
      else
        match n.kid "name" with
        | some nm =>
          let r := uniqueStep "UniqueInputFieldNamesRule" s.known nm
          (.idle, { s with known := r.1 }, r.2)
        | none => (.idle, s, [RErr.crash "UniqueInputFieldNamesRule"])
    | .leave =>
      match s.stack with
      | top :: rest => (.idle, { s with known := top, stack := rest }, [])
      | [] => (.idle, s, [RErr.crash "UniqueInputFieldNamesRule"])   -- `.pop()` on an empty list

def knownFragmentNames {τ : Type} (doc : ATree) : CRule τ where
  hEnter := fun k => k == "fragment_spread"
  hLeave := fun _ => false
  step := fun s ph i _ => withNode doc i s fun n =>
    match ph with
    | .leave => (.idle, s, [])
    | .enter =>
      match n.kid "name" with
      | some nm =>
        if (getFragment doc nm.value).isNone then (.idle, s, [⟨"KnownFragmentNamesRule", nm.value, [nm.id]⟩])
        else (.idle, s, [])
      | none => (.idle, s, [RErr.crash "KnownFragmentNamesRule"])

/-- `fragment_names_used` of `NoUnusedFragmentsRule.leave_document` -/
def usedFragmentNames (doc : ATree) (ops : List ATree) : List String :=
  ops.flatMap (fun op => (getRecFrags doc op).1.filterMap (·.nameValue))

def noUnusedFragments {τ : Type} (doc : ATree) : CRule τ where
  hEnter := fun k => k == "operation_definition" || k == "fragment_definition"
  hLeave := fun k => k == "document"
  step := fun s ph i _ => withNode doc i s fun n =>
    match ph with
    | .enter =>
      if i.kind == "operation_definition" then (.skip, { s with ops := s.ops ++ [n] }, [])
      else (.skip, { s with frags := s.frags ++ [n] }, [])
    | .leave =>
      let used := usedFragmentNames doc s.ops
      (.idle, s, s.frags.filterMap (fun fd =>
        match fd.nameValue with
        | some nm => if used.contains nm then none else some ⟨"NoUnusedFragmentsRule", nm, [fd.id]⟩
        | none => some (RErr.crash "NoUnusedFragmentsRule")))

/-- Result of `detect_cycle_recursive`: `visited_frags`, errors in report order, fuel flag. -/
structure CycleOut where
  visited : List String
  errs : List RErr
  ranOut : Bool

/-- the `for spread_node in spread_nodes:` loop of `detect_cycle_recursive`; `recur` is the recursive call. -/
def detectLoop (doc : ATree) (recur : ATree → List String → List ATree → List (String × Nat) → CycleOut) :
    List ATree → List String → List ATree → List (String × Nat) → CycleOut
  | [], visited, _, _ => ⟨visited, [], false⟩
  | sp :: rest, visited, path, index =>
    match sp.nameValue with
    | none => ⟨visited, [RErr.crash "NoFragmentCyclesRule"], false⟩
    | some sname =>
      let path1 := path ++ [sp]
      let r1 : CycleOut :=
        match lookupName sname index with
        | none =>
          match getFragment doc sname with
          | some f => recur f visited path1 index
          | none => ⟨visited, [], false⟩
        | some ci => ⟨visited, [⟨"NoFragmentCyclesRule", sname, (path1.drop ci).map (·.id)⟩], false⟩
      let r2 := detectLoop doc recur rest r1.visited path index
      ⟨r2.visited, r1.errs ++ r2.errs, r1.ranOut || r2.ranOut⟩

/-- `NoFragmentCyclesRule.detect_cycle_recursive(fragment)`.  `path` = `spread_path` (in order), `index` =
`spread_path_index_by_name`; both are restored by the Python code when the call returns (`pop`, `del`), so they
are passed by value.  Every recursive call marks a not yet visited name of a *defined* fragment, so the depth is
at most the number of fragment definitions + 1 (argued, not proved: running out is reported by the rule as an error
named `<fuel>`, which the correspondence runs would flag on every generated document). -/
def detectCycle (doc : ATree) : Nat → ATree → List String → List ATree → List (String × Nat) → CycleOut
  | 0, _, visited, _, _ => ⟨visited, [], true⟩
  | fuel + 1, fragment, visited, path, index =>
    match fragment.nameValue with
    | none => ⟨visited, [RErr.crash "NoFragmentCyclesRule"], false⟩
    | some fname =>
      if visited.contains fname then ⟨visited, [], false⟩
      else
        let visited1 := visited ++ [fname]
        match fragment.kid "selection_set" with
        | none => ⟨visited1, [RErr.crash "NoFragmentCyclesRule"], false⟩
        | some ss =>
          let sp := getSpreads ss
          if sp.1.isEmpty then ⟨visited1, [], sp.2⟩
          else
            let r := detectLoop doc (detectCycle doc fuel) sp.1 visited1 path ((fname, path.length) :: index)
            ⟨r.visited, r.errs, r.ranOut || sp.2⟩

/-- fuel for a top-level `detect_cycle_recursive` -/
def cycleFuel (doc : ATree) : Nat := (fragDefs doc).length + 2

def noFragmentCycles {τ : Type} (doc : ATree) : CRule τ where
  hEnter := fun k => k == "operation_definition" || k == "fragment_definition"
  hLeave := fun _ => false
  step := fun s ph i _ => withNode doc i s fun n =>
    match ph with
    | .leave => (.idle, s, [])
    | .enter =>
      if i.kind == "fragment_definition" then
        let r := detectCycle doc (cycleFuel doc) n s.visited [] []
        (.skip, { s with visited := r.visited }, r.errs ++ (if r.ranOut then [⟨"NoFragmentCyclesRule", "<fuel>", []⟩] else []))
      else (.skip, s, [])

def noUndefinedVariables {τ : Type} (doc : ATree) : CRule τ where
  hEnter := fun k => k == "operation_definition" || k == "variable_definition"
  hLeave := fun k => k == "operation_definition"
  step := fun s ph i _ => withNode doc i s fun n =>
    match ph with
    | .enter =>
      if i.kind == "operation_definition" then (.idle, { s with defined := [] }, [])
      else
        match (n.kid "variable").bind (·.nameValue) with
        | some v => (.idle, { s with defined := if s.defined.contains v then s.defined else s.defined ++ [v] }, [])
        | none => (.idle, s, [RErr.crash "NoUndefinedVariablesRule"])
    | .leave =>
      (.idle, s, (getRecUsages doc n).filterMap (fun u =>
        if u.fragVar then none
        else match u.name with
          | some v => if s.defined.contains v then none else some ⟨"NoUndefinedVariablesRule", v, [u.node.id, n.id]⟩
          | none => some (RErr.crash "NoUndefinedVariablesRule")))

/-- `for var_def in node.variable_definitions or (): if name not in used: report(var_def)` -/
def unusedVarErrors (used : List String) (n : ATree) : List RErr :=
  (n.kids "variable_definitions").filterMap (fun vd =>
    match (vd.kid "variable").bind (·.nameValue) with
    | some v => if used.contains v then none else some ⟨"NoUnusedVariablesRule", v, [vd.id]⟩
    | none => some (RErr.crash "NoUnusedVariablesRule"))

def noUnusedVariables {τ : Type} (doc : ATree) : CRule τ where
  hEnter := fun _ => false
  hLeave := fun k => k == "operation_definition" || k == "fragment_definition"
  step := fun s ph i _ => withNode doc i s fun n =>
    match ph with
    | .enter => (.idle, s, [])
    | .leave =>
      if i.kind == "fragment_definition" then
        (.idle, s, unusedVarErrors ((getUsages doc n).filterMap (·.name)) n)
      else
        (.idle, s, unusedVarErrors (((getRecUsages doc n).filter (fun u => !u.fragVar)).filterMap (·.name)) n)

/-- The modelled rules by their Python class names, in the order of `specified_rules`. -/
def modelled {τ : Type} (doc : ATree) : List (String × CRule τ) :=
  [ ("UniqueOperationNamesRule", uniqueOperationNames doc),
    ("LoneAnonymousOperationRule", loneAnonymousOperation doc),
    ("UniqueFragmentNamesRule", uniqueFragmentNames doc),
    ("KnownFragmentNamesRule", knownFragmentNames doc),
    ("NoUnusedFragmentsRule", noUnusedFragments doc),
    ("NoFragmentCyclesRule", noFragmentCycles doc),
    ("UniqueVariableNamesRule", uniqueVariableNames doc),
    ("NoUndefinedVariablesRule", noUndefinedVariables doc),
    ("NoUnusedVariablesRule", noUnusedVariables doc),
    ("UniqueArgumentNamesRule", uniqueArgumentNames doc),
    ("UniqueInputFieldNamesRule", uniqueInputFieldNames doc) ]

def modelledRules {τ : Type} (doc : ATree) : List (CRule τ) := (modelled doc).map (·.2)

end Gql.Validation.Rules
